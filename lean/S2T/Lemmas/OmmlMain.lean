import S2T.Lemmas.OmmlGood
/-! C19 balance: every element's transformer is `Good` when the tree has no literal braces. -/
namespace S2T.Omml

theorem noBracesL_iff (ks : List Xml) : noBracesL ks = true ↔ ∀ c ∈ ks, noBraces c = true := by
  induction ks with
  | nil => simp [noBracesL]
  | cons k ks ih => simp [noBracesL, ih]

theorem noBraces_node (m : Bool) (n : Str) (v : Option Str) (t : Str) (ks : List Xml) :
    noBraces (.node m n v t ks) = true ↔
      NoBrS t ∧ (∀ v', v = some v' → NoBrS v') ∧ ∀ c ∈ ks, noBraces c = true := by
  simp only [noBraces, Bool.and_eq_true, noBracesL_iff, braceFree_iff]
  constructor
  · rintro ⟨⟨h1, h2⟩, h3⟩
    refine ⟨h1, ?_, h3⟩
    intro v' hv; subst hv; exact (braceFree_iff _).mp h2
  · rintro ⟨h1, h2, h3⟩
    refine ⟨⟨h1, ?_⟩, h3⟩
    cases v with
    | none => rfl
    | some v' => exact (braceFree_iff _).mpr (h2 v' rfl)

theorem noBraces_val {x : Xml} (h : noBraces x = true) (v : Str) (hv : x.val = some v) : NoBrS v := by
  cases x with
  | node m n v0 t ks => exact ((noBraces_node m n v0 t ks).mp h).2.1 v hv

theorem noBraces_kids {x : Xml} (h : noBraces x = true) : ∀ c ∈ x.kids, noBraces c = true := by
  cases x with
  | node m n v0 t ks => exact ((noBraces_node m n v0 t ks).mp h).2.2

theorem attrOr_nobr {d : Str} (hd : NoBrS d) (a b : Str) {ks : List Xml}
    (hk : ∀ c ∈ ks, noBraces c = true) : NoBrS (attrOr d (pathFind a b ks)) := by
  unfold attrOr
  cases hf : pathFind a b ks with
  | none => exact hd
  | some x =>
    simp only
    have hx : noBraces x = true := by
      unfold pathFind at hf
      have hm := List.mem_of_find?_eq_some hf
      simp only [List.mem_flatMap, List.mem_filter] at hm
      obtain ⟨k, ⟨hk1, _⟩, hxk⟩ := hm
      exact noBraces_kids (hk k hk1) x hxk
    cases hv : x.val with
    | none => exact hd
    | some v => exact noBraces_val hx v hv

theorem good_opndX {T : Tables} (n : Str) {ks : List Xml} (hk : ∀ c ∈ ks, Good T (proc T c)) :
    Good T (opndX T n ks) := by
  unfold opndX
  cases hf : ks.find? (isTag n) with
  | none => exact good_ret_nil T
  | some c => exact hk c (List.mem_of_find?_eq_some hf)

/-- what `C19_balanced` and `C19_balanced_element` rest on -/
theorem proc_good {T : Tables} (h : TOk T) : ∀ x, noBraces x = true → Good T (proc T x) := by
  apply Xml.ind_grandchildren
  intro m n v t ks ih ih2 hnb
  obtain ⟨ht, _, hks⟩ := (noBraces_node m n v t ks).mp hnb
  have hk : ∀ c ∈ ks, Good T (proc T c) := fun c hc => ih c hc (hks c hc)
  have op : ∀ n, Good T (opndX T n ks) := fun n => good_opndX n hk
  have attr := fun {d} (hd : NoBrS d) a b => good_ret_lit (T := T) (attrOr_nobr hd a b hks)
  rw [proc_kind]
  cases kindOf T n (ks.find? (isTag n_mr)).isSome <;> dsimp only [procKind]
  case skip => exact good_ret_nil T
  case text => exact good_text h t ht
  case rad => exact good_rad h (op _) (op _)
  case frac => exact tFrac_eq .. ▸ good_interp ⟨op _, op _, trivial⟩ rfl
  case sup => exact tSup_eq .. ▸ good_interp ⟨op _, op _, trivial⟩ rfl
  case sub => exact tSub_eq .. ▸ good_interp ⟨op _, op _, trivial⟩ rfl
  case subsup => exact tSubSup_eq .. ▸ good_interp ⟨op _, op _, op _, trivial⟩ rfl
  case bar => exact tBar_eq .. ▸ good_interp ⟨op _, trivial⟩ rfl
  case acc => exact tAcc_eq .. ▸ good_interp ⟨good_ret_lit (accentCmd_nobr h _), op _, trivial⟩ rfl
  case func => exact tFunc_eq .. ▸ good_interp ⟨good_mapOut (funcName_neutral h) (op _), op _, trivial⟩ rfl
  case nary =>
    exact tNary_eq .. ▸ good_interp ⟨good_ret (naryOp_bal h (attrOr_nobr (nobr_of (by decide)) _ _ hks)),
      good_mapOut (limit_neutral h rfl) (op _), good_mapOut (limit_neutral h rfl) (op _), op _, trivial⟩ rfl
  case delim =>
    exact tDelim_eq .. ▸ good_interp ⟨attr (nobr_of (by decide)) _ _,
      good_joinM (nobr_of (by decide)) fun c hc => hk c (List.mem_filter.mp hc).1, attr (nobr_of (by decide)) _ _, trivial⟩ rfl
  case matrix =>
    rw [tMatrix_eq, List.map_map]
    refine good_interp ⟨good_joinM (nobr_of (by decide)) fun r hr => good_joinM (nobr_of (by decide)) fun c hc => ?_, trivial⟩ rfl
    have hr' := (List.mem_filter.mp hr).1
    have hc' := (List.mem_filter.mp hc).1
    exact ih2 r hr' c hc' (noBraces_kids (hks r hr') c hc')
  case other => exact good_tDefault hk

theorem bal_replicate (n : Nat) : Bal (lit (List.replicate n '}')) n 0 := by
  induction n with
  | zero => exact Bal_nil 0
  | succ n ih =>
    have : lit (List.replicate (n + 1) '}') = [('}', false)] ++ lit (List.replicate n '}') := by
      simp [lit, List.replicate_succ]
    rw [this]
    exact Bal_append (Bal_close false n) ih

theorem omml_balanced {T : Tables} (h : TOk T) (root : Xml) (hnb : noBracesL root.kids = true) :
    balanced (omml T root) = true := by
  have hg : Good T (tDefault (root.kids.map (proc T))) :=
    good_tDefault fun c hc => proc_good h c ((noBracesL_iff _).mp hnb c hc)
  simpa [balanced, omml, ommlOut_eq] using (Bal_append (hg [] (by intro c hc; cases hc)).bal (bal_replicate _)).walk

end S2T.Omml
