import S2T.Lemmas.AesKatVec
import S2T.Lemmas.AesSpec
/-! Known-answer validation of the specification `S2T.Spec.Fips197`.  SP 800-38A F.2.1/F.2.2 (CBC-AES128): the
    encryption is evaluated by the kernel, the decryption follows because `cbcDecrypt` inverts `cbcEncrypt` -/
namespace S2T.AesL.Kat
open S2T.Spec.Fips197

/-- SP 800-38A F.2.1 CBC-AES128.Encrypt -/
theorem cbc128_encrypt : cbcEncrypt key128 iv pt = cbc128 := by decide +kernel
/-- SP 800-38A F.2.2 CBC-AES128.Decrypt -/
theorem cbc128_decrypt : cbcDecrypt key128 iv cbc128 = pt := by
  rw [← cbc128_encrypt]
  exact cbcDecrypt_cbcEncrypt (by decide) _ _ (by decide) (by decide)

end S2T.AesL.Kat
