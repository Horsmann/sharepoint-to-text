import S2T.Model.C02SheetsOdp
import S2T.Spec.C02SheetsDoc
import S2T.Lemmas.C02SheetsList
/-! ODP (C02, part 'sheets'): the covered-set walk is the pruned recursion; `_parse_odf_length_to_px` (`lengthPx` of
Model/C02OdfXml) on the lengths the renderer writes, and the order of the sort keys `keyLe` under scaling.  The slide text
assembly on rendered decks is Lemmas/C02SheetsOdpDeck. -/
namespace S2T.C02.Sheets.Odp
open S2T.Tok S2T.OdfText S2T.OdfDoc S2T.C02.Sheets

mutual
theorem walkCov_true (T : OdpT) (x : Xml) : walkCov T true x = [] := by
  cases x with
  | node tag a t l kids =>
    simp only [walkCov, Bool.true_or, if_true]
    exact walkCovL_true T kids
theorem walkCovL_true (T : OdpT) (l : List Xml) : walkCovL T true l = [] := by
  cases l with
  | nil => simp [walkCovL]
  | cons k ks => simp [walkCovL, walkCov_true T k, walkCovL_true T ks]
end

mutual
theorem walkCov_false (T : OdpT) (x : Xml) : walkCov T false x = pruned T x := by
  cases x with
  | node tag a t l kids =>
    have ih := walkCovL_false T kids
    by_cases h1 : tag ∈ T.fmt.skip <;> by_cases h2 : tag = T.pTag <;>
      simp [walkCov, pruned, h1, h2, walkCovL_true, ih]
theorem walkCovL_false (T : OdpT) (l : List Xml) : walkCovL T false l = prunedL T l := by
  cases l with
  | nil => simp [walkCovL, prunedL]
  | cons k ks => simp [walkCovL, prunedL, walkCov_false T k, walkCovL_false T ks]
end

theorem isDigitC_eq (c : Char) : isDigitC c = c.isDigit := by simp [isDigitC, Char.isDigit, Char.le_def]

theorem digitsVal_eq (s : Str) (acc : Nat) : digitsVal s acc = Nat.ofDigitChars 10 s acc := by
  induction s generalizing acc with
  | nil => rfl
  | cons c r ih => rw [digitsVal, ih, Nat.ofDigitChars_cons, Nat.mul_comm]; rfl

theorem digitsVal_natToDec (n : Nat) : digitsVal (natToDec n) 0 = n := by
  rw [digitsVal_eq, natToDec_eq, Nat.ofDigitChars_ten_toDigits]

/-- numerator / denominator factors of `_parse_odf_length_to_px` per unit (96 dpi) -/
def pxNum : LUnit → Nat
  | .cm => 9600 | .inch => 96 | .mm => 960 | .pt => 96 | .pc => 1152 | .px => 1
def pxDen : LUnit → Nat
  | .cm => 254 | .inch => 1 | .mm => 254 | .pt => 72 | .pc => 72 | .px => 1

/-- the letters of the unit names are not whitespace -/
def NoUnitWs (p : Char → Bool) : Prop := ∀ c ∈ "cminptx".toList, p c = false

theorem span_run {α} {q : α → Bool} {a b : List α} (ha : ∀ x ∈ a, q x = true) (hb : ∀ x ∈ b, q x = false) :
    (a ++ b).takeWhile q = a ∧ (a ++ b).dropWhile q = b := by
  rw [List.takeWhile_append_of_pos ha, List.dropWhile_append_of_pos ha]
  cases b with
  | nil => simp
  | cons c t => simp [hb c]

theorem unitStr_chars (u : LUnit) : ∀ c ∈ unitStr u, c ∈ "cminptx".toList := by cases u <;> decide

theorem unit_char : ∀ c ∈ "cminptx".toList, isAsciiAlpha c = true ∧ isDigitC c = false := by decide

theorem lengthPx_lenStr {p : Char → Bool} (hp : NoDigitWs p) (ha : NoUnitWs p) (u : LUnit) (n : Nat) :
    lengthPx p (some (lenStr u n)) = ⟨n * pxNum u, pxDen u⟩ := by
  have hch := unitStr_chars u
  have hup : ∀ c ∈ unitStr u, p c = false := fun c hc => ha c (hch c hc)
  -- no whitespace anywhere, digits up to the unit name, letters to the end
  have hws := span_run (q := p) (a := []) (b := natToDec n ++ unitStr u) (by simp) (by
    intro c hc
    rcases List.mem_append.mp hc with h | h
    · exact natToDec_noWs hp n c h
    · exact hup c h)
  have huw := span_run (q := p) (a := []) (by simp) hup
  have hdg := span_run (q := isDigitC) (a := natToDec n) (fun c hc => isDigitC_eq c ▸ natToDec_isDigit hc) (fun c hc => (unit_char c (hch c hc)).2)
  have hal := span_run (b := []) (fun c hc => (unit_char c (hch c hc)).1) (by simp)
  rw [List.append_nil] at hal
  rw [List.nil_append] at hws huw
  unfold lengthPx lenStr
  dsimp only
  simp only [hws.2, hdg.1, hdg.2]
  rw [if_neg (natToDec_ne_nil n)]
  -- the optional fraction `(?:\.\d+)?`: what follows the digits is a unit name, which does not begin with a point
  split
  · rename_i r heq
    exact absurd (hch '.' (heq ▸ List.mem_cons_self)) (by decide)
  · dsimp only
    rw [huw.2, hal.2, hal.1]
    have hL : (if unitStr u = [] then "px".toList else List.map lowerAscii (unitStr u)) = unitStr u := by
      cases u <;> decide
    rw [hL, List.dropWhile_nil, if_neg (by simp), List.append_nil, digitsVal_natToDec, List.length_nil, Nat.pow_zero]
    -- the unit literals of `lengthPx` as lists of characters first (see Lemmas/Chars)
    cases u <;> simp -index only [unitStr, String.toList_ofList] <;> simp [pxNum, pxDen, Nat.mul_assoc]

/-- cross-multiplying multiplies both sides by `a * b` -/
theorem keyLe_scaled (a b y1 x1 y2 x2 : Nat) (ha : 0 < a) (hb : 0 < b) :
    keyLe (⟨y1 * a, b⟩, ⟨x1 * a, b⟩) (⟨y2 * a, b⟩, ⟨x2 * a, b⟩)
      = (decide (y1 < y2) || (decide (y1 = y2) && decide (x1 ≤ x2))) := by
  have hab : 0 < a * b := Nat.mul_pos ha hb
  simp only [keyLe, Q.lt, Q.eq, Nat.mul_assoc, Nat.mul_lt_mul_right hab, Nat.mul_right_cancel_iff hab, ← Bool.decide_or,
    ← Nat.le_iff_lt_or_eq]

theorem pxNum_pos (u : LUnit) : 0 < pxNum u := by cases u <;> decide
theorem pxDen_pos (u : LUnit) : 0 < pxDen u := by cases u <;> decide

end S2T.C02.Sheets.Odp
