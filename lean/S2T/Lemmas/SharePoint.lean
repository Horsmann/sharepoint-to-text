import S2T.Model.SharePoint
import S2T.Lemmas.ListBasics
/-! The eager listing of the SharePoint client (C18, core Lean only).  Every client function is `bindR` / `mapR` of
`_get_json`, so a property that sequencing keeps (`RunLaw`) is proved of `_get_json` once and holds of all of them. -/
namespace S2T.SP

/-- sequencing as the client's functions spell it out: an error ends the call, the state is kept -/
def bindR {α β} (m : St → R α) (f : α → St → R β) (s : St) : R β :=
  match m s with
  | (.error e, s) => (.error e, s)
  | (.ok a, s) => f a s

def mapR {α β} (h : α → β) (r : R α) : R β :=
  match r with
  | (.error e, s) => (.error e, s)
  | (.ok a, s) => (.ok (h a), s)

/-- `_get_json` once the token is there: one request, its body decoded -/
def sendJson (c : Cfg) (t : Transport) (u : Url) (s : St) : R Obj :=
  match send c t u s with
  | (.error e, s) => (.error e, s)
  | (.ok .notJson, s) => (.error (.request none u), s)
  | (.ok .nonObject, s) => (.error (if c.checkObject then .request none u else .other "AttributeError"), s)
  | (.ok (.obj o), s) => (.ok o, s)

theorem getJson_eq (c : Cfg) (t : Transport) (u : Url) :
    getJson c t u = bindR (ensureToken c t) (fun _ => sendJson c t u) := by
  -- not `rfl`: Lean does not identify the matchers of two definitions on a discriminant that is not a
  -- constructor, so every `match` of the two sides is split (here and in the equations below)
  funext s
  rw [getJson, bindR]
  rcases ensureToken c t s with ⟨_ | tok, s1⟩
  · rfl
  · dsimp only [sendJson]
    rcases send c t u s1 with ⟨_ | _ | _ | o, s2⟩ <;> rfl

theorem bindR_ok {α β} {m : St → R α} {f : α → St → R β} {s s' : St} {b : β} (h : bindR m f s = (.ok b, s')) :
    ∃ a s1, m s = (.ok a, s1) ∧ f a s1 = (.ok b, s') := by
  unfold bindR at h
  rcases hm : m s with ⟨_ | a, s1⟩ <;> rw [hm] at h
  · cases h
  · exact ⟨a, s1, rfl, h⟩

theorem pagesWith_succ {α} (c : Cfg) (t : Transport) (proj : Item → Option α) (fuel : Nat) (u : Url) :
    pagesWith c t proj (fuel + 1) u = bindR (getJson c t u) (fun o s =>
      match o.next with
      | none => (.ok (o.value.filterMap proj), s)
      | some u' => mapR (o.value.filterMap proj ++ ·) (pagesWith c t proj fuel u' s)) := by
  funext s
  rw [pagesWith.eq_2, bindR]
  rcases getJson c t u s with ⟨_ | o, s1⟩
  · rfl
  · dsimp only
    cases o.next with
    | none => rfl
    | some u' => dsimp only; rcases pagesWith c t proj fuel u' s1 with ⟨_ | more, s2⟩ <;> rfl

theorem forFolders_some (rec : Str → Str → St → R (List FileMeta)) (parent name fid : Str)
    (rest : List (Str × Option Str)) :
    forFolders rec parent ((name, some fid) :: rest) =
      if fid.isEmpty then forFolders rec parent rest
      else bindR (rec fid (childPath parent name)) (fun a s => mapR (a ++ ·) (forFolders rec parent rest s)) := by
  funext s
  simp only [forFolders]
  split
  · rfl
  · rw [bindR]
    rcases rec fid (childPath parent name) s with ⟨_ | a, s1⟩
    · rfl
    · dsimp only; rcases forFolders rec parent rest s1 with ⟨_ | b, s2⟩ <;> rfl

theorem walk_succ (c : Cfg) (t : Transport) (site : Str) (fuel : Nat) (item : Option Str) (parent : Str) :
    walk c t site (fuel + 1) item parent =
      bindR (listPaginated c t parent fuel (.children site item)) (fun files s =>
        mapR (files ++ ·) (bindR (getFolders c t fuel (.children site item))
          (forFolders (fun fid p s => walk c t site fuel (some fid) p s) parent) s)) := by
  funext s
  rw [walk.eq_2, bindR]
  rcases listPaginated c t parent fuel (.children site item) s with ⟨_ | files, s1⟩
  · rfl
  · dsimp only [bindR]
    rcases getFolders c t fuel (.children site item) s1 with ⟨_ | folders, s2⟩
    · rfl
    · dsimp only
      rcases forFolders (fun fid p s => walk c t site fuel (some fid) p s) parent folders s2 with ⟨_ | b, s3⟩ <;> rfl

theorem listAll_eq (c : Cfg) (t : Transport) (fuel : Nat) :
    listAll c t fuel = bindR (getSiteId c t) (fun site => walk c t site fuel none []) := by
  funext s
  rw [listAll, bindR]
  rcases getSiteId c t s with ⟨_ | site, s1⟩ <;> rfl

theorem listFiltered_eq (c : Cfg) (t : Transport) (iso lower glob) (f : Filter) (fuel : Nat) (s : St) :
    listFiltered c t iso lower glob f fuel s =
      mapR (·.filter (matchesF c iso lower glob f)) (listAll c t fuel s) := by
  rw [listFiltered, listAll]
  rcases getSiteId c t s with ⟨_ | site, s1⟩
  · rfl
  · dsimp only [mapR]; rcases walk c t site fuel none [] s1 with ⟨_ | fs, s2⟩ <;> rfl

/-! What is proved below about `_get_json` (a state predicate is preserved, the request trace has the right shape) carries
over to every function built on it in the same way; `RunLaw` says in which way, once. -/

/-- `Q s x` (the call started in state `s` ended with result and state `x`) holds of doing nothing and of running out
    of fuel, does not look at the value returned, and is kept by sequencing -/
structure RunLaw (Q : ∀ {α : Type}, St → R α → Prop) : Prop where
  ret : ∀ {α} (a : α) (s : St), Q s (.ok a, s)
  fuel : ∀ {α} (s : St), Q (α := α) s (.error .outOfFuel, s)
  val : ∀ {α β} {s s' : St} {a : α} (b : β), Q s (.ok a, s') → Q s (.ok b, s')
  err : ∀ {α β} {s s' : St} {e : Err}, Q (α := α) s (.error e, s') → Q (α := β) s (.error e, s')
  seq : ∀ {α β} {s s1 : St} {a : α} {x : R β}, Q s (.ok a, s1) → Q s1 x → Q s x

section law
variable {Q : ∀ {α : Type}, St → R α → Prop} {c : Cfg} {t : Transport}

theorem RunLaw.bindR (h : RunLaw Q) {α β} {m : St → R α} {f : α → St → R β} (hm : ∀ s, Q s (m s))
    (hf : ∀ a s, Q s (f a s)) (s : St) : Q s (bindR m f s) := by
  -- `SP.bindR` is the function: inside a theorem named `X.bindR` the short name is the theorem itself (so below, too)
  unfold SP.bindR
  have := hm s
  rcases hr : m s with ⟨_ | a, s1⟩ <;> rw [hr] at this
  · exact h.err this
  · exact h.seq this (hf a s1)

theorem RunLaw.mapR (h : RunLaw Q) {α β} (g : α → β) {s : St} {x : R α} (hx : Q s x) : Q s (mapR g x) := by
  rcases x with ⟨_ | a, s1⟩
  · exact h.err hx
  · exact h.val _ hx

end law

section pres
variable {c : Cfg} {t : Transport} {P : St → Prop}

/-- `P` survives one `_send`, the token-cache update, and the site-id cache update `get_site_id` performs after
    its request has been answered. -/
structure Pres (c : Cfg) (t : Transport) (P : St → Prop) : Prop where
  send : ∀ u s, P s → P (send c t u s).2
  tok : ∀ s x, P s → P { s with token := x }
  site : ∀ s s' o id, getJson c t .site s = (.ok o, s') → o.id = some id → P s' → P { s' with site := some id }

theorem fetchToken_pres (h : Pres c t P) (s : St) (hs : P s) : P (fetchToken c t s).2 := by
  have h1 := h.send .token s hs
  unfold fetchToken
  -- in every branch the state is the one `_send` left, except that a usable token is stored in it
  split <;> rename_i he <;> rw [he] at h1
  iterate 3 exact h1
  split
  · exact h1
  · split
    · exact h1
    · exact h.tok _ _ h1

theorem ensureToken_pres (h : Pres c t P) (s : St) (hs : P s) : P (ensureToken c t s).2 := by
  unfold ensureToken
  split
  · exact hs
  · exact fetchToken_pres h s hs

theorem Pres.law (P : St → Prop) : RunLaw (fun {_} s x => P s → P x.2) where
  ret _ _ hp := hp
  fuel _ hp := hp
  val _ hx := hx
  err hx := hx
  seq h1 h2 hp := h2 (h1 hp)

theorem sendJson_pres (h : Pres c t P) (u : Url) (s : St) (hs : P s) : P (sendJson c t u s).2 := by
  have h1 := h.send u s hs
  unfold sendJson
  split <;> rename_i heq <;> rw [heq] at h1 <;> exact h1

theorem getJson_pres (h : Pres c t P) (u : Url) (s : St) : P s → P (getJson c t u s).2 := by
  rw [getJson_eq]
  exact (Pres.law P).bindR (ensureToken_pres h) (fun _ => sendJson_pres h u) s

theorem getSiteId_pres (h : Pres c t P) (s : St) (hs : P s) : P (getSiteId c t s).2 := by
  have h1 := getJson_pres h .site s hs
  unfold getSiteId
  split
  · exact hs
  · split
    · rename_i e s' he; rw [he] at h1; exact h1
    · rename_i o s' he
      rw [he] at h1
      split
      · rename_i id hid; exact h.site s s' o id he hid h1
      · exact h1

end pres

/-- the request was answered by a 2xx response whose body is a JSON object -/
def Fine (o : Outcome) : Prop := ∃ st ob, o = .resp st (.obj ob) ∧ ok2xx st = true

/-- what the client may raise when the request for `u` got the outcome `o` -/
def Raised (o : Outcome) (u : Url) (e : Err) : Prop :=
  match o with
  | .urlError => e = .request none u
  | .httpError code => e = .request (some code) u
  | .resp st _ => if ok2xx st then (e = .auth ∨ e = .request none u) else e = .request (some st) u

def AllFine (t : Transport) (l : List (Nat × Url)) : Prop := ∀ p ∈ l, Fine (t p.1 p.2)

-- the lemmas are on `TrBy`; this spelling is for the statement of `C18_trace` only (`Tr_iff`)
/-- Summary of a call that took the log from `l` to `l'` with result `r`: all requests made were fine,
    except that an error result (other than the model's fuel stop) comes from the *last* request made. -/
def Tr (t : Transport) (l : List (Nat × Url)) {α : Type} (r : Except Err α) (l' : List (Nat × Url)) : Prop :=
  ∃ new, l' = new ++ l ∧
    match r with
    | .ok _ => AllFine t new
    | .error e => (e = .outOfFuel ∧ AllFine t new) ∨
        ∃ i u rest, new = (i, u) :: rest ∧ AllFine t rest ∧ Raised (t i u) u e

theorem raised_urlError {u e} : Raised .urlError u e ↔ e = .request none u := Iff.rfl

theorem raised_httpError {code u e} : Raised (.httpError code) u e ↔ e = .request (some code) u := Iff.rfl

theorem raised_resp_ok {st b u e} (h : ok2xx st = true) :
    Raised (.resp st b) u e ↔ e = .auth ∨ e = .request none u := by
  simp only [Raised, h, if_true]

theorem raised_resp_bad {st b u e} (h : ok2xx st = false) : Raised (.resp st b) u e ↔ e = .request (some st) u := by
  simp only [Raised, h, Bool.false_eq_true, if_false]

theorem Raised.family {o u e} (h : Raised o u e) : e.family = true := by
  cases o with
  | urlError => cases raised_urlError.mp h; rfl
  | httpError code => cases raised_httpError.mp h; rfl
  | resp st b =>
    cases hok : ok2xx st with
    | true => rcases (raised_resp_ok hok).mp h with rfl | rfl <;> rfl
    | false => cases (raised_resp_bad hok).mp h; rfl

/-- `Tr` with any notion `ok` of an unremarkable answer in place of `Fine`: `Tr` is `TrBy Fine` (`Tr_iff`), the trace
    `TrG` of the listing with start folders is `TrBy Fine'` of what `list(gen)` sees. -/
def TrBy (ok : Outcome → Prop) (t : Transport) (l : List (Nat × Url)) {α : Type} (r : Except Err α)
    (l' : List (Nat × Url)) : Prop :=
  ∃ new, l' = new ++ l ∧
    match r with
    | .ok _ => ∀ p ∈ new, ok (t p.1 p.2)
    | .error e => (e = .outOfFuel ∧ ∀ p ∈ new, ok (t p.1 p.2)) ∨
        ∃ i u rest, new = (i, u) :: rest ∧ (∀ p ∈ rest, ok (t p.1 p.2)) ∧ Raised (t i u) u e

section tr
variable {t : Transport} {ok : Outcome → Prop}

theorem Tr_iff {α} {l l'} {r : Except Err α} : Tr t l r l' ↔ TrBy Fine t l r l' := by
  cases r <;> exact Iff.rfl

theorem Tr.ok_val {α β} {l l'} {a : α} (b : β) (h : Tr t l (.ok a) l') : Tr t l (.ok b) l' := h

theorem Tr.err_ty {α β} {l l'} {e : Err} (h : Tr t l (α := α) (.error e) l') : Tr t l (α := β) (.error e) l' := h

theorem TrBy.ok_refl {α} (l : List (Nat × Url)) (a : α) : TrBy ok t l (.ok a) l :=
  ⟨[], by simp, by intro p hp; cases hp⟩

theorem TrBy.fuel {α} (l : List (Nat × Url)) : TrBy ok t l (α := α) (.error .outOfFuel) l :=
  ⟨[], by simp, Or.inl ⟨rfl, by intro p hp; cases hp⟩⟩

theorem TrBy.one {α} {l : List (Nat × Url)} {u : Url} {e : Err} (h : Raised (t l.length u) u e) :
    TrBy ok t l (α := α) (.error e) ((l.length, u) :: l) :=
  ⟨[(l.length, u)], rfl, Or.inr ⟨_, _, [], rfl, (by intro p hp; cases hp), h⟩⟩

theorem TrBy.seq {α β} {l l1 l2} {a : α} {r : Except Err β}
    (h1 : TrBy ok t l (.ok a) l1) (h2 : TrBy ok t l1 r l2) : TrBy ok t l r l2 := by
  obtain ⟨n1, e1, f1⟩ := h1
  obtain ⟨n2, e2, f2⟩ := h2
  refine ⟨n2 ++ n1, by rw [e2, e1, List.append_assoc], ?_⟩
  have happ : ∀ x : List (Nat × Url), (∀ p ∈ x, ok (t p.1 p.2)) → ∀ p ∈ x ++ n1, ok (t p.1 p.2) :=
    fun x hx p hp => (List.mem_append.mp hp).elim (hx p) (f1 p)
  cases r with
  | ok b => exact happ n2 f2
  | error e =>
    rcases f2 with ⟨he, hf⟩ | ⟨i, u, rest, hn, hf, hr⟩
    · exact Or.inl ⟨he, happ n2 hf⟩
    · exact Or.inr ⟨i, u, rest ++ n1, by rw [hn]; rfl, happ rest hf, hr⟩

theorem TrBy.weaken {ok' : Outcome → Prop} (hw : ∀ o, ok o → ok' o) {α} {l l'} {r : Except Err α}
    (h : TrBy ok t l r l') : TrBy ok' t l r l' := by
  obtain ⟨new, hl, hr⟩ := h
  refine ⟨new, hl, ?_⟩
  cases r with
  | ok a => exact fun p hp => hw _ (hr p hp)
  | error e =>
    rcases hr with ⟨he, hf⟩ | ⟨i, u, rest, hn, hf, hra⟩
    · exact Or.inl ⟨he, fun p hp => hw _ (hf p hp)⟩
    · exact Or.inr ⟨i, u, rest, hn, fun p hp => hw _ (hf p hp), hra⟩

theorem TrBy.law (ok : Outcome → Prop) (t : Transport) : RunLaw (fun {_} s x => TrBy ok t s.log x.1 x.2.log) where
  ret a _ := TrBy.ok_refl _ a
  fuel _ := TrBy.fuel _
  val _ hx := hx
  err hx := hx
  seq := TrBy.seq

theorem TrBy.family {α} {l l'} {r : Except Err α} {e : Err} (h : TrBy ok t l r l') (hr : r = .error e) :
    e.family = true ∨ e = .outOfFuel := by
  subst hr
  obtain ⟨_, _, ⟨he, _⟩ | ⟨_, _, _, _, _, hra⟩⟩ := h
  · exact Or.inr he
  · exact Or.inl hra.family

/-- a request made during the call whose answer was remarkable is the last one, and the call raised what it calls for -/
theorem TrBy.fault {α : Type} {l l' : List (Nat × Url)} {r : Except Err α} (htr : TrBy ok t l r l') (k : Nat) (u : Url)
    (hbad : ¬ ok (t k u)) (hmade : (k, u) ∈ l') (hnew : (k, u) ∉ l) :
    ∃ e, r = .error e ∧ Raised (t k u) u e ∧ ∃ rest, l' = (k, u) :: rest := by
  obtain ⟨new, hl, hr⟩ := htr
  have hin : (k, u) ∈ new := (List.mem_append.mp (hl ▸ hmade)).resolve_right hnew
  cases r with
  | ok a => exact absurd (hr _ hin) hbad
  | error e =>
    rcases hr with ⟨_, hf⟩ | ⟨i, u', rest, hn, hf, hra⟩
    · exact absurd (hf _ hin) hbad
    · rw [hn] at hin
      rcases List.mem_cons.mp hin with h | h
      · cases h
        exact ⟨e, rfl, hra, rest ++ l, by rw [hl, hn]; rfl⟩
      · exact absurd (hf _ h) hbad

theorem TrBy.injected {k : Nat} {o : Outcome} {α : Type}
    {l l' : List (Nat × Url)} {r : Except Err α} (htr : TrBy ok (faultAt k o t) l r l') (u : Url)
    (hbad : ¬ ok o) (hmade : (k, u) ∈ l') (hnew : (k, u) ∉ l) :
    ∃ e, r = .error e ∧ Raised o u e ∧ ∃ rest, l' = (k, u) :: rest := by
  have hto : faultAt k o t k u = o := if_pos rfl
  rw [← hto]
  exact htr.fault k u (by rwa [hto]) hmade hnew

theorem send_spec (c : Cfg) (u : Url) (s : St) :
    (send c t u s).2.log = (s.log.length, u) :: s.log ∧
    match (send c t u s).1 with
    | .ok b => ∃ st, t s.log.length u = .resp st b ∧ ok2xx st = true
    | .error e => Raised (t s.log.length u) u e := by
  unfold send
  -- a bare `simp only` opens the `let`s of `send`; below, and in the other proofs that go through a client function, it
  -- reduces a `match` whose discriminant has become a constructor
  simp only
  cases hto : t s.log.length u with
  | urlError => exact ⟨rfl, raised_urlError.mpr rfl⟩
  | httpError code => exact ⟨rfl, raised_httpError.mpr rfl⟩
  | resp st b =>
    simp only
    by_cases hok : ok2xx st = true
    · simp only [hok, if_true]
      exact ⟨trivial, st, rfl, hok⟩
    · simp only [hok]
      exact ⟨rfl, (raised_resp_bad (Bool.eq_false_iff.mpr hok)).mpr rfl⟩

/-- the call made exactly one request, for `u`; it succeeded only if the answer was fine, and otherwise raised what
    that answer calls for -/
def OneReq (t : Transport) (u : Url) (s : St) {α : Type} (x : R α) : Prop :=
  x.2.log = (s.log.length, u) :: s.log ∧
  match x.1 with
  | .ok _ => Fine (t s.log.length u)
  | .error e => Raised (t s.log.length u) u e

theorem OneReq.tr {α} {u : Url} {s : St} {x : R α} (h : OneReq t u s x) : TrBy Fine t s.log x.1 x.2.log := by
  obtain ⟨hl, hx⟩ := h
  rcases x with ⟨e | a, s'⟩
  · exact hl ▸ TrBy.one hx
  · refine ⟨[(s.log.length, u)], hl, fun p hp => ?_⟩
    simp only [List.mem_singleton] at hp; subst hp
    exact hx

theorem fetchToken_oneReq (c : Cfg) (hc : c.checkObject = true) (s : St) : OneReq t .token s (fetchToken c t s) := by
  have hs := send_spec (t := t) c .token s
  unfold fetchToken
  rcases hsend : send c t .token s with ⟨e | b, s1⟩ <;> rw [hsend] at hs <;> simp only at hs
  · exact hs
  · obtain ⟨hl, st, hto, hok⟩ := hs
    -- the answer was a 2xx response: whatever is wrong with its body is an authentication error
    have auth : OneReq t .token s ((.error .auth, s1) : R Str) :=
      ⟨hl, by rw [hto]; exact (raised_resp_ok hok).mpr (.inl rfl)⟩
    cases b with
    | notJson => exact auth
    | nonObject => simp only [hc, if_true]; exact auth
    | obj o =>
      dsimp only
      split
      · exact auth
      · split
        · exact auth
        · exact ⟨hl, st, o, hto, hok⟩

theorem sendJson_oneReq (c : Cfg) (hc : c.checkObject = true) (u : Url) (s : St) : OneReq t u s (sendJson c t u s) := by
  have hs := send_spec (t := t) c u s
  unfold sendJson
  rcases hsend : send c t u s with ⟨e | b, s1⟩ <;> rw [hsend] at hs <;> simp only at hs
  · exact hs
  · obtain ⟨hl, st, hto, hok⟩ := hs
    have bad : OneReq t u s ((.error (.request none u), s1) : R Obj) :=
      ⟨hl, by rw [hto]; exact (raised_resp_ok hok).mpr (.inr rfl)⟩
    cases b with
    | notJson => exact bad
    | nonObject => simp only [hc, if_true]; exact bad
    | obj o => exact ⟨hl, st, o, hto, hok⟩

theorem sendJson_ok (c : Cfg) {u : Url} {s s' : St} {o : Obj} (h : sendJson c t u s = (.ok o, s')) :
    ∃ st, s'.log = (s.log.length, u) :: s.log ∧ t s.log.length u = .resp st (.obj o) ∧ ok2xx st = true := by
  have hs := send_spec (t := t) c u s
  unfold sendJson at h
  rcases hsend : send c t u s with ⟨e | _ | _ | o', s1⟩ <;> rw [hsend] at h hs <;> cases h
  obtain ⟨hl, st, hto, hok⟩ := hs
  exact ⟨st, hl, hto, hok⟩

theorem ensureToken_tr (c : Cfg) (hc : c.checkObject = true) (s : St) :
    TrBy Fine t s.log (ensureToken c t s).1 (ensureToken c t s).2.log := by
  unfold ensureToken
  split
  · exact TrBy.ok_refl _ _
  · exact (fetchToken_oneReq c hc s).tr

theorem getJson_tr (c : Cfg) (hc : c.checkObject = true) (u : Url) (s : St) :
    TrBy Fine t s.log (getJson c t u s).1 (getJson c t u s).2.log := by
  rw [getJson_eq]
  exact (TrBy.law Fine t).bindR (ensureToken_tr c hc) (fun _ s => (sendJson_oneReq c hc u s).tr) s

theorem getJson_ok (c : Cfg) (hc : c.checkObject = true) {u : Url} {s s' : St} {o : Obj}
    (h : getJson c t u s = (.ok o, s')) :
    ∃ (s1 : St) (st : Nat), TrBy Fine t s.log (.ok ()) s1.log ∧ s'.log = (s1.log.length, u) :: s1.log ∧
      t s1.log.length u = .resp st (.obj o) ∧ ok2xx st = true := by
  rw [getJson_eq] at h
  obtain ⟨tok, s1, h1, h2⟩ := bindR_ok h
  obtain ⟨st, hl, hto, hok⟩ := sendJson_ok c h2
  have htr := ensureToken_tr (t := t) c hc s
  rw [h1] at htr
  exact ⟨s1, st, htr, hl, hto, hok⟩

theorem getSiteId_tr (c : Cfg) (hc : c.checkObject = true) (s : St) :
    TrBy Fine t s.log (getSiteId c t s).1 (getSiteId c t s).2.log := by
  have h1 := getJson_tr (t := t) c hc .site s
  unfold getSiteId
  split
  · exact TrBy.ok_refl _ _
  · split
    · rename_i e s' he; rw [he] at h1; exact h1
    · rename_i o s' he; rw [he] at h1; simp only at h1
      split
      · exact h1
      · -- the site answer was an object without a string id: the error names the site request,
        -- which is the last request made
        obtain ⟨s1, st, htr, hl, hto, hok⟩ := getJson_ok (t := t) c hc he
        rw [hl]
        exact htr.seq (.one (by rw [hto]; exact (raised_resp_ok hok).mpr (.inr rfl)))

end tr

def Bal (s : St) : Prop := s.closed = s.opened

/-- the site-id cache is empty or holds the server's id -/
def Consistent (s : St) : Prop := s.site = none ∨ s.site = some srvSite

theorem bal_pres (c : Cfg) (hc : c.closeHttpError = true) (t : Transport) : Pres c t Bal where
  tok _ _ hs := hs
  site _ _ _ _ _ _ hs := hs
  send u s hs := by
    unfold Bal at hs ⊢
    unfold send
    simp only
    cases t s.log.length u with
    | urlError => simpa using hs
    | httpError code => simp [hc, hs]
    | resp st b =>
      simp only
      split <;> simp [hs]

theorem send_site (c : Cfg) (t : Transport) (u : Url) (s : St) : (send c t u s).2.site = s.site := by
  unfold send
  simp only
  cases t s.log.length u with
  | urlError => rfl
  | httpError code => rfl
  | resp st b => simp only; split <;> rfl

/-- a transport whose accepted site answers carry the server's site id -/
def SiteHonest (t : Transport) : Prop :=
  ∀ i st ob, t i .site = .resp st (.obj ob) → ok2xx st = true → ob.id = some srvSite ∨ ob.id = none

theorem consistent_pres (c : Cfg) (hc : c.checkObject = true) (t : Transport) (ht : SiteHonest t) :
    Pres c t Consistent where
  tok _ _ hs := hs
  send u s hs := by
    unfold Consistent at hs ⊢
    rw [send_site]; exact hs
  site s s' o id hj hid _ := by
    obtain ⟨s1, st, _, _, hto, hst⟩ := getJson_ok (t := t) c hc hj
    rcases ht _ st o hto hst with h | h
    · rw [h] at hid; cases hid; exact Or.inr rfl
    · rw [h] at hid; cases hid

theorem SiteHonest.faultAt {t : Transport} (ht : SiteHonest t) (k : Nat) {o : Outcome} (ho : ¬ Fine o) :
    SiteHonest (faultAt k o t) := by
  intro i st ob h hok
  unfold SP.faultAt at h
  split at h
  · exact absurd ⟨st, ob, h, hok⟩ ho
  · exact ht i st ob h hok

theorem siteHonest_healthy (L : Lib) (n : Nat) : SiteHonest (healthy L n) := by
  intro i st ob h _
  simp only [healthy, serve] at h
  cases h
  exact Or.inl rfl

section healthy
variable (c : Cfg) (L : Lib) (n : Nat)

theorem send_resp {t : Transport} {u : Url} {s : St} {st : Nat} {b : Body}
    (h : t s.log.length u = .resp st b) (hok : ok2xx st = true) :
    send c t u s = (.ok b, { s with log := (s.log.length, u) :: s.log, opened := s.opened + 1, closed := s.closed + 1 }) := by
  unfold send
  simp only [h, hok, if_true]

/-- the call returns `v` whatever state it starts in: the healthy server looks neither at the request index nor at
    what the client has cached, so below the site-id lookup the state plays no part in what is returned -/
def Yields {α} (m : St → R α) (v : α) : Prop := ∀ s, ∃ s', m s = (.ok v, s')

theorem Yields.ret {α} (v : α) : Yields (fun s => (.ok v, s)) v := fun s => ⟨s, rfl⟩

theorem Yields.bindR {α β} {m : St → R α} {f : α → St → R β} {a : α} {b : β} (hm : Yields m a) (hf : Yields (f a) b) :
    Yields (bindR m f) b := by
  intro s
  obtain ⟨s1, h1⟩ := hm s
  obtain ⟨s2, h2⟩ := hf s1
  exact ⟨s2, by rw [SP.bindR, h1]; exact h2⟩

theorem Yields.mapR {α β} (g : α → β) {m : St → R α} {a : α} (hm : Yields m a) : Yields (fun s => mapR g (m s)) (g a) := by
  intro s
  obtain ⟨s1, h1⟩ := hm s
  exact ⟨s1, by show SP.mapR g (m s) = _; rw [h1]; rfl⟩

theorem fetchToken_healthy : Yields (fetchToken c (healthy L n)) srvToken := by
  intro s
  have h := send_resp c (t := healthy L n) (u := .token) (s := s) (st := 200)
    (b := .obj { accessToken := some srvToken }) rfl rfl
  unfold fetchToken
  rw [h]
  exact ⟨_, rfl⟩

theorem ensureToken_healthy (s : St) : ∃ tok s', ensureToken c (healthy L n) s = (.ok tok, s') := by
  unfold ensureToken
  cases s.token with
  | some tok => exact ⟨tok, s, rfl⟩
  | none => exact ⟨_, fetchToken_healthy c L n s⟩

theorem getJson_healthy (u : Url) (ob : Obj) (h : serve L n u = .resp 200 (.obj ob)) :
    Yields (getJson c (healthy L n) u) ob := by
  intro s
  obtain ⟨tok, s1, h1⟩ := ensureToken_healthy c L n s
  rw [getJson_eq, bindR, h1]
  simp only [sendJson, send_resp c (t := healthy L n) (u := u) (s := s1) (st := 200) (b := .obj ob) h rfl]
  exact ⟨_, rfl⟩

theorem getJson_healthy_err (u : Url) (code : Nat) (h : serve L n u = .httpError code) (s : St) :
    ∃ s', getJson c (healthy L n) u s = (.error (.request (some code) u), s') := by
  obtain ⟨tok, s1, h1⟩ := ensureToken_healthy c L n s
  have : healthy L n s1.log.length u = .httpError code := h
  rw [getJson_eq, bindR, h1]
  simp only [sendJson, send, this]
  exact ⟨_, rfl⟩

theorem pages_healthy {α} (proj : Item → Option α) (hn : 0 < n) (item : Option Str) (its : List Item)
    (hits : folderItems L item = some its) :
    ∀ fuel off u, serve L n u = servePage L n item off → its.length - off < fuel →
      Yields (pagesWith c (healthy L n) proj fuel u) ((its.drop off).filterMap proj) := by
  intro fuel
  induction fuel with
  | zero => intro off u _ h; omega
  | succ f ih =>
    intro off u hu hlen
    rw [pagesWith_succ]
    refine (getJson_healthy c L n u (pageOf its item n off) (by rw [hu, servePage, hits])).bindR ?_
    simp only [pageOf]
    by_cases hmore : off + n < its.length
    · simp only [hmore, if_true]
      have := (ih (off + n) (.cursor item (off + n)) rfl (by omega)).mapR
        (((its.drop off).take n).filterMap proj ++ ·)
      rwa [← List.filterMap_append, ← List.drop_drop, List.take_append_drop] at this
    · simp only [hmore, if_false]
      rw [List.take_of_length_le (by rw [List.length_drop]; omega)]
      exact Yields.ret _

theorem items_length_le (K : Lib) : K.items.length ≤ K.size := by
  induction K with
  | nil => simp [Lib.items, Lib.size]
  | file f r ih => simp [Lib.items, Lib.size]; omega
  | other r ih => simp [Lib.items, Lib.size]; omega
  | folder nm id k r _ ih => simp [Lib.items, Lib.size]; omega

theorem resolves_folder {L : Lib} {n id : Str} {k r : Lib} :
    resolves L (.folder n id k r) = true ↔
      id ≠ [] ∧ findFolder id L = some k ∧ resolves L k = true ∧ resolves L r = true := by
  simp only [resolves, Bool.and_eq_true, Bool.not_eq_true', decide_eq_true_eq, List.isEmpty_eq_false_iff, and_assoc]

/-- the folder loop of `_walk_drive_items` over the folders of `K`, given that the recursive call is right
    for every sub-folder of `K` -/
theorem forFolders_healthy (rec : Str → Str → St → R (List FileMeta)) (f : Nat)
    (hrec : ∀ (k : Lib) (id p : Str), k.size + 2 ≤ f → resolves L k = true →
      folderItems L (some id) = some k.items → Yields (rec id p) (clientListing p k))
    (parent : Str) :
    ∀ K : Lib, K.size + 1 ≤ f → resolves L K = true →
      Yields (forFolders rec parent (K.items.filterMap folderOf)) (below parent K) := by
  intro K
  induction K with
  | nil => exact fun _ _ => Yields.ret _
  | file fi r ih =>
    intro hsz hres
    simp only [Lib.items, List.filterMap_cons, folderOf, below]
    exact ih (by simp [Lib.size] at hsz; omega) (by simpa [resolves] using hres)
  | other r ih =>
    intro hsz hres
    simp only [Lib.items, List.filterMap_cons, folderOf, below]
    exact ih (by simp [Lib.size] at hsz; omega) (by simpa [resolves] using hres)
  | folder nm id k r _ ihr =>
    intro hsz hres
    obtain ⟨hid, hfind, hk, hr⟩ := resolves_folder.mp hres
    simp only [Lib.size] at hsz
    simp only [Lib.items, List.filterMap_cons, folderOf, below]
    rw [forFolders_some, if_neg (by simpa using hid)]
    exact (hrec k id (childPath parent nm) (by omega) hk (by simp [folderItems, hfind])).bindR
      ((ihr (by omega) hr).mapR _)

theorem walk_healthy (hn : 0 < n) :
    ∀ (fuel : Nat) (K : Lib) (item : Option Str) (parent : Str),
      K.size + 2 ≤ fuel → resolves L K = true → folderItems L item = some K.items →
      Yields (walk c (healthy L n) srvSite fuel item parent) (clientListing parent K) := by
  intro fuel
  induction fuel with
  | zero => intro K item parent h; omega
  | succ f ih =>
    intro K item parent hsz hres hits
    have hlen := items_length_le K
    have hp : ∀ {α} (proj : Item → Option α),
        Yields (pagesWith c (healthy L n) proj f (.children srvSite item)) (K.items.filterMap proj) :=
      fun proj => pages_healthy c L n proj hn item K.items hits f 0 _ (by rw [serve, if_pos rfl]) (by omega)
    rw [walk_succ]
    exact (hp _).bindR (((hp _).bindR
      (forFolders_healthy L _ f (fun k id p => ih k (some id) p) parent K (by omega) hres)).mapR _)

theorem getSiteId_healthy (s : St) (hs : Consistent s) : ∃ s', getSiteId c (healthy L n) s = (.ok srvSite, s') := by
  unfold getSiteId
  rcases hs with hs | hs
  · rw [hs]; simp only
    obtain ⟨s1, h1⟩ := getJson_healthy c L n .site { id := some srvSite } rfl s
    rw [h1]
    exact ⟨_, rfl⟩
  · rw [hs]; exact ⟨_, rfl⟩

theorem listAll_healthy (hn : 0 < n) (hL : resolves L L = true) (fuel : Nat) (hf : L.size + 2 ≤ fuel)
    (s : St) (hs : Consistent s) :
    ∃ s', listAll c (healthy L n) fuel s = (.ok (clientListing [] L), s') := by
  obtain ⟨s1, h1⟩ := getSiteId_healthy c L n s hs
  unfold listAll
  rw [h1]
  exact walk_healthy c L n hn fuel L none [] hf hL rfl s1

theorem listFiltered_healthy (iso lower glob) (f : Filter) (hn : 0 < n) (hL : resolves L L = true)
    (fuel : Nat) (hf : L.size + 2 ≤ fuel) (s : St) (hs : Consistent s) :
    ∃ s', listFiltered c (healthy L n) iso lower glob f fuel s =
      (.ok ((clientListing [] L).filter (matchesF c iso lower glob f)), s') := by
  obtain ⟨s', h⟩ := listAll_healthy c L n hn hL fuel hf s hs
  rw [listFiltered_eq, h]
  exact ⟨s', rfl⟩

end healthy

theorem clientListing_perm : ∀ (L : Lib) (parent : Str), (clientListing parent L).Perm (specListing parent L) := by
  intro L
  induction L with
  | nil => intro p; simp [clientListing, filesHere, below, specListing, Lib.items]
  | file f r ih =>
    intro p
    have := ih p
    simp only [clientListing, filesHere, below, specListing, Lib.items, List.filterMap_cons, fileOf,
      List.cons_append] at this ⊢
    exact List.Perm.cons _ this
  | other r ih =>
    intro p
    have := ih p
    simp only [clientListing, filesHere, below, specListing, Lib.items, List.filterMap_cons, fileOf] at this ⊢
    exact this
  | folder nm id k r ihk ihr =>
    intro p
    have h1 := ihk (childPath p nm)
    have h2 := ihr p
    simp only [clientListing, filesHere, below, specListing, Lib.items, List.filterMap_cons, fileOf] at h1 h2 ⊢
    -- a ++ ((b ++ c) ++ d)  ~  (b ++ c) ++ (a ++ d)
    refine List.Perm.trans ?_ (List.Perm.append h1 h2)
    rw [List.perm_iff_count]
    intro x
    simp only [List.count_append]
    omega

/-! The date block of `FileFilter.matches` and `_parse_iso_datetime`: for `C18_matches_iff` and `C18_parse_fraction`. -/

/-- no bound at all, or the date string is there, is non-empty, parses to `ts`, and `a ≤ ts < b` for the bounds given -/
def DateIn (parse : Str → Option Int) (raw : Option Str) (a b : Option Int) : Prop :=
  (a = none ∧ b = none) ∨
  ∃ s ts, raw = some s ∧ s ≠ [] ∧ parse s = some ts ∧ (∀ x, a = some x → x ≤ ts) ∧ (∀ y, b = some y → ts < y)

theorem dateOk_iff (c : Cfg) (iso) (raw a b) : dateOk c iso raw a b = true ↔ DateIn (parseIso c iso) raw a b := by
  unfold dateOk DateIn
  cases a <;> cases b
  · simp
  -- a bound: the string must be there, be non-empty and parse, and the instant must lie inside
  all_goals
    rcases raw with _ | _ | ⟨ch, r⟩ <;> simp
    cases parseIso c iso (ch :: r) <;> simp

theorem digit_ne_plus (ch : Char) (h : isAsciiDigit ch = true) : (ch == '+') = false := by
  simp only [isAsciiDigit, Bool.and_eq_true, decide_eq_true_eq] at h
  simp only [beq_eq_false_iff_ne, ne_eq]
  intro hc; subst hc; revert h; decide

theorem tzIndex_digits_plus (frac r : Str) (hd : frac.all isAsciiDigit = true) :
    tzIndex (frac ++ '+' :: r) = some frac.length := by
  have : (frac ++ '+' :: r).findIdx? (· == '+') = some frac.length := by
    rw [List.findIdx?_append, List.findIdx?_eq_none_iff.mpr fun x hx => digit_ne_plus x (List.all_eq_true.mp hd x hx)]
    simp [List.findIdx?_cons]
  simp [tzIndex, this]

theorem parseIso_fraction (iso : Str → Option Int) (base frac : Str) (hb : '.' ∉ base)
    (hd : frac.all isAsciiDigit = true) (hne : frac ≠ []) :
    parseIso .fixed iso (base ++ '.' :: (frac ++ ['Z'])) =
      (iso (base ++ "+00:00".toList)).map (· + (microOf frac : Int)) := by
  have hlast : (base ++ '.' :: (frac ++ ['Z'])).getLast? = some 'Z' := by
    rw [show base ++ '.' :: (frac ++ ['Z']) = (base ++ '.' :: frac) ++ ['Z'] by simp]
    exact List.getLast?_concat
  have hdl : (base ++ '.' :: (frac ++ ['Z'])).dropLast = base ++ '.' :: frac := by
    rw [show base ++ '.' :: (frac ++ ['Z']) = (base ++ '.' :: frac) ++ ['Z'] by simp]
    exact List.dropLast_concat
  have hz : "+00:00".toList = '+' :: "00:00".toList := by decide
  unfold parseIso
  simp only [hlast, if_true, hdl]
  have hcont : (base ++ '.' :: frac ++ "+00:00".toList).contains '.' = true := by simp
  -- goal and `hcont` bracket the string as `(base ++ '.' :: frac) ++ zone`; the lemma wants `base ++ '.' :: rest`
  rw [show base ++ '.' :: frac ++ "+00:00".toList = base ++ '.' :: (frac ++ "+00:00".toList) by simp] at *
  obtain ⟨htk, hdr⟩ := List.takeWhile_dropWhile_append_cons (· ≠ '.') base '.' (frac ++ "+00:00".toList)
    (fun a ha => by simpa using fun (e : a = '.') => hb (e ▸ ha)) (by decide)
  simp only [hcont, if_true, htk, hdr, List.drop_succ_cons, List.drop_zero]
  rw [hz, tzIndex_digits_plus frac _ hd]
  simp only [List.take_left', List.drop_left', Cfg.fixed, if_true]
  cases iso (base ++ '+' :: "00:00".toList) with
  | none => rfl
  | some t => simp [hne, hd]

/-! Unique, non-empty folder ids make every folder addressable: for `C18_unique_ids_wellAddressed`. -/

/-- a folder with this id and these children occurs somewhere in the library -/
inductive FolderIn (id : Str) (k : Lib) : Lib → Prop
  | here {n r} : FolderIn id k (.folder n id k r)
  | fileRest {f r} : FolderIn id k r → FolderIn id k (.file f r)
  | otherRest {r} : FolderIn id k r → FolderIn id k (.other r)
  | inKids {n id' k' r} : FolderIn id k k' → FolderIn id k (.folder n id' k' r)
  | folderRest {n id' k' r} : FolderIn id k r → FolderIn id k (.folder n id' k' r)

theorem FolderIn.mem_ids {id k K} (h : FolderIn id k K) : id ∈ K.folderIds := by
  induction h with
  | here => simp [Lib.folderIds]
  | fileRest _ ih => simpa [Lib.folderIds] using ih
  | otherRest _ ih => simpa [Lib.folderIds] using ih
  | inKids _ ih => simp [Lib.folderIds, ih]
  | folderRest _ ih => simp [Lib.folderIds, ih]

theorem findFolder_none_of_not_mem (id : Str) : ∀ K : Lib, id ∉ K.folderIds → findFolder id K = none := by
  intro K
  induction K with
  | nil => intro _; rfl
  | file f r ih => intro h; simpa [findFolder, Lib.folderIds] using ih (by simpa [Lib.folderIds] using h)
  | other r ih => intro h; simpa [findFolder, Lib.folderIds] using ih (by simpa [Lib.folderIds] using h)
  | folder n id' k r ihk ihr =>
    intro h
    simp only [Lib.folderIds, List.mem_cons, List.mem_append, not_or] at h
    obtain ⟨h1, h2, h3⟩ := h
    simp [findFolder, h1, ihk h2, ihr h3]

theorem findFolder_of_nodup {id k K} (h : FolderIn id k K) : K.folderIds.Nodup → findFolder id K = some k := by
  induction h with
  | here => intro _; simp [findFolder]
  | fileRest _ ih => exact fun hn => by simpa [findFolder] using ih (by simpa [Lib.folderIds] using hn)
  | otherRest _ ih => exact fun hn => by simpa [findFolder] using ih (by simpa [Lib.folderIds] using hn)
  | @inKids _ id' _ _ h ih =>
    intro hn
    -- `id'` is neither among the kids' ids nor the rest's, each of the two lists is without repetition, and they are disjoint
    simp only [Lib.folderIds, List.nodup_cons, List.mem_append, not_or, List.nodup_append] at hn
    obtain ⟨⟨hk, _⟩, hnk, _⟩ := hn
    have hne : id ≠ id' := fun e => hk (e ▸ h.mem_ids)
    simp [findFolder, hne, ih hnk]
  | @folderRest _ id' k' _ h ih =>
    intro hn
    simp only [Lib.folderIds, List.nodup_cons, List.mem_append, not_or, List.nodup_append] at hn
    obtain ⟨⟨_, hr⟩, _, hnr, hdisj⟩ := hn
    have hne : id ≠ id' := fun e => hr (e ▸ h.mem_ids)
    have hnot : id ∉ k'.folderIds := fun hm => hdisj id hm id h.mem_ids rfl
    simp [findFolder, hne, findFolder_none_of_not_mem id k' hnot, ih hnr]

theorem resolves_of_folderIn (L : Lib) : ∀ K : Lib,
    (∀ id k, FolderIn id k K → findFolder id L = some k ∧ id ≠ []) → resolves L K = true := by
  intro K
  induction K with
  | nil => intro _; rfl
  | file f r ih => intro h; simpa [resolves] using ih (fun id k hk => h id k (.fileRest hk))
  | other r ih => intro h; simpa [resolves] using ih (fun id k hk => h id k (.otherRest hk))
  | folder n id' k' r ihk ihr =>
    intro h
    obtain ⟨hfind, hid⟩ := h id' k' .here
    exact resolves_folder.mpr
      ⟨hid, hfind, ihk (fun id k hk => h id k (.inKids hk)), ihr (fun id k hk => h id k (.folderRest hk))⟩

theorem resolves_of_nodup (L : Lib) (hn : L.folderIds.Nodup) (he : ∀ id ∈ L.folderIds, id ≠ []) :
    resolves L L = true :=
  resolves_of_folderIn L L (fun _ _ h => ⟨findFolder_of_nodup h hn, he _ h.mem_ids⟩)

end S2T.SP
