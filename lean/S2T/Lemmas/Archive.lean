import S2T.Model.Archive
import S2T.Lemmas.Keeps
import S2T.Lemmas.ListBasics
/-!
Paths are compared by their components (`comps`); what `_safe_join` returns
is `Inside` its base.  `extractall` is walked once (`Sim`, `extractAllFull_sim`): "events stay inside the private
directory", "the host is never asked" and (in `Lemmas/ArchiveGuard`) "files are written for requested entries only" are
instances.  The TAR / ZIP member loops are a filter (the second ZIP loop: a `takeWhile`) followed by a `flatMap` of what
one member `yields`.
-/
namespace S2T.Archive
open S2T.Router (Str)

theorem splitOn_nil (sep : Char) : splitOn sep [] = [[]] := rfl

theorem splitOn_eq (sep : Char) (s : Str) : splitOn sep s = s.splitOn sep :=
  List.eq_splitOn sep _ rfl (fun x r p ps h => by
    cases h; by_cases hx : x = sep <;> simp [splitOn, splitAux, hx]) s

theorem comps_append_slash (a b : Str) : comps (a ++ '/' :: b) = comps a ++ comps b := by
  simp [comps, splitOn_eq, List.splitOn_append_cons_self, List.filter_append]

theorem comps_of_noSlash (c : Str) (h : '/' ∉ c) : comps c = if c.isEmpty then [] else [c] := by
  unfold comps
  rw [splitOn_eq, List.splitOn_eq_singleton h]
  cases c <;> simp

theorem comps_nil : comps [] = [] := rfl

theorem comps_replicate_slash_append (k : Nat) (x : Str) : comps (List.replicate k '/' ++ x) = comps x := by
  induction k with
  | zero => rfl
  | succ n ih => exact (comps_append_slash [] _).trans ih

/-- a path component that names an entry: not empty, not `.`, not `..`, without a slash -/
def Clean (c : Str) : Prop := c ≠ [] ∧ c ≠ dot ∧ c ≠ dotdot ∧ '/' ∉ c

theorem Clean.ne_nil {c : Str} (h : Clean c) : c ≠ [] := h.1
theorem Clean.ne_dot {c : Str} (h : Clean c) : c ≠ dot := h.2.1
theorem Clean.ne_dotdot {c : Str} (h : Clean c) : c ≠ dotdot := h.2.2.1
theorem Clean.noSlash {c : Str} (h : Clean c) : '/' ∉ c := h.2.2.2

theorem comps_joinSlash {cs : List Str} (h : ∀ c ∈ cs, Clean c) : comps (joinSlash cs) = cs := by
  induction cs with
  | nil => rfl
  | cons c r ih =>
    have hc : comps c = [c] := by
      rw [comps_of_noSlash c (h c List.mem_cons_self).noSlash, if_neg (by simpa using (h c List.mem_cons_self).ne_nil)]
    have ih := ih (fun c hc => h c (List.mem_cons_of_mem _ hc))
    cases r with
    | nil => exact hc
    | cons c2 r2 => simp only [joinSlash]; rw [comps_append_slash, hc, ih]; rfl

theorem normStep_clean (st : List Str) (c : Str) (hst : ∀ x ∈ st, Clean x) (hc : '/' ∉ c) :
    ∀ x ∈ normStep true st c, Clean x := by
  unfold normStep
  split
  · exact hst
  · rename_i h1
    split
    · rename_i h2
      -- the pushed component is neither "", ".", nor ".." (abs: `..` is only pushed onto `..`, which a clean stack never has)
      have hne : c ≠ [] ∧ c ≠ dot := by
        simp only [Bool.or_eq_true, List.isEmpty_iff, beq_iff_eq, not_or] at h1
        exact h1
      have hdd : c ≠ dotdot := by
        intro e
        subst e
        simp only [bne_self_eq_false, Bool.not_true, Bool.false_and, Bool.or_false, Bool.false_or, beq_iff_eq] at h2
        cases st with
        | nil => simp at h2
        | cons a r =>
          simp only [List.head?_cons, Option.some.injEq] at h2
          exact (hst a (by simp)).ne_dotdot h2
      intro x hx
      rcases List.mem_cons.mp hx with e | e
      · subst e; exact ⟨hne.1, hne.2, hdd, hc⟩
      · exact hst x e
    · intro x hx
      exact hst x (List.mem_of_mem_tail hx)

theorem normpath_abs (q : Str) (h : isAbs q = true) :
    ∃ k, normpath q = List.replicate (k + 1) '/' ++ joinSlash (normComps true (splitOn '/' q)) := by
  obtain ⟨c, r, rfl⟩ : ∃ c r, q = c :: r := by cases q with | nil => cases h | cons c r => exact ⟨c, r, rfl⟩
  obtain rfl : c = '/' := by simpa [isAbs] using h
  obtain ⟨k, hk⟩ : ∃ k, initialSlashes ('/' :: r) = k + 1 := by
    unfold initialSlashes; split <;> simp_all
  refine ⟨k, ?_⟩
  -- `q` and the result start with a slash, so neither fallback to `"."` is taken, and `k + 1 != 0` selects the absolute mode
  simp [normpath, hk, List.replicate_succ]

theorem comps_normpath_clean (q : Str) (h : isAbs q = true) : ∀ c ∈ comps (normpath q), Clean c := by
  -- the stack stays clean through the component loop: no piece of the split holds a slash
  have hcl : ∀ x ∈ normComps true (splitOn '/' q), Clean x := fun x hx =>
    List.foldlRecOn (motive := fun st => ∀ x ∈ st, Clean x) _ _ (by simp)
      (fun st hst c hc => normStep_clean st c hst (List.not_mem_of_mem_splitOn c (splitOn_eq '/' q ▸ hc)))
      x (List.mem_reverse.mp hx)
  obtain ⟨k, hk⟩ := normpath_abs q h
  rwa [hk, comps_replicate_slash_append, comps_joinSlash hcl]

theorem isAbs_join_of_abs (a b : Str) (ha : isAbs a = true) : isAbs (join a b) = true := by
  unfold join
  split
  · rename_i h; simpa [isAbs] using h
  · cases a with
    | nil => simp [isAbs] at ha
    | cons x r =>
      split <;> simpa [isAbs] using ha

theorem isAbs_normpath (q : Str) (h : isAbs q = true) : isAbs (normpath q) = true := by
  obtain ⟨k, hk⟩ := normpath_abs q h
  rw [hk]; rfl

/-- `p` is lexically inside (or equal to) `base`: it adds only entry names to `base`'s components -/
def Inside (base p : Str) : Prop := ∃ s, comps p = comps base ++ s ∧ ∀ c ∈ s, Clean c

/-- the hypotheses on `base` are what `mkdtemp` returns: an absolute path that is its own normal form -/
theorem safeJoin_inside (cwd base rel p : Str) (habs : isAbs base = true) (hnorm : normpath base = base)
    (h : safeJoin cwd base rel = .ok p) : isAbs p = true ∧ Inside base p := by
  have hj : isAbs (join base rel) = true := isAbs_join_of_abs _ _ habs
  have hbase : abspath cwd base = base := by simp [abspath, habs, hnorm]
  have ht : abspath cwd (join base rel) = normpath (join base rel) := by simp [abspath, hj]
  have hself : isAbs base = true ∧ Inside base base := ⟨habs, [], by simp, by simp⟩
  unfold safeJoin at h
  simp only [hbase, ht] at h
  split at h
  · cases h; exact hself
  · split at h
    · cases h
    · split at h
      · rename_i heq
        cases h
        rwa [beq_iff_eq.mp heq]
      · split at h
        · rename_i hpre
          cases h
          obtain ⟨rest, hrest⟩ := List.isPrefixOf_iff_prefix.mp hpre
          rw [List.append_assoc, List.singleton_append] at hrest
          refine ⟨isAbs_normpath _ hj, comps rest, by rw [← hrest, comps_append_slash], fun c hc => ?_⟩
          apply comps_normpath_clean _ hj
          rw [← hrest, comps_append_slash]
          exact List.mem_append_right _ hc
        · cases h

theorem basename_noSlash (p : Str) : '/' ∉ basename p := fun h => by
  simpa using List.all_eq_true.mp (List.all_takeWhile (p := (· != '/')) (l := p.reverse)) '/' (List.mem_reverse.mp h)

theorem comps_dropWhile_slash_reverse (m : Str) : comps ((m.dropWhile (· == '/')).reverse) = comps m.reverse := by
  induction m with
  | nil => rfl
  | cons a m ih =>
    by_cases ha : a = '/'
    · subst ha
      rw [List.dropWhile_cons_of_pos (by rfl), ih, List.reverse_cons, comps_append_slash, comps_nil, List.append_nil]
    · rw [List.dropWhile_cons_of_neg (by simpa using ha)]

theorem comps_dirname_basename (p : Str) : comps p = comps (dirname p) ++ comps (basename p) := by
  have hp : p = (p.reverse.dropWhile (· != '/')).reverse ++ basename p := by
    rw [basename, ← List.reverse_append, List.takeWhile_append_dropWhile, List.reverse_reverse]
  have hdir : comps (dirname p) = comps (p.reverse.dropWhile (· != '/')).reverse := by
    unfold dirname
    dsimp only
    split
    · simpa using comps_dropWhile_slash_reverse (p.reverse.dropWhile (· != '/'))
    · rfl
  -- what precedes the basename is empty or ends with a slash
  have hhead := List.head?_dropWhile_not (· != '/') p.reverse
  rw [hdir]
  generalize p.reverse.dropWhile (· != '/') = hd at hp hhead
  generalize basename p = bn at hp
  subst hp
  cases hd with
  | nil => rfl
  | cons a r =>
    obtain rfl : a = '/' := by simpa using hhead
    rw [List.reverse_cons, List.append_assoc, List.singleton_append, comps_append_slash, comps_append_slash,
      comps_nil, List.append_nil]

/-- ancestor-or-self of `base` (component-wise) -/
def Anc (base q : Str) : Prop := (comps q) <+: (comps base)

def PathOk (base q : Str) : Prop := Inside base q ∨ Anc base q

/-- events that may occur between `mkdtemp base` and `rmtree base`.  Used by unfolding: for the four path events it is
    the pair `isAbs p = true ∧ Inside base p`, for the two frame events `False`. -/
def EvIn (base : Str) : Ev → Prop
  | .mkdir p => isAbs p = true ∧ Inside base p
  | .write p => isAbs p = true ∧ Inside base p
  | .probe p => isAbs p = true ∧ Inside base p
  | .read p => isAbs p = true ∧ Inside base p
  | .mkdtemp _ => False
  | .rmtree _ => False

theorem inside_prefix {base p : Str} (h : Inside base p) : (comps base).isPrefixOf (comps p) = true := by
  obtain ⟨s, hs, _⟩ := h
  rw [List.isPrefixOf_iff_prefix, hs]
  exact List.prefix_append _ _

theorem within_of_inside {base p : Str} (h : Inside base p) : within base p = true := by
  have hp := inside_prefix h
  obtain ⟨s, hs, hcl⟩ := h
  unfold within
  rw [hp, hs]
  simp only [List.drop_left, Bool.true_and, List.all_eq_true, Bool.and_eq_true, bne_iff_ne, ne_eq]
  intro c hc
  exact ⟨(hcl c hc).ne_dotdot, (hcl c hc).ne_dot⟩

theorem dirname_pathOk {base p : Str} (h : Inside base p) : PathOk base (dirname p) := by
  obtain ⟨s, hs, hcl⟩ := h
  have hd := comps_dirname_basename p
  have hb := comps_of_noSlash (basename p) (basename_noSlash p)
  rw [hs, hb] at hd
  -- an empty basename (`p` ends with a slash): `dirname p` has the components of `p`; otherwise it drops the last one,
  -- and with nothing added to `base` (`s = []`) what is left is a prefix of `base`'s components, an ancestor
  split at hd
  · left
    exact ⟨s, by simpa using hd.symm, hcl⟩
  · rcases List.eq_nil_or_concat s with h0 | ⟨s', x, hx⟩
    · subst h0
      right
      unfold Anc
      simp only [List.append_nil] at hd
      rw [hd]
      exact List.prefix_append _ _
    · left
      subst hx
      refine ⟨s', ?_, fun c hc => hcl c (by simp [hc])⟩
      have hd' : (comps base ++ s') ++ [x] = comps (dirname p) ++ [basename p] := by
        rw [← hd]; simp [List.concat_eq_append]
      exact (List.append_inj_left' hd' rfl).symm

theorem safeJoin_pathOk {cwd base rel p q : Str} (habs : isAbs base = true) (hnorm : normpath base = base)
    (h : safeJoin cwd base rel = .ok p) (hq : q = p ∨ q = dirname p) : PathOk base q := by
  have hin := (safeJoin_inside cwd base rel p habs hnorm h).2
  rcases hq with rfl | rfl
  · exact Or.inl hin
  · exact dirname_pathOk hin

theorem nodeAt_anc (env : Env) (base : Str) (fs : Overlay) (q : Str) (h : Anc base q) :
    nodeAt env base fs q = some .dir := by
  unfold nodeAt
  simp [List.isPrefixOf_iff_prefix.mpr h]

/-- no `env` on the right: inside the private directory only the run decides what exists -/
theorem nodeAt_inside (env : Env) {base p : Str} (fs : Overlay) (h : Inside base p) :
    nodeAt env base fs p = if (comps p).isPrefixOf (comps base) then some .dir else olookup p fs := by
  unfold nodeAt
  split
  · rfl
  · cases olookup p fs <;> simp [inside_prefix h]

def withHost (env : Env) (h : Str → Option (Option (List Nat))) : Env := { env with host := h }

theorem nodeAt_host (env : Env) (h' : Str → Option (Option (List Nat))) (base : Str) (fs : Overlay) (q : Str)
    (hq : PathOk base q) : nodeAt (withHost env h') base fs q = nodeAt env base fs q := by
  rcases hq with hi | ha
  · rw [nodeAt_inside _ fs hi, nodeAt_inside _ fs hi]
  · rw [nodeAt_anc _ base fs q ha, nodeAt_anc _ base fs q ha]

theorem isAbs_append {a : Str} (b : Str) (h : isAbs a = true) : isAbs (a ++ b) = true := by
  cases a with
  | nil => simp [isAbs] at h
  | cons x r => simpa [isAbs] using h

theorem chain_elem_inside (base : Str) (xs : List Str) (hx : ∀ c ∈ xs, Clean c) :
    Inside base (base ++ '/' :: joinSlash xs) :=
  ⟨xs, by rw [comps_append_slash, comps_joinSlash hx], hx⟩

/-- (an ancestor only when `p` is not below `base`: the chain is then `[p]`) -/
theorem chainBelow_ok {base p : Str} (habs : isAbs base = true) (hp : PathOk base p) :
    ∀ q ∈ chainBelow base p, (isAbs q = true ∧ Inside base q) ∨ Anc base q := by
  intro q hq
  unfold chainBelow at hq
  split at hq
  · left
    obtain ⟨i, _, hi⟩ := List.mem_map.mp hq
    subst hi
    have hclean : ∀ c ∈ (comps p).drop (comps base).length, Clean c := by
      rcases hp with ⟨s, hs, hcl⟩ | ha
      · rw [hs]; simpa using hcl
      · intro c hc
        rw [List.drop_eq_nil_of_le (List.IsPrefix.length_le ha)] at hc; cases hc
    exact ⟨isAbs_append _ habs, chain_elem_inside base _ (fun c hc => hclean c (List.mem_of_mem_take hc))⟩
  · rename_i hnp
    rcases hp with hi | ha
    · exact absurd (inside_prefix hi) hnp
    · right
      rw [List.mem_singleton.mp hq]; exact ha

/-- `_mkdirs` walked once for any invariant `I`: the hypotheses are what the walk can do to a run (raise, create a
    missing level) and what it looks at (the node at each level) -/
theorem mkdirsWalk_keeps {I : Run → Prop} {env env' : Env} {base : Str} {qs : List Str}
    (hnode : ∀ q ∈ qs, ∀ fs, nodeAt env' base fs q = nodeAt env base fs q)
    (herr : ∀ r e, I r → I { r with err := some e })
    (hadd : ∀ q ∈ qs, ∀ r, I r → nodeAt env base r.fs q = none →
      I { r with fs := (q, .dir) :: r.fs, evs := r.evs ++ [.mkdir q] }) :
    Keeps I (mkdirsWalk env' base qs) (mkdirsWalk env base qs) := by
  induction qs with
  | nil => exact fun r h => ⟨rfl, h⟩
  | cons q qs ih =>
    have ih := ih (fun q' h => hnode q' (List.mem_cons_of_mem _ h)) (fun q' h => hadd q' (List.mem_cons_of_mem _ h))
    intro r h
    unfold mkdirsWalk
    rw [hnode q List.mem_cons_self]
    split
    · exact ⟨rfl, h⟩
    · split
      · exact ih r h
      · exact ⟨rfl, herr r _ h⟩
      · exact ih _ (hadd q List.mem_cons_self r h ‹_›)

/-- the same for `open(p, "wb").write(d)` -/
theorem writeFile_keeps {I : Run → Prop} {env env' : Env} {base p : Str} {d : List Nat}
    (hnode : ∀ q, q = p ∨ q = dirname p → ∀ fs, nodeAt env' base fs q = nodeAt env base fs q)
    (hfail : ∀ r, I r → I { r with evs := r.evs ++ [.write p], err := some .writeFailed })
    (hadd : ∀ r, I r → I { r with fs := (p, .file d) :: r.fs, evs := r.evs ++ [.write p] }) :
    Keeps I (writeFile env' base p d) (writeFile env base p d) := by
  intro r h
  unfold writeFile
  rw [hnode p (Or.inl rfl), hnode _ (Or.inr rfl)]
  refine ⟨rfl, ?_⟩
  split
  · exact h
  · split
    · exact hfail r h
    · split
      · exact hadd r h
      · exact hfail r h

theorem indexed_eq {α} (l : List α) (n : Nat) : indexed l n = (l.zipIdx n).map fun xi => (xi.2, xi.1) := by
  induction l generalizing n with
  | nil => rfl
  | cons x r ih => simp [indexed, ih]

theorem indexed_get {α} (l : List α) (n i : Nat) (x : α) (h : (i, x) ∈ indexed l n) : n ≤ i ∧ l[i - n]? = some x := by
  rw [indexed_eq] at h
  obtain ⟨⟨y, j⟩, hm, he⟩ := List.mem_map.mp h
  cases he
  exact List.mk_mem_zipIdx_iff_le_and_getElem?_sub.mp hm

theorem mem_select7z {skip : Str → Str → Bool} {lim : Limits} {files : List FileInfo} {nf : Nat × FileInfo}
    (h : nf ∈ select7z skip lim files) : files[nf.1]? = some nf.2 ∧ nf.2.isDirectory = false ∧
      skip nf.2.filename (basename nf.2.filename) = false ∧ nf.2.uncompressed ≤ lim.maxMemory := by
  obtain ⟨h1, h2⟩ := List.mem_filter.mp h
  simp only [Bool.and_eq_true, Bool.not_eq_true', decide_eq_false_iff_not, Nat.not_lt] at h2
  exact ⟨(indexed_get files 0 nf.1 nf.2 h1).2, h2.1.1, h2.1.2, h2.2⟩

/-- `env'` can stand in for `env` on the runs satisfying `I`, and the primitive steps of `extractall` keep `I`:
    raising; `_mkdirs` on a path `_safe_join` returned, or on its dirname; writing the file of a requested entry at
    the path `_safe_join` gives for its name, with at most the declared number of bytes. -/
structure Sim (env env' : Env) (cwd base : Str) (files : List FileInfo) (w : Wanted) (I : Run → Prop) : Prop where
  err : ∀ r e, I r → I { r with err := some e }
  mkdirs : ∀ rel p q, safeJoin cwd base rel = .ok p → q = p ∨ q = dirname p →
    Keeps I (mkdirs env' base q) (mkdirs env base q)
  write : ∀ i f p d, files[i]? = some f → isWanted w i = true → safeJoin cwd base f.filename = .ok p →
    d.length ≤ f.uncompressed → Keeps I (writeFile env' base p d) (writeFile env base p d)

variable {env env' : Env} {cwd base : Str} {files : List FileInfo} {w : Wanted} {I : Run → Prop}
  (S : Sim env env' cwd base files w I)
include S

/-- `_mkdirs(dirname(p))` (skipped for an empty dirname) followed by the write -/
theorem Sim.writeAt (i : Nat) (f : FileInfo) (p : Str) (d : List Nat)
    (hf : files[i]? = some f) (hw : isWanted w i = true) (hp : safeJoin cwd base f.filename = .ok p)
    (hd : d.length ≤ f.uncompressed) :
    Keeps I (fun r => writeFile env' base p d (if (dirname p).isEmpty then r else Archive.mkdirs env' base (dirname p) r))
      (fun r => writeFile env base p d (if (dirname p).isEmpty then r else Archive.mkdirs env base (dirname p) r)) := by
  -- (`Archive.mkdirs` in the statement: under `Sim`'s namespace the bare name is the field `Sim.mkdirs`)
  have hw := S.write i f p d hf hw hp hd
  split
  · exact hw
  · exact (S.mkdirs _ p _ hp (Or.inr rfl)).comp hw

theorem extractOne_sim (data : List Nat) (nf : Nat × FileInfo) (hnf : files[nf.1]? = some nf.2) :
    Keeps (fun st : Run × Nat => I st.1) (extractOne env' cwd base data w nf) (extractOne env cwd base data w nf) := by
  intro ⟨r, off⟩ h
  unfold extractOne
  -- (a bare `dsimp only` here and below opens the `let`s and the `match` on the value just decided)
  dsimp only
  cases hr : r.err with
  | some e => exact ⟨rfl, h⟩
  | none =>
    dsimp only
    by_cases hw : isWanted w nf.1 = true
    · simp only [hw, Bool.not_true, Bool.false_eq_true, if_false]
      cases hj : safeJoin cwd base nf.2.filename with
      | error e =>
        -- `_safe_join` raises: a directory raises it, a file raises it or, before that, "out of bounds"
        refine ⟨rfl, ?_⟩
        split
        · exact S.err r _ h
        · split <;> exact S.err r _ h
      | ok p =>
        dsimp only
        split
        · -- a directory: `_mkdirs` on its path
          obtain ⟨e, h1⟩ := S.mkdirs _ p p hj (Or.inl rfl) r h
          exact ⟨congrArg (·, _) e, h1⟩
        · split
          · -- a file whose bytes end beyond the decoded data
            exact ⟨rfl, S.err r _ h⟩
          · -- a file: `_mkdirs` on the dirname, then the write
            obtain ⟨e, h1⟩ := S.writeAt nf.1 nf.2 p ((data.drop off).take nf.2.uncompressed) hnf hw hj
              (by rw [List.length_take]; omega) r h
            exact ⟨congrArg (·, _) e, h1⟩
    · -- not requested: stepped over, the run is as it was
      simpa only [hw, Bool.not_false, if_true, true_and] using h

theorem extractFolder_sim (data : List Nat) (fs : List (Nat × FileInfo)) (hfs : ∀ nf ∈ fs, files[nf.1]? = some nf.2) :
    Keeps I (extractFolder env' cwd base data w fs) (extractFolder env cwd base data w fs) := fun r h => by
  obtain ⟨e, h1⟩ := Keeps.foldl fs (fun nf hm => extractOne_sim S data nf (hfs nf hm)) (r, 0) h
  exact ⟨congrArg Prod.fst e, h1⟩

theorem extractAll_sim (fmap : List (Nat × Nat)) (fd : List (Option (List Nat))) (k : Nat) (fl : List Nat) :
    Keeps I (extractAll env' cwd base files fmap fd w k fl) (extractAll env cwd base files fmap fd w k fl) := by
  induction fl generalizing k with
  | nil => exact fun _ h => ⟨rfl, h⟩
  | cons x rest ih =>
    intro r h
    unfold extractAll
    split
    · exact ⟨rfl, h⟩
    · dsimp only
      split
      · exact ih _ r h
      · split
        · exact ih _ r h
        · split
          · exact ⟨rfl, S.err r _ h⟩
          · have hmine : ∀ nf ∈ (fmap.filter (fun ij => ij.2 == k)).filterMap
                (fun ij => (files[ij.1]?).map (fun f => (ij.1, f))), files[nf.1]? = some nf.2 := by
              intro nf hm
              obtain ⟨ij, _, hij⟩ := List.mem_filterMap.mp hm
              obtain ⟨f, hf, rfl⟩ := Option.map_eq_some_iff.mp hij
              exact hf
            exact (extractFolder_sim S _ _ hmine).comp (ih _) r h

theorem writeEmpty_sim (i : Nat) (f : FileInfo) (hf : files[i]? = some f) (hw : isWanted w i = true) :
    Keeps I (writeEmpty env' cwd base f) (writeEmpty env cwd base f) := by
  intro r h
  unfold writeEmpty
  split
  · exact ⟨rfl, h⟩
  · split
    · exact ⟨rfl, S.err r _ h⟩
    · rename_i p hp
      exact S.writeAt i f p [] hf hw hp (Nat.zero_le _) r h

theorem extractAllFull_sim (fmap : List (Nat × Nat)) (fd : List (Option (List Nat))) (fl : List Nat) :
    Keeps I (extractAllFull env' cwd base files fmap fd fl w) (extractAllFull env cwd base files fmap fd fl w) := by
  refine (extractAll_sim S fmap fd 0 fl).comp (Keeps.foldl _ fun nf hm => ?_)
  obtain ⟨h1, h2⟩ := List.mem_filter.mp hm
  exact writeEmpty_sim S nf.1 nf.2 (by simpa using (indexed_get files 0 nf.1 nf.2 h1).2) (Bool.and_eq_true_iff.mp h2).2

omit S

theorem extractAllFull_evIn (env : Env) (cwd base : Str) (files : List FileInfo) (fmap : List (Nat × Nat))
    (fd : List (Option (List Nat))) (fl : List Nat) (w : Wanted) (r : Run)
    (habs : isAbs base = true) (hnorm : normpath base = base)
    (hr : ∀ e ∈ r.evs, EvIn base e) : ∀ e ∈ (extractAllFull env cwd base files fmap fd fl w r).evs, EvIn base e := by
  have snoc {evs : List Ev} {e : Ev} (h : ∀ x ∈ evs, EvIn base x) (he : EvIn base e) : ∀ x ∈ evs ++ [e], EvIn base x := by
    simpa [or_imp, forall_and] using ⟨h, he⟩
  exact (extractAllFull_sim (env' := env) (I := fun r => ∀ e ∈ r.evs, EvIn base e)
    { err := fun _ _ h => h
      -- `mkdirs` is by definition `mkdirsWalk` over `chainBelow base q` (so also in the other two instances);
      -- an ancestor of `base` exists, so a level that had to be created is inside
      mkdirs := fun _ _ _ hp hq => mkdirsWalk_keeps (fun _ _ _ => rfl) (fun _ _ h => h) fun q' hq' r h hn =>
        snoc h ((chainBelow_ok habs (safeJoin_pathOk habs hnorm hp hq) q' hq').resolve_right fun ha => by
          rw [nodeAt_anc env base r.fs q' ha] at hn; cases hn)
      write := fun _ _ p _ _ _ hp _ =>
        have hin : EvIn base (.write p) := safeJoin_inside cwd base _ p habs hnorm hp
        writeFile_keeps (fun _ _ _ => rfl) (fun _ h => snoc h hin) fun _ h => snoc h hin }
    fmap fd fl r hr).2

theorem extractAllFull_host (env : Env) (h' : Str → Option (Option (List Nat))) (cwd base : Str) (files : List FileInfo)
    (fmap : List (Nat × Nat)) (fd : List (Option (List Nat))) (fl : List Nat) (w : Wanted) (r : Run)
    (habs : isAbs base = true) (hnorm : normpath base = base) :
    extractAllFull (withHost env h') cwd base files fmap fd fl w r = extractAllFull env cwd base files fmap fd fl w r :=
  (extractAllFull_sim (I := fun _ => True)
    { err := fun _ _ h => h
      mkdirs := fun _ _ _ hp hq => mkdirsWalk_keeps
        (fun q' hq' fs => nodeAt_host env h' base fs q'
          ((chainBelow_ok habs (safeJoin_pathOk habs hnorm hp hq) q' hq').imp_left And.right))
        (fun _ _ h => h) fun _ _ _ h _ => h
      write := fun _ _ _ _ _ _ hp _ => writeFile_keeps
        (fun q hq fs => nodeAt_host env h' base fs q (safeJoin_pathOk habs hnorm hp hq)) (fun _ h => h) fun _ h => h }
    fmap fd fl r trivial).1

theorem readBack_evIn (env : Env) (lim : Limits) (cwd base : Str) (fs : Overlay) (f : FileInfo)
    (habs : isAbs base = true) (hnorm : normpath base = base) :
    ∀ e ∈ (readBack env lim cwd base fs f).evs, EvIn base e := by
  unfold readBack
  split
  · simp
  · rename_i p hp
    have hin := safeJoin_inside cwd base f.filename p habs hnorm hp
    have hprobe : EvIn base (.probe p) := hin
    have hread : EvIn base (.read p) := hin
    split <;> simp [hprobe, hread]

theorem readBack_host (env : Env) (h' : Str → Option (Option (List Nat))) (lim : Limits) (cwd base : Str) (fs : Overlay)
    (f : FileInfo) (habs : isAbs base = true) (hnorm : normpath base = base) :
    readBack (withHost env h') lim cwd base fs f = readBack env lim cwd base fs f := by
  unfold readBack
  split
  · rfl
  · rename_i p hp
    have hin := safeJoin_inside cwd base f.filename p habs hnorm hp
    rw [nodeAt_host env h' base fs p (Or.inl hin.2)]
    rfl

theorem consume_prefix (lim : Option Nat) (steps : List Step) :
    (consume lim steps).1 <+: steps.flatMap (·.evs) ∧ (consume lim steps).2.1 <+: steps.flatMap (·.res) := by
  induction steps generalizing lim with
  | nil => cases lim <;> exact ⟨List.prefix_rfl, List.prefix_rfl⟩
  | cons s r ih =>
    have step (lim') : s.evs ++ (consume lim' r).1 <+: (s :: r).flatMap (·.evs)
        ∧ s.res ++ (consume lim' r).2.1 <+: (s :: r).flatMap (·.res) :=
      ⟨(List.prefix_append_right_inj _).mpr (ih lim').1, (List.prefix_append_right_inj _).mpr (ih lim').2⟩
    cases lim with
    | none => exact step none
    | some k =>
      rw [consume]
      split
      -- closed at the `k`-th yield of this step: all its events, the first `k` of its results
      · exact ⟨List.prefix_append _ _, (List.take_prefix _ _).trans (List.prefix_append _ _)⟩
      · exact step _

theorem processEntry_mem {env : Env} {lim : Limits} {fn bn : Str} {d : List Nat} {r : Res}
    (h : r ∈ processEntry env lim fn bn d) : r = (fn, d) ∧ d.length ≤ lim.maxEntry := by
  unfold processEntry at h
  split at h
  · cases h
  · rename_i hle
    exact ⟨List.eq_of_mem_replicate h, by omega⟩

/-- what one member yields, given its declared size and what reading it returns: nothing if it is declared
    larger than `max_memory_size` or cannot be read -/
def yields (env : Env) (lim : Limits) (name : Str) (size : Nat) (rd : Option (List Nat)) : List Res :=
  if size > lim.maxMemory then [] else
    match rd with
    | none => []
    | some d => processEntry env lim name (basename name) d

theorem mem_flatMap_yields {α : Type} {env : Env} {lim : Limits} {nm : α → Str} {sz : α → Nat}
    {rd : α → Option (List Nat)} {l : List α} {r : Res}
    (h : r ∈ l.flatMap fun a => yields env lim (nm a) (sz a) (rd a)) :
    ∃ a ∈ l, r.1 = nm a ∧ rd a = some r.2 ∧ sz a ≤ lim.maxMemory ∧ r.2.length ≤ lim.maxEntry := by
  obtain ⟨a, ha, h⟩ := List.mem_flatMap.mp h
  refine ⟨a, ha, ?_⟩
  unfold yields at h
  split at h
  · cases h
  · split at h
    · cases h
    · obtain ⟨rfl, hl⟩ := processEntry_mem h
      exact ⟨rfl, ‹_›, by omega, hl⟩

theorem tarRun_eq (skip : Str → Str → Bool) (env : Env) (lim : Limits) (ms : List TarMember) :
    tarRun skip env lim ms = (ms.filter fun m => m.isReg && !skip m.name (basename m.name)).flatMap fun m =>
      yields env lim m.name m.size m.read := by
  induction ms with
  | nil => rfl
  | cons m r ih =>
    rw [tarRun, List.filter_cons]
    -- a member that fails the guard is stepped over; one that passes contributes what it yields
    cases m.isReg <;> cases skip m.name (basename m.name) <;> try exact ih
    refine Eq.trans ?_ (congrArg (yields env lim m.name m.size m.read ++ ·) ih)
    -- `show` evaluates the two guard tests just decided, so that `split` meets the size test, the same on both sides
    show (if m.size > lim.maxMemory then _ else _) = _
    unfold yields
    split <;> cases m.read <;> rfl

/-- the first ZIP loop, unless it meets an encrypted member, is a filter -/
theorem zipSelect_ok {skip : Str → Str → Bool} {ms sel : List ZipMember} (h : zipSelect skip ms = .ok sel) :
    sel = ms.filter fun m => !m.isDir && !skip m.filename (basename m.filename) := by
  induction ms generalizing sel with
  | nil => cases h; rfl
  | cons m r ih =>
    rw [zipSelect] at h
    split at h
    · rename_i hd
      rw [List.filter_cons_of_neg (by simp [hd])]; exact ih h
    · split at h
      · cases h
      · split at h
        · rename_i hs
          rw [List.filter_cons_of_neg (by simp [hs])]; exact ih h
        · rename_i hd _ hs
          rw [List.filter_cons_of_pos (by simp [hd, hs])]
          split at h
          · cases h; rw [← ih ‹_›]
          · cases h

/-- the second ZIP loop: what the members before the first unreadable one yield -/
theorem zipProcess_eq (env : Env) (lim : Limits) (sel : List ZipMember) :
    zipProcess env lim sel =
      ((sel.takeWhile fun m => m.fileSize > lim.maxMemory || m.read.isSome).flatMap fun m =>
          yields env lim m.filename m.fileSize m.read,
        if sel.all fun m => m.fileSize > lim.maxMemory || m.read.isSome then none else some .badArchive) := by
  induction sel with
  | nil => rfl
  | cons m r ih =>
    rw [zipProcess, ih, List.takeWhile_cons, List.all_cons]
    by_cases hs : m.fileSize > lim.maxMemory
    · simp [hs, yields]
    · cases hrd : m.read <;> simp [hs, hrd, yields]

def dirsOf : List FsEvent → List Str
  | [] => []
  | .mkdtemp p :: r => p :: dirsOf r
  | _ :: r => dirsOf r

/-- what an accepted event may be, relative to a set `D` of private directories -/
def FsOk (cfg : Cfg) (D : List Str) : FsEvent → Prop
  | .mkdtemp p => within cfg.tmpRoot p = true ∧ isAbs p = true
  | .rmtree p gone => p ∈ D ∧ gone = true
  | .mkdir p => ∃ d ∈ D, isAbs p = true ∧ within d p = true
  | .mkdirExisting _ => True
  | .openW p => ∃ d ∈ D, isAbs p = true ∧ within d p = true
  | .remove p => ∃ d ∈ D, isAbs p = true ∧ within d p = true
  | .rmdir p => ∃ d ∈ D, isAbs p = true ∧ within d p = true
  | .openR p => (∃ d ∈ D, isAbs p = true ∧ within d p = true) ∨ roOk cfg p = true
  | .listdir p => (∃ d ∈ D, isAbs p = true ∧ within d p = true) ∨ roOk cfg p = true
  | .stat p => (∃ d ∈ D, isAbs p = true ∧ within d p = true) ∨ roOk cfg p = true
      ∨ (∃ d ∈ D, (comps p).isPrefixOf (comps d) = true)
  | .other _ _ => False

theorem inLive_elim {live : List Str} {p : Str} (h : inLive live p = true) :
    ∃ d ∈ live, isAbs p = true ∧ within d p = true := by
  unfold inLive at h
  simp only [Bool.and_eq_true, List.any_eq_true] at h
  obtain ⟨ha, d, hd, hw⟩ := h
  exact ⟨d, hd, ha, hw⟩

theorem FsOk_mono (cfg : Cfg) {D D' : List Str} (h : ∀ d ∈ D, d ∈ D') (e : FsEvent) (he : FsOk cfg D e) : FsOk cfg D' e := by
  have up {P : Str → Prop} : (∃ d ∈ D, P d) → ∃ d ∈ D', P d := fun ⟨d, hd, r⟩ => ⟨d, h d hd, r⟩
  cases e with
  | mkdtemp p | mkdirExisting p | other w p => exact he
  | rmtree p g => exact ⟨h _ he.1, he.2⟩
  | mkdir p | openW p | remove p | rmdir p => exact up he
  | openR p | listdir p => exact he.imp up id
  | stat p => exact he.imp up (Or.imp id up)
theorem stepOk_sound (cfg : Cfg) (live live' : List Str) (e : FsEvent) (h : stepOk cfg live e = some live') :
    FsOk cfg live e ∧ (∀ d ∈ live', d ∈ live ++ dirsOf [e]) ∧
    (∀ d ∈ live, d ∈ live' ∨ e = .rmtree d true) := by
  -- all events but `mkdtemp` and `rmtree` leave the live set as it is
  have keep : live' = live → (∀ d ∈ live', d ∈ live ++ dirsOf [e]) ∧ (∀ d ∈ live, d ∈ live' ∨ e = .rmtree d true) := by
    rintro rfl; exact ⟨fun d hd => List.mem_append_left _ hd, fun d hd => Or.inl hd⟩
  cases e with
  | mkdirExisting p => cases h; exact ⟨trivial, keep rfl⟩
  | other w p => cases h
  | mkdtemp p =>
    -- the event is accepted when its `if` holds; `⟨⟩` puts the live set of the `then` branch in place of `live'`
    obtain ⟨hc, ⟨⟩⟩ := Option.ite_none_right_eq_some.mp h
    simp only [Bool.and_eq_true] at hc
    exact ⟨⟨hc.1.1.2, hc.1.1.1⟩, fun d hd => by simpa [dirsOf, or_comm] using hd,
      fun d hd => Or.inl (List.mem_cons_of_mem _ hd)⟩
  | rmtree p gone =>
    obtain ⟨hc, ⟨⟩⟩ := Option.ite_none_right_eq_some.mp h
    simp only [Bool.and_eq_true, List.contains_iff_mem] at hc
    refine ⟨hc, fun d hd => List.mem_append_left _ (List.mem_of_mem_erase hd), fun d hd => ?_⟩
    by_cases hdp : d = p
    · right; rw [hdp, hc.2]
    · left; exact (List.mem_erase_of_ne hdp).mpr hd
  | mkdir p | openW p | remove p | rmdir p =>
    obtain ⟨hc, ⟨⟩⟩ := Option.ite_none_right_eq_some.mp h
    exact ⟨inLive_elim hc, keep rfl⟩
  | openR p | listdir p =>
    obtain ⟨hc, ⟨⟩⟩ := Option.ite_none_right_eq_some.mp h
    exact ⟨(Bool.or_eq_true_iff.mp hc).imp inLive_elim id, keep rfl⟩
  | stat p =>
    obtain ⟨hc, ⟨⟩⟩ := Option.ite_none_right_eq_some.mp h
    simp only [Bool.or_eq_true, Bool.and_eq_true, List.any_eq_true] at hc
    exact ⟨hc.elim (Or.imp inLive_elim Or.inl) fun ⟨_, d, hd, hp⟩ => Or.inr (Or.inr ⟨d, hd, hp⟩), keep rfl⟩

theorem dirsOf_cons (e : FsEvent) (r : List FsEvent) : dirsOf (e :: r) = dirsOf [e] ++ dirsOf r := by
  cases e <;> rfl

theorem confinedFrom_sound (cfg : Cfg) (live : List Str) (t : List FsEvent) (h : confinedFrom cfg live t = true) :
    (∀ e ∈ t, FsOk cfg (live ++ dirsOf t) e) ∧ (∀ d ∈ live, FsEvent.rmtree d true ∈ t) := by
  induction t generalizing live with
  | nil =>
    simp only [confinedFrom, List.isEmpty_iff] at h
    subst h; simp
  | cons e r ih =>
    simp only [confinedFrom] at h
    split at h
    · cases h
    · rename_i live' hs
      obtain ⟨hok, hsub, hkeep⟩ := stepOk_sound cfg live live' e hs
      obtain ⟨ih1, ih2⟩ := ih live' h
      have hD : ∀ d ∈ live' ++ dirsOf r, d ∈ live ++ dirsOf (e :: r) := by
        rw [dirsOf_cons, ← List.append_assoc]
        exact fun d hd => (List.mem_append.mp hd).elim (fun h => List.mem_append_left _ (hsub d h)) (List.mem_append_right _)
      constructor
      · intro e' he'
        rcases List.mem_cons.mp he' with h1 | h1
        · subst h1
          exact FsOk_mono cfg (fun d hd => List.mem_append_left _ hd) _ hok
        · exact FsOk_mono cfg hD _ (ih1 e' h1)
      · intro d hd
        rcases hkeep d hd with h1 | h1
        · exact List.mem_cons_of_mem _ (ih2 d h1)
        · subst h1; simp

theorem confinedFrom_suffix (cfg : Cfg) (live : List Str) (pre rest : List FsEvent)
    (h : confinedFrom cfg live (pre ++ rest) = true) : ∃ live', confinedFrom cfg live' rest = true := by
  induction pre generalizing live with
  | nil => exact ⟨live, h⟩
  | cons e r ih =>
    simp only [List.cons_append, confinedFrom] at h
    split at h
    · cases h
    · exact ih _ h

end S2T.Archive
