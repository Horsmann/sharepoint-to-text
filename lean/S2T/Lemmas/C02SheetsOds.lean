import S2T.Model.C02SheetsOds
import S2T.Spec.C02SheetsDoc
import S2T.Lemmas.C02SheetsList
import S2T.Lemmas.OdfNames
namespace S2T.C02.Sheets.Ods
open S2T.Tok S2T.OdfText S2T.OdfDoc S2T.C02.Sheets

-- the model has its own copy of the covered-set walk; proofs as in Lemmas/C02SheetsOdp

mutual
theorem walkCov_true (T : OdsT) (x : Xml) : walkCov T true x = [] := by
  cases x with
  | node tag a t l kids =>
    simp only [walkCov, Bool.true_or, if_true]
    exact walkCovL_true T kids
theorem walkCovL_true (T : OdsT) (l : List Xml) : walkCovL T true l = [] := by
  cases l with
  | nil => simp [walkCovL]
  | cons k ks => simp [walkCovL, walkCov_true T k, walkCovL_true T ks]
end

mutual
theorem walkCov_false (T : OdsT) (x : Xml) : walkCov T false x = pruned T x := by
  cases x with
  | node tag a t l kids =>
    have ih := walkCovL_false T kids
    by_cases h1 : tag ∈ T.fmt.skip <;> by_cases h2 : tag = T.pTag <;>
      simp [walkCov, pruned, h1, h2, walkCovL_true, ih]
theorem walkCovL_false (T : OdsT) (l : List Xml) : walkCovL T false l = prunedL T l := by
  cases l with
  | nil => simp [walkCovL, prunedL]
  | cons k ks => simp [walkCovL, prunedL, walkCov_false T k, walkCovL_false T ks]
end

/-- the typed branches of `_extract_cell_value` as ODF 1.2 names them -/
def stdKinds : List (List Str × Str) :=
  [ (["float".toList, "currency".toList, "percentage".toList], q nsOffice "value"),
    (["date".toList], q nsOffice "date-value"),
    (["time".toList], q nsOffice "time-value"),
    (["boolean".toList], q nsOffice "boolean-value") ]

structure OdsOk (T : OdsT) : Prop where
  fmt : T.fmt = stdFmt [tAnnot]
  pTag : T.pTag = tP
  tableTag : T.tableTag = q nsTable "table"
  rowTag : T.rowTag = q nsTable "table-row"
  cellTag : T.cellTag = q nsTable "table-cell"
  nameAttr : T.nameAttr = q nsTable "name"
  repRows : T.repRows = q nsTable "number-rows-repeated"
  repCols : T.repCols = q nsTable "number-columns-repeated"
  valueType : T.valueType = q nsOffice "value-type"
  kinds : T.kinds = stdKinds
  paraSep : SepOk T.isWs T.paraSep
  cellSep : SepOk T.isWs T.cellSep
  lineSep : SepOk T.isWs T.lineSep
  unitSep : SepOk T.isWs T.unitSep
  joinSep : SepOk T.isWs T.joinSep
  nl : T.isWs '\n' = true
  noDigit : NoDigitWs T.isWs

theorem flatten_replicate_nil {α} (n : Nat) : (List.replicate n ([] : List α)).flatten = [] :=
  List.flatten_replicate_nil

theorem tokens_filter_nonempty {p : Char → Bool} (l : List Str) :
    (l.filter (fun v => decide (v ≠ []))).flatMap (tokens p) = l.flatMap (tokens p) :=
  List.flatMap_filter_eq _ _ l fun x _ hq => by rw [show x = [] by simpa using hq, tokens_nil]

theorem rowLine_tokens {T : OdsT} (h : OdsOk T) (n : Nat) (r : List Str) (hn : lastData r ≤ n) :
    ((rowLine T n r).toList).flatMap (tokens T.isWs) = r.flatMap (tokens T.isWs) := by
  unfold rowLine
  simp only
  have ht : ((r.take n).filter (fun v => decide (v ≠ []))).flatMap (tokens T.isWs) = r.flatMap (tokens T.isWs) := by
    rw [tokens_filter_nonempty, take_flatMap _ _ (fun a ha => by simp [of_decide_eq_true ha]) r n hn]
  by_cases he : (r.take n).filter (fun v => decide (v ≠ [])) = []
  · have h0 : r.flatMap (tokens T.isWs) = [] := by rw [← ht, he]; rfl
    rw [if_pos he, h0]; rfl
  · rw [if_neg he]
    simp only [Option.toList, List.flatMap_cons, List.flatMap_nil, List.append_nil]
    rw [h.cellSep.tokens_join, ht]

theorem rowEmpty_tokens {p : Char → Bool} (vals : List Str) (h : rowEmpty vals = true) : vals.flatMap (tokens p) = [] :=
  List.flatMap_eq_nil_iff.2 (fun x hx => by simp [of_decide_eq_true (List.all_eq_true.mp h x hx)])

theorem textOfRows_tokens {T : OdsT} (h : OdsOk T) (raw : List (List Str)) :
    tokens T.isWs (textOfRows T raw) = raw.flatMap (fun r => r.flatMap (tokens T.isWs)) := by
  unfold textOfRows
  simp only
  -- `filterMap (rowLine …)` as a `flatMap` of option lists, so that a row without text contributes `[]` like any other;
  -- then the trailing empty rows carry no token, and every row is cut at a width ≥ its last cell with text (`rowLine_tokens`)
  rw [h.lineSep.tokens_join, ← List.flatMap_toList, List.flatMap_assoc]
  rw [← rstrip_flatMap rowEmpty _ (fun r => rowEmpty_tokens r) raw]
  exact List.flatMap_congr fun r hr => rowLine_tokens h _ r (List.le_foldl_max_of_mem lastData _ 0 r hr)

def cellOk (c : OCell) : Bool := c.paras.all noNoteInls
def rowOk (r : ORow) : Bool := r.cells.all cellOk
def sheetOk (s : OSheet) : Bool := s.rows.all rowOk
def sheetsOk (d : List OSheet) : Bool := d.all sheetOk

theorem typedValue_eq (kinds : List (List Str × Str)) (vt : Str) (attrs : List (Str × Str)) :
    typedValue kinds vt attrs
      = ((((kinds.filter (fun ka => ka.1.contains vt)).map (·.2)).map (fun a => (attr a attrs).getD [])).find?
          (fun v => decide (v ≠ []))) := by
  induction kinds with
  | nil => rfl
  | cons ka r ih =>
    obtain ⟨names, a⟩ := ka
    simp only [typedValue, List.filter_cons]
    by_cases hc : names.contains vt = true
    · simp only [hc, if_true, List.map_cons, List.find?_cons]
      by_cases hv : (attr a attrs).getD [] = []
      · simp only [hv, ne_eq, not_true_eq_false, decide_false, if_false]; exact ih
      · simp only [hv, ne_eq, not_false_eq_true, decide_true, if_true]
    · simp only [hc, Bool.false_eq_true, if_false]; exact ih

/-- the kind a value-type name starts like: the six names differ in their first letter -/
def kindOfInitial (s : Str) : VKind :=
  let c := s.headD ' '
  if c = 'f' then .float else if c = 'c' then .currency else if c = 'p' then .percentage
  else if c = 'd' then .date else if c = 't' then .time else .boolean

theorem kindOfInitial_name (k : VKind) : kindOfInitial (vkindName k) = k := by
  -- the names as lists of characters first (see Lemmas/Chars)
  cases k <;> unfold vkindName <;> simp -index only [String.toList_ofList] <;> simp [kindOfInitial]

theorem vkindName_inj {k k' : VKind} : vkindName k = vkindName k' ↔ k = k' :=
  ⟨fun h => by rw [← kindOfInitial_name k, h, kindOfInitial_name], congrArg _⟩

/-- `stdKinds` lists the names of the kinds under the attribute of each; a name selects its own entry because the names
    are distinct (`vkindName_inj`) -/
theorem kinds_filter (k : VKind) :
    (stdKinds.filter (fun ka => ka.1.contains (vkindName k))).map (·.2) = [vkindAttr k] := by
  have e : stdKinds = [([vkindName .float, vkindName .currency, vkindName .percentage], vkindAttr .float),
      ([vkindName .date], vkindAttr .date), ([vkindName .time], vkindAttr .time),
      ([vkindName .boolean], vkindAttr .boolean)] := rfl
  rw [e]
  cases k <;> simp [vkindName_inj] <;> rfl

theorem kinds_filter_string : stdKinds.filter (fun ka => ka.1.contains "string".toList) = [] := by
  -- the names as lists of characters first (see Lemmas/Chars); then the four `contains` tests evaluate
  unfold stdKinds
  simp -index only [String.toList_ofList]
  rfl

theorem vkindAttr_ne (k : VKind) : vkindAttr k ≠ q nsOffice "value-type" ∧ vkindAttr k ≠ q nsTable "number-columns-repeated" := by
  cases k <;> simp [vkindAttr]

def cellAttrs (c : OCell) : List (Str × Str) :=
  (match c.typed with
    | some (k, v) => [(q nsOffice "value-type", vkindName k), (vkindAttr k, v)]
    | none => [(q nsOffice "value-type", "string".toList)]) ++ repAttr (q nsTable "number-columns-repeated") c.rep

theorem rOCell_attrs (c : OCell) : (rOCell c).attrs = cellAttrs c := rfl

theorem typedValue_cell (c : OCell) :
    typedValue stdKinds ((attr (q nsOffice "value-type") (cellAttrs c)).getD []) (cellAttrs c)
      = match c.typed with
        | some (_, v) => if v ≠ [] then some v else none
        | none => none := by
  rw [typedValue_eq]
  cases ht : c.typed with
  | none =>
    simp only [cellAttrs, ht, List.cons_append, List.nil_append, attr_self, Option.getD_some, kinds_filter_string]
    rfl
  | some kv =>
    obtain ⟨k, v⟩ := kv
    obtain ⟨h1, _⟩ := vkindAttr_ne k
    simp only [cellAttrs, ht, List.cons_append, List.nil_append, attr_self, Option.getD_some, kinds_filter,
      List.map_cons, List.map_nil, attr, h1, if_false, if_true]
    by_cases hv : v = []
    · simp [hv]
    · simp [hv]

theorem pyInt_one {p : Char → Bool} (hp : NoDigitWs p) : pyInt p ['1'] = some 1 := by
  have := pyInt_natToDec hp 1
  have e : natToDec 1 = ['1'] := by unfold natToDec; rw [digitsRev]; decide
  rw [e] at this
  exact this

/-- a rendered repeat count read back by `int(elem.get(name, "1"))`: the attribute is left out when the count is 1 -/
theorem repeat_lookup {p : Char → Bool} (hp : NoDigitWs p) (name : Str) (n : Nat) :
    pyInt p ((attr name (repAttr name n)).getD ['1']) = some (n : Int) := by
  unfold repAttr
  by_cases h1 : n = 1
  · subst h1; simp [attr, pyInt_one hp]
  · simp [h1, attr, pyInt_natToDec hp]

theorem repeatOf_cell {T : OdsT} (h : OdsOk T) (c : OCell) : repeatOf T T.repCols (rOCell c) = .ok (c.rep : Int) := by
  have hne : q nsTable "number-columns-repeated" ≠ q nsOffice "value-type" := by simp
  -- the attributes in front of the repeat count have other names
  have e : attr (q nsTable "number-columns-repeated") (cellAttrs c)
      = attr (q nsTable "number-columns-repeated") (repAttr (q nsTable "number-columns-repeated") c.rep) := by
    unfold cellAttrs
    cases c.typed with
    | none => simp [attr, hne]
    | some kv => simp [attr, hne, Ne.symm (vkindAttr_ne kv.1).2]
  unfold repeatOf
  rw [rOCell_attrs, h.repCols, e, repeat_lookup h.noDigit]

theorem elemText_rCellP {T : OdsT} (h : OdsOk T) (ks : List Inl) (hk : noNoteInls ks = true) :
    elemText T.isWs T.fmt (rCellP ks) = visibleL ks := by
  rw [h.fmt]
  exact elemText_para (p := T.isWs) h.noDigit skipOk_odg tP [] ks (Or.inr hk)

theorem pruned_node {T : OdsT} (h : OdsOk T) (tag : Str) (a : List (Str × Str)) (x l : Str) (ks : List Xml) :
    pruned T (.node tag a x l ks)
      = if tag = tAnnot then [] else if tag = tP then [.node tag a x l ks] else prunedL T ks := by
  simp [pruned, h.fmt, h.pTag, stdFmt]

theorem prunedL_paras {T : OdsT} (h : OdsOk T) (ps : List (List Inl)) : prunedL T (ps.map rCellP) = ps.map rCellP := by
  induction ps with
  | nil => rfl
  | cons a r ih => simp [prunedL, ih, rCellP, elem, pruned_node h, tP, tAnnot]

theorem cellParas_cell {T : OdsT} (h : OdsOk T) (c : OCell) : cellParas T (rOCell c) = c.paras.map rCellP := by
  unfold cellParas
  rw [walkCov_false, rOCell, pruned_node h, if_neg (by simp [tAnnot]), if_neg (by simp [tP])]
  cases c.comment with
  | none => exact prunedL_paras h c.paras
  | some k => simpa [prunedL, pruned_node h] using prunedL_paras h c.paras

theorem cellDisplay_tokens {T : OdsT} (h : OdsOk T) (c : OCell) (hc : cellOk c = true) :
    tokens T.isWs (cellDisplay T (rOCell c)) = tokens T.isWs (cellShown c) := by
  have hfall : tokens T.isWs (join T.paraSep ((cellParas T (rOCell c)).map (elemText T.isWs T.fmt)))
      = tokens T.isWs (joinNl (c.paras.map visibleL)) := by
    rw [h.paraSep.tokens_join, tokens_joinNl h.nl, cellParas_cell h, List.map_map]
    congr 1
    unfold cellOk at hc
    rw [List.all_eq_true] at hc
    apply List.map_congr_left
    intro ks hks
    exact elemText_rCellP h ks (hc ks hks)
  unfold cellDisplay cellShown
  rw [rOCell_attrs, h.valueType, h.kinds, typedValue_cell]
  cases c.typed with
  | none => exact hfall
  | some kv =>
    obtain ⟨k, v⟩ := kv
    by_cases hv : v = []
    · simp only [hv, ne_eq, not_true_eq_false, if_false]; exact hfall
    · simp [hv]

def cellToks (p : Char → Bool) (c : OCell) : List Str := (List.replicate c.rep (tokens p (cellShown c))).flatten

theorem rowValues_cells {T : OdsT} (h : OdsOk T) (cs : List OCell) (hc : cs.all cellOk = true) :
    ∃ vals, rowValues T (cs.map rOCell) = .ok vals ∧ vals.flatMap (tokens T.isWs) = cs.flatMap (cellToks T.isWs) := by
  induction cs with
  | nil => exact ⟨[], rfl, rfl⟩
  | cons c r ih =>
    simp only [List.all_cons, Bool.and_eq_true] at hc
    obtain ⟨rest, hr1, hr2⟩ := ih hc.2
    simp only [List.map_cons, rowValues, repeatOf_cell h c, hr1]
    by_cases hcap : cellDisplay T (rOCell c) = [] ∧ (c.rep : Int) > (T.cellCap : Int)
    · refine ⟨[] :: rest, by rw [if_pos hcap], ?_⟩
      have := cellDisplay_tokens h c hc.1
      rw [hcap.1] at this
      simp [hr2, cellToks, ← this]
    · refine ⟨List.replicate c.rep (cellDisplay T (rOCell c)) ++ rest, by rw [if_neg hcap, Int.toNat_natCast], ?_⟩
      simp [hr2, cellToks, List.flatMap_replicate, cellDisplay_tokens h c hc.1]

theorem findall_cells {T : OdsT} (h : OdsOk T) (r : ORow) : findall T.cellTag (rORow r) = r.cells.map rOCell :=
  h.cellTag ▸ filter_map_tag_true _ rOCell r.cells (fun _ => tag_node ..)

theorem repeatOf_row {T : OdsT} (h : OdsOk T) (r : ORow) : repeatOf T T.repRows (rORow r) = .ok (r.rep : Int) := by
  unfold repeatOf
  rw [show (rORow r).attrs = repAttr (q nsTable "number-rows-repeated") r.rep from rfl, h.repRows, repeat_lookup h.noDigit]

theorem rawRows_rows {T : OdsT} (h : OdsOk T) (rs : List ORow) (hr : rs.all rowOk = true) :
    ∃ raw, rawRows T (rs.map rORow) = .ok raw
      ∧ raw.flatMap (fun r => r.flatMap (tokens T.isWs)) = rs.flatMap (rowTokens T.isWs) := by
  induction rs with
  | nil => exact ⟨[], rfl, rfl⟩
  | cons r t ih =>
    simp only [List.all_cons, Bool.and_eq_true] at hr
    obtain ⟨rest, hr1, hr2⟩ := ih hr.2
    obtain ⟨vals, hv1, hv2⟩ := rowValues_cells h r.cells (by simpa [rowOk] using hr.1)
    simp only [List.map_cons, rawRows, repeatOf_row h r, findall_cells h r, hv1, hr1]
    have hrt : rowTokens T.isWs r = (List.replicate r.rep (vals.flatMap (tokens T.isWs))).flatten := by
      unfold rowTokens; rw [hv2]; rfl
    by_cases hcap : (r.rep : Int) > (T.rowCap : Int) ∧ rowEmpty vals = true
    · refine ⟨vals :: rest, by rw [if_pos hcap], ?_⟩
      have := rowEmpty_tokens (p := T.isWs) vals hcap.2
      simp [hr2, hrt, this]
    · refine ⟨List.replicate r.rep vals ++ rest, by rw [if_neg hcap, Int.toNat_natCast], ?_⟩
      simp [hr2, hrt, List.flatMap_replicate]

theorem findall_rows {T : OdsT} (h : OdsOk T) (s : OSheet) : findall T.rowTag (rOSheet s) = s.rows.map rORow := by
  unfold findall rOSheet
  rw [Xml.kids, h.rowTag, List.filter_append, filter_map_tag_true (q nsTable "table-row") rORow s.rows (fun _ => tag_node ..)]
  by_cases hh : s.headerRows = []
  · simp [hh]
  · rw [if_neg hh, List.filter_cons_of_neg (by rw [tag_node]; simp)]
    rfl

theorem unitOf_tokens {T : OdsT} (h : OdsOk T) (name text : Str) :
    tokens T.isWs (unitOf T name text) = tokens T.isWs name ++ tokens T.isWs text :=
  tokens_unit h.unitSep T.unitStrip name text

theorem sheetUnitText_sheet {T : OdsT} (h : OdsOk T) (s : OSheet) (hs : sheetOk s = true) :
    ∃ u, sheetUnitText T (rOSheet s) = .ok u ∧ tokens T.isWs u = sheetTokens T.isWs s := by
  obtain ⟨raw, h1, h2⟩ := rawRows_rows h s.rows hs
  have ha : (attr T.nameAttr (rOSheet s).attrs).getD [] = s.name := by
    rw [h.nameAttr]; simp [rOSheet, Xml.attrs, attr]
  refine ⟨unitOf T s.name (textOfRows T raw), ?_, ?_⟩
  · unfold sheetUnitText sheetText
    rw [findall_rows h, h1]
    simp only [ha]
  · rw [unitOf_tokens h, textOfRows_tokens h, h2]; rfl

theorem mapE_sheets {T : OdsT} (h : OdsOk T) (d : List OSheet) (hd : d.all sheetOk = true) :
    ∃ us, mapE (sheetUnitText T) (d.map rOSheet) = .ok us
      ∧ us.flatMap (tokens T.isWs) = d.flatMap (sheetTokens T.isWs) := by
  induction d with
  | nil => exact ⟨[], rfl, rfl⟩
  | cons s r ih =>
    simp only [List.all_cons, Bool.and_eq_true] at hd
    obtain ⟨us, hu1, hu2⟩ := ih hd.2
    obtain ⟨u, h1, h2⟩ := sheetUnitText_sheet h s hd.1
    exact ⟨u :: us, by simp [mapE, h1, hu1], by simp [h2, hu2]⟩

theorem findall_tables {T : OdsT} (h : OdsOk T) (d : List OSheet) : findall T.tableTag (renderOds d) = d.map rOSheet :=
  h.tableTag ▸ filter_map_tag_true _ rOSheet d (fun _ => tag_node ..)

theorem fullText_tokens {T : OdsT} (h : OdsOk T) (d : List OSheet) (hd : sheetsOk d = true) :
    ∃ text, fullText T (renderOds d) = .ok text ∧ tokens T.isWs text = d.flatMap (sheetTokens T.isWs) := by
  obtain ⟨us, h1, h2⟩ := mapE_sheets h d hd
  refine ⟨strip T.isWs (join T.joinSep us), ?_, ?_⟩
  · unfold fullText; rw [findall_tables h, h1]
  · rw [tokens_strip, h.joinSep.tokens_join, h2]

end S2T.C02.Sheets.Ods
