import S2T.Lemmas.AesModel
/-! `_expand_key`, `_aes_encrypt_block`, `_aes_decrypt_block` of the model = FIPS-197 KeyExpansion, Cipher, InvCipher. -/
namespace S2T.AesL
open S2T.Aes (IsBytes Tables Exc)
open S2T.Spec

variable {T : Tables}

/-- the words `_expand_key` computes from a key of 16, 24 or 32 bytes with the module's `_RCON` -/
def keyWords (T : Tables) (key : List Nat) : List (List Nat) :=
  (List.range' (key.length / 4) (4 * (key.length / 4 + 6 + 1) - key.length / 4)).foldl
    (Aes.expandStep T T.rcon (key.length / 4)) ((List.range (key.length / 4)).map fun i => (key.drop (4 * i)).take 4)

/-- `_RCON` (15 entries) is long enough for every valid key length, round key `r` is words `4r … 4r+3` -/
theorem expandKey_ok (hr : T.rcon.length = 15) {key : List Nat}
    (hlen : key.length = 16 ∨ key.length = 24 ∨ key.length = 32) :
    Aes.expandKey T key = .ok ((List.range (key.length / 4 + 6 + 1)).map (Fips197.roundKey (keyWords T key))) := by
  unfold Aes.expandKey
  rw [if_neg (by omega)]
  simp only [if_pos (show key.length / 4 + 6 < T.rcon.length by rw [hr]; omega)]
  rfl

theorem expandKey_bad (T : Tables) {key : List Nat} (hlen : key.length ≠ 16 ∧ key.length ≠ 24 ∧ key.length ≠ 32) :
    Aes.expandKey T key = .error .valueError := by
  unfold Aes.expandKey
  rw [if_pos hlen]

theorem subWord_eq (hT : TablesOk T) {x : List Nat} (hx : IsBytes x) : Aes.subWord T x = Fips197.subWord x :=
  List.map_congr_left fun a ha => hT.sbox.2 a (hx a ha)

theorem xorHead_eq {x : List Nat} (hx : x.length = 4) (c : Nat) :
    Aes.xorHead x c = Fips197.xorWords x [c, 0, 0, 0] := by
  obtain ⟨a, b, d, e, rfl⟩ := list4 x hx
  simp [Aes.xorHead, Fips197.xorWords]

theorem expandStep_eq (hT : TablesOk T) {nk : Nat} (hnk : nk = 4 ∨ nk = 6 ∨ nk = 8) (w : List (List Nat)) (i : Nat)
    (hi : nk ≤ i) (hi2 : i < 4 * (nk + 7)) (hw : Words i w) :
    Aes.expandStep T T.rcon nk w i = Fips197.expandStep nk w i := by
  have ht : Word (w.getD (i - 1) []) := hw.getD (by omega)
  have hrc : T.rcon.getD (i / nk) 0 = Fips197.rcon (i / nk) := by
    apply hT.rcon.2
    rcases hnk with rfl | rfl | rfl <;> omega
  have e1 : Aes.xorHead (Aes.subWord T (Aes.rotWord (w.getD (i - 1) []))) (T.rcon.getD (i / nk) 0)
      = Fips197.xorWords (Fips197.subWord (Fips197.rotWord (w.getD (i - 1) []))) [Fips197.rcon (i / nk), 0, 0, 0] := by
    have hr : Word (Fips197.rotWord (w.getD (i - 1) [])) := rotWord_word ht
    rw [rotWord_eq, subWord_eq hT hr.2, hrc, xorHead_eq (subWord_word hr).1]
  have e2 : Aes.subWord T (w.getD (i - 1) []) = Fips197.subWord (w.getD (i - 1) []) := subWord_eq hT ht.2
  unfold Aes.expandStep Fips197.expandStep
  simp only [e1, e2]
  rfl

/-- the FIPS-197 round keys 0 … Nr of `key`, as the list that `_expand_key` returns -/
def specRoundKeys (key : List Nat) : List (List Nat) :=
  (List.range (Fips197.Nr key + 1)).map (Fips197.roundKey (Fips197.keyExpansion key))

theorem specRoundKeys_length (key : List Nat) : (specRoundKeys key).length = Fips197.Nr key + 1 := by
  rw [specRoundKeys, List.length_map, List.length_range]

theorem expandKey_eq (hT : TablesOk T) {key : List Nat} (hk : KeyOk key) :
    Aes.expandKey T key = .ok (specRoundKeys key) := by
  obtain ⟨hnk, hlen4⟩ := keyOk_nk hk
  have hw : keyWords T key = Fips197.keyExpansion key :=
    (foldl_range'_congr_inv Words _ _ _ _ _ (words_init hk.2 hlen4) (fun i st h1 h2 h3 =>
      ⟨expandStep_eq hT hnk st i h1 (by omega) h3, expandStep_inv (by omega) st i h1 h3⟩)).1
  rw [expandKey_ok hT.rcon.1 hk.1, hw]
  rfl

theorem getD_map_range (rk : Nat → List Nat) {nr r : Nat} (h : r ≤ nr) :
    ((List.range (nr + 1)).map rk).getD r [] = rk r := by
  simp [List.getD, List.getElem?_map, List.getElem?_range (Nat.lt_succ_of_le h)]

theorem roundKey_keeps {rk : Nat → List Nat} {nr r : Nat} (hrk : RKOk rk nr) (hr : r ≤ nr) :
    Keeps Block (Aes.addRoundKey · (((List.range (nr + 1)).map rk).getD r [])) (Fips197.addRoundKey · (rk r)) := by
  rw [getD_map_range rk hr]
  exact addRoundKey_keeps (hrk r hr)

theorem encryptBlock_rk (hT : TablesOk T) {rk : Nat → List Nat} {nr : Nat} {b : List Nat}
    (hrk : RKOk rk nr) (hb : Block b) :
    Aes.encryptBlock T b ((List.range (nr + 1)).map rk) = .ok (Fips197.cipherRK rk nr b) := by
  have sub := (subBytes_keeps hT).comp shiftRows_keeps
  unfold Aes.encryptBlock
  rw [if_neg (by rw [hb.1]; decide)]
  simp only [List.length_map, List.length_range, Nat.add_sub_cancel]
  -- the `let`s of `encryptBlock` are this composition, first round key, the rounds, last round, by unfolding
  exact congrArg Except.ok (((roundKey_keeps hrk (Nat.zero_le _)).comp <| (Keeps.foldl _ fun r hr =>
    (sub.comp (mixColumns_keeps hT)).comp (roundKey_keeps hrk (round_index_le hr))).comp <|
    sub.comp (roundKey_keeps hrk (Nat.le_refl _))).eq hb)

theorem decryptBlock_rk (hT : TablesOk T) {rk : Nat → List Nat} {nr : Nat} {b : List Nat}
    (hrk : RKOk rk nr) (hb : Block b) :
    Aes.decryptBlock T b ((List.range (nr + 1)).map rk) = .ok (Fips197.invCipherRK rk nr b) := by
  have sub := invShiftRows_keeps.comp (invSubBytes_keeps hT)
  unfold Aes.decryptBlock
  rw [if_neg (by rw [hb.1]; decide)]
  simp only [List.length_map, List.length_range, Nat.add_sub_cancel]
  exact congrArg Except.ok (((roundKey_keeps hrk (Nat.le_refl _)).comp <| (Keeps.foldl _ fun r hr =>
    (sub.comp (roundKey_keeps hrk (round_index_le (List.mem_reverse.mp hr)))).comp (invMixColumns_keeps hT)).comp <|
    sub.comp (roundKey_keeps hrk (Nat.zero_le _))).eq hb)

theorem encryptBlock_eq (hT : TablesOk T) {key b : List Nat} (hk : KeyOk key) (hb : Block b) :
    Aes.encryptBlock T b (specRoundKeys key) = .ok (Fips197.aesEnc key b) :=
  encryptBlock_rk hT (rk_ok hk) hb

theorem decryptBlock_eq (hT : TablesOk T) {key b : List Nat} (hk : KeyOk key) (hb : Block b) :
    Aes.decryptBlock T b (specRoundKeys key) = .ok (Fips197.aesDec key b) :=
  decryptBlock_rk hT (rk_ok hk) hb

end S2T.AesL
