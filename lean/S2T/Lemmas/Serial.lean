import S2T.Lemmas.Chars
import S2T.Spec.Serial
namespace S2T.Serial

theorem b64idx_c : ∀ n, n < 64 → b64idx (b64c n) = some n := by
  decide_chars b64idx b64c b64Alphabet

theorem b64idx_pad : b64idx '=' = none := by
  decide_chars b64idx b64Alphabet

theorem b64c_ne_pad (n : Nat) (h : n < 64) : b64c n ≠ '=' := fun e => by
  simpa [e, b64idx_pad] using b64idx_c n h

theorem b64dec_enc : ∀ bs, bytesOk bs = true → b64dec (b64enc bs) = some bs := by
  intro bs
  fun_induction b64enc bs with
  | case1 => intro _; simp [b64dec]
  | case2 a =>
    intro h
    simp [bytesOk] at h
    have h1 := b64idx_c (a / 4) (by omega)
    have h2 := b64idx_c (a % 4 * 16) (by omega)
    simp [b64dec, h1, h2]
    -- left for `omega` here and in the next two cases: the bytes put together again from their 6-bit digits
    omega
  | case3 a b =>
    intro h
    simp [bytesOk] at h
    have h1 := b64idx_c (a / 4) (by omega)
    have h2 := b64idx_c (a % 4 * 16 + b / 16) (by omega)
    have h3 := b64idx_c (b % 16 * 4) (by omega)
    have n3 := b64c_ne_pad (b % 16 * 4) (by omega)
    simp [b64dec, h1, h2, h3, n3]
    omega
  | case4 a b c rest ih =>
    intro h
    simp [bytesOk] at h
    have h1 := b64idx_c (a / 4) (by omega)
    have h2 := b64idx_c (a % 4 * 16 + b / 16) (by omega)
    have h3 := b64idx_c (b % 16 * 4 + c / 64) (by omega)
    have h4 := b64idx_c (c % 64) (by omega)
    have n3 := b64c_ne_pad (b % 16 * 4 + c / 64) (by omega)
    have n4 := b64c_ne_pad (c % 64) (by omega)
    have ih' := ih (by simp [bytesOk]; exact h.2.2.2)
    simp [b64dec, h1, h2, h3, h4, n3, n4, ih']
    omega

def mapVals (f : PyVal → PyVal) (l : List (Key × PyVal)) : List (Key × PyVal) := l.map (fun kv => (kv.1, f kv.2))
def strKeys (l : List (Key × PyVal)) : List (Key × PyVal) := l.map (fun kv => (Key.str (keyStr kv.1), kv.2))
def fieldKeys (l : List (Str × PyVal)) : List (Key × PyVal) := l.map (fun kv => (Key.str kv.1, kv.2))
/-- the entries the serialiser writes for a dataclass instance, values not yet serialised -/
def objEntries (c : Str) (fs : List (Str × PyVal)) : List (Key × PyVal) := (Key.str kType, PyVal.str c) :: fieldKeys fs

@[simp] theorem mapVals_nil (f : PyVal → PyVal) : mapVals f [] = [] := rfl
@[simp] theorem mapVals_cons (f : PyVal → PyVal) (k : Key) (v : PyVal) (l : List (Key × PyVal)) :
    mapVals f ((k, v) :: l) = (k, f v) :: mapVals f l := rfl
theorem mem_mapVals {f : PyVal → PyVal} {l : List (Key × PyVal)} {e : Key × PyVal} :
    e ∈ mapVals f l ↔ ∃ a ∈ l, (a.1, f a.2) = e := List.mem_map
theorem mem_strKeys {l : List (Key × PyVal)} {e : Key × PyVal} :
    e ∈ strKeys l ↔ ∃ a ∈ l, (Key.str (keyStr a.1), a.2) = e := List.mem_map
theorem mem_fieldKeys {l : List (Str × PyVal)} {e : Key × PyVal} :
    e ∈ fieldKeys l ↔ ∃ a ∈ l, (Key.str a.1, a.2) = e := List.mem_map
theorem mem_objEntries {c : Str} {fs : List (Str × PyVal)} {e : Key × PyVal} :
    e ∈ objEntries c fs ↔ e = (Key.str kType, PyVal.str c) ∨ e ∈ fieldKeys fs := List.mem_cons

theorem serList_eq (b : Bool) (xs : List PyVal) : serList b xs = xs.map (ser b) := by
  induction xs with
  | nil => simp [serList]
  | cons x xs ih => simp [serList, ih]

theorem serKVs_eq (b : Bool) (l : List (Key × PyVal)) : serKVs b l = mapVals (ser b) (strKeys l) := by
  induction l with
  | nil => simp [serKVs, strKeys]
  | cons kv l ih => obtain ⟨k, v⟩ := kv; simp [serKVs, ih, strKeys]

theorem serFields_eq (b : Bool) (l : List (Str × PyVal)) : serFields b l = mapVals (ser b) (fieldKeys l) := by
  induction l with
  | nil => simp [serFields, fieldKeys]
  | cons kv l ih => obtain ⟨k, v⟩ := kv; simp [serFields, ih, fieldKeys]

theorem canonList_eq (S : Schema) (t : Ty) (xs : List PyVal) : canonList S t xs = xs.map (canon S t) := by
  induction xs with
  | nil => simp [canonList]
  | cons x xs ih => simp [canonList, ih]

theorem canonKVs_eq (S : Schema) (t : Ty) (l : List (Key × PyVal)) :
    canonKVs S t l = mapVals (canon S t) (strKeys l) := by
  induction l with
  | nil => simp [canonKVs, strKeys]
  | cons kv l ih => obtain ⟨k, v⟩ := kv; simp [canonKVs, ih, strKeys]

theorem canonFields_eq (S : Schema) (C : Class) (l : List (Str × PyVal)) :
    canonFields S C l = l.map (fun kv => (kv.1, canon S ((C.fieldTy kv.1).getD .any) kv.2)) := by
  induction l with
  | nil => simp [canonFields]
  | cons kv l ih => obtain ⟨k, v⟩ := kv; simp [canonFields, ih]

def children : PyVal → List PyVal
  | .list xs | .tuple xs | .set xs => xs
  | .dict kvs => kvs.map (·.2)
  | .obj _ fs => fs.map (·.2)
  | _ => []

theorem sizeOf_snd_lt {α} [SizeOf α] {l : List (α × PyVal)} {w : PyVal} (h : w ∈ l.map (·.2)) : sizeOf w < sizeOf l := by
  obtain ⟨e, he, rfl⟩ := List.mem_map.mp h
  have := List.sizeOf_lt_of_mem he
  cases e; simp at this ⊢; omega

theorem sizeOf_children {v w : PyVal} (h : w ∈ children v) : sizeOf w < sizeOf v := by
  cases v <;> simp only [children, List.not_mem_nil] at h
  case list xs | tuple xs | set xs => have := List.sizeOf_lt_of_mem h; simp; omega
  case dict kvs | obj c fs => have := sizeOf_snd_lt h; simp; omega

/-- `PyVal` is nested through `List`, so every function on it comes with three companions (on lists, on dict entries,
on fields) and every structural proof would have to be a four-fold mutual recursion.  Instead a statement about
every value is proved by `induction v using PyVal.ind`, which goes by the size of the value. -/
theorem PyVal.ind {P : PyVal → Prop} (h : ∀ v, (∀ w ∈ children v, P w) → P v) (v : PyVal) : P v :=
  h v fun w hw => have := sizeOf_children hw; PyVal.ind h w
termination_by sizeOf v

theorem ins_not_mem (acc : List (Key × PyVal)) (k : Key) (v : PyVal) (h : k ∉ acc.map (·.1)) :
    ins acc k v = acc ++ [(k, v)] := by
  induction acc with
  | nil => simp [ins]
  | cons a t ih =>
    obtain ⟨k', v'⟩ := a
    simp at h
    have h1 : k' ≠ k := fun e => h.1 e.symm
    simp [ins, h1]
    exact ih (by simpa using h.2)

theorem keys_ins (acc : List (Key × PyVal)) (k : Key) (v : PyVal) :
    (ins acc k v).map (·.1) = if k ∈ acc.map (·.1) then acc.map (·.1) else acc.map (·.1) ++ [k] := by
  induction acc with
  | nil => simp [ins]
  | cons a t ih =>
    obtain ⟨k', v'⟩ := a
    by_cases h : k' = k
    · subst h; simp [ins]
    · have h' : ¬ k = k' := fun e => h e.symm
      simp only [ins, h, if_false]
      simp only [List.map_cons, List.mem_cons, h', false_or] at ih ⊢
      rw [ih]
      split <;> simp [*]

theorem nodup_keys_ins (acc : List (Key × PyVal)) (k : Key) (v : PyVal) (h : (acc.map (·.1)).Nodup) :
    ((ins acc k v).map (·.1)).Nodup := by
  rw [keys_ins]
  split
  · exact h
  · rename_i hk
    rw [List.nodup_append]
    refine ⟨h, by simp, ?_⟩
    intro a ha b hb
    simp at hb; subst hb
    intro e; subst e; exact hk ha

theorem mem_ins (acc : List (Key × PyVal)) (k : Key) (v : PyVal) (e : Key × PyVal) (h : e ∈ ins acc k v) :
    e ∈ acc ∨ e = (k, v) := by
  induction acc with
  | nil => simp [ins] at h; exact Or.inr h
  | cons a t ih =>
    obtain ⟨k', v'⟩ := a
    by_cases hk : k' = k
    · subst hk
      simp [ins] at h
      rcases h with h | h
      · exact Or.inr h
      · exact Or.inl (List.mem_cons_of_mem _ h)
    · simp [ins, hk] at h
      rcases h with h | h
      · exact Or.inl (by simp [h])
      · rcases ih h with h | h
        · exact Or.inl (List.mem_cons_of_mem _ h)
        · exact Or.inr h

theorem normGo_eq_append (l acc : List (Key × PyVal)) (h : ((acc ++ l).map (·.1)).Nodup) : normGo acc l = acc ++ l := by
  induction l generalizing acc with
  | nil => simp [normGo]
  | cons kv l ih =>
    obtain ⟨k, v⟩ := kv
    have hk : k ∉ acc.map (·.1) := by
      simp only [List.map_append, List.map_cons] at h
      rw [List.nodup_append] at h
      intro hm
      exact h.2.2 k hm k (by simp) rfl
    simp only [normGo, ins_not_mem acc k v hk]
    rw [ih (acc ++ [(k, v)]) (by simpa using h)]
    simp

theorem normGo_keys_nodup (l acc : List (Key × PyVal)) (h : (acc.map (·.1)).Nodup) : ((normGo acc l).map (·.1)).Nodup := by
  induction l generalizing acc with
  | nil => simpa [normGo] using h
  | cons kv l ih => obtain ⟨k, v⟩ := kv; exact ih _ (nodup_keys_ins acc k v h)

theorem mem_normGo (l acc : List (Key × PyVal)) (e : Key × PyVal) (h : e ∈ normGo acc l) : e ∈ acc ∨ e ∈ l := by
  induction l generalizing acc with
  | nil => simp [normGo] at h; exact Or.inl h
  | cons kv l ih =>
    obtain ⟨k, v⟩ := kv
    rcases ih _ h with h | h
    · rcases mem_ins acc k v e h with h | h
      · exact Or.inl h
      · exact Or.inr (by simp [h])
    · exact Or.inr (List.mem_cons_of_mem _ h)

theorem ins_mapVals (f : PyVal → PyVal) (acc : List (Key × PyVal)) (k : Key) (v : PyVal) :
    ins (mapVals f acc) k (f v) = mapVals f (ins acc k v) := by
  induction acc with
  | nil => simp [ins]
  | cons a t ih =>
    obtain ⟨k', v'⟩ := a
    by_cases hk : k' = k
    · subst hk; simp [ins]
    · simp [ins, hk, ih]

theorem normGo_mapVals (f : PyVal → PyVal) (l acc : List (Key × PyVal)) :
    normGo (mapVals f acc) (mapVals f l) = mapVals f (normGo acc l) := by
  induction l generalizing acc with
  | nil => simp [normGo]
  | cons kv l ih =>
    obtain ⟨k, v⟩ := kv
    simp only [mapVals_cons, normGo, ins_mapVals, ih]

theorem normKeys_eq_self (l : List (Key × PyVal)) (h : (l.map (·.1)).Nodup) : normKeys l = l := by
  simpa [normKeys] using normGo_eq_append l [] (by simpa using h)

theorem normKeys_keys_nodup (l : List (Key × PyVal)) : ((normKeys l).map (·.1)).Nodup :=
  normGo_keys_nodup l [] List.nodup_nil

theorem mem_normKeys (l : List (Key × PyVal)) (e : Key × PyVal) (h : e ∈ normKeys l) : e ∈ l := by
  rcases mem_normGo l [] e h with h | h
  · simp at h
  · exact h

theorem normKeys_mapVals (f : PyVal → PyVal) (l : List (Key × PyVal)) :
    normKeys (mapVals f l) = mapVals f (normKeys l) := by
  simpa [normKeys] using normGo_mapVals f l []

theorem normKeys_idem (l : List (Key × PyVal)) : normKeys (normKeys l) = normKeys l :=
  normKeys_eq_self _ (normKeys_keys_nodup l)

theorem keys_mapVals (f : PyVal → PyVal) (l : List (Key × PyVal)) : (mapVals f l).map (·.1) = l.map (·.1) := by
  simp [mapVals]

theorem mapVals_congr (f g : PyVal → PyVal) (l : List (Key × PyVal)) (h : ∀ e ∈ l, f e.2 = g e.2) :
    mapVals f l = mapVals g l := by
  simp only [mapVals]
  apply List.map_congr_left
  intro e he
  rw [h e he]

theorem mapVals_mapVals (f g : PyVal → PyVal) (l : List (Key × PyVal)) :
    mapVals f (mapVals g l) = mapVals (f ∘ g) l := by
  simp [mapVals]

end S2T.Serial
