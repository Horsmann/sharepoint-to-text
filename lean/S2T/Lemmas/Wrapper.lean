import S2T.Model.Wrapper
/-! Soundness of the `escapes` analysis w.r.t. the big-step semantics. -/
namespace S2T.Wrapper

structure HierOk (H : Hier) (isFam : String → Bool) (root : String) : Prop where
  rootFam : isFam root = true
  famRoot : ∀ c, isFam c = true → H.famSub c root = true

theorem Abs.mem_union {e : Exn} {a b : Abs} : Abs.mem e (a.union b) ↔ Abs.mem e a ∨ Abs.mem e b := by
  cases e <;> simp [Abs.mem, Abs.union, or_or_or_comm]

theorem Abs.mem_union_left {e : Exn} {a b : Abs} (h : Abs.mem e a) : Abs.mem e (a.union b) := Abs.mem_union.2 (.inl h)

theorem Abs.mem_union_right {e : Exn} {a b : Abs} (h : Abs.mem e b) : Abs.mem e (a.union b) := Abs.mem_union.2 (.inr h)

theorem Abs.mem_top (e : Exn) : Abs.mem e Abs.top := by
  cases e <;> simp [Abs.mem, Abs.top]

def CurOk (cur : Option Exn) (ca : Option Abs) : Prop :=
  match cur, ca with
  | none, none => True
  | some e, some a => Abs.mem e a
  | _, _ => False

/-- a pattern that catches everything in scope: `except Exception`, `except BaseException`, bare `except` (the test
    `catches`, `uncaught`, `caughtBy` and `catchAll` each spell out) -/
def isCatchAll (p : String) : Bool := p = "Exception" || p = "BaseException" || p = ""

def Exn.isFam : Exn → Bool
  | .fam _ => true
  | .other _ => false

theorem catches_catchall (H : Hier) (isFam : String → Bool) {p : String} (e : Exn) (hp : isCatchAll p = true) :
    catches H isFam p e = true := by
  simp only [isCatchAll, Bool.or_eq_true, decide_eq_true_eq, or_assoc] at hp
  rw [catches.eq_def, if_pos hp]

theorem catches_spec {H : Hier} {isFam : String → Bool} {p : String} {e : Exn} (hc : catches H isFam p e = true) :
    isCatchAll p = true ∨ isFam p = e.isFam := by
  cases hp : isCatchAll p
  · simp only [isCatchAll, Bool.or_eq_false_iff, decide_eq_false_iff_not] at hp
    rw [catches.eq_def, if_neg (by simp [hp])] at hc
    cases e <;> simp only [Bool.and_eq_true, Bool.not_eq_true'] at hc <;> exact Or.inr hc.1
  · exact Or.inl rfl

theorem catches_root {H : Hier} {isFam : String → Bool} {root : String} (ok : HierOk H isFam root) {c : String}
    (hwf : WfExn H isFam root (.fam c)) : catches H isFam root (.fam c) = true := by
  unfold catches
  split
  · rfl
  · simp [ok.rootFam, hwf.2]

/-! What the concrete choice of a handler implies, in the terms both analyses (`escapes`, `behav`) ask about. -/

theorem passes_spec {H : Hier} {isFam : String → Bool} {root : String} (ok : HierOk H isFam root)
    {hs : List (List String × Stmt)} {e : Exn} (hwf : WfExn H isFam root e)
    (hun : ∀ h ∈ hs, catchesAny H isFam h.1 e = false) :
    (∀ h ∈ hs, h.1.any isCatchAll = false) ∧ (e.isFam = true → ∀ h ∈ hs, h.1.contains root = false) := by
  have hno : ∀ h ∈ hs, ∀ p ∈ h.1, catches H isFam p e = false := fun h hh p hp =>
    Bool.eq_false_iff.2 (List.any_eq_false.1 (hun h hh) p hp)
  refine ⟨fun h hh => Bool.eq_false_iff.2 fun hany => ?_, fun he h hh => Bool.eq_false_iff.2 fun hr => ?_⟩
  · obtain ⟨p, hp, hpc⟩ := List.any_eq_true.mp hany
    exact absurd (catches_catchall H isFam e hpc) (by simp [hno h hh p hp])
  · cases e with
    | other n => cases he
    | fam c => exact absurd (catches_root ok hwf) (by simp [hno h hh root (by simpa using hr)])

theorem caught_spec {H : Hier} {isFam : String → Bool} {pats : List String} {e : Exn}
    (hc : catchesAny H isFam pats e = true) : pats.any isCatchAll = true ∨ ∃ p ∈ pats, isFam p = e.isFam := by
  obtain ⟨p, hp, hpc⟩ := List.any_eq_true.mp hc
  exact (catches_spec hpc).imp (fun h => List.any_eq_true.mpr ⟨p, hp, h⟩) fun h => ⟨p, hp, h⟩

theorem uncaught_sound {H : Hier} {isFam : String → Bool} {root : String} (ok : HierOk H isFam root)
    (hs : List (List String × Stmt)) (a : Abs) (e : Exn) (hwf : WfExn H isFam root e) (hm : Abs.mem e a)
    (hun : ∀ h ∈ hs, catchesAny H isFam h.1 e = false) : Abs.mem e (uncaught root hs a) := by
  obtain ⟨hall, hroot⟩ := passes_spec ok hwf hun
  have h1 : ¬ (hs.flatMap (·.1)).any isCatchAll = true := by
    rw [List.any_flatMap, Bool.not_eq_true]; exact List.any_eq_false.2 fun h hh => Bool.eq_false_iff.1 (hall h hh)
  rw [uncaught]
  split
  · exact absurd ‹_› h1  -- the test `uncaught` writes out is `isCatchAll`, by unfolding
  · split
    · rename_i hr
      cases e with
      | other n => exact hm
      | fam c =>
        obtain ⟨h, hh, hp⟩ := List.mem_flatMap.mp (List.contains_iff_mem.mp hr)
        exact absurd (List.contains_iff_mem.mpr hp) (Bool.eq_false_iff.1 (hroot rfl h hh))
    · exact hm

theorem caughtBy_sound {H : Hier} {isFam : String → Bool} (pats : List String) (a : Abs) (e : Exn)
    (hm : Abs.mem e a) (hc : catchesAny H isFam pats e = true) : Abs.mem e (caughtBy isFam pats a) := by
  unfold caughtBy
  split
  · exact hm
  · rename_i hnall
    obtain hall | ⟨p, hp, hside⟩ := caught_spec hc
    · exact absurd hall hnall  -- likewise for `caughtBy`
    split
    · rename_i hall
      cases e with
      | fam c => exact hm
      | other n => simp [List.all_eq_true.mp hall p hp, Exn.isFam] at hside
    · split
      · rename_i hall
        cases e with
        | other n => exact hm
        | fam c => simpa [hside, Exn.isFam] using List.all_eq_true.mp hall p hp
      · exact hm

theorem escapesHandlers_mem {root : String} {isFam : String → Bool} {eb : Abs}
    (pre : List (List String × Stmt)) (h : List String × Stmt) (post : List (List String × Stmt)) (e : Exn)
    (hm : Abs.mem e (escapes root isFam (some (caughtBy isFam h.1 eb)) h.2)) :
    Abs.mem e (escapesHandlers root isFam eb (pre ++ h :: post)) := by
  induction pre with
  | nil => exact Abs.mem_union_left hm
  | cons x xs ih => exact Abs.mem_union_right ih

/-- The outcome of `try … finally`, for any type of outcomes with a normal one `n`: that of the `finally` part `o'` unless
    that is normal, then that of what ran before.  Stated once for `Exec` and for `Guard.Run`, which have their own
    types of outcomes. -/
theorem tryOut_eq {α} [DecidableEq α] {n o o' x : α} (h : (if o' = n then o else o') = x) :
    (o' ≠ n ∧ o' = x) ∨ (o' = n ∧ o = x) := by
  split at h
  · exact Or.inr ⟨‹_›, h⟩
  · exact Or.inl ⟨‹_›, h⟩

theorem tryOut_normal {α} [DecidableEq α] {n o o' : α} (h : (if o' = n then o else o') = n) : o = n ∧ o' = n :=
  (tryOut_eq h).elim (fun h => absurd h.2 h.1) And.symm

/-- **Soundness.** Whatever a term can raise under the semantics is in `escapes`, and exists.  The two halves go through one
    induction: the exception a handler runs under is the one the body raised, so both that it exists and that it lies in
    the body's abstract value are the induction hypothesis for the body. -/
theorem escapes_sound {H : Hier} {isFam : String → Bool} {root : String} (ok : HierOk H isFam root)
    {cur : Option Exn} {s : Stmt} {tr : List Ch} {o : Out} (hex : Exec H isFam root cur s tr o) :
    ∀ (ca : Option Abs), CurOk cur ca → (∀ e0, cur = some e0 → WfExn H isFam root e0) →
      ∀ e, o = .raised e → (WfExn H isFam root e ∧ Abs.mem e (escapes root isFam ca s)) := by
  induction hex with
  | atomOk | writeOk | ret | brk | cont | yield_ | loopDone | loopBrk => intro ca _ _ e he; cases he
  | atomRaise hwf | writeRaise hwf => intro ca _ _ e he; cases he; exact ⟨hwf, Abs.mem_top _⟩
  | raiseFam hf => intro ca _ _ e he; cases he; exact ⟨⟨hf, ok.famRoot _ hf⟩, by simp [escapes, hf, Abs.mem]⟩
  | raiseOther hf => intro ca _ _ e he; cases he; exact ⟨trivial, by simp [escapes, hf, Abs.mem]⟩
  | reraise =>
    intro ca hcur hw e he; cases he
    cases ca with
    | none => exact hcur.elim
    | some a => exact ⟨hw _ rfl, hcur⟩
  | reraiseNone =>
    intro ca hcur _ e he; cases he
    cases ca with
    | none => exact ⟨trivial, by simp [escapes, Abs.mem]⟩
    | some a => exact hcur.elim
  | seqStop _ _ ih | iteL _ ih => intro ca hc hw e he; exact (ih ca hc hw e he).imp_right Abs.mem_union_left
  | seqGo _ _ _ ih | iteR _ ih => intro ca hc hw e he; exact (ih ca hc hw e he).imp_right Abs.mem_union_right
  | loopStep _ _ _ _ ih | loopExit _ _ ih => exact ih
  -- `escapes` of a `try` is ((what the handlers let through ∪ what the handlers' bodies raise) ∪ what `finally` raises),
  -- and the three cases below name the part by `mem_union_left` / `_right`
  | tryNoExc _ hne _ _ ihf =>
    intro ca hc hw e he
    rcases tryOut_eq he with ⟨_, h⟩ | ⟨_, h⟩
    · exact (ihf ca hc hw e h).imp_right Abs.mem_union_right
    · exact absurd h (hne e)
  | tryUncaught _ hun _ ihb ihf =>
    intro ca hc hw e he
    rcases tryOut_eq he with ⟨_, h⟩ | ⟨_, h⟩
    · exact (ihf ca hc hw e h).imp_right Abs.mem_union_right
    · have ⟨hwf, hm⟩ := ihb ca hc hw e h
      exact ⟨hwf, Abs.mem_union_left (Abs.mem_union_left (uncaught_sound ok _ _ _ hwf hm (Out.raised.inj h ▸ hun)))⟩
  | tryCaught _ _ hcatch _ _ ihb ihh ihf =>
    intro ca hc hw e he
    rcases tryOut_eq he with ⟨_, h⟩ | ⟨_, h⟩
    · exact (ihf ca hc hw e h).imp_right Abs.mem_union_right
    · have ⟨hwf, hm⟩ := ihb ca hc hw _ rfl
      exact (ihh (some _) (caughtBy_sound _ _ _ hm hcatch) (fun _ he1 => Option.some.inj he1 ▸ hwf) e h).imp_right
        fun hm' => Abs.mem_union_left (Abs.mem_union_right (escapesHandlers_mem _ _ _ e hm'))

/-- `Abs.top` stands for the exception being handled -/
theorem exec_wf {H : Hier} {isFam : String → Bool} {root : String} (ok : HierOk H isFam root)
    {cur : Option Exn} {s : Stmt} {t : List Ch} {o : Out} (hex : Exec H isFam root cur s t o)
    (hw : ∀ e0, cur = some e0 → WfExn H isFam root e0) (e : Exn) (he : o = .raised e) : WfExn H isFam root e :=
  (escapes_sound ok hex (cur.map fun _ => Abs.top) (by cases cur <;> simp [CurOk, Abs.mem_top]) hw e he).1

theorem raised_fam_of_not_other {H : Hier} {isFam : String → Bool} {root : String} (ok : HierOk H isFam root)
    {s : Stmt} {tr : List Ch} {e : Exn} (hex : Exec H isFam root none s tr (.raised e))
    (h : (escapes root isFam none s).other = false) : ∃ c, e = .fam c ∧ isFam c = true ∧ H.famSub c root = true := by
  obtain ⟨hwf, hmem⟩ := escapes_sound ok hex none trivial (fun _ h => nomatch h) e rfl
  cases e with
  | fam c => exact ⟨c, rfl, hwf⟩
  | other n => exact absurd (h ▸ hmem : false = true) Bool.false_ne_true

end S2T.Wrapper
