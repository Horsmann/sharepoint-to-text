import S2T.Lemmas.TablesEpub
/-! C13: EPUB chapters as an XML serializer writes them: an element without content (`<td></td>`, `<th></th>`,
    `<tr></tr>`, `<p></p>`, …) may be written as the empty-element tag `<td/>`; `HTMLParser` then calls
    `handle_startendtag` once instead of `handle_starttag` + `handle_endtag`. -/
namespace S2T.Tables.Epub
open S2T.HtmlSkip

/-- `XmlForm items written`: `written` is `items` with any number of the adjacent pairs `<t …></t>` replaced by the
    empty-element tag `<t …/>` (every choice of pairs, including none and all). -/
inductive XmlForm : List Item → List Item → Prop
  | nil : XmlForm [] []
  | keep (i : Item) {a b : List Item} : XmlForm a b → XmlForm (i :: a) (i :: b)
  | empty (t : Str) (at_ : Attrs) {a b : List Item} : XmlForm a b →
      XmlForm (.open_ t at_ :: .close t :: a) (.selfclosed t at_ :: b)

/-- the writer used by the harness: the k-th candidate pair `<t></t>` (left to right) becomes `<t/>` iff `mask[k]`;
    pairs beyond the mask stay as they are -/
def collapse : List Bool → List Item → List Item
  | _, [] => []
  | _, [i] => [i]
  | mask, .open_ t a :: .close t' :: r =>
    if t = t' then
      match mask with
      | true :: m => .selfclosed t a :: collapse m r
      | false :: m => .open_ t a :: .close t' :: collapse m r
      | [] => .open_ t a :: .close t' :: collapse [] r
    else .open_ t a :: collapse mask (.close t' :: r)
  | mask, i :: j :: r => i :: collapse mask (j :: r)

theorem xmlForm_refl (items : List Item) : XmlForm items items := by
  induction items with
  | nil => exact .nil
  | cons i r ih => exact .keep i ih

theorem collapse_nil (items : List Item) : collapse [] items = items := by
  -- `fun_induction` wants variables as arguments; `h` is what then picks the `[]` arm of `collapse`
  generalize h : ([] : List Bool) = mask
  fun_induction collapse mask items <;> simp_all

theorem xmlForm_downEvents {a b : List Item} (h : XmlForm a b) : downEvents b = downEvents a := by
  induction h with
  | nil => rfl
  | keep i _ ih => rw [downEvents_cons, downEvents_cons, ih]
  | empty t at_ _ ih => rw [downEvents_cons, downEvents_cons, downEvents_cons, ih]; rfl

theorem xmlForm_docOk (T : Tables) {a b : List Item} (h : XmlForm a b) (ha : DocOk T a = true) : DocOk T b = true := by
  induction h with
  | nil => rfl
  | keep i _ ih =>
    simp only [DocOk, List.all_cons, Bool.and_eq_true] at ha ih ⊢
    exact ⟨ha.1, ih ha.2⟩
  | empty t at_ _ ih =>
    simp only [DocOk, List.all_cons, Bool.and_eq_true] at ha ih ⊢
    exact ⟨by simpa [ItemOk] using ha.1, ih ha.2.2⟩

/-- the items (tags and text chunks) of a written chapter, every element with a start and an end tag -/
def chapterItems (doc : List EBlk) : List Item := (doc.flatMap EBlk.evs).map itemOf

theorem tables_chapter_xml (T : Tables) (block : List Str) (hT : usedTags.all (fun t => !T.remove.contains t) = true)
    (doc : List EBlk) (hp : doc.all EBlk.proper = true) (written : List Item) (hw : XmlForm (chapterItems doc) written) :
    (run T (S2T.HtmlSkip.Epub.down block) (init S2T.HtmlSkip.Epub.initState) (events written)).down.tables
      = doc.flatMap EBlk.tables := by
  have hok := xmlForm_docOk T hw (docOk_chapter T hT doc)
  rw [run_doc T _ _ _ hok (clean_init _), xmlForm_downEvents hw]
  unfold chapterItems
  rw [downEvents_items]
  exact feed_tables block doc hp

theorem tables_chapter (T : Tables) (block : List Str) (hT : usedTags.all (fun t => !T.remove.contains t) = true)
    (doc : List EBlk) (hp : doc.all EBlk.proper = true) :
    (run T (S2T.HtmlSkip.Epub.down block) (init S2T.HtmlSkip.Epub.initState) (chapterEvents doc)).down.tables
      = doc.flatMap EBlk.tables :=
  tables_chapter_xml T block hT doc hp _ (xmlForm_refl _)

end S2T.Tables.Epub
