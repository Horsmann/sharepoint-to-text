/-!
`decide_chars` decides a closed fact about strings written `"…".toList` by kernel evaluation.

The kernel evaluates `"…".toList` by decoding the literal's UTF-8 bytes, which costs far more than the checks made on the
characters afterwards.  `String.toList_ofList` turns the literal into its character list by a rewrite instead;
`-index` is needed because only the unifier, not simp's index, sees a literal as `String.ofList _`.  Literals hidden
inside a constant are laid bare first: `decide_chars c₁ c₂ …` unfolds the constants `c₁ c₂ …` of the goal.  (With
`-index`, do not hand simp the constants themselves: unifying a constant whose body is `"…".toList` with another
literal's `toList` decodes both.)
-/

syntax "decide_chars" (ppSpace colGt ident)* : tactic
macro_rules
  | `(tactic| decide_chars) => `(tactic| (simp -index only [String.toList_ofList]; decide +kernel))
  | `(tactic| decide_chars $cs*) => `(tactic| (unfold $cs*; simp -index only [String.toList_ofList]; decide +kernel))
