import S2T.Lemmas.AesKatVec
import S2T.Lemmas.AesSpec
/-! Known-answer validation of the specification `S2T.Spec.Fips197`.  SP 800-38A F.2.5/F.2.6 (CBC-AES256): the
    encryption is evaluated by the kernel, the decryption follows because `cbcDecrypt` inverts `cbcEncrypt` -/
namespace S2T.AesL.Kat
open S2T.Spec.Fips197

/-- SP 800-38A F.2.5 CBC-AES256.Encrypt -/
theorem cbc256_encrypt : cbcEncrypt key256 iv pt = cbc256 := by decide +kernel
/-- SP 800-38A F.2.6 CBC-AES256.Decrypt -/
theorem cbc256_decrypt : cbcDecrypt key256 iv cbc256 = pt := by
  rw [← cbc256_encrypt]
  exact cbcDecrypt_cbcEncrypt (by decide) _ _ (by decide) (by decide)

end S2T.AesL.Kat
