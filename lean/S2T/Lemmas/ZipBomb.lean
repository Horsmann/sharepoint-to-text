import S2T.Model.ZipBomb
namespace S2T.ZipBomb

/-- the entries the guard looks at: everything that is not a directory -/
def files (es : List Entry) : List Entry := es.filter (fun e => !e.isDir)
/-- total claimed uncompressed / compressed size of the non-directory entries -/
def totalU (es : List Entry) : Nat := ((files es).map (·.fileSize)).sum
def totalC (es : List Entry) : Nat := ((files es).map (·.compressSize)).sum

/-- a single entry violates a per-entry limit -/
def EntryBad (lim : Limits) (e : Entry) : Prop :=
  e.fileSize > lim.maxSingle
  ∨ (e.fileSize > 0 ∧ e.compressSize = 0)
  ∨ (e.compressSize > 0 ∧ lim.entryRatio.num * e.compressSize < e.fileSize * lim.entryRatio.den)

instance (lim : Limits) (e : Entry) : Decidable (EntryBad lim e) := by unfold EntryBad; infer_instance

/-- **The property's predicate**: what makes a container a ZIP bomb under `lim`.
    Ratios by exact cross-multiplication: `size / csize > num/den ⇔ size·den > num·csize`. -/
def Bomb (lim : Limits) (es : List Entry) : Prop :=
  es.length > lim.maxEntries
  ∨ (∃ e ∈ es, e.isDir = false ∧ EntryBad lim e)
  ∨ totalU es > lim.maxTotal
  ∨ (totalC es > 0 ∧ lim.totalRatio.num * totalC es < totalU es * lim.totalRatio.den)

theorem Bomb.of_count {lim : Limits} {es : List Entry} (h : es.length > lim.maxEntries) : Bomb lim es := .inl h
theorem Bomb.of_entry {lim : Limits} {es : List Entry} {e : Entry} (he : e ∈ es) (hd : e.isDir = false)
    (hb : EntryBad lim e) : Bomb lim es := .inr (.inl ⟨e, he, hd, hb⟩)

@[simp] theorem files_nil : files [] = [] := rfl
theorem files_cons_dir (e : Entry) (es : List Entry) (h : e.isDir = true) : files (e :: es) = files es := by
  simp [files, h]
theorem files_cons_file (e : Entry) (es : List Entry) (h : e.isDir = false) : files (e :: es) = e :: files es := by
  simp [files, h]

theorem mem_files (e : Entry) (es : List Entry) : e ∈ files es ↔ e ∈ es ∧ e.isDir = false := by
  simp [files]

theorem step_dir (lim : Limits) (tu tc : Nat) (e : Entry) (h : e.isDir = true) :
    step lim tu tc e = .ok (tu, tc) := by simp [step, h]

/-- every leaf of the `if` chain of `step` is another constructor -/
theorem step_ne_totalZero (lim : Limits) (tu tc : Nat) (e : Entry) :
    step lim tu tc e ≠ .error .totalZeroCompressed := by
  simp only [step, ne_eq, apply_ite (· = Except.error Reason.totalZeroCompressed), Except.error.injEq,
    reduceCtorEq, ite_self, not_false_eq_true]

theorem step_file_ok (lim : Limits) (tu tc : Nat) (e : Entry) (h : e.isDir = false) (p : Nat × Nat) :
    step lim tu tc e = .ok p ↔
      ¬ EntryBad lim e ∧ tu + e.fileSize ≤ lim.maxTotal ∧ p = (tu + e.fileSize, tc + e.compressSize) := by
  -- `step` asks the ratio clause for a non-empty file, `EntryBad` for compressed bytes: the same, once the
  -- zero-compressed clause has not fired, because a ratio above the limit needs a non-empty file
  have hpos : lim.entryRatio.num * e.compressSize < e.fileSize * lim.entryRatio.den → 0 < e.fileSize :=
    Nat.pos_of_lt_mul_right
  unfold step EntryBad ratioExceeds
  simp only [h, Bool.false_eq_true, ↓reduceIte, Bool.and_eq_true, decide_eq_true_eq, beq_iff_eq]
  grind

/-- prefix totals are monotone, so checking every prefix (what the loop does) equals checking the total -/
theorem loop_ok_iff (lim : Limits) (es : List Entry) : ∀ (tu tc : Nat) (p : Nat × Nat),
    tu ≤ lim.maxTotal →
    (loop lim tu tc es = .ok p ↔
      (∀ e ∈ files es, ¬ EntryBad lim e) ∧ tu + totalU es ≤ lim.maxTotal
        ∧ p = (tu + totalU es, tc + totalC es)) := by
  induction es with
  | nil =>
    intro tu tc p htu
    simp only [loop, totalU, totalC, files_nil, List.map_nil, List.sum_nil, Nat.add_zero, List.not_mem_nil,
      false_imp_iff, implies_true, true_and, Except.ok.injEq]
    grind
  | cons e es ih =>
    intro tu tc p htu
    by_cases hd : e.isDir = true
    · simp only [loop, step_dir lim tu tc e hd, ih tu tc p htu]
      simp [files_cons_dir e es hd, totalU, totalC]
    · have hd' : e.isDir = false := by simpa using hd
      have hstep := step_file_ok lim tu tc e hd'
      unfold loop
      simp only [totalU, totalC, files_cons_file e es hd', List.map_cons, List.sum_cons, List.mem_cons,
        forall_eq_or_imp]
      cases hs : step lim tu tc e with
      | error r =>
        -- a failed step means this entry is bad or the running total is over the limit: the right side is false
        have := mt (hstep (tu + e.fileSize, tc + e.compressSize)).mpr (by rw [hs]; nofun)
        grind
      | ok q =>
        obtain ⟨hb, ht, rfl⟩ := (hstep q).mp hs
        have := ih _ (tc + e.compressSize) p ht
        simp only [totalU, totalC] at this
        grind

/-- `validate` starts the loop at zero totals -/
theorem loop_zero_ok_iff (lim : Limits) (es : List Entry) (p : Nat × Nat) :
    loop lim 0 0 es = .ok p ↔
      (∀ e ∈ files es, ¬ EntryBad lim e) ∧ totalU es ≤ lim.maxTotal ∧ p = (totalU es, totalC es) := by
  simpa only [Nat.zero_add] using loop_ok_iff lim es 0 0 p (Nat.zero_le _)

theorem sumC_pos (l : List Entry) (h : ∀ e ∈ l, ¬ (e.fileSize > 0 ∧ e.compressSize = 0))
    (hu : (l.map (·.fileSize)).sum > 0) : (l.map (·.compressSize)).sum > 0 := by
  induction l with
  | nil => simp at hu
  | cons e l ih =>
    simp only [List.map_cons, List.sum_cons] at hu ⊢
    have he := h e (by simp)
    by_cases hf : e.fileSize > 0
    · have : e.compressSize ≠ 0 := fun hc => he ⟨hf, hc⟩
      omega
    · have := ih (fun x hx => h x (by simp [hx])) (by omega)
      omega

theorem totalC_pos {lim : Limits} {es : List Entry} (hall : ∀ e ∈ files es, ¬ EntryBad lim e) (hu : totalU es > 0) :
    totalC es > 0 :=
  sumC_pos _ (fun e he hz => hall e he (Or.inr (Or.inl hz))) hu

end S2T.ZipBomb
