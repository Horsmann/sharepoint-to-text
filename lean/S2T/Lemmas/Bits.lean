/-! Masking a number with one power of two is testing one bit (7z bit vectors, the flag words of C08). -/
namespace S2T

theorem and_two_pow_eq (v k : Nat) : v &&& 2 ^ k = if v.testBit k then 2 ^ k else 0 := by
  apply Nat.eq_of_testBit_eq
  intro j
  rw [Nat.testBit_and, Nat.testBit_two_pow]
  by_cases h : k = j
  · subst h
    cases hv : v.testBit k <;> simp
  · cases hv : v.testBit k <;> simp [h]

theorem and_two_pow_bne_zero (v k : Nat) : (v &&& 2 ^ k != 0) = v.testBit k := by
  rw [and_two_pow_eq]
  cases v.testBit k <;> simp

theorem and_two_pow_ne_zero (v k : Nat) : v &&& 2 ^ k ≠ 0 ↔ v.testBit k = true := by
  rw [← and_two_pow_bne_zero, bne_iff_ne]

end S2T
