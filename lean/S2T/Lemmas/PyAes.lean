import S2T.Lemmas.PyBytes
import S2T.Lemmas.AesModel
/-!
Lemmas for `Props/C20_Src.lean` (the translated `_pypdf_aes_fallback.py` equals the hand model `S2T.Aes`) that mention neither
the generated translation nor the generated tables.  The notion of this file: the loop of a mode function as the chaining of a
block function (`chainLoop`, of which the model's three loops are instances), which a translated loop is when its body
`RunsStep` (`chain_forIn`).
-/
namespace S2T.C20.Src
open S2T.Py S2T.Aes S2T.AesL

/-- a table indexed by a byte: 256 entries, each a byte -/
def Tab (t : List Nat) : Prop := t.length = 256 ∧ IsBytes t
instance (t : List Nat) : Decidable (Tab t) := by unfold Tab; infer_instance

theorem getItem_tab {t : List Nat} (ht : Tab t) {x : Nat} (hx : x < 256) :
    getItem t (x : Int) = Except.ok (t.getD x 0) :=
  getItem_natCast t (by rw [ht.1]; exact hx)

/-- normal form of a translated `for` loop: `let mut x := x; for … ; return x` -/
macro "py_loop_nf" : tactic =>
  `(tactic| simp +instances only [bind_pure_comp, map_pure, bind_pure, rangeN_zero])

/-- one iteration of `for i in range(16): state[i] = TABLE[state[i]]` on a 16-byte state, for a byte table -/
theorem tab_step {t st : List Nat} {i : Nat} (ht : Tab t) (hi : i ∈ List.range 16) (hst : Block st) :
    (do let x ← getItem st ((i : Nat) : Int)
        let y ← getItem t ((x : Nat) : Int)
        ForInStep.yield <$> setItem st ((i : Nat) : Int) y)
      = Except.ok (ForInStep.yield (st.set i (t.getD (st.getD i 0) 0))) ∧ Block (st.set i (t.getD (st.getD i 0) 0)) := by
  have hi' : i < st.length := by rw [hst.1]; exact List.mem_range.mp hi
  refine ⟨?_, block_set hst (isBytes_getD ht.2 _)⟩
  simp only [getItem_natCast st hi', getItem_tab ht (isBytes_getD hst.2 i), setItem_natCast st _ hi', M.ok_bind, M.map_ok]

/-- a model outcome in the translated function's monad; `e` = the `raise` statement that fires -/
def liftV {α} (e : Py.Exc) : Except Aes.Exc α → M α
  | .ok a => Except.ok a
  | .error _ => Except.error e

@[simp] theorem liftV_ok {α} (e : Py.Exc) (a : α) : liftV e (.ok a) = Except.ok a := rfl
@[simp] theorem liftV_error {α} (e : Py.Exc) (x : Aes.Exc) : (liftV e (.error x) : M α) = Except.error e := rfl

theorem liftV_eq_ok {α} {e : Py.Exc} {x : M α} {m : Except Aes.Exc α} {a : α} (h : x = liftV e m) (hm : m = .ok a) :
    x = Except.ok a := by rw [h, hm]; rfl

theorem liftV_eq_error {α} {e : Py.Exc} {x : M α} {m : Except Aes.Exc α} {z : Aes.Exc} (h : x = liftV e m)
    (hm : m = .error z) : x = Except.error e := by rw [h, hm]; rfl

theorem model_rotWord_word {x : List Nat} (h : Word x) : Word (rotWord x) := rotWord_eq x ▸ rotWord_word h

theorem xorHead_word {x : List Nat} {c : Nat} (h : Word x) (hc : c < 256) : Word (xorHead x c) := by
  obtain ⟨a, b, d, e, rfl⟩ := list4 x h.1
  have := h.2
  simp only [isBytes_cons] at this
  refine ⟨rfl, ?_⟩
  simp only [xorHead, isBytes_cons]
  exact ⟨xor_lt this.1 hc, this.2⟩

theorem set0_xorHead (t : List Nat) (c : Nat) : t.set 0 (t.getD 0 0 ^^^ c) = xorHead t c := by
  cases t <;> simp [xorHead]

theorem repeat_singleton (x : Nat) (m : Nat) : repeatList [x] ((m : Nat) : Int) = List.replicate m x := by
  rw [repeatList, Int.toNat_natCast, List.flatten_replicate_singleton]

theorem bytesOfInts_single {p : Nat} (h : p < 256) : bytesOfInts [((p : Nat) : Int)] = Except.ok [p] := by
  simp [bytesOfInts]; omega

theorem bytesOfInts_single_bad {p : Nat} (h : ¬ p < 256) : bytesOfInts [((p : Nat) : Int)] = Except.error valueError := by
  simp only [bytesOfInts, List.all_cons, List.all_nil, Bool.and_true]
  rw [if_neg]
  · rfl
  · simp; omega

theorem getItem_last (l : List Nat) : getItem l (-((1 : Nat) : Int)) =
    match l.getLast? with
    | some a => Except.ok a
    | none => Except.error indexError := by
  cases l with
  | nil => rfl
  | cons a t =>
    have h1 : ¬ (0 ≤ -((1 : Nat) : Int)) := by omega
    have h2 : 0 ≤ -((1 : Nat) : Int) + (((a :: t).length : Nat) : Int) := by simp; omega
    have h3 : (-((1 : Nat) : Int) + (((a :: t).length : Nat) : Int)).toNat = (a :: t).length - 1 := by simp; omega
    simp only [getItem, normIndex, h1, h2, h3, if_false, if_true]
    rw [List.getLast?_eq_getElem?]
    cases (a :: t)[(a :: t).length - 1]? <;> rfl

/-- forget WHICH `raise` statement of a function fired (both `raise ValueError("Invalid PKCS#7 padding")` of
    `_pkcs7_unpad` are the same exception to every caller) -/
def unsited {α} (x : M α) : M α := x.mapError (fun e => { e with site := 0 })

@[simp] theorem unsited_ok {α} (a : α) : unsited (Except.ok a : M α) = Except.ok a := rfl
@[simp] theorem unsited_error {α} (e : Py.Exc) : unsited (Except.error e : M α) = Except.error { e with site := 0 } := rfl

/-- `out[off : off + 16] = x` where `off` is the end of the part already written and 16 more zero bytes follow -/
theorem setSlice_block {α} (pre post x : List α) (h : 16 ≤ post.length) :
    setSlice (pre ++ post) (some ((pre.length : Nat) : Int)) (some ((pre.length + 16 : Nat) : Int)) x
      = (pre ++ x) ++ post.drop 16 := by
  have h1 : ¬ (((pre.length : Nat) : Int) < 0) := by omega
  have h2 : ¬ (((pre.length + 16 : Nat) : Int) < 0) := by omega
  simp only [setSlice, sliceLo, sliceHi, clampIndex, h1, h2, if_false, Int.toNat_natCast, List.length_append]
  rw [Nat.min_eq_left (by omega), Nat.min_eq_left (by omega), Nat.max_eq_right (by omega)]
  simp [List.drop_append]

/-- how the mode functions chain a block function: every block yields its 16 bytes of output and the value carried
    to the next block (nothing for ECB, the previous ciphertext block for CBC) -/
def chainLoop {α : Type} (step : α → List Nat → Except Aes.Exc (List Nat × α)) :
    α → List (List Nat) → Except Aes.Exc (List Nat)
  | _, [] => .ok []
  | a, b :: rest =>
    match step a b with
    | .error e => .error e
    | .ok (x, a') =>
      match chainLoop step a' rest with
      | .error e => .error e
      | .ok t => .ok (x ++ t)

theorem ecbLoop_chain (g : List Nat → Except Aes.Exc (List Nat)) (bs : List (List Nat)) :
    ecbLoop g bs = chainLoop (fun (_ : Unit) b => (fun x => (x, ())) <$> g b) () bs := by
  induction bs with
  | nil => rfl
  | cons b rest ih =>
    rw [ecbLoop, chainLoop, ih]
    cases g b <;> rfl

theorem cbcEncLoop_chain (T : Tables) (rks : List (List Nat)) (bs : List (List Nat)) : ∀ prev,
    cbcEncLoop T rks prev bs
      = chainLoop (fun prev b => (fun c => (c, c)) <$> encryptBlock T (List.zipWith (· ^^^ ·) b prev) rks) prev bs := by
  induction bs with
  | nil => intro _; rfl
  | cons b rest ih =>
    intro prev
    rw [cbcEncLoop, chainLoop]
    simp only [ih]
    cases encryptBlock T (List.zipWith (· ^^^ ·) b prev) rks <;> rfl

theorem cbcDecLoop_chain (T : Tables) (rks : List (List Nat)) (bs : List (List Nat)) : ∀ prev,
    cbcDecLoop T rks prev bs
      = chainLoop (fun prev b => (fun dec => ((List.range 16).map (fun idx => dec.getD idx 0 ^^^ prev.getD idx 0), b))
          <$> decryptBlock T b rks) prev bs := by
  induction bs with
  | nil => intro _; rfl
  | cons b rest ih =>
    intro prev
    rw [cbcDecLoop, chainLoop]
    simp only [ih]
    cases decryptBlock T b rks <;> rfl

/-- the body `F` of the loop `for block in chunks: …; out[offset:offset+16] = x; offset += 16` of a translated mode
    function runs `step` on the block `b`: from the carried value `a`, with the part `pre` of `out` written and the zero
    bytes `post` to come, it writes the 16 bytes of `step a b` behind `pre`, and raises `e` where `step a b` rejects -/
def RunsStep {σ α : Type} (mk : List Nat → α → Nat → σ) (e : Py.Exc) (I : α → Prop)
    (step : α → List Nat → Except Aes.Exc (List Nat × α)) (F : List Nat → σ → M (ForInStep σ)) (b : List Nat) : Prop :=
  ∀ a, I a → (∀ r, step a b = .ok r → r.1.length = 16 ∧ I r.2) ∧
    ∀ pre post : List Nat, 16 ≤ post.length → F b (mk (pre ++ post) a pre.length) =
      (fun r => ForInStep.yield (mk (pre ++ r.1 ++ post.drop 16) r.2 (pre.length + 16))) <$> liftV e (step a b)

/-- such a loop is `chainLoop step`, whatever the loop state `σ` -/
theorem chain_forIn {σ α : Type} {mk : List Nat → α → Nat → σ} {outOf : σ → List Nat}
    (hmk : ∀ o a n, outOf (mk o a n) = o) {step : α → List Nat → Except Aes.Exc (List Nat × α)} {I : α → Prop}
    {e : Py.Exc} {F : List Nat → σ → M (ForInStep σ)} :
    ∀ bs : List (List Nat), (∀ b ∈ bs, RunsStep mk e I step F b) →
    ∀ a, I a → ∀ pre post : List Nat, post.length = 16 * bs.length →
      outOf <$> forIn bs (mk (pre ++ post) a pre.length) F = (fun t => pre ++ t) <$> liftV e (chainLoop step a bs) := by
  intro bs
  induction bs with
  | nil =>
    intro _ a _ pre post hp
    have : post = [] := List.eq_nil_of_length_eq_zero (by simpa using hp)
    subst this
    simp [chainLoop, hmk]
  | cons b rest ih =>
    intro h a ha pre post hp
    obtain ⟨hI, hF⟩ := h b (List.mem_cons_self ..) a ha
    simp only [List.forIn_cons, hF pre post (by simp at hp; omega), chainLoop]
    cases hs : step a b with
    | error x => simp
    | ok r =>
      obtain ⟨x, a'⟩ := r
      obtain ⟨hx, ha'⟩ := hI _ hs
      simp only [liftV_ok, M.map_ok, M.ok_bind]
      have := ih (fun b' hb' => h b' (List.mem_cons_of_mem _ hb')) a' ha' (pre ++ x) (post.drop 16)
        (by simp at hp ⊢; omega)
      rw [show pre.length + 16 = (pre ++ x).length by simp [hx], this]
      cases chainLoop step a' rest with
      | error y => simp
      | ok t => simp [List.append_assoc]

theorem chain_forIn_start {σ α : Type} (mk : List Nat → α → Nat → σ) (outOf : σ → List Nat)
    (hmk : ∀ o a n, outOf (mk o a n) = o) {step : α → List Nat → Except Aes.Exc (List Nat × α)} (I : α → Prop)
    {e : Py.Exc} {F : List Nat → σ → M (ForInStep σ)} {bs : List (List Nat)} (h : ∀ b ∈ bs, RunsStep mk e I step F b)
    {a : α} (ha : I a) {post : List Nat} (hp : post.length = 16 * bs.length) :
    outOf <$> forIn bs (mk post a 0) F = liftV e (chainLoop step a bs) := by
  simpa using chain_forIn hmk bs h a ha [] post hp

/-- `for col in range(4): state[row + 4 * col] = row_bytes[col]` for a row of 4 entries -/
theorem row_forIn {st rb : List Nat} {row : Nat} (hst : st.length = 16) (hrb : rb.length = 4) (h4 : row < 4)
    (G : Nat → List Nat → M (ForInStep (List Nat)))
    (hG : ∀ col t, G col t = (do
      let x ← getItem rb ((col : Nat) : Int)
      ForInStep.yield <$> setItem t ((row + 4 * col : Nat) : Int) x)) :
    forIn (List.range 4) st G
      = Except.ok ((List.range 4).foldl (fun t col => t.set (row + 4 * col) (rb.getD col 0)) st) := by
  refine (forIn_fold (fun t => t.length = 16) _ _ _ ?_ st hst).1
  intro col hcol t ht
  rw [List.mem_range] at hcol
  simp (disch := omega) only [hG, getItem_natCast, setItem_natCast, M.ok_bind, M.map_ok, List.length_set, true_and]
  exact ht

theorem keyLen_nk {n : Nat} (h : n = 16 ∨ n = 24 ∨ n = 32) : ∃ nk, n = 4 * nk ∧ 4 ≤ nk ∧ nk ≤ 8 :=
  ⟨n / 4, by omega, by omega, by omega⟩

end S2T.C20.Src
