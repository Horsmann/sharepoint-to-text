import S2T.Spec.Omml
/-! The record-based recursion of the C19 model (`info`, `infos`) unfolded: `proc` on a node is the template of its kind
    on `proc` of the children (`proc_kind`). -/
namespace S2T.Omml

theorem Xml.ind {P : Xml → Prop}
    (h : ∀ m n v t ks, (∀ c ∈ ks, P c) → P (.node m n v t ks)) : ∀ x, P x := by
  intro x
  exact Xml.rec (motive_1 := P) (motive_2 := fun ks => ∀ c ∈ ks, P c)
    (fun m n v t ks ih => h m n v t ks ih)
    (by intro c hc; cases hc)
    (fun hd tl ih1 ih2 => by
      intro c hc
      rcases List.mem_cons.mp hc with rfl | hc
      · exact ih1
      · exact ih2 c hc) x

/-- induction for facts about `proc`: the fact may also be assumed of the children's children (a matrix processes
    the cells of its rows itself) -/
theorem Xml.ind_grandchildren {P : Xml → Prop}
    (h : ∀ m n v t ks, (∀ c ∈ ks, P c) → (∀ r ∈ ks, ∀ c ∈ r.kids, P c) → P (.node m n v t ks)) : ∀ x, P x := by
  have : ∀ x, P x ∧ ∀ c ∈ x.kids, P c :=
    Xml.ind fun m n v t ks ih => ⟨h m n v t ks (fun c hc => (ih c hc).1) (fun r hr => (ih r hr).2), fun c hc => (ih c hc).1⟩
  exact fun x => (this x).1

theorem infos_eq_map (T : Tables) (ks : List Xml) : infos T ks = ks.map (info T) := by
  induction ks with
  | nil => simp [infos]
  | cons k ks ih => simp [infos, ih]

@[simp] theorem info_mns (T : Tables) (x : Xml) : (info T x).mns = x.mns := by
  cases x; simp [info, Xml.mns]
@[simp] theorem info_name (T : Tables) (x : Xml) : (info T x).name = x.name := by
  cases x; simp [info, Xml.name]
@[simp] theorem info_run (T : Tables) (x : Xml) : (info T x).run = proc T x := rfl

theorem isTagR_info (T : Tables) (n : Str) (x : Xml) : isTagR n (info T x) = isTag n x := by
  simp [isTagR, isTag]

theorem find_infos (T : Tables) (n : Str) (ks : List Xml) :
    (ks.map (info T)).find? (isTagR n) = (ks.find? (isTag n)).map (info T) := by
  rw [List.find?_map]; congr 2; funext x; exact isTagR_info T n x

theorem filter_infos (T : Tables) (n : Str) (ks : List Xml) :
    (ks.map (info T)).filter (isTagR n) = (ks.filter (isTag n)).map (info T) := by
  rw [List.filter_map]; congr 2; funext x; exact isTagR_info T n x

theorem info_cells (T : Tables) (x : Xml) :
    (info T x).cells = (x.kids.filter (isTag n_e)).map (proc T) := by
  cases x with
  | node m n v t ks =>
    simp only [info, Xml.kids, infos_eq_map, filter_infos, List.map_map]
    rfl

/-- `process_element(elem.find(M_NS+n))` on the children records is `proc` of the first such child -/
def opndX (T : Tables) (n : Str) (ks : List Xml) : M :=
  match ks.find? (isTag n) with
  | some c => proc T c
  | none => ret []

theorem opnd_infos (T : Tables) (n : Str) (ks : List Xml) :
    opnd n (ks.map (info T)) = opndX T n ks := by
  unfold opnd opndX
  rw [find_infos]
  cases ks.find? (isTag n) <;> simp

/-- the template of each kind, on `proc` of the children (`procNode` without the records of `info`) -/
def procKind (T : Tables) (t : Str) (ks : List Xml) : Kind → M
  | .skip => ret []
  | .text => tText T t
  | .frac => tFrac (opndX T n_num ks) (opndX T n_den ks)
  | .sup => tSup (opndX T n_e ks) (opndX T n_sup ks)
  | .sub => tSub (opndX T n_e ks) (opndX T n_sub ks)
  | .subsup => tSubSup (opndX T n_e ks) (opndX T n_sub ks) (opndX T n_sup ks)
  | .rad => tRad T (opndX T n_deg ks) (opndX T n_e ks)
  | .nary => tNary T (attrOr d_nary (pathFind n_naryPr n_chr ks)) (opndX T n_sub ks) (opndX T n_sup ks) (opndX T n_e ks)
  | .delim => tDelim (attrOr d_beg (pathFind n_dPr n_begChr ks)) (attrOr d_end (pathFind n_dPr n_endChr ks))
      ((ks.filter (isTag n_e)).map (proc T))
  | .matrix => tMatrix ((ks.filter (isTag n_mr)).map fun r => (r.kids.filter (isTag n_e)).map (proc T))
  | .func => tFunc T (opndX T n_fName ks) (opndX T n_e ks)
  | .bar => tBar (opndX T n_e ks)
  | .acc => tAcc T (attrOr d_acc (pathFind n_accPr n_chr ks)) (opndX T n_e ks)
  | .other => tDefault (ks.map (proc T))

theorem kindOf_rest {T : Tables} {n : Str} (hs : T.skip.contains n = false) (ht : n ≠ n_t) (b : Bool) :
    kindOf T n b = kindRest n b := by
  simp only [kindOf, hs, Bool.false_eq_true, if_false, if_neg ht]

theorem proc_kind (T : Tables) (m : Bool) (n : Str) (v : Option Str) (t : Str) (ks : List Xml) :
    proc T (.node m n v t ks) = procKind T t ks (kindOf T n (ks.find? (isTag n_mr)).isSome) := by
  simp only [proc, info, infos_eq_map]
  rw [procNode, find_infos, Option.isSome_map]
  cases kindOf T n (ks.find? (isTag n_mr)).isSome <;>
    simp only [procKind, opnd_infos, filter_infos, List.map_map, Function.comp_def, info_run, info_cells] <;> rfl

theorem ommlOut_eq (T : Tables) (root : Xml) :
    ommlOut T root = (tDefault (root.kids.map (proc T)) []).1
      ++ lit (List.replicate (tDefault (root.kids.map (proc T)) []).2.length '}') := by
  simp only [ommlOut, infos_eq_map, List.map_map, tDefault]
  rfl

end S2T.Omml
