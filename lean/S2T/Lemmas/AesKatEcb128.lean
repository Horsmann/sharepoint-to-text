import S2T.Lemmas.AesKatVec
import S2T.Lemmas.AesSpec
/-! Known-answer validation of the specification `S2T.Spec.Fips197`.  SP 800-38A F.1.1/F.1.2 (ECB-AES128): the
    encryption is evaluated by the kernel, the decryption follows because `ecbDecrypt` inverts `ecbEncrypt` -/
namespace S2T.AesL.Kat
open S2T.Spec.Fips197

/-- SP 800-38A F.1.1 ECB-AES128.Encrypt -/
theorem ecb128_encrypt : ecbEncrypt key128 pt = ecb128 := by decide +kernel
/-- SP 800-38A F.1.2 ECB-AES128.Decrypt -/
theorem ecb128_decrypt : ecbDecrypt key128 ecb128 = pt := by
  rw [← ecb128_encrypt]
  exact ecbDecrypt_ecbEncrypt (by decide) (by decide)

end S2T.AesL.Kat
