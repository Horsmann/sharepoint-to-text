import S2T.Lemmas.C02SheetsOdp
import S2T.Lemmas.OdfNames
namespace S2T.C02.Sheets.Odp
open S2T.Tok S2T.OdfText S2T.OdfDoc S2T.C02.Sheets

/-- what the theorems need from the constants of odp_extractor.py / data_types.py -/
structure OdpOk (T : OdpT) : Prop where
  fmt : T.fmt = stdFmt [tAnnot]
  pTag : T.pTag = tP
  frameTag : T.frameTag = q nsDraw "frame"
  textBoxTag : T.textBoxTag = q nsDraw "text-box"
  pageTag : T.pageTag = q nsDraw "page"
  styleName : T.styleName = q nsText "style-name"
  svgX : T.svgX = q nsSvg "x"
  svgY : T.svgY = q nsSvg "y"
  titleT : ∀ st ∈ titleStyles, isTitle T st = true ∧ isBody T st = false
  bodyT : ∀ st ∈ bodyStyles, isTitle T st = false ∧ isBody T st = true
  otherT : ∀ st ∈ otherStyles, isTitle T st = false ∧ isBody T st = false
  slideSep : SepOk T.isWs T.slideSep
  joinSep : SepOk T.isWs T.joinSep
  noDigit : NoDigitWs T.isWs
  noUnit : NoUnitWs T.isWs

/-- no footnotes inside slide paragraphs: `text:note` is not in ODP's skip set -/
def paraOk (pa : Para) : Bool := noNoteInls pa.kids

mutual
def tbOk : TB → Bool
  | .para p => paraOk p
  | .group _ kids => tbOkL kids
  | .comment _ _ => true
def tbOkL : List TB → Bool
  | [] => true
  | b :: r => tbOk b && tbOkL r
end

def frameOk (f : Frame) : Bool :=
  match f.body with
  | .textBox c => tbOkL c
  | _ => true

def deckOk (d : List DSlide) : Bool := d.all (fun s => s.frames.all frameOk)

theorem pruned_node {T : OdpT} (h : OdpOk T) (tag : Str) (a : List (Str × Str)) (x l : Str) (ks : List Xml) :
    pruned T (.node tag a x l ks)
      = if tag = tAnnot then [] else if tag = tP then [.node tag a x l ks] else prunedL T ks := by
  simp [pruned, h.fmt, h.pTag, stdFmt]

theorem pruned_rPara {T : OdpT} (h : OdpOk T) (pa : Para) : pruned T (rPara pa) = [rPara pa] := by
  simp [rPara, elem, pruned_node h, tP, tAnnot]

mutual
theorem pruned_rTB {T : OdpT} (h : OdpOk T) (b : TB) : pruned T (rTB b) = (tbParas b).map rPara := by
  cases b with
  | para pa => simp [rTB, tbParas, pruned_rPara h]
  | group k kids =>
    have hk : gkindTag k ≠ tAnnot ∧ gkindTag k ≠ tP := by cases k <;> simp [gkindTag, tAnnot, tP]
    simp only [rTB, pruned_node h, hk.1, hk.2, if_false, tbParas]
    exact prunedL_rTBs h kids
  | comment c ks => simp [rTB, pruned_node h, tbParas]
theorem prunedL_rTBs {T : OdpT} (h : OdpOk T) (bs : List TB) : prunedL T (rTBs bs) = (tbParasL bs).map rPara := by
  cases bs with
  | nil => simp [rTBs, prunedL, tbParasL]
  | cons b r => simp [rTBs, prunedL, tbParasL, pruned_rTB h b, prunedL_rTBs h r]
end

/-- what a paragraph contributes on the model side -/
def entryOf (p : Char → Bool) (pa : Para) : Str × Str := (styleOf pa.role pa.variant, strip p (visibleL pa.kids))
def nonBlankP (p : Char → Bool) (pa : Para) : Bool := !blank p (visibleL pa.kids)

theorem paraEntry_rPara {T : OdpT} (h : OdpOk T) (pa : Para) (hp : paraOk pa = true) :
    paraEntry T (rPara pa) = if nonBlankP T.isWs pa then some (entryOf T.isWs pa) else none := by
  have ht := elemText_para (p := T.isWs) h.noDigit skipOk_odg tP [(q nsText "style-name", styleOf pa.role pa.variant)] pa.kids
    (Or.inr hp)
  have ha : (rPara pa).attrs = [(q nsText "style-name", styleOf pa.role pa.variant)] := rfl
  unfold paraEntry
  rw [h.fmt, ha, h.styleName, attr_self]
  simp only [rPara] at ht ⊢
  simp only [ht, nonBlankP, entryOf, Option.getD_some]
  by_cases hb : blank T.isWs (visibleL pa.kids) = true
  · have := (strip_eq_nil_iff (p := T.isWs) (visibleL pa.kids)).mpr hb
    simp [this, hb]
  · have : strip T.isWs (visibleL pa.kids) ≠ [] := fun hc => hb ((strip_eq_nil_iff _).mp hc)
    simp [this, hb]

theorem filterMap_paraEntry {T : OdpT} (h : OdpOk T) (ps : List Para) (hp : ps.all paraOk = true) :
    (ps.map rPara).filterMap (paraEntry T) = (ps.filter (nonBlankP T.isWs)).map (entryOf T.isWs) := by
  induction ps with
  | nil => rfl
  | cons a r ih =>
    simp only [List.all_cons, Bool.and_eq_true] at hp
    simp only [List.map_cons, List.filterMap_cons, paraEntry_rPara h a hp.1, ih hp.2]
    by_cases hb : nonBlankP T.isWs a = true
    · simp [hb, List.filter]
    · simp [hb, List.filter]

mutual
theorem tbParas_ok1 (b : TB) (h : tbOk b = true) : (tbParas b).all paraOk = true := by
  cases b with
  | para pa => simpa [tbParas, tbOk] using h
  | group k kids => simp only [tbParas]; exact tbParas_ok kids (by simpa [tbOk] using h)
  | comment c ks => simp [tbParas]
theorem tbParas_ok (bs : List TB) (h : tbOkL bs = true) : (tbParasL bs).all paraOk = true := by
  cases bs with
  | nil => simp [tbParasL]
  | cons b r =>
    simp only [tbOkL, Bool.and_eq_true] at h
    simp only [tbParasL, List.all_append, Bool.and_eq_true]
    exact ⟨tbParas_ok1 b h.1, tbParas_ok r h.2⟩
end

theorem frameParas_rFrame {T : OdpT} (h : OdpOk T) (u : LUnit) (f : Frame) (hf : frameOk f = true) :
    frameParas T (rFrame u f) = ((frameParasD f).filter (nonBlankP T.isWs)).map (entryOf T.isWs) := by
  unfold frameParas find iterParas frameParasD
  rw [h.textBoxTag, rFrame, Xml.kids, find?_tag_cons]
  cases hb : f.body with
  | textBox c =>
    have hok : tbOkL c = true := by simpa [frameOk, hb] using hf
    rw [rFrameBody, tag_node, if_pos rfl]
    simp only []  -- the `match` on `some _`
    rw [walkCov_false, pruned_node h, if_neg (by simp [tAnnot]), if_neg (by simp [tP]),
      prunedL_rTBs h c, filterMap_paraEntry h _ (tbParas_ok c hok)]
  | table rows => rw [rFrameBody, tag_node, if_neg (by simp)]; rfl
  | image hr => rw [rFrameBody, tag_node, if_neg (by simp)]; rfl

theorem findall_frames {T : OdpT} (h : OdpOk T) (s : DSlide) :
    findall T.frameTag (rSlide s) = s.frames.map (rFrame s.unit) := by
  unfold findall rSlide
  rw [Xml.kids, h.frameTag, List.filter_append, List.filter_append,
    filter_map_tag_true (q nsDraw "frame") (rFrame s.unit) s.frames (fun _ => tag_node ..),
    filter_map_tag_false (q nsDraw "frame") rShape s.shapes (fun _ => by rw [rShape, tag_node]; simp),
    List.filter_cons_of_neg (by rw [rNotes, tag_node]; simp)]
  simp

theorem frameKey_rFrame {T : OdpT} (h : OdpOk T) (u : LUnit) (f : Frame) :
    frameKey T (rFrame u f) = (⟨f.y * pxNum u, pxDen u⟩, ⟨f.x * pxNum u, pxDen u⟩) := by
  have hne : q nsSvg "y" ≠ q nsSvg "x" := by simp
  unfold frameKey
  simp only [rFrame, Xml.attrs, h.svgX, h.svgY, attr, hne, if_false, if_true,
    lengthPx_lenStr h.noDigit h.noUnit]

theorem keyLe_rFrame {T : OdpT} (h : OdpOk T) (u : LUnit) (a b : Frame) :
    keyLe (frameKey T (rFrame u a)) (frameKey T (rFrame u b)) = posLe a b := by
  rw [frameKey_rFrame h, frameKey_rFrame h, keyLe_scaled _ _ _ _ _ _ (pxNum_pos u) (pxDen_pos u), posLe]

theorem sortedFrames_rSlide {T : OdpT} (h : OdpOk T) (s : DSlide) :
    sortedFrames T (rSlide s) = (sortBy posLe s.frames).map (rFrame s.unit) := by
  unfold sortedFrames
  rw [findall_frames h]
  exact sortBy_map (rFrame s.unit) (fun a b => keyLe (frameKey T a) (frameKey T b)) posLe
    (fun a b => keyLe_rFrame h s.unit a b) s.frames

/-- a rendered paragraph's style name is classified as its role: the tests of `classify` are the tests of `bucket` -/
theorem styleOf_class {T : OdpT} (h : OdpOk T) (r : Role) (v : Nat) :
    isTitle T (styleOf r v) = decide (r = .title) ∧ isBody T (styleOf r v) = decide (r = .body) := by
  cases r
  · exact h.titleT _ (List.getD_mem (Nat.mod_lt v (by decide)))
  · exact h.bodyT _ (List.getD_mem (Nat.mod_lt v (by decide)))
  · exact h.otherT _ (List.getD_mem (Nat.mod_lt v (by decide)))

/-- the model's slide for given buckets (texts stripped) -/
def slideOfBuckets (p : Char → Bool) (b : Buckets) : Slide :=
  { title := (b.title.map (strip p)).getD [], body := b.body.map (strip p), other := b.other.map (strip p) }

theorem classify_bucket {T : OdpT} (h : OdpOk T) (ps : List Para) (b : Buckets) :
    classify T (ps.map (entryOf T.isWs)) b.title.isSome (slideOfBuckets T.isWs b)
      = slideOfBuckets T.isWs (bucket (ps.map (fun pa => (pa.role, visibleL pa.kids))) b) := by
  induction ps generalizing b with
  | nil => rfl
  | cons pa r ih =>
    obtain ⟨h1, h2⟩ := styleOf_class h pa.role pa.variant
    simp only [List.map_cons, entryOf, classify, bucket, h1, h2]
    by_cases ht : pa.role = .title ∧ b.title = none
    · have := ih { b with title := some (visibleL pa.kids) }
      simpa [slideOfBuckets, ht] using this
    -- `and_comm`: `classify` tests `found_title` first, `bucket` the role
    · by_cases hb : pa.role = .body
      · have := ih { b with body := b.body ++ [visibleL pa.kids] }
        simpa [slideOfBuckets, ht, hb, and_comm] using this
      · have := ih { b with other := b.other ++ [visibleL pa.kids] }
        simpa [slideOfBuckets, ht, hb, and_comm] using this

theorem slideText_tokens {T : OdpT} (h : OdpOk T) (b : Buckets) :
    tokens T.isWs (slideText T (slideOfBuckets T.isWs b)) = b.texts.flatMap (tokens T.isWs) := by
  unfold slideText
  rw [h.slideSep.tokens_join]
  simp only [slideOfBuckets, Buckets.texts, List.flatMap_append, flatMap_tokens_map_strip]
  congr 1
  obtain ⟨bt, bb, bo⟩ := b
  cases bt with
  | none => simp
  | some t =>
    by_cases ht : strip T.isWs t = []
    · have : tokens T.isWs t = [] := by rw [← tokens_strip, ht]; rfl
      simp [ht, this]
    · simp [ht, tokens_strip]

/-- one slide, exactly: the extracted title / body / other fields are the documented buckets of the non-blank
    paragraph texts (frames in reading order), each text stripped -/
theorem slideOf_rSlide {T : OdpT} (h : OdpOk T) (s : DSlide) (hs : s.frames.all frameOk = true) :
    slideOf T (rSlide s) = slideOfBuckets T.isWs (bucket (slideEntries T.isWs s) {}) := by
  -- frame by frame (`frameParas_rFrame`), then `map` and `filter` pulled out of the `flatMap` as `slideEntries` has them
  rw [slideOf, sortedFrames_rSlide h, List.flatMap_map,
    List.flatMap_congr fun f hf => frameParas_rFrame h s.unit f (List.all_eq_true.1 hs f ((mem_sortBy _ _ _).mp hf)),
    ← List.map_flatMap, ← List.filter_flatMap, slideEntries, List.filter_map]
  exact classify_bucket h _ {}

theorem unitText_rSlide {T : OdpT} (h : OdpOk T) (s : DSlide) (hs : s.frames.all frameOk = true) :
    tokens T.isWs (unitText T (slideOf T (rSlide s))) = (slideTexts T.isWs s).flatMap (tokens T.isWs) := by
  rw [unitText, join, slideOf_rSlide h s hs, slideText_tokens h, slideTexts]

theorem findall_pages {T : OdpT} (h : OdpOk T) (d : List DSlide) : findall T.pageTag (renderOdp d) = d.map rSlide :=
  h.pageTag ▸ filter_map_tag_true _ rSlide d (fun _ => tag_node ..)

theorem fullText_tokens {T : OdpT} (h : OdpOk T) (d : List DSlide) (hd : deckOk d = true) :
    tokens T.isWs (fullText T (renderOdp d)) = deckTokens T.isWs d := by
  unfold fullText deckTokens
  rw [tokens_strip, h.joinSep.tokens_join, findall_pages h, List.map_map, List.flatMap_map]
  unfold deckOk at hd
  rw [List.all_eq_true] at hd
  exact List.flatMap_congr (fun s hs => by simpa [Function.comp] using unitText_rSlide h s (hd s hs))

end S2T.C02.Sheets.Odp
