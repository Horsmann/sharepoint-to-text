import S2T.Lemmas.TablesRtfGroup
/-! A written document as gaps and tables: the text between the tables is silent for `\trowd` and `\row`. -/
namespace S2T.Tables.Rtf
open S2T.HtmlSkip (Str)
open S2T.Tables

/-- a document: leading paragraphs, then tables, each followed by paragraphs -/
def docOf (lead : List Str) (ts : List (RTable × List Str)) : List RBlk :=
  lead.map RBlk.para ++ ts.flatMap (fun tp => RBlk.table tp.1 :: tp.2.map RBlk.para)

def parasRtf (ps : List Str) : Str := ps.flatMap paraRtf
/-- the text between the last `\row` of a table and what follows the paragraphs behind it -/
def gapAfter (ps : List Str) : Str := '\n' :: parasRtf ps

def gtsOf (g : Str) : List (RTable × List Str) → List GT
  | [] => []
  | tp :: rest => (g, tp.1) :: gtsOf (gapAfter tp.2) rest

def tablesRtf (ts : List (RTable × List Str)) : Str := ts.flatMap (fun tp => tableRtf tp.1 ++ parasRtf tp.2)

theorem docRtf_docOf (lead : List Str) (ts : List (RTable × List Str)) :
    docRtf (docOf lead ts) = (header ++ parasRtf lead) ++ tablesRtf ts ++ ['}'] := by
  have h1 : ∀ ps : List Str, (ps.map RBlk.para).flatMap RBlk.rtf = parasRtf ps := fun ps => List.flatMap_map ..
  simp only [docRtf, docOf, tablesRtf, List.flatMap_append, List.flatMap_assoc, List.flatMap_cons, h1, RBlk.rtf,
    List.append_assoc]

theorem body_append (a b : List Seg) (tail : Str) :
    body (a ++ b) tail = a.flatMap (fun s => s.1 ++ rowRtf s.2) ++ body b tail := by
  simp [body, List.append_assoc]

theorem silentGap_para (P : Params) (s : Str) (hs : plainText s = true) : SilentGap P (paraRtf s) := by
  unfold paraRtf
  rw [plainText_eq] at hs
  exact (appends_silentGap P).append ((appends_silentGap P).append (silentGap_lit P (by decide))
    ⟨silent_esc P .trowd s hs, silent_esc P .row s hs⟩) (silentGap_lit P (by decide))

theorem silentGap_paras (P : Params) (ps : List Str) (h : ∀ p ∈ ps, plainText p = true) : SilentGap P (parasRtf ps) :=
  (appends_silentGap P).flatMap paraRtf ps fun p hp => silentGap_para P p (h p hp)

theorem silentGap_header (P : Params) : SilentGap P header := by
  -- the header as a character list (see Lemmas/Chars)
  unfold header
  rw [String.toList_ofList]
  exact silentGap_lit P (by decide)

theorem saveTable_rect (rows : Grid) (c : Nat) (h : ∀ r ∈ rows, r.length = c) : saveTable rows = rows := by
  unfold saveTable
  simp only
  have hw := List.foldl_max_le List.length rows c 0 (fun r hr => Nat.le_of_eq (h r hr)) (Nat.zero_le _)
  conv => rhs; rw [← List.map_id rows]
  apply List.map_congr_left
  intro r hr
  have := h r hr
  have : rows.foldl (fun m r => max m r.length) 0 - r.length = 0 := by omega
  simp [this]

end S2T.Tables.Rtf
