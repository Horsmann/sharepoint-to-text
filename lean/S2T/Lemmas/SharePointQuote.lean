import S2T.Model.SharePointRaw
import S2T.Lemmas.ListBasics
/-! Strings of a by-path request (core Lean only).  The server's percent-decoding gives back the UTF-8 bytes of what the
client quoted, and UTF-8 is a prefix-free code: so `quote` is injective. -/
namespace S2T.SP

/-- path components a start folder may be made of: non-empty, no `/` -/
def ValidComps (cs : List Str) : Prop := ∀ c ∈ cs, c ≠ [] ∧ '/' ∉ c

theorem ValidComps.tail {c : Str} {cs : List Str} (h : ValidComps (c :: cs)) : ValidComps cs :=
  fun x hx => h x (List.mem_cons_of_mem _ hx)

theorem validComps_of_all (cs : List Str) (h : cs.all (fun c => !c.isEmpty && !c.contains '/') = true) : ValidComps cs := by
  intro c hc
  have := List.all_eq_true.mp h c hc
  simp only [Bool.and_eq_true, Bool.not_eq_true', List.isEmpty_eq_false_iff, List.contains_eq_mem, decide_eq_false_iff_not] at this
  exact ⟨this.1, this.2⟩

theorem char_toNat_lt (c : Char) : c.toNat < 0x110000 := by
  have h := c.valid
  simp only [UInt32.isValidChar, Nat.isValidChar] at h
  show c.val.toNat < 0x110000
  omega

theorem utf8_cases (n : Nat) :
    (n < 0x80 ∧ utf8 n = [n]) ∨
    (0x80 ≤ n ∧ n < 0x800 ∧ utf8 n = [0xC0 + n / 64, 0x80 + n % 64]) ∨
    (0x800 ≤ n ∧ n < 0x10000 ∧ utf8 n = [0xE0 + n / 4096, 0x80 + n / 64 % 64, 0x80 + n % 64]) ∨
    (0x10000 ≤ n ∧ utf8 n = [0xF0 + n / 262144, 0x80 + n / 4096 % 64, 0x80 + n / 64 % 64, 0x80 + n % 64]) := by
  by_cases h1 : n < 0x80
  · exact Or.inl ⟨h1, by simp [utf8, h1]⟩
  · by_cases h2 : n < 0x800
    · exact Or.inr (Or.inl ⟨by omega, h2, by simp [utf8, h1, h2]⟩)
    · by_cases h3 : n < 0x10000
      · exact Or.inr (Or.inr (Or.inl ⟨by omega, h3, by simp [utf8, h1, h2, h3]⟩))
      · exact Or.inr (Or.inr (Or.inr ⟨by omega, by simp [utf8, h1, h2, h3]⟩))

theorem utf8_ne_nil (n : Nat) : utf8 n ≠ [] := by
  rcases utf8_cases n with ⟨_, e⟩ | ⟨_, _, e⟩ | ⟨_, _, e⟩ | ⟨_, e⟩ <;> rw [e] <;> exact List.cons_ne_nil _ _

theorem utf8_lt (n : Nat) (hn : n < 0x110000) : ∀ b ∈ utf8 n, b < 256 := by
  rcases utf8_cases n with ⟨_, e⟩ | ⟨_, _, e⟩ | ⟨_, _, e⟩ | ⟨_, e⟩ <;> rw [e] <;>
  simp only [List.mem_cons, List.not_mem_nil, or_false, forall_eq_or_imp, forall_eq] <;> omega

/-- one code point off the head of a UTF-8 byte stream: the lead byte tells how many bytes belong to it -/
def utf8Dec : List Nat → Option (Nat × List Nat)
  | b0 :: r =>
    if b0 < 0x80 then some (b0, r)
    else if b0 < 0xE0 then
      match r with
      | b1 :: r => some ((b0 - 0xC0) * 64 + (b1 - 0x80), r)
      | _ => none
    else if b0 < 0xF0 then
      match r with
      | b1 :: b2 :: r => some ((b0 - 0xE0) * 4096 + (b1 - 0x80) * 64 + (b2 - 0x80), r)
      | _ => none
    else
      match r with
      | b1 :: b2 :: b3 :: r => some ((b0 - 0xF0) * 262144 + (b1 - 0x80) * 4096 + (b2 - 0x80) * 64 + (b3 - 0x80), r)
      | _ => none
  | [] => none

theorem utf8Dec_utf8 (n : Nat) (rest : List Nat) : utf8Dec (utf8 n ++ rest) = some (n, rest) := by
  rcases utf8_cases n with ⟨h, e⟩ | ⟨h, h', e⟩ | ⟨h, h', e⟩ | ⟨h, e⟩ <;> rw [e]
  · simp only [utf8Dec, List.cons_append, List.nil_append, h, if_true]
  · have h1 : ¬ 0xC0 + n / 64 < 0x80 := by omega
    have h2 : 0xC0 + n / 64 < 0xE0 := by omega
    simp only [utf8Dec, List.cons_append, List.nil_append, h1, h2, if_true, if_false, Option.some.injEq,
      Prod.mk.injEq, and_true, Nat.add_sub_cancel_left]
    omega
  · have h1 : ¬ 0xE0 + n / 4096 < 0x80 := by omega
    have h2 : ¬ 0xE0 + n / 4096 < 0xE0 := by omega
    have h3 : 0xE0 + n / 4096 < 0xF0 := by omega
    simp only [utf8Dec, List.cons_append, List.nil_append, h1, h2, h3, if_true, if_false, Option.some.injEq,
      Prod.mk.injEq, and_true, Nat.add_sub_cancel_left]
    omega
  · have h1 : ¬ 0xF0 + n / 262144 < 0x80 := by omega
    have h2 : ¬ 0xF0 + n / 262144 < 0xE0 := by omega
    have h3 : ¬ 0xF0 + n / 262144 < 0xF0 := by omega
    simp only [utf8Dec, List.cons_append, List.nil_append, h1, h2, h3, if_false, Option.some.injEq,
      Prod.mk.injEq, and_true, Nat.add_sub_cancel_left]
    omega

theorem utf8_prefix_inj {n m : Nat} (h : utf8 n <+: utf8 m) : n = m := by
  obtain ⟨t, ht⟩ := h
  have := utf8Dec_utf8 m []
  rw [← ht, List.append_assoc, utf8Dec_utf8] at this
  exact (Prod.mk.inj (Option.some.inj this)).1

theorem utf8Str_injective (a b : Str) (h : utf8Str a = utf8Str b) : a = b :=
  List.flatMap_injective_of_prefixFree (enc := fun ch : Char => utf8 ch.toNat) (fun ch => utf8_ne_nil ch.toNat)
    (fun _ _ p => Char.toNat_inj.mp (utf8_prefix_inj p)) a b h

theorem quote_append (a b : Str) : quote (a ++ b) = quote a ++ quote b := by
  simp [quote, List.flatMap_append]

theorem quote_cons (ch : Char) (r : Str) : quote (ch :: r) = quoteChar ch ++ quote r := by
  simp [quote, List.flatMap_cons]

theorem quoteChar_slash : quoteChar '/' = ['/'] := by decide

theorem hexDigit_ne_slash : ∀ d, d < 16 → hexDigit d ≠ '/' := by decide

theorem pct_no_slash (bs : List Nat) (hb : ∀ b ∈ bs, b < 256) : '/' ∉ bs.flatMap pctByte := by
  intro h
  obtain ⟨b, hbm, hin⟩ := List.mem_flatMap.mp h
  have := hb b hbm
  simp only [pctByte, List.mem_cons, List.not_mem_nil, or_false] at hin
  rcases hin with h | h | h
  · exact absurd h (by decide)
  · exact hexDigit_ne_slash (b / 16) (by omega) h.symm
  · exact hexDigit_ne_slash (b % 16) (by omega) h.symm

theorem quoteChar_no_slash (ch : Char) (h : ch ≠ '/') : '/' ∉ quoteChar ch := by
  unfold quoteChar
  split
  · simp; exact fun e => h e.symm
  · exact pct_no_slash _ (utf8_lt _ (char_toNat_lt ch))

theorem quote_no_slash (c : Str) (h : '/' ∉ c) : '/' ∉ quote c := by
  intro hq
  obtain ⟨ch, hch, hin⟩ := List.mem_flatMap.mp hq
  exact quoteChar_no_slash ch (fun e => h (e ▸ hch)) hin

theorem hexVal_hexDigit : ∀ d, d < 16 → hexVal (hexDigit d) = some d := by decide

theorem pctDecode_nil : pctDecode [] = [] := by unfold pctDecode; rfl

theorem pctDecode_plain (ch : Char) (r : Str) (h : ch ≠ '%') : pctDecode (ch :: r) = ch.toNat :: pctDecode r := by
  rw [pctDecode]; simp [h]

theorem pctDecode_escape (r r' : Str) (v : Nat) (h : pctHead r = some (v, r')) :
    pctDecode ('%' :: r) = v :: pctDecode r' := by
  rw [pctDecode]
  simp only [if_true]
  split
  · rename_i v' r'' h'
    rw [h] at h'
    simp only [Option.some.injEq, Prod.mk.injEq] at h'
    rw [h'.1, h'.2]
  · rename_i h'
    rw [h] at h'; cases h'

theorem pctDecode_literal (r : Str) (h : pctHead r = none) : pctDecode ('%' :: r) = 37 :: pctDecode r := by
  rw [pctDecode]
  simp only [if_true]
  split
  · rename_i v' r'' h'
    rw [h] at h'; cases h'
  · rfl

theorem pctHead_pctByte (b : Nat) (hb : b < 256) (rest : Str) :
    pctHead (hexDigit (b / 16) :: hexDigit (b % 16) :: rest) = some (b, rest) := by
  simp only [pctHead, hexVal_hexDigit _ (show b / 16 < 16 by omega), hexVal_hexDigit _ (show b % 16 < 16 by omega),
    Option.some.injEq, Prod.mk.injEq, and_true]
  omega

theorem pctDecode_pct (bs : List Nat) (hb : ∀ b ∈ bs, b < 256) (rest : Str) :
    pctDecode (bs.flatMap pctByte ++ rest) = bs ++ pctDecode rest := by
  induction bs with
  | nil => rfl
  | cons b r ih =>
    have hlt := hb b (by simp)
    simp only [List.flatMap_cons, pctByte, List.cons_append, List.nil_append]
    rw [pctDecode_escape _ _ _ (pctHead_pctByte b hlt _), ih (fun c hc => hb c (List.mem_cons_of_mem _ hc))]

theorem quoteSafe_ascii (ch : Char) (h : quoteSafe ch = true) : ch.toNat < 128 := by
  by_cases hlt : ch.toNat < 128
  · exact hlt
  · exfalso
    -- alphanumerics lie between `'0'` and `'z'`, the five marks are literals: all below 128
    have hv : 128 ≤ ch.val.toNat := by have : ch.toNat = ch.val.toNat := rfl; omega
    simp only [quoteSafe, Char.isAlphanum, Char.isAlpha, Char.isUpper, Char.isLower, Char.isDigit,
      Bool.or_eq_true, Bool.and_eq_true, decide_eq_true_eq, beq_iff_eq, UInt32.le_iff_toNat_le] at h
    rcases h with ((((h | h) | h) | h) | h) | h
    · rcases h with (h | h) | h <;> (have := h.2; simp at this; omega)
    · subst h; revert hv; decide
    · subst h; revert hv; decide
    · subst h; revert hv; decide
    · subst h; revert hv; decide
    · subst h; revert hv; decide

theorem quoteSafe_ne_pct (ch : Char) (h : quoteSafe ch = true) : ch ≠ '%' := by
  intro e; subst e; revert h; decide

theorem utf8_ascii (n : Nat) (h : n < 128) : utf8 n = [n] := if_pos h

theorem pctDecode_quoteChar (ch : Char) (rest : Str) :
    pctDecode (quoteChar ch ++ rest) = utf8 ch.toNat ++ pctDecode rest := by
  unfold quoteChar
  split
  · rename_i hs
    rw [utf8_ascii _ (quoteSafe_ascii ch hs)]
    exact pctDecode_plain ch rest (quoteSafe_ne_pct ch hs)
  · exact pctDecode_pct _ (utf8_lt _ (char_toNat_lt ch)) rest

/-- the server's decoding of the client's request path gives back the bytes of the name -/
theorem pctDecode_quote (s : Str) : pctDecode (quote s) = utf8Str s := by
  induction s with
  | nil => simp [quote, utf8Str, pctDecode_nil]
  | cons ch r ih =>
    rw [quote_cons, pctDecode_quoteChar, ih]
    simp [utf8Str]

/-- `urllib.parse.quote(·, safe="/")` is injective -/
theorem quote_injective : ∀ (s1 s2 : Str), quote s1 = quote s2 → s1 = s2 := by
  -- both sides decode to the UTF-8 bytes of the string
  intro s1 s2 h
  apply utf8Str_injective
  rw [← pctDecode_quote, h, pctDecode_quote]

theorem beq_of_injective {α β} [BEq α] [LawfulBEq α] [BEq β] [LawfulBEq β] {f : α → β} (hf : ∀ a b, f a = f b → a = b)
    (a b : α) : (f a == f b) = (a == b) := by
  by_cases h : a = b
  · subst h; simp
  · rw [beq_eq_false_iff_ne.mpr (fun e => h (hf _ _ e)), beq_eq_false_iff_ne.mpr h]

theorem quote_beq (nm c : Str) : (quote nm == quote c) = (nm == c) := beq_of_injective quote_injective nm c

theorem quote_ne_nil (c : Str) (h : c ≠ []) : quote c ≠ [] := fun e => h (quote_injective c [] e)

theorem validComps_map_quote {cs : List Str} (h : ValidComps cs) : ValidComps (cs.map quote) := by
  intro q hq
  obtain ⟨c, hc, rfl⟩ := List.mem_map.mp hq
  exact ⟨quote_ne_nil c (h c hc).1, quote_no_slash c (h c hc).2⟩

theorem joinPath_cons_cons (c d : Str) (r : List Str) : joinPath (c :: d :: r) = c ++ '/' :: joinPath (d :: r) := rfl

theorem quote_joinPath (cs : List Str) : quote (joinPath cs) = joinPath (cs.map quote) := by
  induction cs with
  | nil => rfl
  | cons c r ih =>
    cases r with
    | nil => rfl
    | cons d r' =>
      rw [joinPath_cons_cons, quote_append, quote_cons, quoteChar_slash, ih]
      rfl

theorem splitRaw_eq (s : Str) : (splitRaw s).1 :: (splitRaw s).2 = s.splitOn '/' := by
  induction s with
  | nil => rfl
  | cons c r ih =>
    rw [List.splitOn_cons_eq_if_modifyHead, ← ih]
    by_cases hc : c = '/' <;> simp [splitRaw, hc]

theorem joinPath_eq (cs : List Str) : joinPath cs = ['/'].intercalate cs := by
  induction cs with
  | nil => rfl
  | cons c r ih =>
    cases r with
    | nil => exact List.intercalate_singleton.symm
    | cons d r' => rw [joinPath_cons_cons, ih, List.intercalate_cons_cons]; simp

theorem splitSlash_joinPath (ds : List Str) (hv : ValidComps ds) : splitSlash (joinPath ds) = ds := by
  cases ds with
  | nil => rfl
  | cons d r =>
    rw [splitSlash, splitRaw_eq, joinPath_eq, List.splitOn_intercalate _ (fun l hl => (hv l hl).2) (by simp),
      List.filter_eq_self]
    exact fun c hc => by simpa using (hv c hc).1

theorem joinPath_ne_nil (cs : List Str) (hne : cs ≠ []) (hv : ValidComps cs) : joinPath cs ≠ [] := by
  cases cs with
  | nil => exact absurd rfl hne
  | cons c r =>
    have hc := (hv c (by simp)).1
    cases r with
    | nil => exact hc
    | cons d r' => rw [joinPath_cons_cons]; simp

theorem joinPath_head (cs : List Str) (hv : ValidComps cs) : (joinPath cs).head? ≠ some '/' := by
  cases cs with
  | nil => simp [joinPath]
  | cons c r =>
    have hc := hv c (by simp)
    cases c with
    | nil => exact absurd rfl hc.1
    | cons x y =>
      have hx : x ≠ '/' := fun e => hc.2 (by simp [e])
      unfold joinPath
      split <;> simp [hx]

theorem joinPath_last (cs : List Str) (hv : ValidComps cs) : (joinPath cs).getLast? ≠ some '/' := by
  induction cs with
  | nil => simp [joinPath]
  | cons c r ih =>
    cases r with
    | nil => exact fun h => (hv c (by simp)).2 (List.mem_of_getLast? h)
    | cons d r' =>
      rw [joinPath_cons_cons, List.getLast?_append_cons _ _ _ (joinPath_ne_nil _ (by simp) hv.tail)]
      exact ih hv.tail

theorem stripSlash_decorate (a b : Nat) (core : Str) (h1 : core.head? ≠ some '/') (h2 : core.getLast? ≠ some '/') :
    stripSlash (List.replicate a '/' ++ core ++ List.replicate b '/') = core := by
  have hne : ∀ {o : Option Char}, o ≠ some '/' → ∀ c, o = some c → (c == '/') = false :=
    fun h c hc => beq_eq_false_iff_ne.2 fun e => h (e ▸ hc)
  exact List.strip_append (by simp) (by simp) (hne h1) (hne h2)

end S2T.SP
