import S2T.Model.WrapperBeh
import S2T.Lemmas.Wrapper
/-! Soundness of the write/outcome behaviour analysis `behav`. -/
namespace S2T.Wrapper

theorem sat_add (a b : Nat) : sat (a + b) = addc (sat a) (sat b) := by
  -- both sides are 2 as soon as `a + b ≥ 2`: `grind` splits the `if`s of `sat` (on `a`, `b` and the two sums) and does the rest
  simp only [addc, sat]; grind

theorem sat_eq_zero {n : Nat} : sat n = 0 ↔ n = 0 :=
  ⟨fun h => by unfold sat at h; split at h <;> omega, by rintro rfl; rfl⟩
theorem sat_eq_one {n : Nat} : sat n = 1 ↔ n = 1 :=
  ⟨fun h => by unfold sat at h; split at h <;> omega, by rintro rfl; rfl⟩
theorem one_le_sat {n : Nat} : 1 ≤ sat n ↔ 1 ≤ n := by
  rw [Nat.one_le_iff_ne_zero, Nat.one_le_iff_ne_zero, Ne, sat_eq_zero]

theorem kindOf_eq_normal {o : Out} : kindOf o = .normal ↔ o = .normal := by
  cases o with
  | raised e => cases e <;> simp [kindOf]
  | _ => simp [kindOf]

theorem kindOf_eq_ret {o : Out} {g : String} : kindOf o = .ret g ↔ o = .ret g := by
  cases o with
  | raised e => cases e <;> simp [kindOf]
  | _ => simp [kindOf]

theorem countCh_append (c : Ch) (t t' : List Ch) : countCh c (t ++ t') = countCh c t + countCh c t' := by
  simp [countCh, List.filter_append]

theorem combine_behOf (t th : List Ch) (o0 o : Out) :
    combine (behOf t o0) (behOf th o) = behOf (t ++ th) o := by
  simp only [behOf, combine, countCh_append, sat_add]

theorem behOf_append (t t' : List Ch) (o : Out) : behOf (t ++ t') o = combine (behOf t .normal) (behOf t' o) :=
  (combine_behOf t t' .normal o).symm

theorem behOf_fin (t t' : List Ch) (o o' : Out) :
    behOf (t ++ t') (if o' = .normal then o else o') = withFin (behOf t o) (behOf t' o') := by
  simp only [behOf, withFin, countCh_append, sat_add]
  by_cases h : o' = .normal
  · simp [h, kindOf]
  · have : ¬ kindOf o' = .normal := fun hk => h (kindOf_eq_normal.mp hk)
    simp [h, this]

def CurK (cur : Option Exn) (ck : List K) : Prop :=
  match cur with
  | none => ck = []
  | some e => kindOf (.raised e) ∈ ck

theorem catchAll_eq (pats : List String) : catchAll pats = pats.any isCatchAll := rfl

theorem canPass_of_uncaught {H : Hier} {isFam : String → Bool} {root : String} (ok : HierOk H isFam root)
    (hs : List (List String × Stmt)) (e : Exn) (hwf : WfExn H isFam root e)
    (hun : ∀ h ∈ hs, catchesAny H isFam h.1 e = false) : canPass root hs (kindOf (.raised e)) = true := by
  obtain ⟨hall, hroot⟩ := passes_spec ok hwf hun
  have h1 : hs.any (fun h => catchAll h.1) = false :=
    List.any_eq_false.2 fun h hh => Bool.eq_false_iff.1 (catchAll_eq h.1 ▸ hall h hh)
  rw [canPass, h1]
  cases e with
  | other n => rfl
  | fam c => rw [(List.any_eq_false.2 fun h hh => Bool.eq_false_iff.1 (hroot rfl h hh) : hs.any (fun h => h.1.contains root) = false)]; rfl

theorem mayCatch_of_catches {H : Hier} {isFam : String → Bool} (pats : List String) (e : Exn)
    (hc : catchesAny H isFam pats e = true) : mayCatch isFam pats (kindOf (.raised e)) = true := by
  obtain hall | ⟨p, hp, hside⟩ := caught_spec hc
  · exact Bool.or_eq_true_iff.2 (Or.inl (catchAll_eq pats ▸ hall))
  · cases e <;> simp only [mayCatch, kindOf, Bool.or_eq_true] <;> right <;>
      exact List.any_eq_true.mpr ⟨p, hp, by simp [hside, Exn.isFam]⟩

/-- `behavHandlers` is a function of its own only because of the mutual recursion -/
theorem behavHandlers_eq (root : String) (isFam : String → Bool) (x : Beh) (hs : List (List String × Stmt)) :
    behavHandlers root isFam x hs =
      hs.flatMap fun h => if mayCatch isFam h.1 x.k then (behav root isFam [x.k] h.2).map (combine x) else [] := by
  induction hs with
  | nil => rfl
  | cons h r ih => rw [List.flatMap_cons, ← ih]; rfl

theorem behavHandlers_mem {root : String} {isFam : String → Bool} {x y : Beh} {hs : List (List String × Stmt)}
    {h : List String × Stmt} (hh : h ∈ hs) (hm : mayCatch isFam h.1 x.k = true) (hy : y ∈ behav root isFam [x.k] h.2) :
    combine x y ∈ behavHandlers root isFam x hs :=
  behavHandlers_eq .. ▸ List.mem_flatMap.2 ⟨h, hh, by rw [if_pos hm]; exact List.mem_map_of_mem hy⟩

theorem isExit_kindOf (o : Out) (h : (∃ g, o = .ret g) ∨ ∃ e, o = .raised e) : isExit (kindOf o) = true := by
  rcases h with ⟨g, rfl⟩ | ⟨e, rfl⟩
  · rfl
  · cases e <;> rfl

theorem mem_loopTop (bs : List Beh) (a b : Nat) (k : K) (hk : k = .normal ∨ (k ∈ bs.map (·.k) ∧ isExit k = true)) :
    (⟨sat a, sat b, k⟩ : Beh) ∈ loopTop bs := by
  unfold loopTop
  apply List.mem_flatMap.mpr
  refine ⟨k, ?_, ?_⟩
  · rcases hk with h | ⟨h1, h2⟩
    · simp [h]
    · exact List.mem_cons_of_mem _ (List.mem_filter.mpr ⟨h1, h2⟩)
  · apply List.mem_flatMap.mpr
    have hsat : ∀ n, sat n ∈ [0, 1, 2] := by
      intro n; unfold sat; split
      · simp
      · have : n = 0 ∨ n = 1 := by omega
        rcases this with h | h <;> simp [h]
    exact ⟨sat a, hsat a, List.mem_map.mpr ⟨sat b, hsat b, rfl⟩⟩

theorem behOf_silent {bs : List Beh} (hall : bs.all (fun x => x.o = 0 && x.e = 0) = true) {t : List Ch} {o : Out}
    (hb : behOf t o ∈ bs) : sat (countCh .out t) = 0 ∧ sat (countCh .err t) = 0 := by
  have := List.all_eq_true.mp hall _ hb
  simp only [behOf, Bool.and_eq_true] at this
  exact ⟨of_decide_eq_true this.1, of_decide_eq_true this.2⟩

/-! A behaviour of `try body … finally fin` is `withFin r f` of a behaviour `r` of the middle (body and handlers) and a
behaviour `f` of `fin`.  What a behaviour `x` of the body gives in the middle: `x` itself, unless it is an exception that cannot
pass the handlers; and, for an exception, what the handlers that may catch it make of it. -/
section
variable {root : String} {isFam : String → Bool} {ck : List K} {body fin : Stmt} {hs : List (List String × Stmt)} {x f : Beh}

theorem mem_behav_try_pass (hx : x ∈ behav root isFam ck body) (hp : isRaise x.k = true → canPass root hs x.k = true)
    (hf : f ∈ behav root isFam ck fin) : withFin x f ∈ behav root isFam ck (.try_ body hs fin) := by
  refine List.mem_flatMap.mpr ⟨x, List.mem_flatMap.mpr ⟨x, hx, ?_⟩, List.mem_map_of_mem hf⟩
  cases hr : isRaise x.k
  · simp
  · simp [hp hr]

theorem mem_behav_try_caught {r : Beh} (hx : x ∈ behav root isFam ck body) (hr : isRaise x.k = true)
    (hy : r ∈ behavHandlers root isFam x hs) (hf : f ∈ behav root isFam ck fin) :
    withFin r f ∈ behav root isFam ck (.try_ body hs fin) := by
  refine List.mem_flatMap.mpr ⟨r, List.mem_flatMap.mpr ⟨x, hx, ?_⟩, List.mem_map_of_mem hf⟩
  simp only [hr, ↓reduceIte]
  exact List.mem_append_right _ hy

end

/-- **Soundness.** The abstraction `behOf t o` of every run is among the behaviours `behav` lists.  As in `escapes_sound`
    the exception a handler runs under is the one the body raised; that it exists (`exec_wf`) is what lets the family root
    count as catching it. -/
theorem behav_sound {H : Hier} {isFam : String → Bool} {root : String} (ok : HierOk H isFam root)
    {cur : Option Exn} {s : Stmt} {t : List Ch} {o : Out} (hex : Exec H isFam root cur s t o) :
    ∀ (ck : List K), CurK cur ck → (∀ e0, cur = some e0 → WfExn H isFam root e0) →
      behOf t o ∈ behav root isFam ck s := by
  induction hex with
  | atomOk | ret | brk | cont | yield_ => intro ck _ _; exact List.mem_cons_self
  | @atomRaise cur tag e hwf => intro ck _ _; cases e <;> exact List.mem_of_elem_eq_true rfl
  | @writeOk cur ch total => intro ck _ _; cases ch <;> exact List.mem_cons_self
  | @writeRaise cur ch e tr hwf htr => intro ck _ _; rcases htr with rfl | rfl <;> cases ch <;> cases e <;> exact List.mem_of_elem_eq_true rfl
  | raiseFam hf | raiseOther hf => intro ck _ _; simp only [behav, hf]; exact List.mem_cons_self
  | @reraise e =>
    intro ck hc _
    cases ck with
    | nil => cases hc
    | cons _ _ => exact List.mem_map.mpr ⟨_, hc, rfl⟩
  | reraiseNone => intro ck hc _; cases hc; exact List.mem_cons_self
  | @seqStop cur a b t o _ hne ih =>
    intro ck hc hw
    refine List.mem_flatMap.mpr ⟨_, ih ck hc hw, ?_⟩
    have : ¬ (behOf t o).k = K.normal := fun hk => hne (kindOf_eq_normal.mp hk)
    simp only [this, ↓reduceIte, List.mem_singleton]
  | @seqGo cur a b t t' o _ _ ih1 ih2 =>
    intro ck hc hw
    refine List.mem_flatMap.mpr ⟨_, ih1 ck hc hw, ?_⟩
    have : (behOf t Out.normal).k = K.normal := rfl
    simp only [this, ↓reduceIte]
    exact List.mem_map.mpr ⟨_, ih2 ck hc hw, combine_behOf _ _ _ _⟩
  | iteL _ ih => intro ck hc hw; exact List.mem_append_left _ (ih ck hc hw)
  | iteR _ ih => intro ck hc hw; exact List.mem_append_right _ (ih ck hc hw)
  | loopDone =>
    intro ck _ _
    simp only [behav]
    split
    · simp [behOf, countCh, sat, kindOf]
    · exact mem_loopTop _ 0 0 _ (Or.inl rfl)
  | @loopBrk cur b t _ ih =>
    intro ck hc hw
    simp only [behav]
    split
    · rename_i hall
      have h0 := behOf_silent hall (ih ck hc hw)
      rw [behOf, h0.1, h0.2]
      exact List.mem_cons_self
    · exact mem_loopTop _ _ _ _ (Or.inl rfl)
  | @loopStep cur b t t' o o' _ hno _ ih1 ih2 =>
    intro ck hc hw
    have hl := ih2 ck hc hw
    simp only [behav] at hl ⊢
    split
    · rename_i hall
      have h0 := behOf_silent hall (ih1 ck hc hw)
      simp only [hall, ↓reduceIte] at hl
      rw [behOf, countCh_append, countCh_append, sat_eq_zero.mp h0.1, sat_eq_zero.mp h0.2, Nat.zero_add, Nat.zero_add]
      exact hl
    · rename_i hall
      simp only [hall, Bool.false_eq_true, ↓reduceIte] at hl
      -- the kind of the remaining iterations is one `loopTop` allows; the counts are arbitrary there
      obtain ⟨k, hk, hrest⟩ := List.mem_flatMap.mp hl
      obtain ⟨o1, _, hrest2⟩ := List.mem_flatMap.mp hrest
      obtain ⟨e1, _, heq⟩ := List.mem_map.mp hrest2
      cases heq
      apply mem_loopTop
      rcases List.mem_cons.mp hk with h | h
      · exact Or.inl h
      · exact Or.inr (List.mem_filter.mp h)
  | loopExit _ hex ih =>
    intro ck hc hw
    have hb := ih ck hc hw
    simp only [behav]
    split
    · exact List.mem_cons_of_mem _ (List.mem_filter.mpr ⟨hb, isExit_kindOf _ hex⟩)
    · exact mem_loopTop _ _ _ _ (Or.inr ⟨List.mem_map.mpr ⟨_, hb, rfl⟩, isExit_kindOf _ hex⟩)
  | @tryNoExc cur body hs fin t t' o o' _ hne _ ihb ihf =>
    intro ck hc hw
    refine behOf_fin _ _ _ _ ▸ mem_behav_try_pass (ihb ck hc hw) (fun h => ?_) (ihf ck hc hw)
    cases o with
    | raised e => exact absurd rfl (hne e)
    | _ => cases h
  | @tryUncaught cur body hs fin e t t' o' hexb hun _ ihb ihf =>
    intro ck hc hw
    exact behOf_fin _ _ _ _ ▸ mem_behav_try_pass (ihb ck hc hw)
      (fun _ => canPass_of_uncaught ok hs e (exec_wf ok hexb hw e rfl) hun) (ihf ck hc hw)
  | @tryCaught cur body fin e o o' t th t' pre h post hexb hpre hcatch _ _ ihb ihh ihf =>
    intro ck hc hw
    have hy := ihh [kindOf (.raised e)] (by simp [CurK])
      (fun _ he1 => Option.some.inj he1 ▸ exec_wf ok hexb hw e rfl)
    exact behOf_fin _ _ _ _ ▸ mem_behav_try_caught (ihb ck hc hw) (by cases e <;> rfl)
      (combine_behOf t th _ o ▸ behavHandlers_mem (List.mem_append_right _ List.mem_cons_self)
        (mayCatch_of_catches h.1 e hcatch) hy) (ihf ck hc hw)

end S2T.Wrapper
