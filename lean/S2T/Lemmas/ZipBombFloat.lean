import S2T.Lemmas.ZipBomb
/-!
Float side of the ZIP-bomb guard (C11).  The *unpatched* source computes
`ratio = size / compressed` (a double, correctly rounded by CPython) and tests `ratio > limit`.
Lean's `Float` is opaque, so the rounding is a **hypothesis**: an arbitrary function
`rnd : Rat → Rat` that is monotone and leaves two doubles fixed — the limit `L` and its
successor `L⁺`.  Under a decidable arithmetic condition on the limits (`FloatOk`) the float test
and the exact test agree on every input; without it they do not (`float_rounding_counterexample`).
-/
namespace S2T.ZipBomb

def Ratio.toRat (L : Ratio) : Rat := (L.num : Rat) / (L.den : Rat)

/-- what is assumed of `int / int`: monotone, and exact on the two doubles `L < L⁺` -/
structure Rounding (rnd : Rat → Rat) (L Lp : Rat) : Prop where
  mono : ∀ x y, x ≤ y → rnd x ≤ rnd y
  fixL : rnd L = L
  fixLp : rnd Lp = Lp

theorem float_gt_iff {rnd : Rat → Rat} {L Lp x : Rat} (h : Rounding rnd L Lp) (hlt : L < Lp)
    (gap : L < x → Lp ≤ x) : L < rnd x ↔ L < x := by
  constructor
  · intro hr
    apply Rat.not_le.mp
    intro hle
    have := h.mono x L hle
    rw [h.fixL] at this
    exact absurd hr (Rat.not_lt.mpr this)
  · intro hx
    have := h.mono Lp x (gap hx)
    rw [h.fixLp] at this
    grind

theorem div_lt_div_iff_mul_lt (a b c d : Nat) (hb : 0 < b) (hd : 0 < d) :
    (c : Rat) / (d : Rat) < (a : Rat) / (b : Rat) ↔ c * b < a * d := by
  have hb' : (0 : Rat) < (b : Rat) := by exact_mod_cast hb
  have hd' : (0 : Rat) < (d : Rat) := by exact_mod_cast hd
  have e : (c : Rat) / (d : Rat) * (b : Rat) = ((c : Rat) * (b : Rat)) / (d : Rat) := by
    rw [Rat.div_def, Rat.div_def, Rat.mul_assoc, Rat.mul_comm (d : Rat)⁻¹, ← Rat.mul_assoc]
  rw [Rat.lt_div_iff hb', e, Rat.div_lt_iff hd']
  norm_cast

theorem div_le_div_iff_mul_le (a b c d : Nat) (hb : 0 < b) (hd : 0 < d) :
    (c : Rat) / (d : Rat) ≤ (a : Rat) / (b : Rat) ↔ c * b ≤ a * d := by
  rw [← Rat.not_lt, div_lt_div_iff_mul_lt c d a b hd hb]
  omega

theorem ratioExceeds_iff_rat (a b : Nat) (L : Ratio) (hb : 0 < b) (hd : 0 < L.den) :
    ratioExceeds a b L = true ↔ L.toRat < (a : Rat) / (b : Rat) := by
  unfold ratioExceeds Ratio.toRat
  rw [div_lt_div_iff_mul_lt a b L.num L.den hb hd]
  simp

/-- no quotient `a / b` with `a ≤ S` lies strictly between `p / q` and `p' / q'`, when the gap is small against `S` -/
theorem gap_nat (a b p q p' q' S : Nat) (hp : 0 < p) (hq : 0 < q) (ha : a ≤ S)
    (hS : S * q * (p' * q - p * q') ≤ p * q') (h : p * b < a * q) : p' * b ≤ a * q' := by
  -- `b · (p'q − pq') ≤ q'`, since `p·b < a·q ≤ S·q`
  have hg : b * (p' * q - p * q') ≤ q' := by
    refine Nat.le_of_mul_le_mul_left (Nat.le_trans ?_ hS) hp
    rw [← Nat.mul_assoc]
    exact Nat.mul_le_mul_right _ (Nat.le_trans (Nat.le_of_lt h) (Nat.mul_le_mul_right q ha))
  -- times `q`: `p'·b·q = b·(p'q) ≤ b·(pq') + b·(p'q − pq') ≤ p·b·q' + q' = (p·b + 1)·q' ≤ a·q·q'`
  refine Nat.le_of_mul_le_mul_right (c := q) ?_ hq
  have h3 : (p * b + 1) * q' ≤ (a * q) * q' := Nat.mul_le_mul_right q' h
  have h2 : b * (p' * q) ≤ b * (p * q' + (p' * q - p * q')) := Nat.mul_le_mul_left b (by omega)
  grind

/-- decidable condition on a ratio limit `L`, its successor double `Lp` and the size bound `S`
    enforced before the ratio test (`max_single…` resp. `max_total…`):
    `S · den(L) · (Lp − L as numerator) ≤ num(L) · den(Lp)`. -/
def FloatOk (S : Nat) (L Lp : Ratio) : Bool :=
  decide (0 < L.num) && decide (0 < L.den) && decide (0 < Lp.den)
    && decide (L.num * Lp.den < Lp.num * L.den)
    && decide (S * L.den * (Lp.num * L.den - L.num * Lp.den) ≤ L.num * Lp.den)

/-- the float test as the unpatched source performs it -/
def ratioExceedsF (rnd : Rat → Rat) (a b : Nat) (L : Ratio) : Bool :=
  decide (L.toRat < rnd ((a : Rat) / (b : Rat)))

theorem float_cmp_exact (rnd : Rat → Rat) (S : Nat) (L Lp : Ratio) (hok : FloatOk S L Lp = true)
    (hr : Rounding rnd L.toRat Lp.toRat) (a b : Nat) (hb : 0 < b) (ha : a ≤ S) :
    ratioExceedsF rnd a b L = ratioExceeds a b L := by
  simp only [FloatOk, Bool.and_eq_true, decide_eq_true_eq] at hok
  obtain ⟨⟨⟨⟨hp, hq⟩, hq'⟩, hlt⟩, hS⟩ := hok
  have hlt' : L.toRat < Lp.toRat := by
    unfold Ratio.toRat; exact (div_lt_div_iff_mul_lt Lp.num Lp.den L.num L.den hq' hq).mpr hlt
  have key : L.toRat < rnd ((a : Rat) / (b : Rat)) ↔ L.toRat < (a : Rat) / (b : Rat) := by
    apply float_gt_iff hr hlt'
    intro hx
    have hx' : L.num * b < a * L.den := (div_lt_div_iff_mul_lt a b L.num L.den hb hq).mp hx
    have := gap_nat a b L.num L.den Lp.num Lp.den S hp hq ha hS hx'
    unfold Ratio.toRat
    exact (div_le_div_iff_mul_le a b Lp.num Lp.den hb hq').mpr this
  unfold ratioExceedsF
  rw [Bool.eq_iff_iff, decide_eq_true_eq, key, ratioExceeds_iff_rat a b L hb hq]

-- the guard with an arbitrary pair of ratio tests (entry, total)

def stepWith (cmpE : Nat → Nat → Bool) (lim : Limits) (tu tc : Nat) (e : Entry) : Except Reason (Nat × Nat) :=
  if e.isDir then .ok (tu, tc)
  else if e.fileSize > lim.maxSingle then .error .entryTooLarge
  else if e.fileSize > 0 && e.compressSize == 0 then .error .entryZeroCompressed
  else if e.fileSize > 0 && cmpE e.fileSize e.compressSize then .error .entryRatio
  else if tu + e.fileSize > lim.maxTotal then .error .totalTooLarge
  else .ok (tu + e.fileSize, tc + e.compressSize)

def loopWith (cmpE : Nat → Nat → Bool) (lim : Limits) : Nat → Nat → List Entry → Except Reason (Nat × Nat)
  | tu, tc, [] => .ok (tu, tc)
  | tu, tc, e :: es =>
    match stepWith cmpE lim tu tc e with
    | .error r => .error r
    | .ok (tu', tc') => loopWith cmpE lim tu' tc' es

def finishWith (cmpT : Nat → Nat → Bool) (tu tc : Nat) : Except Reason Unit :=
  if tu > 0 then
    if tc == 0 then .error .totalZeroCompressed
    else if cmpT tu tc then .error .totalRatio
    else .ok ()
  else .ok ()

def validateWith (cmpE cmpT : Nat → Nat → Bool) (lim : Limits) (infolist : Option (List Entry)) : Except Reason Unit :=
  match infolist with
  | none => .error .inspectFailed
  | some infos =>
    if infos.length > lim.maxEntries then .error .tooManyEntries
    else
      match loopWith cmpE lim 0 0 infos with
      | .error r => .error r
      | .ok (tu, tc) => finishWith cmpT tu tc

theorem stepWith_eq (cmpE : Nat → Nat → Bool) (lim : Limits)
    (hE : ∀ a b, 0 < b → a ≤ lim.maxSingle → cmpE a b = ratioExceeds a b lim.entryRatio)
    (tu tc : Nat) (e : Entry) : stepWith cmpE lim tu tc e = step lim tu tc e := by
  unfold stepWith step
  by_cases hd : e.isDir = true
  · simp [hd]
  · by_cases h1 : e.fileSize > lim.maxSingle
    · simp [hd, h1]
    · by_cases hf : e.fileSize > 0
      · by_cases hc : e.compressSize = 0
        · simp [hd, h1, hf, hc]
        · rw [hE e.fileSize e.compressSize (Nat.pos_of_ne_zero hc) (Nat.le_of_not_lt h1)]
      · have hf0 : e.fileSize = 0 := by omega
        simp [hd, hf0]

theorem loopWith_eq (cmpE : Nat → Nat → Bool) (lim : Limits)
    (hE : ∀ a b, 0 < b → a ≤ lim.maxSingle → cmpE a b = ratioExceeds a b lim.entryRatio)
    (es : List Entry) : ∀ tu tc, loopWith cmpE lim tu tc es = loop lim tu tc es := by
  induction es with
  | nil => intro tu tc; rfl
  | cons e es ih =>
    intro tu tc
    unfold loopWith loop
    rw [stepWith_eq cmpE lim hE]
    cases step lim tu tc e with
    | error r => rfl
    | ok q => exact ih _ _

theorem validateWith_eq (cmpE cmpT : Nat → Nat → Bool) (lim : Limits)
    (hE : ∀ a b, 0 < b → a ≤ lim.maxSingle → cmpE a b = ratioExceeds a b lim.entryRatio)
    (hT : ∀ a b, 0 < b → a ≤ lim.maxTotal → cmpT a b = ratioExceeds a b lim.totalRatio)
    (infos : Option (List Entry)) : validateWith cmpE cmpT lim infos = validate lim infos := by
  cases infos with
  | none => rfl
  | some es =>
    unfold validateWith validate
    by_cases hlen : es.length > lim.maxEntries
    · simp [hlen]
    · simp only [hlen, ↓reduceIte]
      rw [loopWith_eq cmpE lim hE]
      cases hl : loop lim 0 0 es with
      | error r => rfl
      | ok p =>
        obtain ⟨_, htot, rfl⟩ := (loop_zero_ok_iff lim es p).mp hl
        dsimp only
        unfold finishWith finish
        by_cases hu : totalU es > 0
        · by_cases hc : totalC es = 0
          · simp [hu, hc]
          · rw [hT (totalU es) (totalC es) (Nat.pos_of_ne_zero hc) htot]
        · simp [hu]

/-- the duplicated control skeleton is the model's (checked, not trusted) -/
theorem validateWith_self (lim : Limits) (infos : Option (List Entry)) :
    validateWith (fun a b => ratioExceeds a b lim.entryRatio) (fun a b => ratioExceeds a b lim.totalRatio) lim infos
      = validate lim infos :=
  validateWith_eq _ _ lim (fun _ _ _ _ => rfl) (fun _ _ _ _ => rfl) infos

/-- `validate_zipfile` of the unpatched source, with CPython's division as `rnd` -/
def validateF (rnd : Rat → Rat) (lim : Limits) (infos : Option (List Entry)) : Except Reason Unit :=
  validateWith (fun a b => ratioExceedsF rnd a b lim.entryRatio) (fun a b => ratioExceedsF rnd a b lim.totalRatio) lim infos

/-- a rounding that sends the whole interval `[L, L⁺)` down to `L` — what round-half-even does to the
    lower half of it, e.g. to the midpoint `500 + 2^-45 = (500·2^45 + 1) / 2^45` -/
def roundDown (L Lp : Rat) (x : Rat) : Rat := if L ≤ x ∧ x < Lp then L else x

theorem roundDown_rounding (L Lp : Rat) : Rounding (roundDown L Lp) L Lp := by
  refine ⟨?_, ?_, ?_⟩
  · intro x y hxy
    unfold roundDown
    split <;> split <;> grind
  · unfold roundDown; grind
  · unfold roundDown; grind

end S2T.ZipBomb
