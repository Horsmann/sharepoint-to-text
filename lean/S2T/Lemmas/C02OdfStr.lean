import S2T.Lemmas.C02OdfTok
import S2T.Model.C02OdfRtf
import S2T.Lemmas.ListBasics
/-! The string-level functions (`_clean_text`, `_format_sheet_as_text`, the strips and joins around unit texts) only strip,
join with whitespace and split at whitespace: `tokens` passes through each. -/
namespace S2T.Tok

variable {α : Type} {p : α → Bool}

theorem flatMap_tokens_of_tokens {l : List (List α)} (h : ∀ t ∈ l, t ≠ [] ∧ ∀ c ∈ t, p c = false) :
    l.flatMap (tokens p) = l := by
  induction l with
  | nil => rfl
  | cons t r ih =>
    have ht := h t (by simp)
    rw [List.flatMap_cons, tokens_of_token t ht.1 ht.2, ih (fun x hx => h x (by simp [hx]))]
    rfl

theorem flatMap_tokens_tokens (s : List α) : (tokens p s).flatMap (tokens p) = tokens p s :=
  flatMap_tokens_of_tokens (token_ok s)

theorem tokens_normWs {p : Char → Bool} (hsp : p ' ' = true) (s : Str) : tokens p (normWs p s) = tokens p s := by
  unfold normWs
  rw [tokens_join (by simp [hsp]) (by simp), flatMap_tokens_tokens]

theorem splitOn_eq [DecidableEq α] (sep : α) (s : List α) : splitOn sep s = s.splitOn sep :=
  List.eq_splitOn sep _ rfl (fun x r p ps h => by rw [splitOn, h]) s

theorem join_eq (sep : List α) (l : List (List α)) : join sep l = sep.intercalate l := by
  fun_induction join sep l with
  | case1 => rfl
  | case2 a => exact List.intercalate_singleton.symm
  | case3 a b r ih => rw [ih, List.intercalate_cons_cons]

theorem join_splitOn [DecidableEq α] (sep : α) (s : List α) : join [sep] (splitOn sep s) = s := by
  rw [splitOn_eq, join_eq, List.intercalate_splitOn]

theorem flatMap_tokens_splitOn [DecidableEq α] {sep : α} (hs : p sep = true) (s : List α) :
    (splitOn sep s).flatMap (tokens p) = tokens p s := by
  conv => rhs; rw [← join_splitOn sep s]
  exact (tokens_join (by simp [hs]) (by simp) _).symm

end S2T.Tok

namespace S2T.Rtf
open S2T.Tok

theorem plain_tokens (p : Char → Bool) (s : Str) : tokens p (plainFullText p s) = tokens p s := by
  unfold plainFullText; rw [tokens_strip, tokens_strip, tokens_strip]

theorem tokens_rjust {p : Char → Bool} (hsp : p ' ' = true) (w : Nat) (s : Str) : tokens p (rjust w s) = tokens p s := by
  unfold rjust
  exact tokens_ws_prefix _ _ (by simp [hsp])

/-- the cells are right-justified to ANY widths `w`: how the widths are computed plays no part -/
theorem tokens_grid {p : Char → Bool} {rowSep colSep : Str} (hr : SepOk p rowSep) (hc : SepOk p colSep)
    (hsp : p ' ' = true) (w : Nat → Nat) (rows : List (List Str)) :
    tokens p (join rowSep (rows.map (fun row => join colSep (row.zipIdx.map (fun vi => rjust (w vi.2) vi.1)))))
      = rows.flatMap (fun r => r.flatMap (tokens p)) := by
  rw [hr.tokens_join, List.flatMap_map]
  congr 1; funext r
  rw [hc.tokens_join, List.flatMap_map]
  exact List.flatMap_zipIdx r 0 _ _ (fun v _ i => tokens_rjust hsp _ v)

theorem flatMap_map_normWs {p : Char → Bool} (hsp : p ' ' = true) (l : List Str) :
    (l.map (normWs p)).flatMap (tokens p) = l.flatMap (tokens p) := by
  rw [List.flatMap_map]; congr 1; funext s; exact tokens_normWs hsp s

/-- `hk`: no line is a placeholder line -/
theorem cleanText_tokens_all (T : PptTables) (hsp : T.isWs ' ' = true) (hn : T.isWs '\n' = true) (s : Str)
    (hk : ∀ l ∈ (splitOn '\n' (translate T s)).map (normWs T.isWs), l ≠ [] → keepLine T l = true) :
    tokens T.isWs (cleanText T s) = tokens T.isWs (translate T s) := by
  unfold cleanText
  -- a line the filter drops is empty (`hk`), so it had no token
  rw [tokens_joinNl hn, List.flatMap_filter_eq _ _ _ (fun x hx hq => by
      cases x with
      | nil => exact tokens_nil
      | cons c r => simp [hk _ hx (List.cons_ne_nil c r)] at hq),
    flatMap_map_normWs hsp, flatMap_tokens_splitOn hn]

/-- what the PPT theorems need from `_CLEAN_TRANS` and the whitespace table -/
structure PptOk (T : PptTables) : Prop where
  sep : ∀ k ∈ [11, 12, 13], T.trans.lookup k = some ['\n']   -- VT, FF, CR
  sp : T.isWs ' ' = true
  nl : T.isWs '\n' = true

theorem translate_sep {T : PptTables} (h : PptOk T) (a b : Str) (sep : Char)
    (hs : sep.toNat = 13 ∨ sep.toNat = 11 ∨ sep.toNat = 12) :
    translate T (a ++ sep :: b) = translate T a ++ '\n' :: translate T b := by
  have : T.trans.lookup sep.toNat = some ['\n'] := h.sep _ (by rcases hs with e | e | e <;> simp [e])
  simp [translate, List.flatMap_append, this]

end S2T.Rtf
