import S2T.Lemmas.SerialRT
namespace S2T.Serial

variable {S : Schema}

theorem WellTypedList_mem : ∀ xs : List PyVal, ∀ t, WellTypedList S t xs = true → ∀ x ∈ xs, WellTyped S t x = true
  | [], _, _ => by simp
  | y :: ys, t, h => by
    simp [WellTypedList] at h
    intro x hx
    rcases List.mem_cons.mp hx with e | hx
    · rw [e]; exact h.1
    · exact WellTypedList_mem ys t h.2 x hx

theorem rt_str (ty : Ty) (s : Str) (h : WellTyped S ty (.str s) = true) :
    deserValue S ty (ser true (.str s)) = .ok (canon S ty (.str s)) := by
  simp only [WellTyped] at h
  -- `simp` chooses the arm of `match unwrapOpt ty` in `deserValue`: the side conditions of an arm are discharged by the
  -- hypotheses that `split` leaves in the context
  split at h <;> simp [ser, canon, deserValue] at h ⊢

/-- `_deserialize_value` at a dict in a position not declared `Dict[..]`: the two binary markers, then `_type`, then the
declared class -/
theorem deserValue_dict {ty : Ty} (hd : ∀ k v, unwrapOpt ty ≠ .dict k v) (J : List (Key × PyVal)) :
    deserValue S ty (.dict J) =
      match dget kBytesio J with
      | some x => b64ToBytesio x
      | none =>
      match dget kBytes J with
      | some x => b64ToBytes x
      | none =>
      if (dget kType J).isSome then deserDataclass S J
      else match unwrapOpt ty with
        | .cls n => match S.find n with
            | some c => match deserFields S c J J with
                | .error e => .error e
                | .ok got => build c got
            | none => .ok (.dict J)
        | _ => .ok (.dict J) := by
  -- the equation of `deserValue` for the second arm of `match unwrapOpt ty` has `hd` as its side condition: `simp`
  -- discharges it from the context
  simp only [deserValue, deserDataclass]
  rfl

theorem wt_bytes {ty : Ty} {bs : List Nat} (h : WellTyped S ty (.bytes bs) = true) :
    (∀ k v, unwrapOpt ty ≠ .dict k v) ∧ bytesOk bs = true := by
  simp only [WellTyped] at h
  split at h
  · exact absurd h Bool.false_ne_true
  · exact ⟨‹_›, h⟩

/-- also the round trip at a `bytearray`, which is typed, serialised and canonicalised as `bytes` -/
theorem rt_bytes (ty : Ty) (bs : List Nat) (h : WellTyped S ty (.bytes bs) = true) :
    deserValue S ty (ser true (.bytes bs)) = .ok (canon S ty (.bytes bs)) := by
  obtain ⟨hd, hb⟩ := wt_bytes h
  have h1 : dget kBytesio [(Key.str kBytes, PyVal.str (b64enc bs))] = none :=
    dget_none _ _ (by intro e he; simp at he; subst he; simp; decide)
  have h2 : dget kBytes [(Key.str kBytes, PyVal.str (b64enc bs))] = some (.str (b64enc bs)) := dget_head _ _ _
  simp [ser, canon, deserValue_dict hd, h1, h2, b64ToBytes, b64dec_enc bs hb]

/-- a `BytesIO` is typed as `bytes` -/
theorem rt_bytesio (ty : Ty) (bs : List Nat) (h : WellTyped S ty (.bytes bs) = true) :
    deserValue S ty (ser true (.bytesio bs)) = .ok (canon S ty (.bytesio bs)) := by
  obtain ⟨hd, hb⟩ := wt_bytes h
  have h1 : dget kBytesio [(Key.str kBytesio, PyVal.str (b64enc bs))] = some (.str (b64enc bs)) := dget_head _ _ _
  simp [ser, canon, deserValue_dict hd, h1, b64ToBytesio, b64dec_enc bs hb]

theorem rt_list (ty : Ty) (xs : List PyVal) (h : WellTyped S ty (.list xs) = true)
    (ih : ∀ x ∈ xs, ∀ t, WellTyped S t x = true → deserValue S t (ser true x) = .ok (canon S t x)) :
    deserValue S ty (ser true (.list xs)) = .ok (canon S ty (.list xs)) := by
  simp only [WellTyped] at h
  split at h
  · rename_i t hu
    simp only [ser, canon, deserValue, hu]
    rw [serList_eq, canonList_eq, deserList_map S t (ser true) (canon S t) xs
      fun x hx => ih x hx t (WellTypedList_mem xs t h x hx)]
  · simp only [ser, canon, deserValue]

theorem WellTypedVals_mem : ∀ l : List (Key × PyVal), ∀ t, WellTypedVals S t l = true → ∀ e ∈ l, WellTyped S t e.2 = true
  | [], _, _ => by simp
  | (k, v) :: r, t, h => by
    simp [WellTypedVals] at h
    intro e he
    rcases List.mem_cons.mp he with e' | he
    · rw [e']; exact h.1
    · exact WellTypedVals_mem r t h.2 e he

theorem mem_normKeys_strKeys {kvs : List (Key × PyVal)} {e : Key × PyVal} (he : e ∈ normKeys (strKeys kvs)) :
    ∃ kv ∈ kvs, (Key.str (keyStr kv.1), kv.2) = e :=
  mem_strKeys.mp (mem_normKeys _ e he)

theorem rt_dict_typed (ty kt vt : Ty) (kvs : List (Key × PyVal)) (hu : unwrapOpt ty = .dict kt vt)
    (ih : ∀ e ∈ kvs, deserValue S vt (ser true e.2) = .ok (canon S vt e.2)) :
    deserValue S ty (ser true (.dict kvs)) = .ok (canon S ty (.dict kvs)) := by
  rw [ser_dict_eq]
  simp only [deserValue, canon, hu, canonKVs_eq, normKeys_mapVals]
  rw [deserKVs_mapVals S vt (ser true) (canon S vt)]
  intro e he
  obtain ⟨kv, hm, rfl⟩ := mem_normKeys_strKeys he
  exact ih kv hm

theorem rt_dict_untyped (ty : Ty) (kvs : List (Key × PyVal))
    (hd : ∀ k v, unwrapOpt ty ≠ .dict k v) (hc : ∀ n, unwrapOpt ty ≠ .cls n)
    (hk : kvs.all (fun kv => !isMarker (keyStr kv.1)) = true) :
    deserValue S ty (ser true (.dict kvs)) = .ok (canon S ty (.dict kvs)) := by
  have hX : ∀ m, isMarker m = true → dget m (normKeys (serKVs true kvs)) = none := by
    intro m hm
    rw [serKVs_eq, normKeys_mapVals]
    refine dget_none m _ fun e he e' => ?_
    obtain ⟨e0, he0, rfl⟩ := List.mem_map.mp he
    obtain ⟨kv, hmem, rfl⟩ := mem_normKeys_strKeys he0
    have := List.all_eq_true.mp hk kv hmem
    rw [Key.str.inj e', hm] at this
    exact Bool.false_ne_true this
  have h1 := hX kBytesio (by decide)
  have h2 := hX kBytes (by decide)
  have h3 := hX kType (by decide)
  -- `simp` finds `hc` in the context for the last match of `deserValue_dict`, and `hd` for the match of `canon`
  simp [ser, canon, deserValue_dict hd, h1, h2, h3]

theorem nodupStr_nodup : ∀ l : List Str, nodupStr l = true → l.Nodup
  | [], _ => List.nodup_nil
  | x :: xs, h => by
    simp [nodupStr] at h
    exact List.nodup_cons.mpr ⟨h.1, nodupStr_nodup xs h.2⟩

/-- what `SchemaOk` says about the class found under the name `c` -/
structure FoundClass (c : Str) (C : Class) : Prop where
  name_eq : C.name = c
  name_ne : C.name.isEmpty = false
  nodup : C.fieldNames.Nodup
  not_marker : ∀ m, isMarker m = true → m ∉ C.fieldNames

theorem classOk_of_find (hS : SchemaOk S = true) {c : Str} {C : Class} (h : S.find c = some C) : FoundClass c C := by
  unfold Schema.find at h
  have hok : classOk C = true := by
    simp [SchemaOk] at hS
    exact hS C (List.mem_of_find?_eq_some h)
  simp only [classOk, Bool.and_eq_true, Bool.not_eq_true', List.all_eq_true] at hok
  obtain ⟨⟨hnd, hnomark⟩, hne⟩ := hok
  refine ⟨by simpa using List.find?_some h, hne, nodupStr_nodup _ hnd, fun m hm hin => ?_⟩
  have := hnomark m hin
  simp [hm] at this

theorem mapVals_objEntries (c : Str) (fs : List (Str × PyVal)) :
    mapVals (ser true) (objEntries c fs) = (Key.str kType, PyVal.str c) :: mapVals (ser true) (fieldKeys fs) := by
  simp [objEntries, ser]

theorem dget_objEntries_none (f : PyVal → PyVal) (c : Str) (fs : List (Str × PyVal)) (m : Str) (hm : m ≠ kType)
    (h : m ∉ fs.map (·.1)) : dget m (mapVals f (objEntries c fs)) = none := by
  apply dget_none
  intro e he
  obtain ⟨a, ha, rfl⟩ := mem_mapVals.mp he
  rcases mem_objEntries.mp ha with rfl | ha
  · simpa using hm.symm
  · obtain ⟨a, hmem, rfl⟩ := mem_fieldKeys.mp ha
    exact fun e' => h (Key.str.inj e' ▸ List.mem_map_of_mem (f := (·.1)) hmem)

/-- the keys of a well-formed dataclass instance, `_type` and the field names, are distinct: `normKeys` leaves its
serialised entries as they are -/
theorem ser_obj_entries (hS : SchemaOk S = true) (c : Str) (fs : List (Str × PyVal)) (C : Class)
    (hfind : S.find c = some C) (hnames : fs.map (·.1) = C.fieldNames) :
    ser true (.obj c fs) = .dict (mapVals (ser true) (objEntries c fs)) := by
  have hC := classOk_of_find hS hfind
  have hkeys : (objEntries c fs).map (·.1) = (kType :: fs.map (·.1)).map Key.str := by
    simp [objEntries, fieldKeys, Function.comp_def]
  rw [ser_obj_eq, normKeys_eq_self]
  rw [keys_mapVals, hkeys, hnames]
  exact List.Pairwise.map Key.str (fun {a b} (h : a ≠ b) e => h (Key.str.inj e))
    (List.nodup_cons.mpr ⟨hC.not_marker kType (by decide), hC.nodup⟩)

/-- a dict the deserialiser takes for an instance of class `c`: `_type` holds `c` and there is no binary marker -/
structure InstanceDict (c : Str) (J : List (Key × PyVal)) : Prop where
  bytesio : dget kBytesio J = none
  bytes : dget kBytes J = none
  type : dget kType J = some (.str c)

theorem deserValue_instanceDict {ty : Ty} (hd : ∀ k v, unwrapOpt ty ≠ .dict k v) {c : Str} {J : List (Key × PyVal)}
    (h : InstanceDict c J) : deserValue S ty (.dict J) = deserDataclass S J := by
  simp [deserValue_dict hd, h.bytesio, h.bytes, h.type]

theorem instanceDict_objEntries (hS : SchemaOk S = true) (c : Str) (fs : List (Str × PyVal)) (C : Class)
    (hfind : S.find c = some C) (hnames : fs.map (·.1) = C.fieldNames) :
    InstanceDict c (mapVals (ser true) (objEntries c fs)) := by
  have hnm := (classOk_of_find hS hfind).not_marker
  rw [← hnames] at hnm
  exact ⟨dget_objEntries_none _ c fs _ (by decide) (hnm _ (by decide)),
    dget_objEntries_none _ c fs _ (by decide) (hnm _ (by decide)), mapVals_objEntries c fs ▸ dget_head _ _ _⟩

/-- `cls(**kwargs)` followed by `__post_init__`, on exactly the fields of the class -/
theorem build_of_names (C : Class) (got : List (Str × PyVal)) (habs : C.abstract = false)
    (hnames : got.map (·.1) = C.fieldNames) (hnd : C.fieldNames.Nodup)
    (hst : ∀ e ∈ got, stripStable C.strip e.1 e.2 = true) : build C got = .ok (.obj C.name got) := by
  have hfill : fillFields got C.fields = .ok got :=
    fillFields_of_lookup got C.fields got hnames fun _ => lookup_of_nodup_keys (hnames ▸ hnd)
  simp only [build, habs, hfill, postInit_stable _ _ hst]
  rfl

theorem stripStable_canon (strip? : List Str) (n : Str) (t : Ty) (v : PyVal) (h : stripStable strip? n v = true) :
    stripStable strip? n (canon S t v) = true := by
  simp only [stripStable] at h ⊢
  split
  · rename_i hc
    simp only [hc, if_true] at h
    split at h
    · simpa [canon] using h
    · exact absurd h Bool.false_ne_true
  · rfl

/-- what `WellTyped` says of a dataclass instance `c(fs)`: its class `C` is in the table and concrete, its fields are
the class's, in order, each well typed -/
structure ObjTyped (S : Schema) (ty : Ty) (c : Str) (fs : List (Str × PyVal)) (C : Class) : Prop where
  find : S.find c = some C
  not_dict : ∀ k v, unwrapOpt ty ≠ .dict k v
  concrete : C.abstract = false
  names : fs.map (·.1) = C.fieldNames
  fields : WellTypedFields S C fs = true

theorem wt_obj {ty : Ty} {c : Str} {fs : List (Str × PyVal)} (h : WellTyped S ty (.obj c fs) = true) :
    ∃ C, ObjTyped S ty c fs C := by
  simp only [WellTyped] at h
  split at h
  · exact absurd h Bool.false_ne_true
  split at h
  · exact absurd h Bool.false_ne_true
  · simp at h
    exact ⟨_, ‹_›, ‹_›, h.1.1, h.1.2, h.2⟩

theorem WellTypedFields_mem : ∀ (fs : List (Str × PyVal)) (C : Class), WellTypedFields S C fs = true →
    ∀ e ∈ fs, WellTyped S ((C.fieldTy e.1).getD .any) e.2 = true ∧ stripStable C.strip e.1 e.2 = true
  | [], _, _ => by simp
  | (n, v) :: r, C, h => by
    simp [WellTypedFields] at h
    intro e he
    rcases List.mem_cons.mp he with e' | he
    · rw [e']; exact h.1
    · exact WellTypedFields_mem r C h.2 e he

theorem canon_obj {c : Str} {C : Class} (hf : S.find c = some C) (ty : Ty) (fs : List (Str × PyVal)) :
    canon S ty (.obj c fs) = .obj c (canonFields S C fs) := by
  simp only [canon, hf]

theorem rt_obj (hS : SchemaOk S = true) (ty : Ty) (c : Str) (fs : List (Str × PyVal))
    (h : WellTyped S ty (.obj c fs) = true)
    (ih : ∀ w ∈ fs.map (·.2), ∀ t, WellTyped S t w = true → deserValue S t (ser true w) = .ok (canon S t w)) :
    deserValue S ty (ser true (.obj c fs)) = .ok (canon S ty (.obj c fs)) := by
  obtain ⟨C, hC⟩ := wt_obj h
  have hm := WellTypedFields_mem fs C hC.fields
  have hF := classOk_of_find hS hC.find
  have hJ := ser_obj_entries hS c fs C hC.find hC.names
  have hI := instanceDict_objEntries hS c fs C hC.find hC.names
  -- `deserFields S C J J` takes the dict twice, whole (for the legacy-index test) and as the list it walks: `J` is
  -- made opaque, and only the walked occurrence is written out again
  generalize hJd : mapVals (ser true) (objEntries c fs) = J at hJ hI
  have hres : resolveClass S none J = .ok (some C) := by
    simp [resolveClass, hI.type, hC.find, hF.name_eq ▸ hF.name_ne]
  have hget : deserFields S C J J = .ok (canonFields S C fs) := by
    conv => lhs; arg 4; rw [← hJd, mapVals_objEntries]
    simp only [deserFields, targetField_none C J kType (hF.not_marker kType (by decide)) (by decide) (by decide),
      canonFields_eq]
    exact deserFields_fieldKeys S C J (ser true) (fun n v => canon S ((C.fieldTy n).getD .any) v) fs
      (fun e he => List.contains_iff_mem.mpr (hC.names ▸ List.mem_map_of_mem (f := (·.1)) he))
      (fun e he => ih _ (List.mem_map_of_mem he) _ (hm e he).1)
  have hbuild : build C (canonFields S C fs) = .ok (.obj c (canonFields S C fs)) := by
    rw [← hF.name_eq, canonFields_eq]
    refine build_of_names C _ hC.concrete (by simpa [Function.comp_def] using hC.names) hF.nodup fun e he => ?_
    obtain ⟨e0, he0, rfl⟩ := List.mem_map.mp he
    exact stripStable_canon _ _ _ _ (hm e0 he0).2
  rw [hJ, canon_obj hC.find, deserValue_instanceDict hC.not_dict hI]
  simp only [deserDataclass, hres, hget]
  exact hbuild

theorem rt_dict (ty : Ty) (kvs : List (Key × PyVal)) (h : WellTyped S ty (.dict kvs) = true)
    (ih : ∀ w ∈ kvs.map (·.2), ∀ t, WellTyped S t w = true → deserValue S t (ser true w) = .ok (canon S t w)) :
    deserValue S ty (ser true (.dict kvs)) = .ok (canon S ty (.dict kvs)) := by
  simp only [WellTyped] at h
  -- the three cases of `WellTyped` at a dict: declared a plain dict, declared a class, anything else
  split at h
  · exact rt_dict_typed ty _ _ kvs ‹_› fun e he => ih _ (List.mem_map_of_mem he) _ (WellTypedVals_mem kvs _ h e he)
  · exact absurd h Bool.false_ne_true
  · exact rt_dict_untyped ty kvs ‹_› ‹_› h

theorem deser_ser (hS : SchemaOk S = true) (v : PyVal) :
    ∀ ty : Ty, WellTyped S ty v = true → deserValue S ty (ser true v) = .ok (canon S ty v) := by
  induction v using PyVal.ind with | _ v ih => ?_
  intro ty h
  cases v with
  | str s => exact rt_str ty s h
  | bytes bs | bytearray bs => exact rt_bytes ty bs h
  | bytesio bs => exact rt_bytesio ty bs h
  -- tuples and sets are typed, serialised and canonicalised as lists
  | list xs | tuple xs | set xs => exact rt_list ty xs h ih
  | dict kvs => exact rt_dict ty kvs h ih
  | obj c fs => exact rt_obj hS ty c fs h ih
  | _ => simp [ser, deserValue, canon]

theorem deser_ser_list (hS : SchemaOk S = true) :
    ∀ (xs : List PyVal) (t : Ty), WellTypedList S t xs = true →
      ∀ x ∈ xs, deserValue S t (ser true x) = .ok (canon S t x) :=
  fun xs t h x hx => deser_ser hS x t (WellTypedList_mem xs t h x hx)
theorem deser_ser_vals (hS : SchemaOk S = true) :
    ∀ (l : List (Key × PyVal)) (t : Ty), WellTypedVals S t l = true →
      ∀ e ∈ l, deserValue S t (ser true e.2) = .ok (canon S t e.2) :=
  fun l t h e he => deser_ser hS e.2 t (WellTypedVals_mem l t h e he)
theorem deser_ser_fields (hS : SchemaOk S = true) :
    ∀ (fs : List (Str × PyVal)) (C : Class), WellTypedFields S C fs = true →
      ∀ e ∈ fs, deserValue S ((C.fieldTy e.1).getD .any) (ser true e.2)
          = .ok (canon S ((C.fieldTy e.1).getD .any) e.2) ∧ stripStable C.strip e.1 e.2 = true :=
  fun fs C h e he => ⟨deser_ser hS e.2 _ (WellTypedFields_mem fs C h e he).1, (WellTypedFields_mem fs C h e he).2⟩

end S2T.Serial
