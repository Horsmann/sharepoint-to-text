import S2T.Model.SevenZip
namespace S2T.SevenZip

/-- `k` bytes of `n`, little endian -/
def leBytes : Nat → Nat → Bytes
  | 0, _ => []
  | k + 1, n => n % 256 :: leBytes k (n / 256)

/-- first-byte marker: `k` leading one bits -/
def hiMask (k : Nat) : Nat := 256 - 2 ^ (8 - k)

/-- 7zFormat.txt `REAL_UINT64` written with `k` extra bytes -/
def writeNumberK (k n : Nat) : Bytes := (hiMask k + n / 256 ^ k) :: leBytes k n

theorem fit_of_lt {k n : Nat} (h : n < 2 ^ (8 * k + (7 - k))) : n / 256 ^ k < 2 ^ (7 - k) := by
  apply Nat.div_lt_of_lt_mul
  rwa [show 256 = 2 ^ 8 from rfl, ← Nat.pow_mul, ← Nat.pow_add]

/-- the marker: the `k` leading bits of the first byte are set, so the loop fetches `k` extra bytes -/
theorem marker_bits_set : ∀ k, k < 9 → ∀ h, h < 2 ^ (7 - k) → ∀ j, j < k → (hiMask k + h) &&& (0x80 >>> j) ≠ 0 := by
  decide +kernel

/-- under the marker: bit `k` is clear, so the loop stops there, and the bits below it are the top part `h` of the value -/
theorem stop_bit_and_payload : ∀ k, k < 8 → ∀ h, h < 2 ^ (7 - k) →
    (hiMask k + h) &&& (0x80 >>> k) = 0 ∧ (hiMask k + h) &&& ((0x80 >>> k) - 1) = h := by
  decide +kernel

theorem mod_or_shift (n j b : Nat) : n % 256 ^ j ||| (b <<< (j * 8)) = n % 256 ^ j + 256 ^ j * b := by
  have hp : 2 ^ (j * 8) = 256 ^ j := by rw [Nat.mul_comm, Nat.pow_mul]
  have h : n % 256 ^ j < 2 ^ (j * 8) := hp ▸ Nat.mod_lt _ (Nat.pow_pos (by decide))
  rw [Nat.or_comm, ← Nat.shiftLeft_add_eq_or_of_lt h, Nat.shiftLeft_eq, hp, Nat.add_comm, Nat.mul_comm]

/-- the loop after `j` of the `k` extra bytes: `d` more to read, and `8 - k` rounds of fuel to spare -/
theorem readNumberAux_spec (k n : Nat) (rest : Bytes) (r : R) (hk : k ≤ 8) (hfit : n / 256 ^ k < 2 ^ (7 - k)) :
    ∀ d j, d + j = k →
      readNumberAux (hiMask k + n / 256 ^ k) (d + (8 - k)) j (0x80 >>> j) (n % 256 ^ j)
        { r with stream := leBytes d (n / 256 ^ j) ++ rest } = .ok (n, { r with stream := rest }) := by
  intro d
  induction d with
  | zero =>
    intro j hj
    have hjk : j = k := by omega
    subst hjk
    by_cases h8 : j = 8
    · -- eight extra bytes: no fuel is left (`0 + (8 - 8)`), the loop returns the value without testing the first byte
      subst h8
      have h0 : n / 256 ^ 8 = 0 := by simpa using hfit
      rw [Nat.mod_eq_of_lt ((Nat.div_eq_zero_iff_lt (by decide)).mp h0)]
      rfl
    · have hlt : j < 8 := by omega
      have ⟨hb1, hb2⟩ := stop_bit_and_payload j hlt _ hfit
      rw [Nat.zero_add, Nat.succ_sub (Nat.le_of_lt_succ hlt)]
      unfold readNumberAux
      rw [if_pos hb1, hb2, mod_or_shift, Nat.mod_add_div]
      rfl
  | succ d ih =>
    intro j hj
    have ha := marker_bits_set k (by omega) _ hfit j (by omega)
    rw [Nat.succ_add]
    unfold readNumberAux
    rw [if_neg ha]
    simp only [leBytes, List.cons_append, bind, StateT.bind, readU8, Except.bind, mod_or_shift, ← Nat.mod_pow_succ,
      Nat.div_div_eq_div_mul, ← Nat.pow_succ, ← Nat.shiftRight_add]
    exact ih (j + 1) (by omega)

theorem readNumber_writeNumberK (k n : Nat) (rest : Bytes) (hk : k ≤ 8) (hfit : n / 256 ^ k < 2 ^ (7 - k)) (r : R) :
    readNumber { r with stream := writeNumberK k n ++ rest } = .ok (n, { r with stream := rest }) := by
  unfold readNumber writeNumberK
  have := readNumberAux_spec k n rest r hk hfit k 0 rfl
  simp only [Nat.add_sub_of_le hk, Nat.shiftRight_zero, Nat.pow_zero, Nat.mod_one, Nat.div_one] at this
  simp only [List.cons_append, bind, StateT.bind, readU8, Except.bind]
  exact this

end S2T.SevenZip

namespace S2T.C10
open S2T.SevenZip

/- The minimal writer the property statement `C10_varint` speaks of.  The writer specification has its own, `number`
   (Spec/SevenZipWriter, shared with nothing here); below `2^64` the two are one function (`number_eq`, SevenZipHeader).
   It stands here, under the property's namespace, because `number_eq` needs it below Props/C10. -/

/-- number of extra bytes a minimal writer (7-Zip's `WriteNumber`) uses -/
def widthOf (n : Nat) : Nat :=
  if n < 2 ^ 7 then 0 else if n < 2 ^ 14 then 1 else if n < 2 ^ 21 then 2 else if n < 2 ^ 28 then 3
  else if n < 2 ^ 35 then 4 else if n < 2 ^ 42 then 5 else if n < 2 ^ 49 then 6 else if n < 2 ^ 56 then 7 else 8

/-- 7zFormat.txt `REAL_UINT64`, minimal form -/
def writeNumber (n : Nat) : Bytes := writeNumberK (widthOf n) n

theorem widthOf_cases (n : Nat) {P : Nat → Prop} (small : ∀ k ≤ 7, n < 2 ^ (7 * k + 7) → P k) (big : P 8) :
    P (widthOf n) :=
  iteInduction (small 0 (by decide)) fun _ => iteInduction (small 1 (by decide)) fun _ => iteInduction (small 2 (by decide)) fun _ =>
    iteInduction (small 3 (by decide)) fun _ => iteInduction (small 4 (by decide)) fun _ => iteInduction (small 5 (by decide)) fun _ =>
    iteInduction (small 6 (by decide)) fun _ => iteInduction (small 7 (by decide)) fun _ => big

theorem widthOf_le (n : Nat) : widthOf n ≤ 8 :=
  widthOf_cases n (P := (· ≤ 8)) (fun k hk _ => by omega) (by decide)

theorem widthOf_fit (n : Nat) (h : n < 2 ^ 64) : n / 256 ^ widthOf n < 2 ^ (7 - widthOf n) :=
  widthOf_cases n (P := fun k => n / 256 ^ k < 2 ^ (7 - k))
    (fun k hk hn => fit_of_lt (by rwa [show 8 * k + (7 - k) = 7 * k + 7 by omega])) (fit_of_lt h)

end S2T.C10
