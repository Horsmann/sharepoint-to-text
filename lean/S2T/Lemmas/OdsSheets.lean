import S2T.Model.Limits
/-! The shape of the two amplifying ODS sheets, for every size. -/
namespace S2T.Limits

theorem lastData_replicate_false (c : Nat) : lastData (List.replicate c false) = c := by
  rw [lastData, List.reverse_replicate]
  cases c <;> simp [List.replicate_succ]

theorem foldl_max_replicate {a c : Nat} (h : c ≤ a) (r : Nat) : (List.replicate r c).foldl max a = a := by
  induction r with
  | zero => rfl
  | succ r ih => rw [List.replicate_succ, List.foldl_cons, Nat.max_eq_left h, ih]

theorem trimRows_append {rows : List (List Bool)} {row : List Bool} (h : row.all id = false) :
    trimRows (rows ++ [row]) = rows ++ [row] := by
  rw [trimRows, List.reverse_append, List.reverse_singleton, List.singleton_append,
    List.dropWhile_cons_of_neg (by simp [h]), List.reverse_cons, List.reverse_reverse]

theorem sheetShape_repeatSheet (r c : Nat) (hr : 1 ≤ r) (hc : 1 ≤ c) : sheetShape (repeatSheet r c) = (r, c) := by
  obtain ⟨r, rfl⟩ := Nat.exists_eq_add_of_le' hr
  obtain ⟨c, rfl⟩ := Nat.exists_eq_add_of_le' hc
  have hraw : rawRows (repeatSheet (r + 1) (c + 1)) = List.replicate (r + 1) (List.replicate (c + 1) false) := by
    simp [rawRows, repeatSheet, rowValues, List.replicate_succ]
  have htrim : trimRows (rawRows (repeatSheet (r + 1) (c + 1))) = List.replicate (r + 1) (List.replicate (c + 1) false) := by
    rw [hraw, List.replicate_succ', trimRows_append (by simp [List.replicate_succ]), ← List.replicate_succ']
  simp only [sheetShape, htrim, List.length_replicate, List.map_replicate, lastData_replicate_false]
  rw [List.replicate_succ, List.foldl_cons, Nat.zero_max, foldl_max_replicate (Nat.le_refl _)]

/-- a full first row and `n` one-cell rows below it: every row is padded to the width of the first -/
theorem sheetShape_staircaseSheet (n : Nat) (hn : 1 ≤ n) : sheetShape (staircaseSheet n) = (n + 1, n) := by
  obtain ⟨n, rfl⟩ := Nat.exists_eq_add_of_le' hn
  have hrow (k : Nat) : rowValues (List.replicate k ⟨1, false, 1⟩) = List.replicate k false := by
    simp [rowValues, List.flatMap_replicate]
  have hrest (k : Nat) : rawRows (List.replicate k ⟨1, [⟨1, false, 1⟩]⟩) = List.replicate k [false] := by
    simp [rawRows, rowValues, List.flatMap_replicate]
  have hraw : rawRows (staircaseSheet (n + 1))
      = (List.replicate (n + 1) false :: List.replicate n [false]) ++ [[false]] := by
    rw [staircaseSheet, rawRows, List.flatMap_cons, ← rawRows, hrest, hrow,
      show List.replicate (n + 1) [false] = List.replicate n [false] ++ [[false]] from List.replicate_succ']
    simp
  rw [sheetShape, hraw, trimRows_append rfl]
  simp [lastData, foldl_max_replicate]

theorem staircaseSheet_length (n : Nat) : (staircaseSheet n).length = n + 1 := by
  simp [staircaseSheet]

theorem staircaseSheet_cells (n : Nat) : ((staircaseSheet n).map (·.cells.length)).sum = 2 * n := by
  simp [staircaseSheet]
  omega

end S2T.Limits
