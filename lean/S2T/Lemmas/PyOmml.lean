import S2T.Lemmas.Py
import S2T.Lemmas.PyPaths
import S2T.Lemmas.OmmlBal
import S2T.Py.Omml
/-!
Lemmas for the source tie of C19 (`Props/C19_Src.lean`): the abstraction `abs` from ElementTree elements
(`S2T.Py.Omml.Xml`: tag, attrib, text, tail, children) to the hand model's trees (`S2T.Omml.Xml`: namespace flag, local
name, `m:val`, text, children), the representation of the model's stack of pending brackets as the list the source keeps
(`unstack`), and the bridges between the prelude operations (`S2T/Py/Omml.lean`, `Paths.lean`) and the model's helper
functions.  Core Lean only.
-/
namespace S2T.Py.Omml
open S2T.Py

abbrev MXml := S2T.Omml.Xml
abbrev Tables := S2T.Omml.Tables
abbrev Stack := S2T.Omml.Stack
abbrev Out := S2T.Omml.Out

/-- `tag.split("}")[-1]` -/
def localName (tag : Str) : Str := ((splitOn '}' tag).getLast?).getD []

mutual
/-- what the hand model looks at in an element: is the tag `ns + local name`, the local name, the attribute `ns + "val"`,
    `text or ""`, the children -/
def abs (ns : Str) : Xml → MXml
  | ⟨tag, attrib, text, _, children⟩ =>
    .node (tag == ns ++ localName tag) (localName tag) (S2T.Omml.lookup (ns ++ ['v', 'a', 'l']) attrib)
      (orOpt text []) (absL ns children)
def absL (ns : Str) : List Xml → List MXml
  | [] => []
  | c :: cs => abs ns c :: absL ns cs
end

theorem absL_eq_map (ns : Str) (cs : List Xml) : absL ns cs = cs.map (abs ns) := by
  induction cs with
  | nil => simp [absL]
  | cons c cs ih => simp [absL, ih]

theorem abs_eq (ns : Str) (x : Xml) :
    abs ns x = .node (x.tag == ns ++ localName x.tag) (localName x.tag) (x.get? (ns ++ ['v', 'a', 'l']))
      (orOpt x.text []) (x.children.map (abs ns)) := by
  cases x; simp [abs, absL_eq_map, Xml.get?]

/-- the model's stack (innermost first, characters) as the source's list (innermost last, one-character strings) -/
def unstack (s : Stack) : List Str := s.reverse.map (fun c => [c])

@[simp] theorem unstack_nil : unstack [] = [] := rfl
theorem unstack_cons (c : Char) (s : Stack) : unstack (c :: s) = unstack s ++ [[c]] := by simp [unstack]
@[simp] theorem unstack_length (s : Stack) : (unstack s).length = s.length := by simp [unstack]

theorem getItem_split (tag : Str) : listGetItem (splitOn '}' tag) (-1) = Except.ok (localName tag) := by
  rw [listGetItem_neg_one _ (splitOn_ne_nil _ _)]
  simp [localName, List.getLast?_eq_some_getLast (splitOn_ne_nil '}' tag)]

theorem splitOn_no (c : Char) (n : Str) (h : n.contains c = false) : splitOn c n = [n] :=
  (splitOn_eq c n).trans (List.splitOn_eq_singleton (by simpa using h))

theorem splitOn_append_sep (c : Char) (a n : Str) :
    (splitOn c (a ++ c :: n)).getLast? = (splitOn c n).getLast? := by
  rw [splitOn_eq, splitOn_eq, List.splitOn_append_cons_self, List.getLast?_append]
  rcases h : n.splitOn c with _ | ⟨s, t⟩
  · exact absurd h (List.splitOn_ne_nil c n)
  · simp [List.getLast?_cons]

/-- a namespace is `{uri}`: it ends with the closing brace -/
def NsOk (ns : Str) : Prop := ns.getLast? = some '}'
instance (ns : Str) : Decidable (NsOk ns) := inferInstanceAs (Decidable (_ = _))

theorem localName_ns (ns n : Str) (hns : NsOk ns) (hn : n.contains '}' = false) : localName (ns ++ n) = n := by
  unfold NsOk at hns
  obtain ⟨a, rfl⟩ : ∃ a, ns = a ++ ['}'] := List.getLast?_eq_some_iff.mp hns
  simp only [localName, List.append_assoc, List.singleton_append]
  rw [splitOn_append_sep, splitOn_no _ _ hn]
  rfl

theorem isTag_abs (ns n : Str) (hns : NsOk ns) (hn : n.contains '}' = false) (c : Xml) :
    S2T.Omml.isTag n (abs ns c) = (c.tag == ns ++ n) := by
  rw [abs_eq]
  show ((c.tag == ns ++ localName c.tag) && decide (localName c.tag = n)) = (c.tag == ns ++ n)
  by_cases h : c.tag = ns ++ n
  · simp [h, localName_ns ns n hns hn]
  · have : ¬ (c.tag = ns ++ localName c.tag ∧ localName c.tag = n) := by
      rintro ⟨h1, h2⟩; exact h (h2 ▸ h1)
    rw [show (c.tag == ns ++ n) = false from by simpa using h]
    simpa using this

theorem stepAll_singleton (x : Xml) (t : Str) : stepAll [x] t = x.children.filter (fun c => c.tag == t) := by
  simp [stepAll]

theorem findall_one (x : Xml) (t : Str) : x.findall ⟨t, []⟩ = x.children.filter (fun c => c.tag == t) := by
  simp [Xml.findall, stepAll_singleton]

theorem find_one (x : Xml) (t : Str) : x.find ⟨t, []⟩ = x.children.find? (fun c => c.tag == t) := by
  simp [Xml.find, findall_one, List.head?_filter]

theorem findall_two (x : Xml) (a b : Str) :
    x.findall ⟨a, [b]⟩ = (x.children.filter (fun c => c.tag == a)).flatMap (fun y => y.children.filter (fun c => c.tag == b)) := by
  simp [Xml.findall, stepAll]

theorem mem_children_of_find {x c : Xml} {t : Str} (h : x.find ⟨t, []⟩ = some c) : c ∈ x.children := by
  rw [find_one] at h; exact List.mem_of_find?_eq_some h

theorem filter_abs (ns n : Str) (hns : NsOk ns) (hn : n.contains '}' = false) (cs : List Xml) :
    (cs.map (abs ns)).filter (S2T.Omml.isTag n) = (cs.filter (fun c => c.tag == ns ++ n)).map (abs ns) := by
  rw [List.filter_map]; congr 2; funext c; exact isTag_abs ns n hns hn c

theorem find?_abs (ns n : Str) (hns : NsOk ns) (hn : n.contains '}' = false) (cs : List Xml) :
    (cs.map (abs ns)).find? (S2T.Omml.isTag n) = (cs.find? (fun c => c.tag == ns ++ n)).map (abs ns) := by
  rw [List.find?_map]; congr 2; funext c; exact isTag_abs ns n hns hn c

theorem abs_kids (ns : Str) (x : Xml) : (abs ns x).kids = x.children.map (abs ns) := by
  rw [abs_eq]; rfl

/-- `elem.find(ns+a + "/" + ns+b)` is the model's `pathFind` -/
theorem pathFind_abs (ns a b : Str) (hns : NsOk ns) (ha : a.contains '}' = false) (hb : b.contains '}' = false)
    (x : Xml) :
    S2T.Omml.pathFind a b (x.children.map (abs ns)) = (x.find ⟨ns ++ a, [ns ++ b]⟩).map (abs ns) := by
  unfold S2T.Omml.pathFind Xml.find
  rw [findall_two, filter_abs ns a hns ha, List.flatMap_map]
  simp only [abs_kids]
  rw [← List.map_flatMap, find?_abs ns b hns hb, List.find?_flatMap]
  simp only [List.head?_flatMap, List.head?_filter]

/-- `x.get(ns+"val", d) if x is not None else d` -/
theorem attrOr_abs (ns d : Str) (o : Option Xml) :
    S2T.Omml.attrOr d (o.map (abs ns)) = (match o with | some c => c.getD (ns ++ ['v', 'a', 'l']) d | none => d) := by
  cases o with
  | none => rfl
  | some c => rw [Option.map_some, abs_eq]; rfl

/-- the same as the conditional expression the source writes, so that the `m:d` and `m:acc` blocks do not split on the element -/
theorem attrOr_src (ns d : Str) (o : Option Xml) :
    (if o.isSome = true then unwrap o >>= fun c => Except.ok (c.getD (ns ++ ['v', 'a', 'l']) d) else Except.ok d : M Str)
      = Except.ok (S2T.Omml.attrOr d (o.map (abs ns))) := by
  rw [attrOr_abs]; cases o <;> rfl

theorem lookup_router {β} (k : Str) (d : List (Str × β)) : S2T.Router.lookup k d = S2T.Omml.lookup k d := by
  induction d with
  | nil => rfl
  | cons kv r ih => obtain ⟨k', v⟩ := kv; simp [S2T.Router.lookup, S2T.Omml.lookup, ih]

@[simp] theorem render_nil : S2T.Omml.render [] = [] := rfl
@[simp] theorem render_cons (x : S2T.Omml.TC) (a : Out) : S2T.Omml.render (x :: a) = x.1 :: S2T.Omml.render a := rfl
theorem render_eq_nil (o : Out) : S2T.Omml.render o = [] ↔ o = [] := by
  cases o <;> simp [S2T.Omml.render]
theorem render_flatten (l : List Out) : S2T.Omml.render l.flatten = (l.map S2T.Omml.render).flatten := by
  induction l with
  | nil => rfl
  | cons a r ih => simp [ih]

theorem strJoin_render (sep : Str) (outs : List Out) :
    strJoin sep (outs.map S2T.Omml.render) = S2T.Omml.render (S2T.Omml.joinWith (S2T.Omml.lit sep) outs) := by
  cases outs with
  | nil => rfl
  | cons a r =>
    rw [List.map_cons, strJoin_cons]
    simp only [S2T.Omml.joinWith, S2T.Omml.joinTail, S2T.Omml.render_append, render_flatten, List.map_map]
    congr 2
    apply List.map_congr_left
    intro y _
    simp

theorem strip_render (T : Tables) (o : Out) :
    strip T.spaces (S2T.Omml.render o) = S2T.Omml.render (S2T.Omml.strip T o) := by
  have e : ∀ l : Out, (l.map (·.1)).dropWhile (fun c => T.spaces.contains c.toNat)
      = (l.dropWhile (S2T.Omml.isSp T)).map (·.1) := by
    intro l; rw [List.dropWhile_map]; rfl
  simp only [strip, S2T.Omml.strip, S2T.Omml.lstrip, S2T.Omml.render]
  rw [e, ← List.map_reverse, e, List.map_reverse]

theorem strip_eq_nil (T : Tables) (o : Out) :
    S2T.Omml.strip T o = [] ↔ strip T.spaces (S2T.Omml.render o) = [] := by
  rw [strip_render, render_eq_nil]

theorem partitionAux_render (c : Char) (o : Out) :
    partitionAux [c] (S2T.Omml.render o)
      = (S2T.Omml.splitFirst c o).map (fun p => (S2T.Omml.render p.1, S2T.Omml.render p.2)) := by
  induction o with
  | nil => rfl
  | cons x r ih =>
    simp only [render_cons, partitionAux, S2T.Omml.splitFirst]
    by_cases h : x.1 = c
    · simp [h, List.isPrefixOf]
    · have h' : ¬ c = x.1 := fun e => h e.symm
      simp [h, h', List.isPrefixOf, ih, Option.map_map, Function.comp_def]

theorem strContains_render (c : Char) (o : Out) :
    strContains (S2T.Omml.render o) [c] = (S2T.Omml.splitFirst c o).isSome := by
  induction o with
  | nil => rfl
  | cons x r ih =>
    simp only [render_cons, strContains, S2T.Omml.splitFirst]
    by_cases h : x.1 = c
    · simp [h, List.isPrefixOf]
    · have h' : ¬ c = x.1 := fun e => h e.symm
      simp [h, h', List.isPrefixOf, ih]

theorem partition_render (c : Char) (o : Out) :
    partition (S2T.Omml.render o) [c] = Except.ok (match S2T.Omml.splitFirst c o with
      | some (a, b) => (S2T.Omml.render a, [c], S2T.Omml.render b)
      | none => (S2T.Omml.render o, [], [])) := by
  unfold partition
  rw [partitionAux_render]
  cases S2T.Omml.splitFirst c o with
  | none => rfl
  | some p => rfl

theorem truthy_unstack (s : Stack) : truthy (unstack s) = !s.isEmpty := by
  cases s <;> simp [unstack]

theorem getItem_unstack (c : Char) (s : Stack) : listGetItem (unstack (c :: s)) (-1) = Except.ok [c] := by
  rw [listGetItem_neg_one _ (by simp [unstack_cons])]
  simp [unstack_cons]

theorem listPop_unstack (c : Char) (s : Stack) : listPop (unstack (c :: s)) = Except.ok (unstack s, [c]) := by
  rw [listPop_of_ne_nil _ (by simp [unstack_cons])]
  simp [unstack_cons]

theorem dropLast_unstack (c : Char) (s : Stack) : (unstack (c :: s)).dropLast = unstack s := by
  simp [unstack_cons]

theorem len_unstack (s : Stack) : len (unstack s) = (s.length : Int) := by simp [len]

theorem strRepeat_one (c : Char) (n : Nat) : strRepeat [c] (n : Int) = List.replicate n c := by
  rw [strRepeat, Int.toNat_natCast, List.flatten_replicate_singleton]

/-- what the `while pending and pending[-1] in converted` loop leaves in `converted` and `pieces` (the model's
    `closeLoop`, on plain strings, with the pieces not yet joined) -/
def loopRes : Stack → Out → List Str → Str × List Str
  | [], o, ps => (S2T.Omml.render o, ps)
  | c :: st, o, ps =>
    match S2T.Omml.splitFirst c o with
    | none => (S2T.Omml.render o, ps)
    | some (a, b) => loopRes st b (ps ++ [S2T.Omml.render a ++ ['}']])

theorem loopRes_join (st : Stack) (o : Out) (ps : List Str) :
    ((loopRes st o ps).2 ++ [(loopRes st o ps).1]).flatten
      = ps.flatten ++ S2T.Omml.render (S2T.Omml.closeLoop st o).1 := by
  induction st generalizing o ps with
  | nil => simp [loopRes, S2T.Omml.closeLoop]
  | cons c st ih =>
    simp only [loopRes, S2T.Omml.closeLoop]
    rcases h : S2T.Omml.splitFirst c o with _ | ⟨a, b⟩
    · simp
    · simp only [ih]; simp

theorem cdictContains_one {β} (d : List (Char × β)) (c : Char) :
    cdictContains d [c] = (S2T.Omml.lookup c d).isSome := rfl

theorem cdictGetItem_one {β} (d : List (Char × β)) (c : Char) :
    cdictGetItem d [c] = (match S2T.Omml.lookup c d with | some v => Except.ok v | none => Except.error keyError) := by
  simp only [cdictGetItem]; rfl

/-- the loop of `convert_greek_and_symbols`: any body that appends the model's `conv1` of the character -/
theorem forIn_conv (T : Tables) (f : Str → List Str → M (ForInStep (List Str)))
    (h : ∀ c acc, f [c] acc = Except.ok (ForInStep.yield (acc ++ [S2T.Omml.conv1 T c]))) (text : Str) (acc : List Str) :
    forIn (strIter text) acc f = Except.ok (acc ++ text.map (S2T.Omml.conv1 T)) := by
  rw [strIter, List.forIn_map]
  exact forIn_append_map (S2T.Omml.conv1 T) text _ (fun c _ => h c) acc

theorem convert_eq (T : Tables) (s : Str) : S2T.Omml.convert T s = (s.map (S2T.Omml.conv1 T)).flatten := by
  simp [S2T.Omml.convert, List.flatMap]

/-- the loop state `(pending, collected)` of the element loops when the source declares the two locals the other way round
    (reducible, so that `forIn_seq swapped …` unifies with the pair the `do` block carries) -/
abbrev swapped {α β} (b : β) (a : α) : α × β := (a, b)

/-- `parts.append(result)` -/
abbrev one (o : Out) : List Str := [S2T.Omml.render o]
@[simp] theorem flatMap_one (outs : List Out) : outs.flatMap one = outs.map S2T.Omml.render := List.map_eq_flatMap.symm
/-- `if result: parts.append(result)` -/
def keep (o : Out) : List Str := if truthy (S2T.Omml.render o) then [S2T.Omml.render o] else []

theorem flatten_keep (outs : List Out) : (outs.flatMap keep).flatten = S2T.Omml.render outs.flatten := by
  induction outs with
  | nil => rfl
  | cons o t ih => cases h : S2T.Omml.render o <;> simp [keep, h, ih, S2T.Omml.render_append]

theorem foldl_seqAll {β} (r : Out → List β) (cs : List Xml) (g : Xml → S2T.Omml.M) (s : Stack) (acc : List β) :
    cs.foldl (fun (p : Stack × List β) c => ((g c p.1).2, p.2 ++ r (g c p.1).1)) (s, acc)
      = ((S2T.Omml.seqAll (cs.map g) s).2, acc ++ (S2T.Omml.seqAll (cs.map g) s).1.flatMap r) := by
  induction cs generalizing s acc with
  | nil => simp [S2T.Omml.seqAll]
  | cons c t ih => simp [S2T.Omml.seqAll, ih]

/-- every element is processed by `g`, the state threaded, and what `r` keeps of each result collected in order (`one`:
    the result; `keep`: the result unless it is empty).  `e` lays the two loop-carried locals out in the loop state
    (their order is the declaration order in the source). -/
theorem forIn_seq {σ} (e : List Str → List Str → σ) (r : Out → List Str) (cs : List Xml) (g : Xml → S2T.Omml.M)
    (f : Xml → σ → M (ForInStep σ))
    (h : ∀ c ∈ cs, ∀ s acc, f c (e (unstack s) acc)
      = Except.ok (ForInStep.yield (e (unstack (g c s).2) (acc ++ r (g c s).1))))
    (s : Stack) (acc : List Str) :
    forIn cs (e (unstack s) acc) f = Except.ok (e (unstack (S2T.Omml.seqAll (cs.map g) s).2)
      (acc ++ (S2T.Omml.seqAll (cs.map g) s).1.flatMap r)) := by
  have := forIn_ok_fold (fun p : Stack × List Str => e (unstack p.1) p.2)
    (fun p c => ((g c p.1).2, p.2 ++ r (g c p.1).1)) cs f (fun c hc p => h c hc p.1 p.2) (s, acc)
  rwa [foldl_seqAll] at this

-- the local literal tables of the source: `erw` with the generated table for `tbl` identifies the two by unification
theorem dictGetD_eq (tbl : List (Str × Str)) (k d : Str) : dictGetD tbl k d = (S2T.Omml.lookup k tbl).getD d := by
  simp [dictGetD, lookup_router]

/-- a dict whose values are one-character strings, against the generated table with `Char` values -/
theorem dictGetD_chars (tbl : List (Str × Char)) (k : Str) (d : Char) :
    dictGetD (tbl.map (fun kc => (kc.1, [kc.2]))) k [d] = [(S2T.Omml.lookup k tbl).getD d] := by
  simp only [dictGetD, lookup_router]
  induction tbl with
  | nil => rfl
  | cons kc r ih =>
    obtain ⟨k', c⟩ := kc
    simp only [List.map_cons, S2T.Omml.lookup]
    split <;> simp_all

theorem setContains_eq (tbl : List Str) (k : Str) : setContains tbl k = tbl.contains k := rfl

/-- one test of a dispatch: the source tests `b`, the model `c`; `F` turns the model's choice into the source's result -/
theorem ite_dispatch {α β} (F : β → α) {b : Bool} {c : Prop} [Decidable c] (hbc : b = true ↔ c) {A B : α} {K R : β}
    (hA : A = F K) (hB : B = F R) : (if b = true then A else B) = F (if c then K else R) := by
  by_cases h : c
  · rw [if_pos (hbc.mpr h), if_pos h, hA]
  · rw [if_neg (mt hbc.mp h), if_neg h, hB]

theorem Xml.strongInd {P : Xml → Prop} (h : ∀ x, (∀ y, sizeOf y < sizeOf x → P y) → P x) : ∀ x, P x := by
  intro x
  generalize hn : sizeOf x = n
  induction n using Nat.strongRecOn generalizing x with
  | _ n ih => exact h x (fun y hy => ih (sizeOf y) (hn ▸ hy) y rfl)

/-- `pe` (a translated `process_element`) simulates the model on the element `y`: from the list representing the
    model's stack it returns the rendered output and the list representing the model's new stack -/
def Sim (T : Tables) (ns : Str) (pe : Option Xml → List Str → M (Str × List Str)) (y : Xml) : Prop :=
  ∀ s : Stack, pe (some y) (unstack s)
    = Except.ok (S2T.Omml.render (S2T.Omml.proc T (abs ns y) s).1, unstack (S2T.Omml.proc T (abs ns y) s).2)

/-- `process_element(elem.find(ns + n))` is the model's operand `opndX n` -/
theorem sim_find (T : Tables) (ns : Str) (pe : Option Xml → List Str → M (Str × List Str)) (hns : NsOk ns)
    (hnone : ∀ p, pe none p = Except.ok ([], p)) (x : Xml) (ih : ∀ y, sizeOf y < sizeOf x → Sim T ns pe y)
    (n : Str) (hn : n.contains '}' = false) (s : Stack) :
    pe (x.find ⟨ns ++ n, []⟩) (unstack s)
      = Except.ok (S2T.Omml.render (S2T.Omml.opndX T n (x.children.map (abs ns)) s).1,
                   unstack (S2T.Omml.opndX T n (x.children.map (abs ns)) s).2) := by
  unfold S2T.Omml.opndX
  rw [find?_abs ns n hns hn, ← find_one]
  rcases h : x.find ⟨ns ++ n, []⟩ with _ | c
  · simp [hnone, S2T.Omml.ret]
  · exact ih c (Xml.sizeOf_lt_of_mem_children (mem_children_of_find h)) s

/-- the operands of a delimiter: `[process_element(e) for e in y.findall(ns + n)]` -/
theorem map_proc_findall (T : Tables) (ns n : Str) (hns : NsOk ns) (hn : n.contains '}' = false) (y : Xml) :
    ((y.children.map (abs ns)).filter (S2T.Omml.isTag n)).map (S2T.Omml.proc T)
      = (y.findall ⟨ns ++ n, []⟩).map (fun c => S2T.Omml.proc T (abs ns c)) := by
  rw [filter_abs ns n hns hn, findall_one, List.map_map]
  rfl

theorem hasMr_abs (ns n : Str) (hns : NsOk ns) (hn : n.contains '}' = false) (x : Xml) :
    ((x.children.map (abs ns)).find? (S2T.Omml.isTag n)).isSome = (x.find ⟨ns ++ n, []⟩).isSome := by
  rw [find?_abs ns n hns hn, find_one, Option.isSome_map]

/-- the rows of a matrix: for every `ns + nr` child the processed `ns + n` children of that child -/
theorem map_cells_findall (T : Tables) (ns nr : Str) (hns : NsOk ns) (hnr : nr.contains '}' = false) (x : Xml) :
    ((x.children.map (abs ns)).filter (S2T.Omml.isTag nr)).map
        (fun r => (r.kids.filter (S2T.Omml.isTag S2T.Omml.n_e)).map (S2T.Omml.proc T))
      = (x.findall ⟨ns ++ nr, []⟩).map (fun mr =>
          (mr.findall ⟨ns ++ S2T.Omml.n_e, []⟩).map (fun c => S2T.Omml.proc T (abs ns c))) := by
  rw [filter_abs ns nr hns hnr, findall_one, List.map_map]
  apply List.map_congr_left
  intro mr _
  simp only [Function.comp_def, abs_kids, filter_abs ns S2T.Omml.n_e hns (by decide), findall_one, List.map_map]

theorem map_run_children (T : Tables) (ns : Str) (x : Xml) :
    (x.children.map (abs ns)).map (S2T.Omml.proc T) = x.iter.map (fun c => S2T.Omml.proc T (abs ns c)) := by
  simp [List.map_map, Function.comp_def, Xml.iter]

theorem forIn_seq' (cs : List Xml) (g : Xml → S2T.Omml.M)
    (f : Xml → List Str × List Str → M (ForInStep (List Str × List Str)))
    (h : ∀ c ∈ cs, ∀ s acc, f c (acc, unstack s)
      = Except.ok (ForInStep.yield (acc ++ [S2T.Omml.render (g c s).1], unstack (g c s).2)))
    (s : Stack) (acc : List Str) :
    forIn cs (acc, unstack s) f = Except.ok (acc ++ (S2T.Omml.seqAll (cs.map g) s).1.map S2T.Omml.render,
      unstack (S2T.Omml.seqAll (cs.map g) s).2) :=
  flatMap_one _ ▸ forIn_seq swapped one cs g f h s acc

mutual
/-- an element whose abstraction is the given model tree -/
def conc (ns : Str) : MXml → Xml
  | .node mns name val text kids =>
    { tag := (if mns then ns else []) ++ name,
      attrib := (match val with | some v => [(ns ++ ['v', 'a', 'l'], v)] | none => []),
      text := some text, tail := none, children := concL ns kids }
def concL (ns : Str) : List MXml → List Xml
  | [] => []
  | k :: ks => conc ns k :: concL ns ks
end

mutual
/-- no local name of the tree contains `}` (true of every name `tag.split("}")[-1]`) -/
def namesOk : MXml → Bool
  | .node _ name _ _ kids => !name.contains '}' && namesOkL kids
def namesOkL : List MXml → Bool
  | [] => true
  | k :: ks => namesOk k && namesOkL ks
end

theorem concL_eq_map (ns : Str) (ks : List MXml) : concL ns ks = ks.map (conc ns) := by
  induction ks with
  | nil => simp [concL]
  | cons k ks ih => simp [concL, ih]

theorem namesOkL_iff (ks : List MXml) : namesOkL ks = true ↔ ∀ k ∈ ks, namesOk k = true := by
  induction ks with
  | nil => simp [namesOkL]
  | cons k ks ih => simp [namesOkL, ih]

theorem localName_no (n : Str) (h : n.contains '}' = false) : localName n = n := by
  simp [localName, splitOn_no _ _ h]

theorem abs_conc (ns : Str) (hns : NsOk ns) : ∀ m : MXml, namesOk m = true → abs ns (conc ns m) = m := by
  apply S2T.Omml.Xml.ind
  intro mns name val text kids ih h
  simp only [namesOk, Bool.and_eq_true, Bool.not_eq_true'] at h
  obtain ⟨hn, hk⟩ := h
  have hne : ns ≠ [] := by intro e; simp [NsOk, e] at hns
  rw [abs_eq]
  simp only [conc, concL_eq_map, List.map_map]
  have hkids : kids.map (abs ns ∘ conc ns) = kids := by
    have := (namesOkL_iff kids).mp hk
    calc kids.map (abs ns ∘ conc ns) = kids.map id :=
          List.map_congr_left (fun k hk' => ih k hk' (this k hk'))
      _ = kids := List.map_id _
  have htext : orOpt (some text) [] = text := by
    cases text <;> simp [orOpt]
  have hval : ∀ tg tx tl ch, Xml.get? ⟨tg, (match val with | some v => [(ns ++ ['v', 'a', 'l'], v)] | none => []),
      tx, tl, ch⟩ (ns ++ ['v', 'a', 'l']) = val := by
    intro tg tx tl ch
    cases val <;> simp [Xml.get?, S2T.Omml.lookup]
  rw [hval, htext, hkids]
  cases mns with
  | true => simp [localName_ns ns name hns hn]
  | false =>
    have : (name == ns ++ name) = false := by
      have hl : name.length ≠ (ns ++ name).length := by
        have : 0 < ns.length := List.length_pos_iff.mpr hne
        simp; omega
      simpa using fun e : name = ns ++ name => hl (congrArg List.length e)
    simp [localName_no name hn, this]

/-- on tags in the namespace without a second `}` (`ns ++ rest`: every such tag an XML parser produces) the model's flag
    `tag == ns + local name` is `tag.startswith(ns)` -/
theorem mns_eq_startswith (ns rest : Str) (hns : NsOk ns) (h : rest.contains '}' = false) :
    (ns ++ rest == ns ++ localName (ns ++ rest)) = ns.isPrefixOf (ns ++ rest) := by
  simp [localName_ns ns rest hns h]

mutual
/-- the abstraction with the namespace flag computed as the C19 harness does (`tag.startswith(ns)`) -/
def absSW (ns : Str) : Xml → MXml
  | ⟨tag, attrib, text, _, children⟩ =>
    .node (ns.isPrefixOf tag) (localName tag) (S2T.Omml.lookup (ns ++ ['v', 'a', 'l']) attrib)
      (orOpt text []) (absSWL ns children)
def absSWL (ns : Str) : List Xml → List MXml
  | [] => []
  | c :: cs => absSW ns c :: absSWL ns cs
end

end S2T.Py.Omml
