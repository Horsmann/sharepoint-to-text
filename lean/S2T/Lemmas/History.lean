import S2T.Model.History
/-! What a history of calls cannot change: a property of the store that every call keeps (`after_inv`), and the
answers of a whole history when, under such a property, each call answers as a function of its argument alone
(`outputs_inv`).  Constant tables, memo tables, per-instance caches and the type registry are instances; for a memo
table the property is `MemoSound`, and `memoGet_spec` says that a lookup keeps it and answers with the function value. -/
namespace S2T.History

/-- whatever the lookup does with the table (store, re-order, evict) -/
theorem memoGet_spec {κ ν} [BEq κ] [LawfulBEq κ] (f : κ → ν) (keep : κ × ν → Bool) (tbl : List (κ × ν))
    (hs : MemoSound f tbl) (k : κ) : (memoGet f keep tbl k).1 = f k ∧ MemoSound f (memoGet f keep tbl k).2 := by
  -- in both cases the new table is the asked pair with its right value in front of a sub-table of the old one
  have key : ∀ v p, v = f k → MemoSound f ((k, v) :: tbl.filter p) := fun v p hv kv hkv =>
    (List.mem_cons.mp hkv).elim (fun e => e ▸ hv) fun hm => hs kv (List.mem_filter.mp hm).1
  unfold memoGet
  cases h : tbl.lookup k with
  | none => exact ⟨rfl, key _ _ rfl⟩
  | some v =>
    obtain ⟨l₁, l₂, hl, _⟩ := List.lookup_eq_some_iff.mp h
    have hv := hs (k, v) (by simp [hl])
    exact ⟨hv, key _ _ hv⟩

theorem memoGet_fst {κ ν} [BEq κ] [LawfulBEq κ] (f : κ → ν) (keep : κ × ν → Bool) (tbl : List (κ × ν))
    (hs : MemoSound f tbl) (k : κ) : (memoGet f keep tbl k).1 = f k := (memoGet_spec f keep tbl hs k).1

theorem memoGet_sound {κ ν} [BEq κ] [LawfulBEq κ] (f : κ → ν) (keep : κ × ν → Bool) (tbl : List (κ × ν))
    (hs : MemoSound f tbl) (k : κ) : MemoSound f (memoGet f keep tbl k).2 := (memoGet_spec f keep tbl hs k).2

theorem MemoSound.nil {κ ν} (f : κ → ν) : MemoSound f [] := fun _ h => (List.not_mem_nil h).elim

variable {σ δ ρ} (run : σ → δ → ρ × σ) (I : σ → Prop) (keep : ∀ g d, I g → I (run g d).2)
include keep

theorem after_inv {g : σ} (h : I g) (hist : List δ) : I (after run g hist) := by
  induction hist generalizing g with
  | nil => exact h
  | cons d ds ih => exact ih (keep g d h)

theorem outputs_inv (out : δ → ρ) (ans : ∀ g d, I g → (run g d).1 = out d) {g : σ} (h : I g) (ds : List δ) :
    outputs run g ds = ds.map out := by
  induction ds generalizing g with
  | nil => rfl
  | cons d ds ih => simp only [outputs, List.map_cons, ans g d h, ih (keep g d h)]

-- with binders of its own: it is `after_inv` at `I := (· = g)`, so the section's `I` and `keep` are not its hypotheses
omit keep in
theorem after_frame {σ δ ρ} (run : σ → δ → ρ × σ) (frame : ∀ g d, (run g d).2 = g) (g : σ) (hist : List δ) :
    after run g hist = g :=
  after_inv run (· = g) (fun g' d e => (frame g' d).trans e) rfl hist

end S2T.History
