/-!
Decimal numerals.  The models write a number in decimal and read one back with recursions and folds of their own.  The
writers are core's `Nat.toDigits 10`, the readers core's `Nat.ofDigitChars 10`, and what the round trips need (digits only,
never empty, the value comes back) is proved there.  This file holds the two facts through which a home-made copy is
recognised as the core function, and core's "digits only" at base 10.
-/
namespace S2T.Decimal

/-- `Nat.toDigits 10` is the only function with the recursion "last digit behind the numeral of the rest" -/
theorem eq_toDigits (f : Nat → List Char)
    (h : ∀ n, f n = if n < 10 then [n.digitChar] else f (n / 10) ++ [(n % 10).digitChar]) (n : Nat) :
    f n = Nat.toDigits 10 n := by
  induction n using Nat.strongRecOn with
  | _ n ih =>
    rw [h, Nat.toDigits_eq_if (by decide)]
    split
    · rfl
    · rw [ih _ (by omega)]

/-- a left fold "ten times what was read so far plus the digit", however the step is written; it need only be that on
    the characters read -/
theorem foldl_eq_ofDigitChars (g : Nat → Char → Nat) (s : List Char)
    (hg : ∀ a, ∀ c ∈ s, g a c = 10 * a + (c.toNat - 48)) (acc : Nat) : s.foldl g acc = Nat.ofDigitChars 10 s acc := by
  induction s generalizing acc with
  | nil => rfl
  | cons c r ih =>
    rw [List.foldl_cons, ih (fun a x hx => hg a x (List.mem_cons_of_mem _ hx)), hg _ _ List.mem_cons_self,
      Nat.ofDigitChars_cons]
    -- core's step reads the digit as `c.toNat - '0'.toNat`, which is `c.toNat - 48` by evaluation
    rfl

theorem isDigit_toDigits {n : Nat} {c : Char} (h : c ∈ Nat.toDigits 10 n) : c.isDigit = true :=
  Nat.isDigit_of_mem_toDigits (by decide) (by decide) h

end S2T.Decimal
