import S2T.Spec.HtmlDoc
/-! C17: the skip gate of the HTML event machines.  While it skips a removed element the counter follows `bal`, so an
    admissible item is passed on as its visible calls and leaves the gate where it was, and a document is read item by item.
    `Clean` and `LegacyItemOk`, which the property statements use, are defined here. -/
namespace S2T.HtmlSkip

variable {σ : Type} (T : Tables) (D : Down σ)

theorem run_append (st : St σ) (a b : List Ev) :
    run T D st (a ++ b) = run T D (run T D st a) b := by
  simp [run, List.foldl_append]

theorem run_cons (st : St σ) (e : Ev) (r : List Ev) :
    run T D st (e :: r) = run T D (step T D st e) r := rfl

theorem run_nil (st : St σ) : run T D st [] = st := rfl

theorem events_cons (i : Item) (r : Doc) : events (i :: r) = i.events ++ events r := List.flatMap_cons

theorem downEvents_cons (i : Item) (r : Doc) : downEvents (i :: r) = i.downEvents ++ downEvents r :=
  List.flatMap_cons

theorem run_junk (tag : Str) (junk : List Ev) :
    ∀ (k k' : Nat) (st : St σ), st.skipTag = some tag → st.skipDepth = (k : Int) + 1 →
      bal tag k junk = some k' →
      run T D st junk = { st with skipDepth := (k' : Int) + 1 } := by
  induction junk with
  | nil =>
    intro k k' st _ hd hb
    simp only [bal, Option.some.injEq] at hb
    subst hb
    cases st; simp_all [run]
  | cons e r ih =>
    intro k k' st ht hd hb
    have hpos : st.skipDepth > 0 := by omega
    rw [run_cons]
    cases e with
    | start t a =>
      simp only [bal] at hb
      by_cases h : t = tag
      · subst h
        simp only [↓reduceIte] at hb
        have hs : step T D st (.start t a) = { st with skipDepth := st.skipDepth + 1 } := by
          simp [step, handleStarttag, hpos, ht]
        rw [hs]
        have := ih (k + 1) k' { st with skipDepth := st.skipDepth + 1 } ht (by simp; omega) hb
        rw [this]
      · simp only [h, ↓reduceIte] at hb
        have hs : step T D st (.start t a) = st := by
          simp [step, handleStarttag, hpos, ht, h]
        rw [hs]; exact ih k k' st ht hd hb
    | end_ t =>
      simp only [bal] at hb
      by_cases h : t = tag
      · subst h
        simp only [↓reduceIte] at hb
        cases k with
        | zero => simp at hb
        | succ k0 =>
          simp only at hb  -- the `match` of `bal` on `k0 + 1`
          have hs : step T D st (.end_ t) = { st with skipDepth := st.skipDepth - 1 } := by
            have hne : ¬ (st.skipDepth - 1 = 0) := by omega
            simp [step, handleEndtag, hpos, ht, hne]
          rw [hs]
          have := ih k0 k' { st with skipDepth := st.skipDepth - 1 } ht (by simp; omega) hb
          rw [this]
      · simp only [h, ↓reduceIte] at hb
        have hs : step T D st (.end_ t) = st := by
          simp [step, handleEndtag, hpos, ht, h]
        rw [hs]; exact ih k k' st ht hd hb
    | startend _ _ | data _ | comment _ | decl _ | pi _ | unknownDecl _ =>
      -- nothing but a start or end tag moves the gate while it skips
      simp only [bal] at hb
      rw [show step T D st _ = st by simp [step, handleStartendtag, handleData, hpos]]
      exact ih k k' st ht hd hb

/-- Entering a removed element.  `k = 0`: the element's own end tag comes next; any `k`: the document ends inside it. -/
theorem run_enter (t : Str) (a : Attrs) (junk : List Ev) (k : Nat) (hr : T.remove.contains t = true)
    (hv : T.void.contains t = false) (hb : bal t 0 junk = some k) (st : St σ) (hd : ¬ st.skipDepth > 0) :
    run T D st (.start t a :: junk) = { st with skipTag := some t, skipDepth := (k : Int) + 1 } := by
  have hr' : t ∈ T.remove := by simpa using hr
  have hv' : t ∉ T.void := by simpa using hv
  rw [run_cons, show step T D st (.start t a) = { st with skipTag := some t, skipDepth := 1 } by
    simp [step, handleStarttag, hd, hr', hv']]
  exact run_junk T D t junk 0 k _ rfl (by simp) hb

/-- a state outside any removed element -/
def Clean (st : St σ) : Prop := st.skipDepth = 0 ∧ st.skipTag = none

theorem clean_init (d : σ) : Clean (init d) := ⟨rfl, rfl⟩

theorem Clean.not_skipping {st : St σ} (hc : Clean st) : ¬ st.skipDepth > 0 := by have := hc.1; omega

theorem Clean.with_down {st : St σ} (hc : Clean st) (d : σ) : { st with down := d } = init d := by
  obtain ⟨h1, h2⟩ := hc
  cases st; simp_all [init]

theorem run_item (i : Item) (hi : ItemOk T i = true) (st : St σ) (hc : Clean st) :
    run T D st i.events = { st with down := D.feed st.down i.downEvents } := by
  have hnp := hc.not_skipping
  obtain ⟨hd, ht⟩ := hc
  cases i with
  | text _ | close _ =>
    simp [Item.events, Item.downEvents, run, step, handleData, handleEndtag, hnp, Down.feed, Down.step]
  | open_ t _ | selfclosed t _ =>
    have hi' : t ∉ T.remove := by simpa [ItemOk] using hi
    simp [Item.events, Item.downEvents, run, step, handleStartendtag, handleStarttag, handleEndtag,
      hnp, hi', Down.feed, Down.step]
  | removed t a junk =>
    simp only [ItemOk, Bool.and_eq_true, Bool.not_eq_true', JunkOk, beq_iff_eq] at hi
    obtain ⟨⟨hr, hv⟩, hj⟩ := hi
    simp only [Item.events, Item.downEvents]
    rw [← List.cons_append, run_append, run_enter T D t a junk 0 hr hv hj st hnp]
    -- the end tag takes the depth from 1 to 0 and sets `skipTag` to `none`, which is `st.skipTag` by `Clean`
    cases st
    simp_all [run, step, handleEndtag, Down.feed]
  | removedEmpty t a sc =>
    simp only [ItemOk, Bool.and_eq_true, Bool.or_eq_true] at hi
    obtain ⟨hr, hsv⟩ := hi
    cases sc with
    | true =>
      cases st
      simp_all [Item.events, Item.downEvents, run, step, handleStartendtag, Down.feed]
    | false =>
      have hv : T.void.contains t = true := by simpa using hsv
      cases st
      simp_all [Item.events, Item.downEvents, run, step, handleStarttag, Down.feed]
  | comment _ | decl _ | pi _ | unknownDecl _ => cases st; simp [Item.events, Item.downEvents, run, step, Down.feed]

theorem feed_append (d : σ) (a b : List DEv) : D.feed d (a ++ b) = D.feed (D.feed d a) b := by
  simp [Down.feed, List.foldl_append]

/-- A document is read item by item: if every admissible item, met in a state that `C` holds of, is passed on as its
    visible calls and leaves the gate where it was, so is every document of admissible items. -/
theorem foldl_doc {stp : St σ → Ev → St σ} {ok : Item → Bool} {C : St σ → Prop}
    (hi : ∀ i, ok i = true → ∀ st, C st → i.events.foldl stp st = { st with down := D.feed st.down i.downEvents })
    (hC : ∀ st d, C st → C { st with down := d }) :
    ∀ (doc : Doc) (st : St σ), doc.all ok = true → C st →
      (events doc).foldl stp st = { st with down := D.feed st.down (downEvents doc) } := by
  intro doc
  induction doc with
  | nil => intro st _ _; cases st; simp [events, downEvents, Down.feed]
  | cons i r ih =>
    intro st hd hc
    simp only [List.all_cons, Bool.and_eq_true] at hd
    rw [events_cons, downEvents_cons, List.foldl_append, hi i hd.1 st hc, feed_append]
    exact ih _ hd.2 (hC st _ hc)

theorem run_doc (doc : Doc) (st : St σ) : DocOk T doc = true → Clean st →
    run T D st (events doc) = { st with down := D.feed st.down (downEvents doc) } :=
  -- `Clean` does not look at `down`: `Clean { st with down := d }` is `Clean st` by reduction of the projections
  foldl_doc D (run_item T D) (fun _ _ h => h) doc st

theorem strip_ok (doc : Doc) (h : DocOk T doc = true) : DocOk T (strip doc) = true := by
  simp only [DocOk, strip, List.all_eq_true, List.mem_filter] at *
  intro i hi; exact h i hi.1

theorem strip_downEvents (doc : Doc) : downEvents (strip doc) = downEvents doc := by
  have hinv : ∀ i : Item, i.isVisible = false → i.downEvents = [] := by
    intro i h; cases i <;> simp [Item.isVisible, Item.downEvents] at h ⊢
  induction doc with
  | nil => rfl
  | cons i r ih =>
    simp only [strip, downEvents, List.filter_cons, List.flatMap_cons] at ih ⊢
    cases hv : i.isVisible with
    | true => simp [ih]
    | false => simp [hinv i hv, ih]

theorem dataOf_downEvents (doc : Doc) : dataOf (downEvents doc) = visibleData doc := by
  unfold dataOf downEvents visibleData
  rw [List.flatMap_assoc]
  congr 1; funext i; cases i <;> rfl

theorem logDown_feed (l evs : List DEv) : logDown.feed l evs = l ++ evs := by
  induction evs generalizing l with
  | nil => simp [Down.feed]
  | cons e r ih =>
    have : logDown.feed l (e :: r) = logDown.feed (logDown.step l e) r := rfl
    rw [this, ih]
    cases e <;> simp [Down.step, logDown]

theorem matchSpec_remove (h : TablesMatchSpec T = true) (t : Str) : T.remove.contains t = specRemovable.contains t := by
  simp only [TablesMatchSpec, Bool.and_eq_true, List.all_eq_true] at h
  apply Bool.eq_iff_iff.mpr
  constructor
  · intro ht; exact h.1.2 t (by simpa using ht)
  · intro ht; exact h.1.1 t (by simpa using ht)

theorem matchSpec_void (h : TablesMatchSpec T = true) (t : Str) (ht : specRemovable.contains t = true) :
    T.void.contains t = stdVoid.contains t := by
  simp only [TablesMatchSpec, Bool.and_eq_true, List.all_eq_true] at h
  simpa using h.2 t (by simpa using ht)

/-- the two pairs of tables give the same verdict wherever voidness is asked of a removable tag only -/
theorem matchSpec_and (h : TablesMatchSpec T = true) (t : Str) (f : Bool → Bool) :
    (T.remove.contains t && f (T.void.contains t)) = (specRemovable.contains t && f (stdVoid.contains t)) := by
  rw [matchSpec_remove T h]
  cases hs : specRemovable.contains t with
  | false => rfl
  | true => rw [matchSpec_void T h t hs]

theorem itemOk_eq_spec (h : TablesMatchSpec T = true) (i : Item) : ItemOk T i = SpecItemOk i := by
  cases i with
  | removed t _ junk =>
    simp only [ItemOk, SpecItemOk, Bool.and_assoc]
    exact matchSpec_and T h t (fun v => !v && JunkOk t junk)
  | removedEmpty t _ sc => exact matchSpec_and T h t (fun v => sc || v)
  | _ => simp only [ItemOk, SpecItemOk, matchSpec_remove T h]

theorem docOk_eq_spec (h : TablesMatchSpec T = true) (doc : Doc) : DocOk T doc = SpecDocOk doc := by
  simp only [DocOk, SpecDocOk]
  congr 1
  funext i
  exact itemOk_eq_spec T h i

theorem docOk_of_spec (h : TablesMatchSpec T = true) {doc : Doc} (hd : SpecDocOk doc = true) : DocOk T doc = true :=
  (docOk_eq_spec T h doc).trans hd

/-! The gate before the repair: `legacy_run_junk` and `legacy_run_item` repeat `run_junk` and `run_item` above for `Legacy.step`, with `balAll` (every tag name
counts) where those have `bal tag`; the walk over the document (`foldl_doc`) is shared. -/

theorem legacy_run_junk (junk : List Ev) :
    ∀ (k k' : Nat) (st : St σ), st.skipDepth = (k : Int) + 1 → balAll k junk = some k' →
      Legacy.run T D st junk = { st with skipDepth := (k' : Int) + 1 } := by
  induction junk with
  | nil =>
    intro k k' st hd hb
    simp only [balAll, Option.some.injEq] at hb
    subst hb
    cases st; simp_all [Legacy.run]
  | cons e r ih =>
    intro k k' st hd hb
    have hpos : st.skipDepth > 0 := by omega
    have hc : Legacy.run T D st (e :: r) = Legacy.run T D (Legacy.step T D st e) r := rfl
    rw [hc]
    cases e with
    | start t a =>
      simp only [balAll] at hb
      have hs : Legacy.step T D st (.start t a) = { st with skipDepth := st.skipDepth + 1 } := by
        simp [Legacy.step, Legacy.handleStarttag, hpos]
      rw [hs, ih (k + 1) k' _ (by simp; omega) hb]
    | end_ t =>
      simp only [balAll] at hb
      cases k with
      | zero => simp at hb
      | succ k0 =>
        simp only at hb  -- as in `run_junk`, of `balAll`
        have hs : Legacy.step T D st (.end_ t) = { st with skipDepth := st.skipDepth - 1 } := by
          simp [Legacy.step, Legacy.handleEndtag, hpos]
        rw [hs, ih k0 k' _ (by simp; omega) hb]
    | startend t a =>
      simp only [balAll] at hb
      have hs : Legacy.step T D st (.startend t a) = st := by
        have : st.skipDepth + 1 > 0 := by omega
        cases st
        simp_all [Legacy.step, Legacy.handleStarttag, Legacy.handleEndtag]
      rw [hs]; exact ih k k' st hd hb
    | data _ | comment _ | decl _ | pi _ | unknownDecl _ =>
      simp only [balAll] at hb
      rw [show Legacy.step T D st _ = st by simp [Legacy.step, handleData, hpos]]
      exact ih k k' st hd hb

/-- items the gate before the repair handled correctly: the content of a removed element is
    balanced over *all* tag names (no void or unclosed child, no stray end tag), and an empty
    removed element is written in the self-closing form. -/
def LegacyItemOk (T : Tables) : Item → Bool
  | .removed t _ junk => T.remove.contains t && balAll 0 junk == some 0
  | .removedEmpty t _ sc => T.remove.contains t && sc
  | i => ItemOk T i

theorem legacy_run_item (i : Item) (hi : LegacyItemOk T i = true) (st : St σ) (hd : st.skipDepth = 0) :
    Legacy.run T D st i.events = { st with down := D.feed st.down i.downEvents } := by
  have hnp : ¬ (st.skipDepth > 0) := by omega
  cases i with
  | text _ | close _ =>
    simp [Item.events, Item.downEvents, Legacy.run, Legacy.step, handleData, Legacy.handleEndtag, hnp, Down.feed, Down.step]
  | open_ t _ | selfclosed t _ =>
    have hi' : t ∉ T.remove := by simpa [LegacyItemOk, ItemOk] using hi
    simp [Item.events, Item.downEvents, Legacy.run, Legacy.step, Legacy.handleStarttag, Legacy.handleEndtag,
      hnp, hi', Down.feed, Down.step]
  | removed t a junk =>
    simp only [LegacyItemOk, Bool.and_eq_true, beq_iff_eq] at hi
    obtain ⟨hr, hj⟩ := hi
    have hr' : t ∈ T.remove := by simpa using hr
    simp only [Item.events, Item.downEvents]
    have hc : Legacy.run T D st (.start t a :: (junk ++ [.end_ t]))
        = Legacy.run T D (Legacy.run T D (Legacy.step T D st (.start t a)) junk) [.end_ t] := by
      simp [Legacy.run, List.foldl_append]
    rw [hc]
    have hs : Legacy.step T D st (.start t a) = { st with skipDepth := 1 } := by
      simp [Legacy.step, Legacy.handleStarttag, hnp, hr']
    rw [hs, legacy_run_junk T D junk 0 0 { st with skipDepth := 1 } (by simp) hj]
    cases st
    simp_all [Legacy.run, Legacy.step, Legacy.handleEndtag, Down.feed]
  | removedEmpty t a sc =>
    simp only [LegacyItemOk, Bool.and_eq_true] at hi
    obtain ⟨hr, hsc⟩ := hi
    have hr' : t ∈ T.remove := by simpa using hr
    subst hsc
    cases st
    simp_all [Item.events, Item.downEvents, Legacy.run, Legacy.step, Legacy.handleStarttag,
      Legacy.handleEndtag, Down.feed]
  | comment _ | decl _ | pi _ | unknownDecl _ =>
    cases st; simp [Item.events, Item.downEvents, Legacy.run, Legacy.step, Down.feed]

theorem legacy_run_doc (doc : Doc) (st : St σ) : doc.all (LegacyItemOk T) = true → st.skipDepth = 0 →
    Legacy.run T D st (events doc) = { st with down := D.feed st.down (downEvents doc) } :=
  foldl_doc D (legacy_run_item T D) (fun _ _ h => h) doc st  -- as in `run_doc`

end S2T.HtmlSkip
