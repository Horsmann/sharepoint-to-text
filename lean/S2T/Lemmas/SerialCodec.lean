import S2T.Lemmas.Serial
/-! The base64 codec is *size-independent* — the text of a payload is the concatenation of the texts of its 3-aligned
pieces, so no payload length (and no position inside a payload) is special. -/
namespace S2T.Serial

theorem b64enc_length (bs : List Nat) : (b64enc bs).length = 4 * ((bs.length + 2) / 3) := by
  fun_induction b64enc bs with
  | case1 => rfl
  | case2 a => simp
  | case3 a b => simp
  | case4 a b c rest ih =>
    simp only [List.length_cons, ih]
    omega

theorem b64enc_append (xs ys : List Nat) (h : xs.length % 3 = 0) : b64enc (xs ++ ys) = b64enc xs ++ b64enc ys := by
  fun_induction b64enc xs with
  | case1 => simp
  | case2 a => simp at h
  | case3 a b => simp at h
  | case4 a b c rest ih =>
    have h' : rest.length % 3 = 0 := by
      simp only [List.length_cons] at h
      omega
    simp [b64enc, ih h']

theorem b64enc_length_aligned (xs : List Nat) (h : xs.length % 3 = 0) : (b64enc xs).length = 4 * (xs.length / 3) := by
  rw [b64enc_length]
  omega

/-- an encoder that goes through the payload in slices of `k` bytes: `b64encChunked k` is what
`"".join(b64encode(view[o : o + k]) for o in range(0, len(view), k))` computes (payloads of at most `k` bytes, and
`k = 0` = "no slicing", are encoded in one go). -/
def b64encChunked (k : Nat) (bs : List Nat) : List Char :=
  if k = 0 ∨ bs.length ≤ k then b64enc bs
  else b64enc (bs.take k) ++ b64encChunked k (bs.drop k)
termination_by bs.length
decreasing_by
  simp only [List.length_drop]
  omega

theorem b64encChunked_aligned (k : Nat) (bs : List Nat) (hk : k % 3 = 0) : b64encChunked k bs = b64enc bs := by
  fun_induction b64encChunked k bs with
  | case1 bs h => rfl
  | case2 bs h ih =>
    have hl : (bs.take k).length % 3 = 0 := by
      rw [List.length_take_of_le (by omega)]
      exact hk
    rw [ih, ← b64enc_append _ _ hl, List.take_append_drop]

/-- why no small payload is a witness against an encoder that slices -/
theorem b64encChunked_short (k : Nat) (bs : List Nat) (h : bs.length ≤ k) : b64encChunked k bs = b64enc bs := by
  rw [b64encChunked]
  simp [h]

/-- CPython's non-strict `binascii.a2b_base64` on a text made of canonical quads: decoding STOPS after the first
padded quad (whatever follows is ignored) -/
def b64decStop : List Char → Option (List Nat)
  | [] => some []
  | w :: x :: y :: z :: rest =>
      match b64idx w, b64idx x with
      | some p, some q =>
        if y = '=' then
          if z = '=' then some [p * 4 + q / 16] else none
        else match b64idx y with
          | some r =>
            if z = '=' then some [p * 4 + q / 16, (q % 16) * 16 + r / 4]
            else match b64idx z, b64decStop rest with
              | some s, some tl => some ((p * 4 + q / 16) :: ((q % 16) * 16 + r / 4) :: ((r % 4) * 64 + s) :: tl)
              | _, _ => none
          | none => none
      | _, _ => none
  | _ => none

/-- `bs.length % 3 ≠ 0`: the payload ended in a padded group, where decoding stops whatever follows -/
theorem b64decStop_append_of_dec (cs t : List Char) :
    ∀ bs, b64dec cs = some bs → bs.length % 3 ≠ 0 ∨ t = [] → b64decStop (cs ++ t) = some bs := by
  -- `simp_all` closes the cases where `b64dec` fails, the two padded ones (`b64dec` forces `rest = []` there and `b64decStop`
  -- does not look at what follows: `hl` is not used) and the empty text (`bs = []`, so `hl` gives `t = []`)
  fun_induction b64dec cs <;> intro bs h hl <;> simp_all [b64decStop]
  -- left is a full group: the rest of the payload is three bytes shorter and takes the disjunction on
  rename_i ih
  subst h
  rw [ih (hl.imp_left fun h => by simp only [List.length_cons] at h; omega)]

theorem b64decStop_of_dec (cs : List Char) (bs : List Nat) (h : b64dec cs = some bs) : b64decStop cs = some bs := by
  simpa using b64decStop_append_of_dec cs [] bs h (.inr rfl)

theorem b64decStop_enc : ∀ bs, bytesOk bs = true → b64decStop (b64enc bs) = some bs :=
  fun bs h => b64decStop_of_dec _ _ (b64dec_enc bs h)

end S2T.Serial
