import S2T.Model.OoxmlText
import S2T.Lemmas.C02OdfStr
/-! C02 (part "ooxml"): the string functions of Model/OoxmlText are those of Model/C02OdfTok (one bridge equation each), so
what splitting, stripping and joining do to the words is Lemmas/C02OdfTok and C02OdfStr; only the facts the 'ooxml' part
calls often are restated for `words`.  On top: the congruence `Eqv` ("same words in every context") and `Delim`
(self-delimiting strings). -/
namespace S2T.C02.Ooxml
open S2T (Tok.tokens Tok.toks Tok.glue)

variable {ws : Char → Bool}

/-- the accumulator of `wordsAux` is the unfinished first token of `toks` -/
theorem wordsAux_eq_toks (s cur : Str) :
    wordsAux ws s cur = Tok.glue (cur ++ (Tok.toks ws s).1, (Tok.toks ws s).2) := by
  induction s generalizing cur with
  | nil => simp [wordsAux, Tok.toks, Tok.glue]
  | cons c r ih =>
    by_cases hc : ws c = true
    · by_cases hh : cur = [] <;> simp [wordsAux, Tok.toks, Tok.glue, hc, hh, ih]
    · simp [wordsAux, Tok.toks, Tok.glue, hc, ih]

theorem words_eq_tokens : words ws = Tok.tokens ws :=
  funext fun s => by simp [words, Tok.tokens, wordsAux_eq_toks]

theorem dropWhileEnd_eq_rstrip (p : Char → Bool) : dropWhileEnd p = Tok.rstrip p := rfl

theorem strip_eq_tok (p : Char → Bool) : strip p = Tok.strip p := rfl

theorem join_eq_tok (sep : Str) (l : List Str) : join sep l = Tok.join sep l := by
  fun_induction join sep l <;> simp [Tok.join, *]

/-- core's helper keeps the current piece reversed -/
theorem splitOnAux_eq (c : Char) (s cur : Str) :
    splitOnAux c s cur = List.splitOnPPrepend (· == c) s cur.reverse := by
  induction s generalizing cur with
  | nil => simp [splitOnAux]
  | cons x r ih =>
    rw [splitOnAux, List.splitOnPPrepend_cons_eq_if]
    by_cases hx : x = c <;> simp [hx, ih]

theorem splitOn_eq_tok (c : Char) (s : Str) : splitOn c s = Tok.splitOn c s := by
  rw [splitOn, splitOnAux_eq, Tok.splitOn_eq]; rfl

def AllWs (ws : Char → Bool) (s : Str) : Prop := ∀ c ∈ s, ws c = true

theorem AllWs.all {s : Str} (h : AllWs ws s) : s.all ws = true := List.all_eq_true.2 h

theorem AllWs.single {c : Char} (h : ws c = true) : AllWs ws [c] := by intro x hx; simp at hx; subst hx; exact h

theorem AllWs.replicate {c : Char} (h : ws c = true) (n : Nat) : AllWs ws (List.replicate n c) := by
  intro x hx; rw [List.eq_of_mem_replicate hx]; exact h

theorem words_nil : words ws [] = [] := by rw [words_eq_tokens]; exact Tok.tokens_nil

theorem words_append_sep (a : Str) (c : Char) (b : Str) (hc : ws c = true) :
    words ws (a ++ c :: b) = words ws a ++ words ws b := by
  simp only [words_eq_tokens]; exact Tok.tokens_append_ws hc a b

theorem words_cons_ws (c : Char) (b : Str) (hc : ws c = true) : words ws (c :: b) = words ws b := by
  simp only [words_eq_tokens]; exact Tok.tokens_cons_ws hc b

theorem words_allws_append (s b : Str) (h : AllWs ws s) : words ws (s ++ b) = words ws b := by
  simp only [words_eq_tokens]; exact Tok.tokens_ws_prefix s b h.all

theorem words_append_allws (a s : Str) (h : AllWs ws s) : words ws (a ++ s) = words ws a := by
  simp only [words_eq_tokens]; exact Tok.tokens_ws_suffix a s h.all

theorem words_token (s : Str) (hne : s ≠ []) (h : ∀ c ∈ s, ws c = false) : words ws s = [s] := by
  rw [words_eq_tokens]; exact Tok.tokens_of_token s hne h

theorem nonblank_false_iff (s : Str) : nonblank ws s = false ↔ AllWs ws s := by
  simp [nonblank, AllWs]

theorem words_chars (s : Str) (w : Str) (hw : w ∈ words ws s) (c : Char) (hc : c ∈ w) : c ∈ s := by
  have : c ∈ (Tok.tokens ws s).flatten := List.mem_flatten.2 ⟨w, words_eq_tokens ▸ hw, hc⟩
  rw [Tok.tokens_flatten] at this
  exact (List.mem_filter.1 this).1

theorem words_eq_nil_iff (s : Str) : words ws s = [] ↔ AllWs ws s := by
  refine ⟨fun h c hc => ?_, fun h => by rw [words_eq_tokens]; exact Tok.tokens_all_ws s h.all⟩
  have := Tok.tokens_flatten (p := ws) s
  rw [← words_eq_tokens, h] at this
  simpa using (List.filter_eq_nil_iff.1 this.symm) c hc

theorem nonblank_iff (s : Str) : nonblank ws s = true ↔ words ws s ≠ [] := by
  rw [Ne, words_eq_nil_iff, ← nonblank_false_iff]; simp

theorem flatMap_words_nonblank (t : Str) :
    (if nonblank ws t = true then [t] else []).flatMap (words ws) = words ws t := by
  split
  · simp
  · rename_i hn
    simp [(words_eq_nil_iff t).2 ((nonblank_false_iff t).1 (by simpa using hn))]

theorem concat_append (a b : List Str) : concat (a ++ b) = concat a ++ concat b := by
  induction a with
  | nil => rfl
  | cons x a ih => simp [concat, ih]

theorem words_dropWhileEnd (p : Char → Bool) (hp : ∀ c, p c = true → ws c = true) (s : Str) :
    words ws (dropWhileEnd p s) = words ws s := by
  rw [words_eq_tokens, dropWhileEnd_eq_rstrip, Tok.tokens_rstrip hp]

theorem words_strip (p : Char → Bool) (hp : ∀ c, p c = true → ws c = true) (s : Str) :
    words ws (strip p s) = words ws s := by
  rw [words_eq_tokens, strip_eq_tok, Tok.tokens_strip_of hp]

theorem words_strip_ws (s : Str) : words ws (strip ws s) = words ws s := words_strip ws (fun _ h => h) s

theorem words_join (sep : Str) (hne : sep ≠ []) (h : AllWs ws sep) (ts : List Str) :
    words ws (join sep ts) = ts.flatMap (words ws) := by
  rw [words_eq_tokens, join_eq_tok, Tok.tokens_join h.all hne]

theorem words_join_char {c : Char} (hc : ws c = true) (ts : List Str) :
    words ws (join [c] ts) = ts.flatMap (words ws) :=
  words_join [c] (List.cons_ne_nil _ _) (.single hc) ts

theorem flatMap_words_ne_nil (ts : List Str) (hne : ts ≠ []) (hall : ∀ t ∈ ts, nonblank ws t = true) :
    ts.flatMap (words ws) ≠ [] := by
  cases ts with
  | nil => exact absurd rfl hne
  | cons t r =>
    have := (nonblank_iff (ws := ws) t).1 (hall t (by simp))
    simp [this]

theorem join_nonblank (sep : Str) (hsep : AllWs ws sep) (hne : sep ≠ []) (ts : List Str) (h : ts ≠ [])
    (hall : ∀ t ∈ ts, nonblank ws t = true) : nonblank ws (join sep ts) = true := by
  rw [nonblank_iff, words_join _ hne hsep]
  exact flatMap_words_ne_nil ts h hall

theorem words_concat_wrapped (c1 c2 : Char) (h1 : ws c1 = true) (h2 : ws c2 = true) (a rest : Str) :
    words ws (c1 :: a ++ c2 :: rest) = words ws a ++ words ws rest := by
  rw [List.cons_append, words_cons_ws _ _ h1, words_append_sep _ _ _ h2]

theorem words_wrap {c1 c2 : Char} (h1 : ws c1 = true) (h2 : ws c2 = true) (x : Str) :
    words ws (c1 :: x ++ [c2]) = words ws x := by
  rw [List.cons_append, words_cons_ws _ _ h1, words_append_allws _ _ (.single h2)]

theorem words_replicate_append (n : Nat) (c : Char) (hc : ws c = true) (b : Str) :
    words ws (List.replicate n c ++ b) = words ws b :=
  words_allws_append _ _ (.replicate hc n)

theorem words_ljust (hsp : ws ' ' = true) (n : Nat) (s : Str) : words ws (ljust n s) = words ws s :=
  words_append_allws _ _ (.replicate hsp _)

theorem words_rjust (hsp : ws ' ' = true) (n : Nat) (s : Str) : words ws (rjust n s) = words ws s :=
  words_replicate_append _ _ hsp _

/-- same words in every context (a congruence for `++`) -/
def Eqv (ws : Char → Bool) (a b : Str) : Prop :=
  ∀ pre post : Str, words ws (pre ++ a ++ post) = words ws (pre ++ b ++ post)

theorem Eqv.refl (a : Str) : Eqv ws a a := fun _ _ => rfl
theorem Eqv.symm {a b : Str} (h : Eqv ws a b) : Eqv ws b a := fun p q => (h p q).symm
theorem Eqv.trans {a b c : Str} (h1 : Eqv ws a b) (h2 : Eqv ws b c) : Eqv ws a c :=
  fun p q => (h1 p q).trans (h2 p q)
theorem Eqv.toWords {a b : Str} (h : Eqv ws a b) : words ws a = words ws b := by
  simpa using h [] []
theorem Eqv.append {a a' b b' : Str} (h1 : Eqv ws a a') (h2 : Eqv ws b b') : Eqv ws (a ++ b) (a' ++ b') := by
  intro p q
  have e1 := h1 p (b ++ q)
  have e2 := h2 (p ++ a') q
  simp only [List.append_assoc] at e1 e2 ⊢
  exact e1.trans e2

theorem Eqv.seps {s s' : Str} (n : s ≠ []) (n' : s' ≠ []) (h : AllWs ws s) (h' : AllWs ws s') : Eqv ws s s' := by
  intro p q
  rw [words_eq_tokens, Tok.tokens_append_sep _ _ _ h.all n, Tok.tokens_append_sep _ _ _ h'.all n']

theorem Eqv.char {c d : Char} (hc : ws c = true) (hd : ws d = true) : Eqv ws [c] [d] :=
  Eqv.seps (by simp) (by simp) (.single hc) (.single hd)

/-- empty, or starting and ending with whitespace -/
def Delim (ws : Char → Bool) (x : Str) : Prop :=
  x = [] ∨ ∃ c1 m c2, x = c1 :: m ++ [c2] ∧ ws c1 = true ∧ ws c2 = true

theorem Delim.nil : Delim ws [] := Or.inl rfl
theorem Delim.wrap (c1 c2 : Char) (m : Str) (h1 : ws c1 = true) (h2 : ws c2 = true) : Delim ws (c1 :: m ++ [c2]) :=
  Or.inr ⟨c1, m, c2, rfl, h1, h2⟩

theorem Delim.append {x y : Str} (hx : Delim ws x) (hy : Delim ws y) : Delim ws (x ++ y) := by
  rcases hx with rfl | ⟨c1, m, c2, rfl, h1, h2⟩
  · simpa using hy
  · rcases hy with rfl | ⟨d1, n, d2, rfl, g1, g2⟩
    · simpa using Delim.wrap c1 c2 m h1 h2
    · refine Or.inr ⟨c1, m ++ [c2] ++ d1 :: n, d2, by simp, h1, g2⟩

theorem Delim.words_append {x : Str} (hx : Delim ws x) (hne : x ≠ []) (pre post : Str) :
    words ws (pre ++ x ++ post) = words ws pre ++ words ws x ++ words ws post := by
  rcases hx with rfl | ⟨c1, m, c2, rfl, h1, h2⟩
  · exact absurd rfl hne
  · have e : pre ++ (c1 :: m ++ [c2]) ++ post = pre ++ c1 :: (m ++ c2 :: post) := by simp
    rw [e, words_append_sep _ _ _ h1, words_append_sep _ _ _ h2, words_wrap h1 h2, List.append_assoc]

theorem Delim.words_right {x : Str} (hx : Delim ws x) (post : Str) :
    words ws (x ++ post) = words ws x ++ words ws post := by
  by_cases h : x = []
  · subst h; simp [words_nil]
  · simpa [words_nil] using hx.words_append h [] post

theorem Delim.words_left {x : Str} (hx : Delim ws x) (pre : Str) :
    words ws (pre ++ x) = words ws pre ++ words ws x := by
  by_cases h : x = []
  · subst h; simp [words_nil]
  · simpa [words_nil] using hx.words_append h pre []

theorem Delim.eqv {x y : Str} (hx : Delim ws x) (hy : Delim ws y) (nx : x ≠ []) (ny : y ≠ [])
    (h : words ws x = words ws y) : Eqv ws x y := fun p q => by
  rw [hx.words_append nx, hy.words_append ny, h]

theorem Eqv.wrapc {c1 c2 c3 c4 : Char} {a b : Str} (h1 : ws c1 = true) (h2 : ws c2 = true) (h3 : ws c3 = true)
    (h4 : ws c4 = true) (h : words ws a = words ws b) : Eqv ws (c1 :: a ++ [c2]) (c3 :: b ++ [c4]) :=
  (Delim.wrap c1 c2 a h1 h2).eqv (.wrap c3 c4 b h3 h4) (by simp) (by simp)
    (by rw [words_wrap h1 h2, words_wrap h3 h4, h])

theorem words_join_delim {sep : Str} (hs : Delim ws sep) (hne : sep ≠ []) (ts : List Str) :
    words ws (join sep ts) = (words ws sep).intercalate (ts.map (words ws)) := by
  fun_induction join sep ts with
  | case1 => exact words_nil
  | case2 a => simp
  | case3 a b r ih =>
    rw [hs.words_append hne, ih]
    simp only [List.map_cons, List.intercalate_cons_cons]

/-- "the words of the reference ∧ output self-delimiting" is what the block-level theorems of Lemmas/OoxmlHtml carry; it
    is closed under wrapping and, below, appending -/
theorem words_delim_wrap {c1 c2 : Char} (h1 : ws c1 = true) (h2 : ws c2 = true) {x : Str} {W : List Str}
    (h : words ws x = W) : words ws (c1 :: x ++ [c2]) = W ∧ Delim ws (c1 :: x ++ [c2]) :=
  ⟨(words_wrap h1 h2 x).trans h, .wrap c1 c2 x h1 h2⟩

theorem words_delim_append {a b L M : Str} (ha : words ws a = words ws L ∧ Delim ws a) (hL : Delim ws L)
    (hb : words ws b = words ws M ∧ Delim ws b) : words ws (a ++ b) = words ws (L ++ M) ∧ Delim ws (a ++ b) :=
  ⟨by rw [ha.2.words_right, hL.words_right, ha.1, hb.1], ha.2.append hb.2⟩

/-- collapsing the runs of any set `p` of whitespace characters to one blank; inside a run (second part) the
    whitespace character `w` in front stands for the part of the run already seen -/
theorem collapseAux_eqv (p : Char → Bool) (hp : ∀ c, p c = true → ws c = true) (s : Str) (hsp : ws ' ' = true) :
    Eqv ws (collapseAux p false s) s ∧
    ∀ w : Char, ws w = true → Eqv ws (w :: collapseAux p true s) (w :: s) := by
  induction s with
  | nil => exact ⟨Eqv.refl _, fun _ _ => Eqv.refl _⟩
  | cons c s ih =>
    obtain ⟨ih1, ih2⟩ := ih
    by_cases hc : p c = true
    · have hwc : ∀ w : Char, ws w = true → AllWs ws [w, c] := fun w hw x hx => by
        simp at hx; rcases hx with rfl | rfl <;> first | exact hw | exact hp _ hc
      simp only [collapseAux, hc, if_true, Bool.false_eq_true, if_false]
      -- the ascriptions `( … :)` let `[w] ++ s` of `Eqv.append` be read as the `w :: s` of the goal
      exact ⟨(ih2 ' ' hsp).trans ((Eqv.char hsp (hp c hc)).append (Eqv.refl s) :),
        fun w hw => (ih2 w hw).trans ((Eqv.seps (by simp) (by simp) (.single hw) (hwc w hw)).append (Eqv.refl s) :)⟩
    · have hc' : p c = false := by simpa using hc
      simp only [collapseAux, hc', Bool.false_eq_true, if_false]
      exact ⟨((Eqv.refl [c]).append ih1 :), fun w _ => ((Eqv.refl [w, c]).append ih1 :)⟩

theorem collapse_eqv (s : Str) (hsp : ws ' ' = true) : Eqv ws (collapse ws s) s :=
  (collapseAux_eqv ws (fun _ h => h) s hsp).1

theorem words_collapse (s : Str) (hsp : ws ' ' = true) : words ws (collapse ws s) = words ws s :=
  (collapse_eqv s hsp).toWords

theorem words_collapse_strip (s : Str) (hsp : ws ' ' = true) : words ws (collapse ws (strip ws s)) = words ws s := by
  rw [words_collapse _ hsp, words_strip_ws]

theorem Eqv.replicate {c : Char} (hc : ws c = true) {m n : Nat} (h : m = 0 ↔ n = 0) :
    Eqv ws (List.replicate m c) (List.replicate n c) := by
  by_cases hn : n = 0
  · rw [hn, h.2 hn]; exact Eqv.refl _
  · exact Eqv.seps (by simp [mt h.1 hn]) (by simp [hn]) (.replicate hc m) (.replicate hc n)

/-- squeezing a run of newlines keeps it a run of newlines, empty only if it was -/
theorem squeezeNlAux_eqv (hnl : ws '\n' = true) (s : Str) (n : Nat) :
    Eqv ws (squeezeNlAux n s) (List.replicate n '\n' ++ s) := by
  have hr : ∀ n, Eqv ws (List.replicate (if n ≥ 3 then 2 else n) '\n') (List.replicate n '\n') :=
    fun n => Eqv.replicate hnl (by split <;> omega)
  induction s generalizing n with
  | nil => simpa only [squeezeNlAux, List.append_nil] using hr n
  | cons c s ih =>
    simp only [squeezeNlAux]
    split
    · rename_i h
      subst h
      simpa [List.replicate_succ', List.append_assoc] using ih (n + 1)
    · exact Eqv.append (hr n) (Eqv.append (Eqv.refl [c]) (ih 0))

theorem words_squeezeNl (hnl : ws '\n' = true) (s : Str) : words ws (squeezeNl s) = words ws s := by
  simpa [squeezeNl] using (squeezeNlAux_eqv hnl s 0).toWords

/-- `"\n".join(line.strip() for line in s.split("\n"))` keeps the words -/
theorem words_strip_lines (hnl : ws '\n' = true) (s : Str) :
    words ws (join ['\n'] ((splitOn '\n' s).map (strip ws))) = words ws s := by
  rw [words_join_char hnl, List.flatMap_map, splitOn_eq_tok]
  simp only [words_strip_ws]
  rw [words_eq_tokens, Tok.flatMap_tokens_splitOn hnl]

end S2T.C02.Ooxml
