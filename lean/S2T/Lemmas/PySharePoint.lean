import S2T.Lemmas.PyPaths
import S2T.Py.SharePoint
/-!
Lemmas about the fourth prelude part (`S2T/Py/SharePoint.lean`) used by `Props/C18_Src.lean`: the string
surgery of `_parse_iso_datetime` in terms of the list functions the hand model `S2T.SP.parseIso` is written with.
Core Lean only.
-/
namespace S2T.Py
open S2T.SP (isAsciiDigit digitsVal microOf)

theorem splitOnce_of_contains (c : Char) (s : Str) (h : s.contains c = true) :
    splitOnce c s = [s.takeWhile (· ≠ c), (s.dropWhile (· ≠ c)).drop 1] := by
  simp only [splitOnce, h, if_true]

theorem splitOnce_of_not_contains (c : Char) (s : Str) (h : s.contains c = false) : splitOnce c s = [s] := by
  simp only [splitOnce, h, Bool.false_eq_true, if_false]

@[simp] theorem unpack2_pair {α} (a b : α) : unpack2 [a, b] = Except.ok (a, b) := rfl
@[simp] theorem unpack2_single {α} (a : α) : unpack2 [a] = Except.error pValueError := rfl

theorem slice_to_six {α} (xs : List α) : pSlice xs none (some 6) = xs.take 6 := pSlice_to_nat xs 6

@[simp] theorem strFindChar_some (s : Str) (c : Char) (i : Nat) (h : s.findIdx? (· == c) = some i) :
    strFindChar s c = (i : Int) := by simp [strFindChar, h]
@[simp] theorem strFindChar_none (s : Str) (c : Char) (h : s.findIdx? (· == c) = none) :
    strFindChar s c = -1 := by simp [strFindChar, h]

@[simp] theorem natCast_beq_neg_one (i : Nat) : ((i : Int) == -1) = false := by
  simp only [beq_eq_false_iff_ne, ne_eq]; omega
@[simp] theorem natCast_bne_neg_one (i : Nat) : ((i : Int) != -1) = true := by
  simp only [bne, natCast_beq_neg_one, Bool.not_false]

/-! the four order facts as rewrite rules to `True` / `False`: the `simp only` sets of `Props/C18_Src.lean` use them to
decide the bound tests of the slices, which core's `Int.natCast_nonneg` (a fact, not an equation) cannot do there -/
@[simp] theorem natCast_lt_zero (i : Nat) : ((i : Int) < 0) ↔ False :=
  ⟨fun h => by omega, False.elim⟩
@[simp] theorem natCast_ge_zero (i : Nat) : ((i : Int) ≥ 0) ↔ True := by
  constructor <;> intro _ <;> first | trivial | omega
@[simp] theorem zero_le_natCast (i : Nat) : ((0 : Int) ≤ (i : Int)) ↔ True := natCast_ge_zero i
@[simp] theorem zero_gt_natCast (i : Nat) : ((0 : Int) > (i : Int)) ↔ False := natCast_lt_zero i

@[simp] theorem truthy_dateTime (d : DateTime) : truthy d = true := rfl
@[simp] theorem dateTime_lt (a b : DateTime) : a < b ↔ a.us < b.us := Iff.rfl
@[simp] theorem dateTime_le (a b : DateTime) : a ≤ b ↔ a.us ≤ b.us := Iff.rfl
@[simp] theorem dateTime_gt (a b : DateTime) : a > b ↔ b.us < a.us := Iff.rfl
@[simp] theorem dateTime_ge (a b : DateTime) : a ≥ b ↔ b.us ≤ a.us := Iff.rfl

theorem isAsciiDigit_bounds (ch : Char) (h : isAsciiDigit ch = true) : 48 ≤ ch.toNat ∧ ch.toNat ≤ 57 := by
  simp only [isAsciiDigit, Bool.and_eq_true, decide_eq_true_eq] at h
  exact h

theorem strIsAscii_of_digits (s : Str) (h : s.all isAsciiDigit = true) : strIsAscii s = true := by
  simp only [strIsAscii, List.all_eq_true, decide_eq_true_eq] at h ⊢
  intro c hc
  have := isAsciiDigit_bounds c (h c hc)
  omega

/-- `f.isascii() and f.isdigit()` is "non-empty and all ASCII digits" -/
theorem ascii_and_isdigit (env : SpEnv) (f : Str) :
    (strIsAscii f && env.isdigit f) = (!f.isEmpty && f.all isAsciiDigit) := by
  by_cases ha : strIsAscii f = true
  · simp [SpEnv.isdigit, ha]
  · have hd : f.all isAsciiDigit = false := by
      cases hh : f.all isAsciiDigit
      · rfl
      · exact absurd (strIsAscii_of_digits f hh) ha
    simp [ha, hd]
theorem isdigit_and_ascii (env : SpEnv) (f : Str) :
    (env.isdigit f && strIsAscii f) = (!f.isEmpty && f.all isAsciiDigit) := by
  rw [Bool.and_comm, ascii_and_isdigit]

theorem digitsVal_bound (l : List Char) (acc : Nat) (h : l.all isAsciiDigit = true) :
    digitsVal l acc < (acc + 1) * 10 ^ l.length := by
  induction l generalizing acc with
  | nil => simp [digitsVal]
  | cons ch r ih =>
    simp only [List.all_cons, Bool.and_eq_true] at h
    have hb := isAsciiDigit_bounds ch h.1
    have := ih (acc * 10 + (ch.toNat - '0'.toNat)) h.2
    simp only [digitsVal, List.length_cons]
    have h0 : '0'.toNat = 48 := by decide
    rw [h0] at this ⊢
    have hle : acc * 10 + (ch.toNat - 48) + 1 ≤ (acc + 1) * 10 := by omega
    calc digitsVal r (acc * 10 + (ch.toNat - 48))
        < (acc * 10 + (ch.toNat - 48) + 1) * 10 ^ r.length := this
      _ ≤ ((acc + 1) * 10) * 10 ^ r.length := Nat.mul_le_mul_right _ hle
      _ = (acc + 1) * 10 ^ (r.length + 1) := by rw [Nat.pow_succ, Nat.mul_assoc, Nat.mul_comm 10]

theorem padded_digits (f : Str) (h : f.all isAsciiDigit = true) :
    ((f ++ "000000".toList).take 6).all isAsciiDigit = true := by
  simp only [List.all_eq_true] at h ⊢
  intro c hc
  rcases List.mem_append.mp (List.mem_of_mem_take hc) with h1 | h1
  · exact h c h1
  · simp at h1; subst h1; decide

theorem padded_isEmpty (f : Str) : ((f ++ "000000".toList).take 6).isEmpty = false := by
  cases f <;> simp

theorem microOf_lt (f : Str) (h : f.all isAsciiDigit = true) : microOf f < 1000000 := by
  have := digitsVal_bound _ 0 (padded_digits f h)
  have hl : ((f ++ "000000".toList).take 6).length ≤ 6 := List.length_take_le _ _
  have : digitsVal ((f ++ "000000".toList).take 6) 0 < 10 ^ 6 :=
    Nat.lt_of_lt_of_le (by simpa using this) (Nat.pow_le_pow_right (by decide) hl)
  simpa [microOf] using this

/-- `int((f + "000000")[:6])` on a run of ASCII digits is the model's `microOf` -/
theorem intOfStr_padded (env : SpEnv) (f : Str) (h : f.all isAsciiDigit = true) :
    env.intOfStr ((f ++ "000000".toList).take 6) = Except.ok (microOf f : Int) := by
  unfold SpEnv.intOfStr
  rw [padded_isEmpty f, padded_digits f h]
  simp [microOf]

theorem dtReplace_whole (d : DateTime) (k : Nat) (hk : k < 1000000) (hw : d.us % 1000000 = 0) :
    dtReplaceMicrosecond d (k : Int) = Except.ok ⟨d.us + k⟩ := by
  have h1 : (0 : Int) ≤ k ∧ (k : Int) < 1000000 := by omega
  simp only [dtReplaceMicrosecond, h1, and_self, if_true, hw, Int.sub_zero]
  rfl

end S2T.Py
