import S2T.Spec.C02OdfDoc
import S2T.Lemmas.ListBasics
/-! Qualified ODF names `q ns loc` are compared through their parts: a namespace URI contains no `}`, so the name
splits at its first `}`.  Evaluating `q ns loc` itself would make the kernel decode two string literals (see Lemmas/Chars). -/
namespace S2T.OdfDoc
open S2T.Tok S2T.OdfText

/-- as a term (`tag_node ..`) it shows the tag of a rendered element without the kernel ever evaluating the name,
    which `rfl` and `simp only [Xml.tag]` make it do -/
theorem tag_node (t : Str) (a : List (Str × Str)) (x l : Str) (ks : List Xml) : (Xml.node t a x l ks).tag = t := rfl

theorem q_eq (ns loc : String) : q ns loc = '{' :: (ns.toList ++ '}' :: loc.toList) := by
  simp [q, String.toList_append]

def NsOk (ns : String) : Prop := '}' ∉ ns.toList

/-- the local names come first: `simp` decides the short literals and, where they differ, never compares the URIs -/
theorem q_inj {ns ns' loc loc' : String} (h : NsOk ns) (h' : NsOk ns') :
    q ns loc = q ns' loc' ↔ loc = loc' ∧ ns = ns' := by
  constructor
  · intro e
    rw [q_eq, q_eq, List.cons.injEq] at e
    obtain ⟨e1, e2⟩ := List.append_cons_inj h h' e.2
    exact ⟨String.toList_injective e2, String.toList_injective e1⟩
  · rintro ⟨rfl, rfl⟩; rfl

theorem q_ne {ns ns' loc loc' : String} (h : NsOk ns) (h' : NsOk ns') (hl : loc ≠ loc') : q ns loc ≠ q ns' loc' :=
  fun e => hl ((q_inj h h').1 e).1

/-- `rw [String.toList_ofList]`: the literal becomes its list of characters by a rewrite (see Lemmas/Chars) -/
theorem nsOffice_ok : NsOk nsOffice := by unfold NsOk nsOffice; rw [String.toList_ofList]; decide
theorem nsText_ok : NsOk nsText := by unfold NsOk nsText; rw [String.toList_ofList]; decide
theorem nsTable_ok : NsOk nsTable := by unfold NsOk nsTable; rw [String.toList_ofList]; decide
theorem nsDraw_ok : NsOk nsDraw := by unfold NsOk nsDraw; rw [String.toList_ofList]; decide
theorem nsSvg_ok : NsOk nsSvg := by unfold NsOk nsSvg; rw [String.toList_ofList]; decide
theorem nsPres_ok : NsOk nsPres := by unfold NsOk nsPres; rw [String.toList_ofList]; decide

/- with these in the simp set, `simp [tP]` (the name constants unfolded) decides equalities and inequalities of names: the
   way to close a whole goal; a `rw [if_neg …]` chain needs the inequality as a term, which is `q_ne … (by decide)` -/
attribute [simp] q_inj nsOffice_ok nsText_ok nsTable_ok nsDraw_ok nsSvg_ok nsPres_ok

end S2T.OdfDoc
