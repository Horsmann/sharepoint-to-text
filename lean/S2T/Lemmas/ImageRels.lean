import S2T.Model.ImageRels
import S2T.Lemmas.Chars
import S2T.Lemmas.ListBasics
/-! The substring test on `namespace ++ '/' :: kind`, split at the `++`. -/
namespace S2T.Images
open S2T.Spec.Opc

theorem hasSub_short {n s : Str} (h : s.length < n.length) : hasSub n s = false := by
  induction s with
  | nil => cases n with
    | nil => simp at h
    | cons _ _ => rfl
  | cons c cs ih =>
    have hp : n.isPrefixOf (c :: cs) = false := by
      apply Bool.eq_false_iff.mpr
      intro hp
      have := (List.isPrefixOf_iff_prefix.mp hp).length_le
      omega
    rw [hasSub, hp, Bool.false_or, ih (by simp only [List.length_cons] at h; omega)]

theorem isPrefixOf_append_left {n a : Str} (b : Str) (h : n.length ≤ a.length) :
    n.isPrefixOf (a ++ b) = n.isPrefixOf a := by
  induction n generalizing a with
  | nil => simp
  | cons x n ih =>
    cases a with
    | nil => simp at h
    | cons y a =>
      simp only [List.cons_append, List.isPrefixOf_cons_cons]
      rw [ih (by simpa using h)]

/-- an occurrence of `n` in `a ++ b` lies inside `a`, or begins in the last `n.length - 1` characters of `a` or later -/
theorem hasSub_append (n a b : Str) :
    hasSub n (a ++ b) = (hasSub n a || hasSub n (a.drop (a.length + 1 - n.length) ++ b)) := by
  induction a with
  | nil => cases n with
    | nil => cases b <;> simp [hasSub]
    | cons _ _ => simp [hasSub]
  | cons c a ih =>
    by_cases h : n.length ≤ a.length + 1
    · have hd : (c :: a).length + 1 - n.length = (a.length + 1 - n.length) + 1 := by
        simp only [List.length_cons]; omega
      rw [hd, List.drop_succ_cons, List.cons_append, hasSub, hasSub, ih, ← List.cons_append,
        isPrefixOf_append_left b (by simpa using h), Bool.or_assoc]
    · have hd : (c :: a).length + 1 - n.length = 0 := by
        simp only [List.length_cons]; omega
      rw [hd, List.drop_zero, hasSub_short (s := c :: a) (by simp only [List.length_cons]; omega), Bool.false_or]

theorem relKind_relType (ns : Str) {k : Str} (h : k.all (· ≠ '/') = true) : relKind (relType ns k) = k := by
  unfold relKind relType
  rw [List.takeWhile_ne_reverse_append '/' ns k (fun hm => by simpa using List.all_eq_true.mp h '/' hm),
    List.reverse_reverse]

/-- `guardExactOn` with one scan per namespace, not one per namespace and kind: the needle is not in the namespace, and the
    test on `namespace ++ '/' :: kind` is then decided by the last `needle.length - 1` characters of the namespace and the
    kind (`hasSub_append`); the last segment of the URI is the kind since no kind has a '/' -/
def guardExactSplit (g : RelGuard) (kind : Str) (kinds : List Str) : Bool :=
  kinds.all (·.all (· ≠ '/')) && relNamespaces.all fun ns =>
    let v := if g.lowered then lowerAscii ns else ns
    !hasSub g.needle v && kinds.all fun k =>
      hasSub g.needle (v.drop (v.length + 1 - g.needle.length)
        ++ (if g.lowered then lowerAscii ('/' :: k) else '/' :: k)) == (k == kind)

theorem guardExactOn_of_split {g : RelGuard} {kind : Str} {kinds : List Str}
    (h : guardExactSplit g kind kinds = true) : guardExactOn g kind kinds = true := by
  obtain ⟨n, l⟩ := g
  simp only [guardExactSplit, Bool.and_eq_true, List.all_eq_true, Bool.not_eq_true', beq_iff_eq] at h
  simp only [guardExactOn, Bool.and_eq_true, List.all_eq_true, beq_iff_eq]
  intro ns hns k hk
  obtain ⟨hin, hout⟩ := h.2 ns hns
  refine ⟨?_, relKind_relType ns (List.all_eq_true.mpr (h.1 k hk))⟩
  rw [← hout k hk, RelGuard.holds, relType]
  cases l
  · simp only [Bool.false_eq_true, if_false] at hin ⊢
    rw [hasSub_append, hin, Bool.false_or]
  · simp only [if_true] at hin ⊢
    have hl : lowerAscii (ns ++ '/' :: k) = lowerAscii ns ++ lowerAscii ('/' :: k) := List.map_append
    rw [hl, hasSub_append, hin, Bool.false_or]

end S2T.Images
