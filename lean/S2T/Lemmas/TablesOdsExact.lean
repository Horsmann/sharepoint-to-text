import S2T.Lemmas.TablesOds
/-! C13, ODS — two complements of `Ods.sheetData_cells`:

1. the used range of a grid depends on its cells only (`crop_congr`), so without a wide gap in front of data the
   returned table *is* the used range of the source sheet (`sheetData_usedRange`);
2. the hypothesis is exact: when a collapsed run has data behind it, some cell is misplaced
   (`noGapRows_of_gridEq`).  The argument compares extents (position of the last datum), which collapsing a
   run strictly in front of data shortens (`extent_rowValues`); for the rows of a sheet it is the same theorem, about the
   sheet read as a row (`rowFlag`). -/
namespace S2T.Tables.Ods
open S2T.HtmlSkip (Str)
open S2T.Tables.Xlsx (lastIdx lastIdx_at lastIdx_after lastIdx_append lastIdx_replicate lastIdx_eq_zero_iff lastIdx_le_of)

/-! The extent of a row is the position of its last datum, `lastIdx isData row`. -/

theorem allNone_iff_extent (l : List Val) : allNone l = true ↔ lastIdx isData l = 0 := by
  rw [lastIdx_eq_zero_iff, allNone_eq_not_any, Bool.not_eq_true', List.any_eq_false]
  simp only [Bool.not_eq_true]

/-- the last row with data of a sheet is the last value of the sheet read as a row -/
theorem extent_flags (G : VGrid) : dataRows isData G = lastIdx isData (G.map rowFlag) :=
  (Xlsx.lastIdx_map_of_mem rowFlag isData _ G fun row _ => by
    -- `isData (rowFlag row) = row.any isData`: both are `!allNone row`
    rw [← Bool.not_not (row.any isData), ← allNone_eq_not_any, ← rowFlag_none]; cases rowFlag row <;> rfl).symm

theorem rowEq_data {a b : List Val} (h : RowEq a b) (j : Nat) (x : Val) (hx : a[j]? = some x) (hp : isData x = true) :
    ∃ y, b[j]? = some y ∧ isData y = true := by
  have e := h j
  unfold getV at e
  rw [hx] at e
  simp only [Option.getD_some] at e
  cases hb : b[j]? with
  | none =>
    rw [hb] at e
    simp only [Option.getD_none] at e
    rw [e] at hp
    exact Bool.noConfusion hp
  | some y =>
    rw [hb] at e
    simp only [Option.getD_some] at e
    exact ⟨y, rfl, by rw [← e]; exact hp⟩

theorem extent_rowEq {a b : List Val} (h : RowEq a b) : lastIdx isData a = lastIdx isData b :=
  Nat.le_antisymm (lastIdx_le_of _ _ a b (rowEq_data h)) (lastIdx_le_of _ _ b a (rowEq_data (fun j => (h j).symm)))

theorem allNone_congr {a b : List Val} (h : RowEq a b) : allNone a = allNone b :=
  Bool.eq_iff_iff.mpr (by rw [allNone_iff_extent, allNone_iff_extent, extent_rowEq h])

theorem cellAt_getD (G : VGrid) (i j : Nat) : cellAt G i j = getV (G[i]?.getD []) j := by
  unfold cellAt; cases G[i]? <;> rfl

theorem rowEq_getD {A B : VGrid} (h : GridEq A B) (i : Nat) : RowEq (A[i]?.getD []) (B[i]?.getD []) := fun j => by
  rw [← cellAt_getD, ← cellAt_getD]; exact h i j

theorem gridEq_flags {A B : VGrid} (h : GridEq A B) : RowEq (A.map rowFlag) (B.map rowFlag) := fun i => by
  have e : ∀ G : VGrid, getV (G.map rowFlag) i = rowFlag (G[i]?.getD []) := fun G => by
    unfold getV; rw [List.getElem?_map]; cases G[i]? <;> rfl
  rw [e, e, rowFlag, rowFlag, allNone_congr (rowEq_getD h i)]

theorem extent_gridEq {A B : VGrid} (h : GridEq A B) : dataRows isData A = dataRows isData B := by
  rw [extent_flags, extent_flags]; exact extent_rowEq (gridEq_flags h)

theorem padTake_congr {a b : List Val} (h : RowEq a b) (w : Nat) : Xlsx.padTake w a = Xlsx.padTake w b := by
  apply List.ext_getElem?
  intro j
  by_cases hj : j < w
  · rw [Xlsx.padTake_get w a j hj, Xlsx.padTake_get w b j hj]; exact congrArg some (h j)
  · rw [List.getElem?_eq_none (by rw [Xlsx.padTake_length]; omega), List.getElem?_eq_none (by rw [Xlsx.padTake_length]; omega)]

theorem rowEq_of_gridEq {A B : VGrid} (h : GridEq A B) {i : Nat} {a b : List Val} (ha : A[i]? = some a) (hb : B[i]? = some b) :
    RowEq a b := by
  have := rowEq_getD h i
  rwa [ha, hb] at this

theorem dataCols_le {A B : VGrid} (h : GridEq A B) {n : Nat} (hn : n ≤ B.length) :
    dataCols isData (A.take n) ≤ dataCols isData (B.take n) := by
  apply List.foldl_max_le _ _ _ 0 _ (Nat.zero_le _)
  intro a ha
  obtain ⟨i, hi⟩ := List.getElem?_of_mem ha
  have hlt : i < n := by have := (List.getElem?_eq_some_iff.mp hi).1; simp only [List.length_take] at this; omega
  rw [List.getElem?_take_of_lt hlt] at hi
  have hb : (B.take n)[i]? = some B[i] := by rw [List.getElem?_take_of_lt hlt, List.getElem?_eq_getElem (by omega)]
  rw [extent_rowEq (rowEq_of_gridEq h hi (List.getElem?_eq_getElem (by omega)))]
  exact List.le_foldl_max_of_mem (lastIdx isData) (B.take n) 0 _ (List.mem_of_getElem? hb)

theorem crop_congr {A B : VGrid} (h : GridEq A B) : crop isData A = crop isData B := by
  have hsym : GridEq B A := fun i j => (h i j).symm
  have hn := extent_gridEq h
  have hA : dataRows isData B ≤ A.length := hn ▸ Xlsx.lastIdx_le _ A
  have hB : dataRows isData B ≤ B.length := Xlsx.lastIdx_le _ B
  unfold crop
  rw [hn, Nat.le_antisymm (dataCols_le h hB) (dataCols_le hsym hA)]
  apply List.ext_getElem?
  intro i
  simp only [List.getElem?_map]
  by_cases hi : i < dataRows isData B
  · rw [List.getElem?_take_of_lt hi, List.getElem?_take_of_lt hi, List.getElem?_eq_getElem (by omega),
      List.getElem?_eq_getElem (by omega)]
    exact congrArg some (padTake_congr (rowEq_of_gridEq h (List.getElem?_eq_getElem _) (List.getElem?_eq_getElem _)) _)
  · rw [List.getElem?_eq_none (by simp; omega), List.getElem?_eq_none (by simp; omega)]

/-- without a wide gap in front of data, `OdsSheet.data` is the used range of the source sheet (the plain
    expansion up to the last row and the last column holding data, short rows padded) -/
theorem sheetData_usedRange (C : Caps) (rows : List RRow) (h : noGapRows C rows = true) :
    sheetData C rows = sheetOf (expand rows) := by
  rw [sheetData_eq_sheetOf, sheetOf_eq_crop, sheetOf_eq_crop]
  exact crop_congr (rawRows_gridEq C rows h)

theorem length_cellPiece_le (C : Caps) (c : RCell) : (cellPiece C c).length ≤ c.1 := by
  unfold cellPiece
  split
  · rename_i h
    simp only [Bool.and_eq_true, decide_eq_true_eq] at h
    simp only [List.length_cons, List.length_nil]; omega
  · simp

theorem extent_cellPiece (C : Caps) (c : RCell) : lastIdx isData (cellPiece C c) = lastIdx isData (List.replicate c.1 c.2) := by
  unfold cellPiece
  split
  · rename_i h
    simp only [Bool.and_eq_true, beq_iff_eq] at h
    rw [h.1, lastIdx_replicate]
    simp [lastIdx, isData]
  · rfl

theorem extent_pos_iff (l : List Val) : lastIdx isData l > 0 ↔ allNone l = false := by
  rw [gt_iff_lt, Nat.pos_iff_ne_zero, Ne, ← allNone_iff_extent, Bool.not_eq_true]

theorem noGapRow_of_allNone (C : Caps) (cells : List RCell) (h : allNone (expandRow cells) = true) : noGapRow C cells = true := by
  induction cells with
  | nil => rfl
  | cons c r ih =>
    rw [expandRow_cons, allNone_append, Bool.and_eq_true] at h
    exact (noGapRow_cons C c r).mpr ⟨fun _ => h.2, ih h.2⟩

/-- collapsing never moves the last value of a row to the right, and moves it to the left when a collapsed run has a
    value behind it -/
theorem extent_rowValues (C : Caps) (cells : List RCell) :
    lastIdx isData (rowValues C cells) ≤ lastIdx isData (expandRow cells) ∧
    (C.cell > 0 → noGapRow C cells = false → lastIdx isData (rowValues C cells) < lastIdx isData (expandRow cells)) := by
  induction cells with
  | nil => exact ⟨Nat.le_refl _, fun _ h => Bool.noConfusion h⟩
  | cons c r ih =>
    rw [rowValues_cons, expandRow_cons, lastIdx_append, lastIdx_append]
    cases hr : allNone (expandRow r) with
    | true =>
      rw [(allNone_iff_extent _).mp hr, (allNone_iff_extent _).mp (by rw [allNone_rowValues]; exact hr), extent_cellPiece]
      exact ⟨Nat.le_refl _, fun _ hg => Bool.noConfusion
        (hg.symm.trans ((noGapRow_cons C c r).mpr ⟨fun _ => hr, noGapRow_of_allNone C r hr⟩))⟩
    | false =>
      rw [if_pos ((extent_pos_iff _).mpr hr), if_pos ((extent_pos_iff _).mpr (by rw [allNone_rowValues]; exact hr))]
      have := length_cellPiece_le C c
      have := ih.1
      simp only [List.length_replicate]
      refine ⟨by omega, fun hC hg => ?_⟩
      by_cases hc : (c.2 == Val.none && c.1 > C.cell) = true
      · have hp : (cellPiece C c).length = 1 := by unfold cellPiece; rw [if_pos hc]; rfl
        simp only [Bool.and_eq_true, decide_eq_true_eq] at hc
        omega
      · have := ih.2 hC (Bool.eq_false_iff.mpr fun h' =>
          Bool.eq_false_iff.mp hg ((noGapRow_cons C c r).mpr ⟨fun h'' => absurd h'' hc, h'⟩))
        omega

theorem noGapRow_of_rowEq (C : Caps) (hC : C.cell > 0) (cells : List RCell)
    (h : RowEq (rowValues C cells) (expandRow cells)) : noGapRow C cells = true := by
  cases hg : noGapRow C cells with
  | true => rfl
  | false => exact absurd (extent_rowEq h) (Nat.ne_of_lt ((extent_rowValues C cells).2 hC hg))

theorem gridEq_cancel (n : Nat) {a b : List Val} {X Y : VGrid}
    (h : GridEq (List.replicate n a ++ X) (List.replicate n b ++ Y)) : (n > 0 → RowEq a b) ∧ GridEq X Y := by
  constructor
  · intro hn j
    have := h 0 j
    rwa [cellAt_replicate_append, cellAt_replicate_append, if_pos hn, if_pos hn] at this
  · intro i j
    have := h (n + i) j
    rwa [cellAt_replicate_append, cellAt_replicate_append, if_neg (by omega), if_neg (by omega), Nat.add_sub_cancel_left] at this

/-- sheets: if the collected rows hold every source cell at its place, no collapsed run of empty cells has a
    value behind it and no collapsed run of empty rows has data below it -/
theorem noGapRows_of_gridEq (C : Caps) (hcell : C.cell > 0) (hrow : C.row > 0) (rows : List RRow)
    (h : GridEq (rawRows C rows) (expand rows)) : noGapRows C rows = true := by
  induction rows with
  | nil => rfl
  | cons r rs ih =>
    -- read as a row, the collected sheet holds every flag of the source sheet at its place: the theorem for rows
    have hf := noGapRow_of_rowEq ⟨C.row, C.row⟩ hrow _ (by rw [← rawRows_flags, ← expand_flags]; exact gridEq_flags h)
    rw [rawRows_cons, expand_cons] at h
    by_cases hc : (r.1 > C.row && allNone (rowValues C r.2)) = true
    · have hc2 := hc
      simp only [Bool.and_eq_true, decide_eq_true_eq] at hc2
      have hbelow : (expand rs).all allNone = true := by
        rw [List.map_cons, noGapRow_cons] at hf
        rw [← allNone_flags, expand_flags]
        exact hf.1 (by simp [asCell, rowFlag_none, ← allNone_rowValues C, hc2])
      -- below the collapsed run both sides are empty, so they agree
      exact (noGapRows_cons C r rs).mpr ⟨.inr (noGapRow_of_allNone C r.2 (by rw [← allNone_rowValues C]; exact hc2.2)),
        fun _ => hbelow, ih fun i j => by rw [cellAt_allNone (rawRows_allNone C rs hbelow), cellAt_allNone hbelow]⟩
    · rw [rowPiece_eq, if_neg hc] at h
      obtain ⟨hrowEq, hrest⟩ := gridEq_cancel r.1 h
      refine (noGapRows_cons C r rs).mpr ⟨?_, fun h' => absurd h' hc, ih hrest⟩
      by_cases h0 : r.1 = 0
      · exact .inl h0
      · exact .inr (noGapRow_of_rowEq C hcell r.2 (hrowEq (by omega)))

end S2T.Tables.Ods
