import S2T.Lemmas.TablesRtf
import S2T.Lemmas.Tables
/-! Text-level passes (everything behind the control-word removal) on the joined text of a plain cell. -/
namespace S2T.Tables.Rtf
open S2T.HtmlSkip (Str)
open S2T.Tables

def isWs (c : Char) : Bool := c == ' ' || c == '\n'

/-- the text of a plain cell: plain characters and newlines, every white-space character followed by a
    character that is none -/
def clean : Str → Bool
  | [] => true
  | c :: r => (c == '\n' || plainChar c) && (!isWs c || (match r with | d :: _ => !isWs d | [] => false)) && clean r

structure CleanCons (c : Char) (r : Str) : Prop where
  char : c = '\n' ∨ plainChar c = true
  next : isWs c = true → ∃ d r', r = d :: r' ∧ isWs d = false
  tail : clean r = true

theorem clean_cons {c : Char} {r : Str} : clean (c :: r) = true ↔ CleanCons c r := by
  simp only [clean, Bool.and_eq_true, Bool.or_eq_true, beq_iff_eq, Bool.not_eq_true']
  constructor
  · rintro ⟨⟨h1, h2⟩, h3⟩
    refine ⟨h1, fun hw => ?_, h3⟩
    rcases h2 with h2 | h2
    · rw [hw] at h2; cases h2
    · cases r with
      | nil => cases h2
      | cons d r' => exact ⟨d, r', rfl, by simpa using h2⟩
  · rintro ⟨h1, h2, h3⟩
    refine ⟨⟨h1, ?_⟩, h3⟩
    cases hw : isWs c with
    | false => exact Or.inl rfl
    | true => obtain ⟨d, r', rfl, hd⟩ := h2 hw; exact Or.inr (by simpa using hd)

theorem plainChar_not_space {c : Char} (h : plainChar c = true) (h2 : c ≠ ' ') : isPySpace c = false := by
  simp only [plainChar, Bool.and_eq_true, Bool.or_eq_true, beq_iff_eq, Bool.not_eq_true'] at h
  rcases h.1.2 with h3 | h3
  · exact absurd h3 h2
  · exact h3

theorem isPySpace_nl : isPySpace '\n' = true := by decide
theorem isPySpace_sp : isPySpace ' ' = true := by decide

theorem clean_head_not_pyspace {c : Char} {r : Str} (h : clean (c :: r) = true) (hw : isWs c = false) :
    isPySpace c = false := by
  simp only [isWs, Bool.or_eq_false_iff, beq_eq_false_iff_ne] at hw
  rcases (clean_cons.mp h).char with h1 | h1
  · exact absurd h1 hw.2
  · exact plainChar_not_space h1 hw.1

theorem clean_tail {c : Char} {r : Str} (h : clean (c :: r) = true) : clean r = true := (clean_cons.mp h).tail

theorem clean_after_ws {c : Char} {r : Str} (h : clean (c :: r) = true) (hw : isWs c = true) :
    ∃ d r', r = d :: r' ∧ isWs d = false := (clean_cons.mp h).next hw

/-- what `plainChar` says, apart from the white space -/
structure PlainCharParts (c : Char) : Prop where
  noBs : c ≠ '\\'
  noOpen : c ≠ '{'
  noClose : c ≠ '}'
  bmp : c.toNat < 65536

theorem plainChar_parts {c : Char} (h : plainChar c = true) : PlainCharParts c := by
  simp only [plainChar, Bool.and_eq_true, bne_iff_ne, ne_eq, decide_eq_true_eq] at h
  exact ⟨h.1.1.1.1, h.1.1.1.2, h.1.1.2, h.2⟩

theorem clean_mem {s : Str} (h : clean s = true) : ∀ c ∈ s, c = '\n' ∨ plainChar c = true := by
  induction s with
  | nil => intro c hc; cases hc
  | cons x r ih =>
    intro c hc
    rcases List.mem_cons.mp hc with rfl | hm
    · exact (clean_cons.mp h).char
    · exact ih (clean_tail h) c hm

theorem clean_allSuffix {P : Str → Prop} (hP : ∀ c r, clean (c :: r) = true → P (c :: r)) :
    ∀ s, clean s = true → AllSuffix P s
  | [], _ => trivial
  | c :: r, h => ⟨hP c r h, clean_allSuffix hP r (clean_tail h)⟩

theorem runM_none_of_head (cls : Char → Bool) (least : Nat) (rep : Str) (c : Char) (r : Str) (h : cls c = false) :
    runM cls least rep (c :: r) = none := by
  simp [runM, List.takeWhile_cons_of_neg, h]

theorem ws_class_false {c : Char} {r : Str} (h : clean (c :: r) = true) (hw : isWs c = false)
    (cls : Char → Bool) (hcls : ∀ x, cls x = true → isPySpace x = true) : cls c = false := by
  cases hc : cls c with
  | false => rfl
  | true => have := hcls c hc; rw [clean_head_not_pyspace h hw] at this; exact absurd this (by decide)

theorem clean_run (cls : Char → Bool) (hcls : ∀ x, cls x = true → isPySpace x = true) {c : Char} {r : Str}
    (h : clean (c :: r) = true) : (c :: r).takeWhile cls = if cls c = true then [c] else [] := by
  cases hc : cls c with
  | false => exact List.takeWhile_cons_of_neg (by simp [hc])
  | true =>
    cases hw : isWs c with
    | false => rw [ws_class_false h hw cls hcls] at hc; cases hc
    | true =>
      obtain ⟨d, r', rfl, hd⟩ := clean_after_ws h hw
      simp [List.takeWhile, hc, ws_class_false (clean_tail h) hd cls hcls]

/-- a pass `cls+` → " " for a class of white space that does not hold the line end -/
theorem spaceRun_clean (cls : Char → Bool) (hcls : ∀ x, cls x = true → isPySpace x = true) (hnl : cls '\n' = false)
    (s : Str) (h : clean s = true) : subst (runM cls 1 [' ']) 0 s = s := by
  refine subst_id _ s (clean_allSuffix (fun c r hc => ?_) s h)
  rw [runM, clean_run cls hcls hc]
  cases hcc : cls c with
  | false => exact Or.inl rfl
  | true =>
    -- a clean character of the class is white space, and not the line end
    cases hw : isWs c with
    | false => rw [ws_class_false hc hw cls hcls] at hcc; cases hcc
    | true =>
      simp only [isWs, Bool.or_eq_true, beq_iff_eq] at hw
      rcases hw with rfl | rfl
      · exact Or.inr ⟨' ', r, rfl, rfl⟩
      · rw [hnl] at hcc; cases hcc

theorem multiSpace_clean (s : Str) (h : clean s = true) : multiSpace s = s := by
  unfold multiSpace
  refine spaceRun_clean _ (fun x hx => ?_) (by decide) s h
  simp only [Bool.or_eq_true, beq_iff_eq] at hx
  rcases hx with rfl | rfl <;> decide

theorem cellSpace_clean (s : Str) (h : clean s = true) : cellSpace s = s := by
  unfold cellSpace
  refine spaceRun_clean _ (fun x hx => ?_) (by decide) s h
  simp only [Bool.or_eq_true, beq_iff_eq] at hx
  simp only [isPySpace, S2T.HtmlSkip.Epub.isPySpace]
  rcases hx with ((rfl | rfl) | hx) | hx
  · decide
  · decide
  · simp [hx]
  · simp [hx]

theorem multiNl_clean (s : Str) (h : clean s = true) : multiNl s = s := by
  unfold multiNl
  refine subst_id _ s (clean_allSuffix (fun c r hc => Or.inl ?_) s h)
  rw [runM, clean_run _ (fun x hx => by rw [beq_iff_eq.mp hx]; decide) hc]
  split <;> rfl

/-- in clean text no space stands next to a line end, so ` *\n *` matches only a bare line end, which it replaces by itself -/
theorem cellNl_clean (s : Str) (h : clean s = true) : cellNl s = s := by
  unfold cellNl
  refine subst_id _ s (clean_allSuffix (fun c r hc => ?_) s h)
  have hsp : ∀ x, (x == ' ') = true → isPySpace x = true := fun x hx => by rw [beq_iff_eq.mp hx]; decide
  rw [cellNlM, clean_run _ hsp hc]
  by_cases hs : c = ' '
  · subst hs
    obtain ⟨d, r', rfl, hd⟩ := clean_after_ws hc (by decide)
    simp only [isWs, Bool.or_eq_false_iff, beq_eq_false_iff_ne] at hd
    left
    simp only [beq_self_eq_true, if_true, List.length_singleton, List.drop_succ_cons, List.drop_zero]
    split
    · rename_i heq; cases heq; exact absurd rfl hd.2
    · rfl
  · rw [if_neg (by simpa using hs)]
    by_cases hn : c = '\n'
    · subst hn
      obtain ⟨d, r', rfl, hd⟩ := clean_after_ws hc (by decide)
      right
      refine ⟨'\n', d :: r', rfl, ?_⟩
      simp only [isWs, Bool.or_eq_false_iff] at hd
      simp [clean_run _ hsp (clean_tail hc), hd.1]
    · left
      simp only [List.length_nil, List.drop_zero]
      split
      · rename_i heq; cases heq; exact absurd rfl hn
      · rfl

theorem removeBraces_clean (s : Str) (h : clean s = true) : removeBraces s = s := by
  unfold removeBraces
  rw [List.filter_eq_self]
  intro c hc
  rcases clean_mem h c hc with rfl | h1
  · decide
  · simp [(plainChar_parts h1).noOpen, (plainChar_parts h1).noClose]

theorem hexRun_of_hexRunFree (s : Str) (h : hexRunFree s = true) : hexRun s = s := by
  unfold hexRun
  apply subst_id
  induction s with
  | nil => trivial
  | cons c r ih =>
    simp only [hexRunFree, Bool.and_eq_true, decide_eq_true_eq] at h
    refine ⟨?_, ih h.2⟩
    left
    simp only [runM]
    rw [if_neg]
    simp only [Bool.and_eq_true, decide_eq_true_eq, not_and]
    intro h1; omega

theorem clean_getLast {s : Str} (h : clean s = true) : ∀ c, s.getLast? = some c → isPySpace c = false := by
  induction s with
  | nil => exact nofun
  | cons c r ih =>
    cases r with
    | nil =>
      intro x hx
      cases hx
      cases hw : isWs c with
      | false => exact clean_head_not_pyspace h hw
      | true => obtain ⟨d, r', he, _⟩ := clean_after_ws h hw; cases he
    | cons d r' => rw [List.getLast?_cons_cons]; exact ih (clean_tail h)

theorem pyStrip_clean (s : Str) (h : clean s = true) (hh : ∀ c r, s = c :: r → isWs c = false) (a : Str)
    (ha : ∀ x ∈ a, isPySpace x = true) : pyStrip (a ++ s) = s := by
  have := List.strip_append (b := []) ha nofun
    (fun c hc => by cases s with | nil => cases hc | cons d r => exact Option.some.inj hc ▸ clean_head_not_pyspace h (hh d r rfl))
    (clean_getLast h)
  rwa [List.append_nil, ← pyStrip_eq] at this

end S2T.Tables.Rtf
