import S2T.Lemmas.Serial
namespace S2T.Serial

def strKeyed (L : List (Key × PyVal)) : Prop := ∀ e ∈ L, ∃ s, e.1 = Key.str s

theorem strKeys_of_strKeyed (L : List (Key × PyVal)) (h : strKeyed L) : strKeys L = L := by
  unfold strKeys
  have : ∀ e ∈ L, (fun kv : Key × PyVal => (Key.str (keyStr kv.1), kv.2)) e = id e := by
    intro e he
    obtain ⟨s, hs⟩ := h e he
    obtain ⟨k, v⟩ := e
    simp at hs; subst hs; simp [keyStr]
  rw [List.map_congr_left this]; simp

theorem strKeyed_map {α} (k : α → Str) (v : α → PyVal) (l : List α) :
    strKeyed (l.map fun a => (Key.str (k a), v a)) := by
  intro e he
  obtain ⟨a, _, rfl⟩ := List.mem_map.mp he
  exact ⟨_, rfl⟩

theorem strKeyed_strKeys (l : List (Key × PyVal)) : strKeyed (strKeys l) := strKeyed_map _ _ l

theorem strKeyed_mapVals (f : PyVal → PyVal) (L : List (Key × PyVal)) (h : strKeyed L) : strKeyed (mapVals f L) := by
  intro e he
  obtain ⟨a, hm, rfl⟩ := mem_mapVals.mp he
  exact h a hm

theorem strKeyed_normKeys (L : List (Key × PyVal)) (h : strKeyed L) : strKeyed (normKeys L) :=
  fun e he => h e (mem_normKeys L e he)

theorem vals_strKeys (kvs : List (Key × PyVal)) : (strKeys kvs).map (·.2) = kvs.map (·.2) := by
  simp [strKeys]

theorem vals_objEntries (c : Str) (fs : List (Str × PyVal)) :
    (objEntries c fs).map (·.2) = .str c :: fs.map (·.2) := by
  simp [objEntries, fieldKeys]

theorem ser_dict_eq (b : Bool) (kvs : List (Key × PyVal)) :
    ser b (.dict kvs) = .dict (normKeys (mapVals (ser b) (strKeys kvs))) := by
  simp only [ser, serKVs_eq]

theorem ser_obj_eq (b : Bool) (c : Str) (fs : List (Str × PyVal)) :
    ser b (.obj c fs) = .dict (normKeys (mapVals (ser b) (objEntries c fs))) := by
  simp [ser, serFields_eq, objEntries]

theorem strKeyed_objEntries (c : Str) (fs : List (Str × PyVal)) : strKeyed (objEntries c fs) :=
  List.forall_mem_cons.mpr ⟨⟨_, rfl⟩, strKeyed_map _ _ fs⟩

/-- the hypothesis speaks of the values, which is what the induction over the value universe gives -/
theorem ser_dict_norm (b : Bool) (f g : PyVal → PyVal) (L : List (Key × PyVal)) (hk : strKeyed L)
    (h : ∀ w ∈ L.map (·.2), ser b (f w) = g w) :
    ser b (.dict (normKeys (mapVals f L))) = .dict (normKeys (mapVals g L)) := by
  simp only [ser, serKVs_eq]
  rw [normKeys_mapVals f L, strKeys_of_strKeyed _ (strKeyed_mapVals f _ (strKeyed_normKeys L hk)),
    mapVals_mapVals, normKeys_mapVals, normKeys_idem, normKeys_mapVals]
  congr 1
  apply mapVals_congr
  intro e he
  exact h e.2 (List.mem_map_of_mem (mem_normKeys L e he))

theorem ser_ser (b : Bool) (v : PyVal) : ser b (ser true v) = ser true v := by
  induction v using PyVal.ind with | _ v ih => ?_
  cases v with
  | list xs | tuple xs | set xs =>
    simp only [ser, serList_eq, List.map_map, PyVal.list.injEq]
    exact List.map_congr_left ih
  | dict kvs =>
    rw [ser_dict_eq]
    exact ser_dict_norm b _ _ _ (strKeyed_strKeys kvs) (vals_strKeys kvs ▸ ih)
  | obj c fs =>
    rw [ser_obj_eq]
    exact ser_dict_norm b _ _ _ (strKeyed_objEntries c fs) (vals_objEntries c fs ▸ List.forall_mem_cons.mpr ⟨rfl, ih⟩)
  | bytes | bytearray | bytesio => simp [ser, serKVs, normKeys, normGo, ins, keyStr]
  | _ => simp [ser]

theorem ser_ser_kvs (b : Bool) : ∀ kvs : List (Key × PyVal), ∀ e ∈ kvs, ser b (ser true e.2) = ser true e.2 :=
  fun _ e _ => ser_ser b e.2
theorem ser_ser_fields (b : Bool) : ∀ fs : List (Str × PyVal), ∀ e ∈ fs, ser b (ser true e.2) = ser true e.2 :=
  fun _ e _ => ser_ser b e.2

theorem deserList_map (S : Schema) (t : Ty) (f g : PyVal → PyVal) (xs : List PyVal)
    (h : ∀ x ∈ xs, deserValue S t (f x) = .ok (g x)) :
    deserList S t (xs.map f) = .ok (xs.map g) := by
  induction xs with
  | nil => simp [deserList]
  | cons x xs ih =>
    have h1 := h x (by simp)
    have h2 := ih (fun y hy => h y (List.mem_cons_of_mem _ hy))
    simp [deserList, h1, h2]

theorem deserKVs_mapVals (S : Schema) (t : Ty) (f g : PyVal → PyVal) (L : List (Key × PyVal))
    (h : ∀ e ∈ L, deserValue S t (f e.2) = .ok (g e.2)) :
    deserKVs S t (mapVals f L) = .ok (mapVals g L) := by
  induction L with
  | nil => simp [deserKVs]
  | cons e L ih =>
    obtain ⟨k, v⟩ := e
    have h1 := h (k, v) (by simp)
    have h2 := ih (fun y hy => h y (List.mem_cons_of_mem _ hy))
    simp [deserKVs, h1, h2]

theorem dget_none (m : Str) (L : List (Key × PyVal)) (h : ∀ e ∈ L, e.1 ≠ Key.str m) : dget m L = none :=
  List.lookup_eq_none_iff.mpr fun e he => bne_iff_ne.mpr (h e he).symm

theorem dget_head (m : Str) (v : PyVal) (L : List (Key × PyVal)) : dget m ((Key.str m, v) :: L) = some v :=
  List.lookup_cons_self

theorem targetField_none (C : Class) (full : List (Key × PyVal)) (s : Str) (h : s ∉ C.fieldNames)
    (h1 : s ≠ kUnitIndex) (h2 : s ≠ kImageIndex) : targetField C full (Key.str s) = none := by
  simp [targetField, h, h1, h2]

theorem targetField_field (C : Class) (full : List (Key × PyVal)) (n : Str) (h : C.fieldNames.contains n = true) :
    targetField C full (Key.str n) = some n := by
  unfold targetField
  simp only [h, if_true]

theorem deserFields_fieldKeys (S : Schema) (C : Class) (full : List (Key × PyVal)) (f : PyVal → PyVal)
    (g : Str → PyVal → PyVal) (fs : List (Str × PyVal))
    (hn : ∀ e ∈ fs, C.fieldNames.contains e.1 = true)
    (h : ∀ e ∈ fs, deserValue S ((C.fieldTy e.1).getD .any) (f e.2) = .ok (g e.1 e.2)) :
    deserFields S C full (mapVals f (fieldKeys fs)) = .ok (fs.map (fun e => (e.1, g e.1 e.2))) := by
  induction fs with
  | nil => simp [deserFields, fieldKeys]
  | cons e fs ih =>
    obtain ⟨n, v⟩ := e
    have h1 := h (n, v) (by simp)
    have hn1 := hn (n, v) (by simp)
    have h2 := ih (fun y hy => hn y (List.mem_cons_of_mem _ hy)) (fun y hy => h y (List.mem_cons_of_mem _ hy))
    simp only [mapVals, fieldKeys, List.map_cons, List.map_map] at h2 ⊢
    simp only [deserFields, targetField_field C full n hn1]
    simp at h1
    simp [h1, h2]

theorem lookup_of_nodup_keys {α β} [BEq α] [LawfulBEq α] {l : List (α × β)} (h : (l.map (·.1)).Nodup)
    {e : α × β} (he : e ∈ l) : l.lookup e.1 = some e.2 := by
  obtain ⟨s, t, rfl⟩ := List.append_of_mem he
  refine List.lookup_eq_some_iff.mpr ⟨s, t, rfl, fun p hp => ?_⟩
  rw [List.map_append, List.nodup_append] at h
  exact bne_iff_ne.mpr fun e' => h.2.2 p.1 (List.mem_map_of_mem hp) e.1 (by simp) e'.symm

theorem fillFields_of_lookup (got : List (Str × PyVal)) : ∀ (fields : List Field) (tl : List (Str × PyVal)),
    tl.map (·.1) = fields.map (·.name) → (∀ e ∈ tl, got.lookup e.1 = some e.2) → fillFields got fields = .ok tl
  | [], [], _, _ => rfl
  | f :: fs, (n, w) :: tl, hn, hl => by
    simp only [List.map_cons, List.cons.injEq] at hn
    have h1 : got.lookup n = some w := hl (n, w) List.mem_cons_self
    simp only [fillFields, h1, ← hn.1, fillFields_of_lookup got fs tl hn.2 fun e he => hl e (List.mem_cons_of_mem _ he)]
  | [], _ :: _, hn, _ => nomatch hn
  | _ :: _, [], hn, _ => nomatch hn

theorem postInit_stable (strip? : List Str) (got : List (Str × PyVal))
    (h : ∀ e ∈ got, stripStable strip? e.1 e.2 = true) : postInit strip? got = .ok got := by
  induction got with
  | nil => simp [postInit]
  | cons e got ih =>
    obtain ⟨n, v⟩ := e
    have h1 := h (n, v) (by simp)
    have h2 := ih (fun y hy => h y (List.mem_cons_of_mem _ hy))
    simp only [postInit]
    by_cases hc : strip?.contains n = true
    · simp only [stripStable, hc, if_true] at h1
      cases v <;> simp at h1
      simp only [hc, if_true, h2, h1]
    · simp only [hc, h2]
      rfl

end S2T.Serial
