import S2T.Lemmas.TablesRtfCell
import S2T.Lemmas.Decimal
/-! The backslash-anchored passes (`\uN` decoding, `\'hh`, special characters) on the tokens of a written row;
what stands in front of a cell's text is silent for them. -/
namespace S2T.Tables.Rtf
open S2T.HtmlSkip (Str)
open S2T.Tables

/-- `toDec` is core's decimal numeral (the fuel is never used up) -/
theorem toDec_eq (n : Nat) : toDec n = Nat.toDigits 10 n := by
  have hd : ∀ d, d < 10 → digitChar d = d.digitChar := by decide
  have h : ∀ fuel n, n < fuel → toDecAux fuel n = Nat.toDigits 10 n := by
    intro fuel
    induction fuel with
    | zero => intro n h; omega
    | succ f ih =>
      intro n h
      rw [toDecAux, Nat.toDigits_eq_if (by decide)]
      split
      · rw [hd n ‹_›]
      · rw [ih _ (by omega), hd _ (Nat.mod_lt _ (by decide))]
  exact h _ _ (Nat.lt_succ_self n)

/-- the model's `isDigit` is `Char.isDigit` unfolded, which is how `Decimal.isDigit_toDigits` applies -/
theorem toDec_digits (n : Nat) : ∀ c ∈ toDec n, isDigit c = true :=
  fun _ h => Decimal.isDigit_toDigits (toDec_eq n ▸ h)

theorem toDec_ne_of_not_digit (k : Nat) {x : Char} (hx : isDigit x = false) : ∀ c ∈ toDec k, c ≠ x := by
  intro c hc h; subst h
  exact absurd (toDec_digits k _ hc) (Bool.eq_false_iff.mp hx)

theorem toDec_ne (n : Nat) : toDec n ≠ [] := toDec_eq n ▸ Nat.toDigits_ne_nil

theorem decVal_eq (s : Str) : decVal s = Nat.ofDigitChars 10 s 0 :=
  Decimal.foldl_eq_ofDigitChars _ s (fun a _ _ => by rw [Nat.mul_comm]) 0

theorem decVal_toDec (n : Nat) : decVal (toDec n) = n := by
  rw [decVal_eq, toDec_eq, Nat.ofDigitChars_ten_toDigits]

theorem uniAt_escUnit (u : Nat) (hu : u < 65536) (X : Str) : uniAt (escUnit u ++ X) = some (u, (escUnit u).length) := by
  have htw : ∀ n, (toDec n ++ '?' :: X).takeWhile isDigit = toDec n := fun n =>
    (List.takeWhile_dropWhile_append_cons isDigit _ '?' X (toDec_digits n) (by decide)).1
  have hne : ∀ n, ¬ (toDec n).isEmpty = true := fun n => by simpa using toDec_ne n
  unfold escUnit
  split
  · -- no sign: the numeral starts with a digit
    have hneg : ((toDec u ++ '?' :: X).head? == some '-') = false := by
      cases hd : toDec u with
      | nil => exact absurd hd (toDec_ne u)
      | cons c r =>
        have := toDec_digits u c (hd ▸ List.mem_cons_self)
        simp only [List.cons_append, List.head?_cons, beq_eq_false_iff_ne, ne_eq, Option.some.injEq]
        rintro rfl; exact absurd this (by decide)
    simp only [List.cons_append, List.append_assoc, List.nil_append, uniAt, hneg, Bool.false_eq_true, if_false, htw,
      List.drop_left, List.head?_cons, beq_self_eq_true, if_true, decVal_toDec, if_neg (hne u), List.length_cons,
      List.length_append, List.length_nil]
    congr 2 <;> omega
  · -- a minus sign, then the numeral of `65536 - u`
    simp only [List.cons_append, List.append_assoc, List.nil_append, uniAt, if_true, List.drop_succ_cons, List.drop_zero, htw,
      List.drop_left, List.head?_cons, beq_self_eq_true, decVal_toDec, if_neg (hne _), List.length_cons, List.length_append,
      List.length_nil]
    congr 2 <;> omega

theorem char_not_surrogate (c : Char) : isHighSur c.toNat = false ∧ isLowSur c.toNat = false := by
  have h := c.valid
  simp only [UInt32.isValidChar, Nat.isValidChar] at h
  have : c.toNat = c.val.toNat := rfl
  simp only [isHighSur, isLowSur, Bool.and_eq_false_iff, decide_eq_false_iff_not, this]
  omega

theorem uniM_escUnit (c : Char) (h : c.toNat < 65536) (X : Str) :
    uniM (escUnit c.toNat ++ X) = some ([c], (escUnit c.toNat).length) := by
  obtain ⟨hh, hl⟩ := char_not_surrogate c
  simp only [uniM, uniAt_escUnit c.toNat h X, hh, hl, Bool.false_eq_true, if_false, Char.ofNat_toNat]

theorem escUnit_ne (u : Nat) : escUnit u ≠ [] := by
  unfold escUnit; split <;> simp

/-- characters that the writer escapes only when they are above 127 -/
def textChar (c : Char) : Bool := c != '\\' && c != '{' && c != '}' && c.toNat < 65536

theorem textChar_of_plain {c : Char} (h : plainChar c = true) : textChar c = true := by
  have hc := plainChar_parts h
  simp [textChar, hc.noBs, hc.noOpen, hc.noClose, hc.bmp]

theorem textChar_parts {c : Char} (h : textChar c = true) : PlainCharParts c := by
  simp only [textChar, Bool.and_eq_true, bne_iff_ne, ne_eq, decide_eq_true_eq] at h
  exact ⟨h.1.1.1, h.1.1.2, h.1.2, h.2⟩

theorem plainText_eq (s : Str) : plainText s = s.all textChar := rfl

theorem escChar_textChar {c : Char} (h : textChar c = true) : escChar c = [c] ∨ escChar c = escUnit c.toNat := by
  have hc := textChar_parts h
  by_cases h128 : c.toNat < 128
  · exact Or.inl (by simp [escChar, hc.noBs, hc.noOpen, hc.noClose, h128])
  · exact Or.inr (by simp [escChar, hc.noBs, hc.noOpen, hc.noClose, h128, hc.bmp])

theorem esc_cons (c : Char) (p : Str) : esc (c :: p) = escChar c ++ esc p := by simp [esc]

theorem uniEsc_esc (p X : Str) (hp : p.all textChar = true) : subst uniM 0 (esc p ++ X) = p ++ subst uniM 0 X := by
  induction p with
  | nil => rfl
  | cons c p ih =>
    simp only [List.all_cons, Bool.and_eq_true] at hp
    rw [esc_cons, List.append_assoc]
    rcases escChar_textChar hp.1 with e | e
    · rw [e, subst_noBs uniM anch_uniM [c] _ (by intro x hx; simp at hx; subst hx; exact (textChar_parts hp.1).noBs)]
      exact congrArg (c :: ·) (ih hp.2)
    · rw [e, subst_head uniM _ _ [c] (escUnit_ne _) (uniM_escUnit c (textChar_parts hp.1).bmp _)]
      exact congrArg (c :: ·) (ih hp.2)

/-- the control words of a written row in front of a cell's text; `RowInert` has one field for each -/
def names4 : List Str := ["trowd".toList, "cellx".toList, "pard".toList, "intbl".toList]

/-- the scanner does not match at the four control words of a written row (the members of `names4`, as character lists) -/
structure RowInert (f : Str → Bool) : Prop where
  trowd : Rejects f ['t', 'r', 'o', 'w', 'd']
  cellx : Rejects f ['c', 'e', 'l', 'l', 'x']
  pard : Rejects f ['p', 'a', 'r', 'd']
  intbl : Rejects f ['i', 'n', 't', 'b', 'l']

theorem noBs_of_all (s : Str) (h : s.all (fun c => c != '\\') = true) : NoBs s := ne_of_all s h

theorem noBs_digits (k : Nat) : NoBs (toDec k) := toDec_ne_of_not_digit k (by decide)

def cellxW (k : Nat) : Str := '\\' :: ("cellx".toList ++ toDec k)

theorem cellxs_succ (i n : Nat) : cellxs i (n + 1) = cellxW (1500 * (i + 1)) ++ cellxs (i + 1) n := rfl

theorem Appends.cellxs {Φ : Str → Prop} (h : Appends Φ) (hw : ∀ k, Φ (cellxW k)) : ∀ (n i : Nat), Φ (cellxs i n)
  | 0, _ => h.nil
  | n + 1, i => by rw [cellxs_succ]; exact h.append (hw _) (h.cellxs hw n (i + 1))

/-- the part of a row in front of the text of its first cell -/
def lead0 (n : Nat) : Str := "\\trowd".toList ++ cellxs 0 n ++ [' ']

/-- the two shapes of what stands in front of `\pard\intbl` in a piece: the row definition (first cell), or the
    space that delimits the previous `\cell`; `L'` is what the control-word removal leaves of it -/
inductive LeadOf : Str → Str → Prop
  | first (n : Nat) : LeadOf (lead0 (n + 1)) []
  | later : LeadOf [' '] [' ']

theorem Appends.lead {Φ : Str → Prop} (h : Appends Φ) (ht : Φ "\\trowd".toList) (hw : ∀ k, Φ (cellxW k)) (hsp : Φ [' '])
    {L L' : Str} (hL : LeadOf L L') : Φ L := by
  cases hL with
  | first n => exact h.append (h.append ht (h.cellxs hw _ 0)) hsp
  | later => exact hsp

theorem sCellStart_eq : sCellStart = '\\' :: ("pard".toList ++ '\\' :: ("intbl".toList ++ [' '])) := by decide_chars sCellStart

theorem silent_lead {f : Str → Bool} (hf : Anch f) (hr : RowInert f) {L L' : Str} (hL : LeadOf L L') :
    Silent f (L ++ sCellStart) := by
  have S := appends_silent f
  have w : ∀ {nm : Str}, Rejects f nm → nm.all (fun c => c != '\\') = true → ∀ {d : Str}, NoBs d → Silent f ('\\' :: (nm ++ d)) :=
    fun h hn _ hd => silent_word hf h (noBs_of_all _ hn) hd
  refine S.append (S.lead ?_ (fun k => ?_) (silent_noBs hf (noBs_of_all _ (by decide))) hL) ?_
  · -- the literal as its character list by a rewrite: the kernel would decode its bytes (see Lemmas/Chars)
    rw [String.toList_ofList]
    exact w hr.trowd (by decide) (d := []) nofun
  · unfold cellxW
    rw [String.toList_ofList]
    exact w hr.cellx (by decide) (noBs_digits k)
  · unfold sCellStart
    rw [String.toList_ofList]
    -- `\pard` in the shape `'\\' :: (w ++ d)` of `silent_word`, with nothing behind the word: `++ []`
    exact S.append (a := '\\' :: (['p', 'a', 'r', 'd'] ++ [])) (w hr.pard (by decide) nofun)
      (w hr.intbl (by decide) (d := [' ']) (noBs_of_all _ (by decide)))

theorem uniAt_none (c : Char) (r : Str) (h : c ≠ 'u') : uniAt ('\\' :: c :: r) = none := by
  unfold uniAt
  split
  · rename_i heq; simp only [List.cons.injEq, true_and] at heq; exact absurd heq.1 h
  · rfl

theorem uniM_none (c : Char) (r : Str) (h : c ≠ 'u') : uniM ('\\' :: c :: r) = none := by
  simp [uniM, uniAt_none c r h]

theorem hexEscM_none (c : Char) (r : Str) (h : c ≠ '\'') : hexEscM ('\\' :: c :: r) = none := by
  unfold hexEscM
  split
  · rename_i heq; simp only [List.cons.injEq, true_and] at heq; exact absurd heq.1 h
  · rfl

theorem rejects_uniM {c : Char} (w : Str) (h : c ≠ 'u') : Rejects (hits uniM) (c :: w) :=
  fun u => by simp [hits, uniM_none c _ h]

theorem rejects_hexEscM {c : Char} (w : Str) (h : c ≠ '\'') : Rejects (hits hexEscM) (c :: w) :=
  fun u => by simp [hits, hexEscM_none c _ h]

theorem inert_uniM : RowInert (hits uniM) :=
  ⟨rejects_uniM _ (by decide), rejects_uniM _ (by decide), rejects_uniM _ (by decide), rejects_uniM _ (by decide)⟩

theorem inert_hexEscM : RowInert (hits hexEscM) :=
  ⟨rejects_hexEscM _ (by decide), rejects_hexEscM _ (by decide), rejects_hexEscM _ (by decide), rejects_hexEscM _ (by decide)⟩

/-- a control word none of whose characters ends a special-character match: when `kw` is a prefix of `nm ++ u` but `nm` none of
    `kw`, `kw` is properly shorter than `nm`, and what follows the match is a character of `nm` -/
theorem specialM_none (kw ch nm u : Str)
    (hnm : ∀ c ∈ nm, isPySpace c = false ∧ c ≠ '\\' ∧ c ≠ '{' ∧ c ≠ '}')
    (hk : nm.isPrefixOf kw = false) : specialM kw ch ('\\' :: (nm ++ u)) = none := by
  simp only [specialM]
  by_cases hp : kw.isPrefixOf (nm ++ u) = true
  · rw [if_pos hp]
    have hpre : kw <+: nm ++ u := List.isPrefixOf_iff_prefix.mp hp
    have hlen : kw.length < nm.length := by
      rcases Nat.lt_or_ge kw.length nm.length with h | h
      · exact h
      · have := List.prefix_of_prefix_length_le (List.prefix_append nm u) hpre h
        rw [List.isPrefixOf_iff_prefix.mpr this] at hk; exact absurd hk (by decide)
    rw [List.drop_append_of_le_length (Nat.le_of_lt hlen)]
    obtain ⟨c, rest, hd⟩ := List.exists_cons_of_ne_nil (mt List.drop_eq_nil_iff.mp (Nat.not_le.mpr hlen))
    have hc := hnm c (List.mem_of_mem_drop (by rw [hd]; exact List.mem_cons_self))
    rw [hd]
    have htw : (c :: (rest ++ u)).takeWhile isPySpace = [] :=
      List.takeWhile_cons_of_neg (by simp [hc.1])
    simp only [List.cons_append, htw, List.length_nil, Nat.lt_irrefl, if_false]
    simp [hc.2.1, hc.2.2.1, hc.2.2.2]
  · simp [hp]

/-- `kw` is not one of the four control words of a written row and does not start with one -/
def inertKw (kw : Str) : Bool := names4.all (fun nm => !nm.isPrefixOf kw)

theorem inert_specialM (kw ch : Str) (hk : inertKw kw = true) : RowInert (hits (specialM kw ch)) := by
  -- `inertKw` runs over `names4`: its four members as character lists (`-index`: see Lemmas/Chars)
  unfold inertKw names4 at hk
  simp -index only [String.toList_ofList, List.all_cons, List.all_nil, Bool.and_true, Bool.and_eq_true, Bool.not_eq_true'] at hk
  obtain ⟨h1, h2, h3, h4⟩ := hk
  have r : ∀ {nm : Str}, nm.isPrefixOf kw = false → (∀ c ∈ nm, isPySpace c = false ∧ c ≠ '\\' ∧ c ≠ '{' ∧ c ≠ '}') →
      Rejects (hits (specialM kw ch)) nm := fun h hc u => by rw [hits, specialM_none kw ch _ u hc h]; rfl
  exact ⟨r h1 (by decide), r h2 (by decide), r h3 (by decide), r h4 (by decide)⟩

end S2T.Tables.Rtf
