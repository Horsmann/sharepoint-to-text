import S2T.Lemmas.C02OdfTok
import S2T.Lemmas.C02OdfNum
import S2T.Lemmas.OdfNames
/-! The ODT and ODG text walkers on rendered documents (ODP and ODS: Lemmas/C02Sheets*). -/
namespace S2T.OdfDoc
open S2T.Tok S2T.OdfText

theorem attr_self (k v : Str) (r : List (Str × Str)) : attr k ((k, v) :: r) = some v := by simp [attr]

variable {p : Char → Bool} {F : Fmt}

/-- what one child element contributes (its tail excluded) -/
def childOut (p : Char → Bool) (F : Fmt) (k : Xml) : Str :=
  if F.skip.contains k.tag then []
  else if k.tag = F.space then spaceRun p F k.attrs
  else if k.tag = F.tab then ['\t']
  else if k.tag = F.lb then ['\n']
  else elemText p F k

theorem childOut_node (t : Str) (a : List (Str × Str)) (x l : Str) (ks : List Xml) :
    childOut p F (.node t a x l ks) =
      if t ∈ F.skip then [] else if t = F.space then spaceRun p F a else if t = F.tab then ['\t']
      else if t = F.lb then ['\n'] else elemText p F (.node t a x l ks) := by
  simp only [childOut, List.contains_iff_mem]
  rfl

theorem kidsText_cons (k : Xml) (ks : List Xml) :
    kidsText p F (k :: ks) = childOut p F k ++ k.tail ++ kidsText p F ks := by
  simp only [kidsText, childOut]

theorem elemText_node (t : Str) (a : List (Str × Str)) (x l : Str) (ks : List Xml) :
    elemText p F (.node t a x l ks) = x ++ kidsText p F ks := by
  simp only [elemText]

def mixText (p : Char → Bool) (F : Fmt) : List Mix → Str
  | [] => []
  | .chars s :: r => s ++ mixText p F r
  | .el x :: r => childOut p F x ++ mixText p F r

theorem mixText_el (x : Xml) : mixText p F [.el x] = childOut p F x := by simp [mixText]

theorem mixText_cons (m : Mix) (ms : List Mix) : mixText p F (m :: ms) = mixText p F [m] ++ mixText p F ms := by
  cases m <;> simp [mixText]

theorem childOut_withTail (x : Xml) (t : Str) : childOut p F (x.withTail t) = childOut p F x := by
  cases x with
  | node tg a tx tl k => simp only [childOut, Xml.withTail, Xml.tag, Xml.attrs, elemText_node]

theorem tail_withTail (x : Xml) (t : Str) : (x.withTail t).tail = t := by
  cases x; rfl

theorem pack_text (ms : List Mix) : (pack ms).1 ++ kidsText p F (pack ms).2 = mixText p F ms := by
  induction ms with
  | nil => simp [pack, kidsText, mixText]
  | cons m r ih =>
    cases m with
    | chars s => simp only [pack, mixText, List.append_assoc, ih]
    | el x =>
      simp only [pack, mixText, kidsText_cons, childOut_withTail, tail_withTail, List.nil_append, List.append_assoc, ih]

theorem elemText_elem (tag : Str) (attrs : List (Str × Str)) (ms : List Mix) :
    elemText p F (elem tag attrs ms) = mixText p F ms := by
  simp only [elem, elemText_node, pack_text]

/-- the skip set holds the annotation tag and nothing but annotation / note tags -/
structure SkipOk (sk : List Str) : Prop where
  annot : tAnnot ∈ sk
  only : ∀ t, t ∈ sk → t = tAnnot ∨ t = tNote

mutual
/-- no footnote or endnote inside (needed where `text:note` is not in the skip set) -/
def noNoteInl : Inl → Bool
  | .span ks => noNoteInls ks
  | .link _ ks => noNoteInls ks
  | .note _ _ _ => false
  | .annot _ ks => noNoteInls ks
  | _ => true
def noNoteInls : List Inl → Bool
  | [] => true
  | i :: r => noNoteInl i && noNoteInls r
end

theorem SkipOk.notMem {sk : List Str} (h : SkipOk sk) {ns loc : String} (hns : NsOk ns)
    (hl : loc ∉ ["annotation", "note"]) : q ns loc ∉ sk := by
  intro hc
  simp only [List.mem_cons, List.not_mem_nil, or_false, not_or] at hl
  rcases h.only _ hc with e | e
  · exact hl.1 ((q_inj hns nsOffice_ok).1 e).1
  · exact hl.2 ((q_inj hns nsText_ok).1 e).1

theorem skipOk_odt : SkipOk [tAnnot, tNote] :=
  ⟨by simp, by intro t ht; simpa using ht⟩

theorem skipOk_odg : SkipOk [tAnnot] :=
  ⟨by simp, by intro t ht; simp at ht; exact Or.inl ht⟩

section inl
variable {sk : List Str} (hp : NoDigitWs p) (h : SkipOk sk)
include hp h

omit hp in
theorem childOut_other {ns loc : String} (hns : NsOk ns)
    (hl : loc ∉ ["annotation", "note", "s", "tab", "line-break"]) (a : List (Str × Str)) (x l : Str) (ks : List Xml) :
    childOut p (stdFmt sk) (.node (q ns loc) a x l ks) = elemText p (stdFmt sk) (.node (q ns loc) a x l ks) := by
  -- `hl`, taken apart, lists the five local names in order; `tS`, `tTab`, `tLb` are `q nsText` of the last three by
  -- definition
  simp only [List.mem_cons, List.not_mem_nil, or_false, not_or] at hl
  have hs : q ns loc ∉ sk := h.notMem hns (by simp [hl])
  have h1 : q ns loc ≠ tS := q_ne hns nsText_ok hl.2.2.1
  have h2 : q ns loc ≠ tTab := q_ne hns nsText_ok hl.2.2.2.1
  have h3 : q ns loc ≠ tLb := q_ne hns nsText_ok hl.2.2.2.2
  rw [stdFmt, childOut_node, if_neg hs, if_neg h1, if_neg h2, if_neg h3]

omit hp in
/-- the three whitespace elements of `stdFmt` are not skipped and their names are distinct -/
theorem childOut_s (a : List (Str × Str)) (x l : Str) (ks : List Xml) :
    childOut p (stdFmt sk) (.node tS a x l ks) = spaceRun p (stdFmt sk) a := by
  have hs : tS ∉ sk := h.notMem nsText_ok (by decide)
  rw [stdFmt, childOut_node, if_neg hs, if_pos rfl]

omit hp in
theorem childOut_tab (a : List (Str × Str)) (x l : Str) (ks : List Xml) :
    childOut p (stdFmt sk) (.node tTab a x l ks) = ['\t'] := by
  have hs : tTab ∉ sk := h.notMem nsText_ok (by decide)
  have h1 : tTab ≠ tS := q_ne nsText_ok nsText_ok (by decide)
  rw [stdFmt, childOut_node, if_neg hs, if_neg h1, if_pos rfl]

omit hp in
theorem childOut_lb (a : List (Str × Str)) (x l : Str) (ks : List Xml) :
    childOut p (stdFmt sk) (.node tLb a x l ks) = ['\n'] := by
  have hs : tLb ∉ sk := h.notMem nsText_ok (by decide)
  have h1 : tLb ≠ tS := q_ne nsText_ok nsText_ok (by decide)
  have h2 : tLb ≠ tTab := q_ne nsText_ok nsText_ok (by decide)
  rw [stdFmt, childOut_node, if_neg hs, if_neg h1, if_neg h2, if_pos rfl]

mutual
theorem mix_inl (i : Inl) (hn : tNote ∈ sk ∨ noNoteInl i = true) :
    mixText p (stdFmt sk) [rInl i] = visible i := by
  cases i with
  | text s => simp [rInl, mixText, visible]
  | sp n =>
    rw [rInl, leaf, mixText_el, childOut_s h]
    simp [spaceRun, stdFmt, attr_self, pyInt_natToDec hp, visible]
  | tab => rw [rInl, leaf, mixText_el, childOut_tab h]; rfl
  | br => rw [rInl, leaf, mixText_el, childOut_lb h]; rfl
  | span ks =>
    rw [rInl, elem, mixText_el]
    exact (childOut_other h (loc := "span") nsText_ok (by decide) ..).trans
      ((elemText_elem ..).trans (mix_inls ks hn))
  | link hr ks =>
    rw [rInl, elem, mixText_el]
    exact (childOut_other h (loc := "a") nsText_ok (by decide) ..).trans
      ((elemText_elem ..).trans (mix_inls ks hn))
  | note e cit ks =>
    -- `stdFmt` unfolded, so that the skip test is on `sk` itself
    rw [rInl, mixText_el, stdFmt, childOut_node, if_pos (hn.resolve_right (by simp [noNoteInl]))]
    rfl
  | annot c ks =>
    rw [rInl, mixText_el, stdFmt, childOut_node, if_pos h.annot]
    rfl
  | bookmark n =>
    rw [rInl, leaf, mixText_el]
    exact childOut_other h (loc := "bookmark") nsText_ok (by decide) ..
theorem mix_inls (ks : List Inl) (hn : tNote ∈ sk ∨ noNoteInls ks = true) :
    mixText p (stdFmt sk) (rInls ks) = visibleL ks := by
  cases ks with
  | nil => rfl
  | cons i r =>
    have hir : (tNote ∈ sk ∨ noNoteInl i = true) ∧ (tNote ∈ sk ∨ noNoteInls r = true) := by
      simpa [noNoteInls, or_and_left] using hn
    rw [rInls, mixText_cons, mix_inl i hir.1, mix_inls r hir.2, visibleL]
end

theorem elemText_para (tag : Str) (attrs : List (Str × Str)) (ks : List Inl)
    (hn : tNote ∈ sk ∨ noNoteInls ks = true) :
    elemText p (stdFmt sk) (elem tag attrs (rInls ks)) = visibleL ks := by
  rw [elemText_elem]; exact mix_inls hp h ks hn

end inl

mutual
/-- no block-level comment (ODT keeps comments inside paragraphs) -/
def noComment : Blk → Bool
  | .cont _ bs => noCommentL bs
  | .comment _ _ => false
  | _ => true
def noCommentL : List Blk → Bool
  | [] => true
  | b :: r => noComment b && noCommentL r
end

mutual
/-- no note in any paragraph and no tracked-changes store (drawings have neither) -/
def drawingOk : Blk → Bool
  | .para _ ks => noNoteInls ks
  | .heading _ ks => noNoteInls ks
  | .cont k bs => k != .tracked && drawingOkL bs
  | .comment _ _ => true
def drawingOkL : List Blk → Bool
  | [] => true
  | b :: r => drawingOk b && drawingOkL r
end

/-- what the ODT extractor module must hold for the theorems (all decidable; see `TablesOk` in Props) -/
structure OdtOk (T : Tables) : Prop where
  fmt : T.odt = stdFmt [tAnnot, tNote]
  pTag : T.odtP = tP
  hTag : T.odtH = tH
  tracked : T.odtTracked = tTracked
  nl : T.isWs '\n' = true
  noDigit : NoDigitWs T.isWs

theorem odtWalk_node (T : Tables) (tag : Str) (a : List (Str × Str)) (x l : Str) (ks : List Xml) :
    odtWalk T (.node tag a x l ks) =
      if tag = T.odtTracked then []
      else if tag = T.odtP ∨ tag = T.odtH then nonBlank T (elemText T.isWs T.odt (.node tag a x l ks))
      else odtWalkL T ks := by
  simp only [odtWalk]

/-- a container's tag against the tags the walkers test for -/
structure KindTag (k : Kind) : Prop where
  ne_p : kindTag k ≠ tP
  ne_h : kindTag k ≠ tH
  ne_annot : kindTag k ≠ tAnnot
  tracked_iff : kindTag k = tTracked ↔ k = .tracked

theorem kindTag_spec (k : Kind) : KindTag k := by
  -- `q_inj` and the `ns*_ok` facts (Lemmas/OdfNames) are simp lemmas: each case compares two local names; the four
  -- parts in one goal, so that each kind is simplified once
  have h : kindTag k ≠ tP ∧ kindTag k ≠ tH ∧ kindTag k ≠ tAnnot ∧ (kindTag k = tTracked ↔ k = .tracked) := by
    cases k <;> simp [kindTag, tP, tH, tAnnot, tTracked]
  exact ⟨h.1, h.2.1, h.2.2.1, h.2.2.2⟩

theorem odtWalk_para {T : Tables} (h : OdtOk T) {t : Str} (hph : t = tP ∨ t = tH)
    (a : List (Str × Str)) (ks : List Inl) :
    odtWalk T (elem t a (rInls ks)) = nonBlank T (visibleL ks) := by
  have ht : t ≠ tTracked := by
    rcases hph with e | e <;> rw [e] <;> exact q_ne nsText_ok nsText_ok (by decide)
  -- `tNote ∈ [tAnnot, tNote]` by its position, so that no name is compared
  have := elemText_para (p := T.isWs) h.noDigit skipOk_odt t a ks (Or.inl (.tail _ (.head _)))
  rw [elem] at this ⊢
  rw [odtWalk_node, h.pTag, h.hTag, h.tracked, h.fmt, if_neg ht, if_pos hph, this]

mutual
theorem odtWalk_rBlk {T : Tables} (h : OdtOk T) (b : Blk) (hb : noComment b = true) :
    odtWalk T (rBlk b) = (bodyTexts b).flatMap (nonBlank T) := by
  cases b with
  | para st ks => simp [rBlk, bodyTexts, odtWalk_para h (Or.inl rfl)]
  | heading lv ks => simp [rBlk, bodyTexts, odtWalk_para h (Or.inr rfl)]
  | cont k bs =>
    have hk := kindTag_spec k
    simp only [rBlk, odtWalk_node, h.pTag, h.hTag, h.tracked, bodyTexts, hk.tracked_iff, hk.ne_p, hk.ne_h, or_self, if_false]
    split
    · rfl
    · exact odtWalkL_rBlks h bs (by simpa [noComment] using hb)
  | comment c ks => simp [noComment] at hb
theorem odtWalkL_rBlks {T : Tables} (h : OdtOk T) (bs : List Blk) (hb : noCommentL bs = true) :
    odtWalkL T (rBlks bs) = (bodyTextsL bs).flatMap (nonBlank T) := by
  cases bs with
  | nil => rfl
  | cons b r =>
    simp only [noCommentL, Bool.and_eq_true] at hb
    simp only [rBlks, odtWalkL, bodyTextsL, List.flatMap_append]
    rw [odtWalk_rBlk h b hb.1, odtWalkL_rBlks h r hb.2]
end

theorem odtFullText_render {T : Tables} (h : OdtOk T) (d : List Blk) (hd : noCommentL d = true) :
    odtFullText T (renderOdt d) = joinNl ((bodyTextsL d).flatMap (nonBlank T)) := by
  have h1 : q nsOffice "text" ≠ tP := q_ne nsOffice_ok nsText_ok (by decide)
  have h2 : q nsOffice "text" ≠ tH := q_ne nsOffice_ok nsText_ok (by decide)
  have h3 : q nsOffice "text" ≠ tTracked := q_ne nsOffice_ok nsText_ok (by decide)
  rw [odtFullText, renderOdt, odtWalk_node, h.pTag, h.hTag, h.tracked, if_neg h3, if_neg (not_or.2 ⟨h1, h2⟩),
    odtWalkL_rBlks h d hd]

theorem tokens_flatMap_nonBlank (T : Tables) (l : List Str) :
    (l.flatMap (nonBlank T)).flatMap (tokens T.isWs) = l.flatMap (tokens T.isWs) := by
  rw [List.flatMap_assoc]
  congr 1; funext a
  by_cases hb : blank T.isWs a = true <;> simp [nonBlank, hb, blank_tokens]

structure OdgOk (T : Tables) : Prop where
  fmt : T.odg = stdFmt [tAnnot]
  pTag : T.odgP = tP
  hTag : T.odgH = tH
  nl : T.isWs '\n' = true
  noDigit : NoDigitWs T.isWs

theorem textBlocksL_cons {T : Tables} (h : OdgOk T) (t : Str) (a : List (Str × Str)) (x l : Str) (ks r : List Xml) :
    textBlocksL T (.node t a x l ks :: r) =
      (if t = tAnnot then [] else if t = tH ∨ t = tP then [.node t a x l ks] else textBlocksL T ks)
        ++ textBlocksL T r := by
  simp [textBlocksL, textBlocks, Xml.tag, h.fmt, h.pTag, h.hTag, stdFmt]

theorem textBlocksL_nil (T : Tables) : textBlocksL T [] = [] := rfl

theorem textBlocksL_cons_append (T : Tables) (k : Xml) (r : List Xml) :
    textBlocksL T (k :: r) = textBlocksL T [k] ++ textBlocksL T r := by
  simp only [textBlocksL, List.append_nil]

def stripLine (T : Tables) (s : Str) : List Str := if strip T.isWs s = [] then [] else [strip T.isWs s]

/-- `hph` has the heading first here and the paragraph first in `odtWalk_para`: each follows the test of its walker -/
theorem odg_para {T : Tables} (h : OdgOk T) {t : Str} (hph : t = tH ∨ t = tP) (a : List (Str × Str))
    {ks : List Inl} (hk : noNoteInls ks = true) :
    (textBlocksL T [elem t a (rInls ks)]).flatMap (odgLine T) = stripLine T (visibleL ks) := by
  have ht : t ≠ tAnnot := by
    rcases hph with e | e <;> rw [e] <;> exact q_ne nsText_ok nsOffice_ok (by decide)
  have := elemText_para h.noDigit skipOk_odg t a ks (Or.inr hk)
  rw [elem] at this ⊢
  rw [textBlocksL_cons h, if_neg ht, if_pos hph, textBlocksL_nil]
  simp only [List.append_nil, List.flatMap_cons, List.flatMap_nil, odgLine, h.fmt, this, stripLine]

mutual
theorem odg_rBlk {T : Tables} (h : OdgOk T) (b : Blk) (hb : drawingOk b = true) :
    (textBlocksL T [rBlk b]).flatMap (odgLine T) = (bodyTexts b).flatMap (stripLine T) := by
  cases b with
  | para st ks => simp [rBlk, bodyTexts, odg_para h (Or.inr rfl) _ (by simpa [drawingOk] using hb)]
  | heading lv ks => simp [rBlk, bodyTexts, odg_para h (Or.inl rfl) _ (by simpa [drawingOk] using hb)]
  | cont k bs =>
    have hk := kindTag_spec k
    simp only [drawingOk, Bool.and_eq_true, bne_iff_ne, ne_eq] at hb
    rw [rBlk, textBlocksL_cons h, if_neg hk.ne_annot, if_neg (not_or.2 ⟨hk.ne_h, hk.ne_p⟩), textBlocksL_nil, List.append_nil, bodyTexts,
      if_neg hb.1]
    exact odg_rBlks h bs hb.2
  | comment c ks => rw [rBlk, textBlocksL_cons h, if_pos rfl]; rfl
theorem odg_rBlks {T : Tables} (h : OdgOk T) (bs : List Blk) (hb : drawingOkL bs = true) :
    (textBlocksL T (rBlks bs)).flatMap (odgLine T) = (bodyTextsL bs).flatMap (stripLine T) := by
  cases bs with
  | nil => rfl
  | cons b r =>
    simp only [drawingOkL, Bool.and_eq_true] at hb
    rw [rBlks, bodyTextsL, textBlocksL_cons_append, List.flatMap_append, List.flatMap_append, odg_rBlk h b hb.1,
      odg_rBlks h r hb.2]
end

theorem tokens_flatMap_stripLine (T : Tables) (l : List Str) :
    (l.flatMap (stripLine T)).flatMap (tokens T.isWs) = l.flatMap (tokens T.isWs) := by
  rw [List.flatMap_assoc]
  congr 1; funext a
  rw [← tokens_strip (s := a)]
  by_cases hb : strip T.isWs a = [] <;> simp [stripLine, hb]

theorem odgFullText_render {T : Tables} (h : OdgOk T) (d : List Blk) (hd : drawingOkL d = true) :
    odgFullText T (renderOdg d)
      = strip T.isWs (strip T.isWs (strip T.isWs (joinNl ((bodyTextsL d).flatMap (stripLine T))))) := by
  have h1 : q nsOffice "drawing" ≠ tAnnot := q_ne nsOffice_ok nsOffice_ok (by decide)
  have h2 : q nsOffice "drawing" ≠ tH := q_ne nsOffice_ok nsText_ok (by decide)
  have h3 : q nsOffice "drawing" ≠ tP := q_ne nsOffice_ok nsText_ok (by decide)
  rw [odgFullText, odgExtract, renderOdg, textBlocksRoot, textBlocksL_cons h, if_neg h1, if_neg (not_or.2 ⟨h2, h3⟩),
    textBlocksL_nil, List.append_nil, odg_rBlks h d hd]

end S2T.OdfDoc
