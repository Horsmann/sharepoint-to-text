import S2T.Model.OoxmlDocx
/-!
C02 (part "ooxml"): the DOCX walk reads NO attribute of any element.

`Xml.erase` removes every attribute of every element of a tree.  `*_erase`: each function of the walk gives the same
result on the erased tree, hence two trees that differ only in attributes have the same full text (`C02_docx_attr_blind`
lists the attributes WordprocessingML carries there).  The correspondence ties this to the source: the documents of the
Lean renderer are "dressed" with such attributes and go through the real extractor; the text must not move.
-/
namespace S2T.C02.Ooxml

mutual
/-- the same element without any attribute, at every depth -/
def Xml.erase : Xml → Xml
  | .node t _ x k => .node t [] x (eraseL k)
def eraseL : List Xml → List Xml
  | [] => []
  | e :: r => e.erase :: eraseL r
end

/-- `a` and `b` differ at most in attributes -/
def SameButAttrs (a b : List Xml) : Prop := eraseL a = eraseL b

namespace Docx
variable (ws : Char → Bool)

mutual
theorem processEl_erase : ∀ e : Xml, processEl ws e.erase = processEl ws e
  | .node tag a x kids => by
    simp only [Xml.erase, processEl, choiceKids_erase kids, blockTexts_erase kids, runKids_erase kids,
        processEls_erase kids]
theorem processEls_erase : ∀ l : List Xml, processEls ws (eraseL l) = processEls ws l
  | [] => by simp [eraseL, processEls]
  | e :: r => by simp only [eraseL, processEls, processEl_erase e, processEls_erase r]
theorem choiceKids_erase : ∀ l : List Xml, choiceKids ws (eraseL l) = choiceKids ws l
  | [] => by simp [eraseL, choiceKids]
  | .node tag a x kids :: r => by
    simp only [eraseL, Xml.erase, choiceKids, processEls_erase kids, choiceKids_erase r]
theorem runKids_erase : ∀ l : List Xml, runKids ws (eraseL l) = runKids ws l
  | [] => by simp [eraseL, runKids]
  | .node tag a x kids :: r => by
    simp only [eraseL, Xml.erase, runKids, choiceKids_erase kids, runKids_erase r]
theorem blockTexts_erase : ∀ l : List Xml, blockTexts ws (eraseL l) = blockTexts ws l
  | [] => by simp [eraseL, blockTexts]
  | .node tag a x kids :: r => by
    simp only [eraseL, Xml.erase, blockTexts, sdtBlocks_erase kids, blockTexts_erase kids, processEls_erase kids,
        tableRows_erase kids, blockTexts_erase r]
theorem sdtBlocks_erase : ∀ l : List Xml, sdtBlocks ws (eraseL l) = sdtBlocks ws l
  | [] => by simp [eraseL, sdtBlocks]
  | .node tag a x kids :: r => by
    simp only [eraseL, Xml.erase, sdtBlocks, blockTexts_erase kids, sdtBlocks_erase r]
theorem tableRows_erase : ∀ l : List Xml, tableRows ws (eraseL l) = tableRows ws l
  | [] => by simp [eraseL, tableRows]
  | .node tag a x kids :: r => by
    simp only [eraseL, Xml.erase, tableRows, sdtRows_erase kids, tableRows_erase kids, rowCells_erase kids,
        tableRows_erase r]
theorem sdtRows_erase : ∀ l : List Xml, sdtRows ws (eraseL l) = sdtRows ws l
  | [] => by simp [eraseL, sdtRows]
  | .node tag a x kids :: r => by
    simp only [eraseL, Xml.erase, sdtRows, tableRows_erase kids, sdtRows_erase r]
theorem rowCells_erase : ∀ l : List Xml, rowCells ws (eraseL l) = rowCells ws l
  | [] => by simp [eraseL, rowCells]
  | .node tag a x kids :: r => by
    simp only [eraseL, Xml.erase, rowCells, sdtCells_erase kids, rowCells_erase kids, blockTexts_erase kids,
        rowCells_erase r]
theorem sdtCells_erase : ∀ l : List Xml, sdtCells ws (eraseL l) = sdtCells ws l
  | [] => by simp [eraseL, sdtCells]
  | .node tag a x kids :: r => by
    simp only [eraseL, Xml.erase, sdtCells, rowCells_erase kids, sdtCells_erase r]
end

theorem fullText_erase (kids : List Xml) : fullText ws (eraseL kids) = fullText ws kids := by
  simp only [fullText, blockTexts_erase]

theorem fullText_attr_blind (a b : List Xml) (h : SameButAttrs a b) : fullText ws a = fullText ws b := by
  rw [← fullText_erase ws a, ← fullText_erase ws b, h]

end Docx
end S2T.C02.Ooxml
