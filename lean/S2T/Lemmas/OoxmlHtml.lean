import S2T.Spec.OoxmlHtml
import S2T.Lemmas.OoxmlLin
import S2T.Lemmas.Chars
/-! C02 (part "ooxml"): the HTML walkers on rendered documents: inline content by `Eqv`, blocks by the pair "the words of
the reference ∧ output self-delimiting" (a walker returns one string). -/
namespace S2T.C02.Ooxml.Html
open S2T.C02.Ooxml
open S2T.HtmlSkip.Tree (Node)

/-- a tag that takes the generic branch of `_process_node` -/
structure Generic (T : Tables) (tag : Str) : Prop where
  nr : tag ∉ T.remove
  nt : tag ≠ sTable
  nl : tag ≠ sLi
  nh : tag ∉ headings
  nb : tag ≠ sBr
  nhr : tag ≠ sHr

/-- what the theorems need of REMOVE_TAGS / BLOCK_TAGS / _CELL_BREAK_TAGS (decided on the generated tables).  A field is
    named by its tag and the table it speaks of: no suffix = the tag is `Generic`, `B` = BLOCK_TAGS, `K` = _CELL_BREAK_TAGS,
    `R` = REMOVE_TAGS (`h` = every heading tag); the fields of `Generic` likewise: `nr` not removed, `nt` / `nl` / `nb` /
    `nhr` not `table` / `li` / `br` / `hr`, `nh` no heading. -/
structure HtmlOk (T : Tables) : Prop where
  span : Generic T "span".toList
  a : Generic T "a".toList
  ins : Generic T "ins".toList
  p : Generic T "p".toList
  div : Generic T "div".toList
  ul : Generic T "ul".toList
  spanB : "span".toList ∉ T.block
  aB : "a".toList ∉ T.block
  insB : "ins".toList ∉ T.block
  pB : "p".toList ∈ T.block
  divB : "div".toList ∈ T.block
  ulB : "ul".toList ∈ T.block
  spanK : "span".toList ∉ T.breaks
  aK : "a".toList ∉ T.breaks
  insK : "ins".toList ∉ T.breaks
  tbodyK : "tbody".toList ∉ T.breaks
  pK : "p".toList ∈ T.breaks
  divK : "div".toList ∈ T.breaks
  ulK : "ul".toList ∈ T.breaks
  liK : sLi ∈ T.breaks
  tableK : sTable ∈ T.breaks
  trK : sTr ∈ T.breaks
  tdK : sTd ∈ T.breaks
  brK : sBr ∈ T.breaks
  hK : ∀ h ∈ headings, h ∈ T.breaks
  hR : ∀ h ∈ headings, h ∉ T.remove
  liR : sLi ∉ T.remove
  tableR : sTable ∉ T.remove
  brR : sBr ∉ T.remove

/-- the decoration characters are not whitespace.  The proofs read `dash` only; `pipe` is there for the meaning of
    `htmlWords` (the `|` between two cells is a word of its own), a table line is compared with `" | "` on both sides. -/
structure DecoOk (ws : Char → Bool) : Prop where
  dash : ws '-' = false
  pipe : ws '|' = false

variable {T : Tables} {ws : Char → Bool}

theorem hTag_mem (n : Nat) : hTag n ∈ headings := by
  unfold hTag
  split <;> decide

/-! the tag names the walkers branch on are distinct from those of the rendered elements -/

theorem headings_ne : ∀ h ∈ headings, h ≠ sTable ∧ h ≠ sTr := by decide_chars sTr sTable headings
theorem headings_ne_li : ∀ h ∈ headings, h ≠ sLi := by decide_chars sLi headings
theorem li_ne : sLi ≠ sTable ∧ sLi ≠ sTr := by decide_chars sLi sTr sTable
theorem br_ne : sBr ≠ sTable ∧ sBr ≠ sTr := by decide_chars sBr sTr sTable
theorem td_ne : sTd ≠ sTable ∧ sTd ≠ sTr := by decide_chars sTr sTd sTable
theorem tr_ne_table : sTr ≠ sTable := by decide_chars sTr sTable
theorem tbody_ne : "tbody".toList ≠ sTable ∧ "tbody".toList ≠ sTr := by decide_chars sTr sTable
theorem span_ne : "span".toList ≠ sTable ∧ "span".toList ≠ sTr := by decide_chars sTr sTable
theorem a_ne : "a".toList ≠ sTable ∧ "a".toList ≠ sTr := by decide_chars sTr sTable
theorem ins_ne : "ins".toList ≠ sTable ∧ "ins".toList ≠ sTr := by decide_chars sTr sTable
theorem div_ne : "div".toList ≠ sTable ∧ "div".toList ≠ sTr := by decide_chars sTr sTable
theorem p_ne : "p".toList ≠ sTable ∧ "p".toList ≠ sTr := by decide_chars sTr sTable
theorem ul_ne : "ul".toList ≠ sTable ∧ "ul".toList ≠ sTr := by decide_chars sTr sTable
theorem br_ne_li : sBr ≠ sLi := by decide_chars sLi sBr
theorem br_not_heading : sBr ∉ headings := by decide_chars sBr headings
theorem root_ne_body : "root".toList ≠ sBody := by decide_chars sBody
theorem html_ne_body : "html".toList ≠ sBody := by decide_chars sBody
theorem head_ne_body : "head".toList ≠ sBody := by decide_chars sBody
theorem title_ne_body : "title".toList ≠ sBody := by decide_chars sBody

theorem cellKids_append (a b : List Node) : cellKids T (a ++ b) = cellKids T a ++ cellKids T b := by
  induction a with
  | nil => simp [cellKids]
  | cons x a ih => cases x with | mk t at1 tx k tl => simp [cellKids, ih]

theorem cellKids_inline {tag : Str} (h : tag ∉ T.breaks) (a : List (Str × Str)) (text : Str) (kids : List Node) :
    cellKids T [.mk tag a text kids []] = text ++ cellKids T kids := by
  simp [cellKids, h]

theorem cellKids_break {tag : Str} (h : tag ∈ T.breaks) (a : List (Str × Str)) (text : Str) (kids : List Node) :
    cellKids T [.mk tag a text kids []] = ' ' :: (text ++ cellKids T kids) ++ [' '] := by
  simp [cellKids, h]

theorem cellKids_cons (n : Node) (r : List Node) : cellKids T (n :: r) = cellKids T [n] ++ cellKids T r :=
  cellKids_append [n] r

/-- one more `li` / `td` / `tr` element in front of already flattened siblings -/
theorem flat_cons (hw : WsOk ws) {tag : Str} (hk : tag ∈ T.breaks) {x rest : List Node} {L Lr : Str}
    (hx : words ws (cellKids T x) = words ws L) (hL : Delim ws L)
    (hr : words ws (cellKids T rest) = words ws Lr ∧ Delim ws (cellKids T rest)) :
    words ws (cellKids T (.mk tag [] [] x [] :: rest)) = words ws (L ++ Lr)
      ∧ Delim ws (cellKids T (.mk tag [] [] x [] :: rest)) := by
  rw [cellKids_cons, cellKids_break hk, List.nil_append]
  exact words_delim_append (words_delim_wrap hw.sp hw.sp hx) hL hr

mutual
theorem flat_I (ok : HtmlOk T) (hw : WsOk ws) : ∀ x : Inline, Eqv ws (cellKids T (renderI x)) (linI fmtHtml ws x)
  | .text s => by
    simp only [renderI, elem, cellKids_inline ok.spanK, cellKids, List.append_nil, linI]
    exact Eqv.refl _
  | .tab => by
    simp only [renderI, elem, cellKids_inline ok.spanK, cellKids, List.append_nil, linI]
    exact Eqv.char hw.tab hw.sp
  | .br => by
    simp only [renderI, cellKids_break ok.brK, cellKids, List.append_nil, linI]
    -- `br` is a break tag without text: two blanks against the one of the spec
    exact Eqv.replicate hw.sp (m := 2) (n := 1) (by simp)
  | .link _ xs => by
    simp only [renderI, elem, cellKids_inline ok.aK, List.nil_append, linI]
    exact flat_Is ok hw xs
  | .ins xs => by
    simp only [renderI, elem, cellKids_inline ok.insK, List.nil_append, linI]
    exact flat_Is ok hw xs
  | .del _ => by simp only [renderI, cellKids, linI]; exact Eqv.refl _
  | .ctl xs => by simp only [renderI, linI]; exact flat_Is ok hw xs
  | .mark _ => by
    simp only [renderI, elem, cellKids_inline ok.aK, cellKids, List.append_nil, linI]
    exact Eqv.refl _
  | .box bs => by
    simp only [renderI, elem, cellKids_break ok.divK, List.nil_append, linI, fmtHtml, if_true]
    exact Eqv.wrapc hw.sp hw.sp hw.sp hw.sp (flat_Bs ok hw bs).1
theorem flat_Is (ok : HtmlOk T) (hw : WsOk ws) : ∀ xs : List Inline, Eqv ws (cellKids T (renderIs xs)) (linIs fmtHtml ws xs)
  | [] => by simp only [renderIs, cellKids, linIs]; exact Eqv.refl _
  | x :: r => by
    simp only [renderIs, cellKids_append, linIs]
    exact Eqv.append (flat_I ok hw x) (flat_Is ok hw r)
theorem flat_B (ok : HtmlOk T) (hw : WsOk ws) : ∀ b : Block,
    words ws (cellKids T (renderB b)) = words ws (linB fmtHtml ws b) ∧ Delim ws (cellKids T (renderB b))
  | .para _ xs => by
    simp only [renderB, elem, cellKids_break ok.pK, List.nil_append, linB]
    exact words_delim_wrap hw.sp hw.sp ((flat_Is ok hw xs).toWords.trans (words_wrap hw.sp hw.sp _).symm)
  | .heading n xs => by
    simp only [renderB, cellKids_break (ok.hK _ (hTag_mem n)), List.nil_append, linB]
    exact words_delim_wrap hw.sp hw.sp ((flat_Is ok hw xs).toWords.trans (words_wrap hw.sp hw.sp _).symm)
  | .list items => by
    simp only [renderB, elem, cellKids_break ok.ulK, List.nil_append, linB]
    exact words_delim_wrap hw.sp hw.sp (flat_Items ok hw items).1
  | .table rows => by
    simp only [renderB, elem, cellKids_break ok.tableK, cellKids_inline ok.tbodyK, List.nil_append, linB]
    exact words_delim_wrap hw.sp hw.sp (flat_Rows ok hw rows).1
  | .ctl bs => by simp only [renderB, linB]; exact flat_Bs ok hw bs
theorem flat_Bs (ok : HtmlOk T) (hw : WsOk ws) : ∀ bs : List Block,
    words ws (cellKids T (renderBs bs)) = words ws (linBs fmtHtml ws bs) ∧ Delim ws (cellKids T (renderBs bs))
  | [] => by simp only [renderBs, cellKids, linBs]; exact ⟨trivial, Delim.nil⟩
  | b :: r => by
    simp only [renderBs, cellKids_append, linBs]
    exact words_delim_append (flat_B ok hw b) (delim_B fmtHtml hw b) (flat_Bs ok hw r)
theorem flat_Items (ok : HtmlOk T) (hw : WsOk ws) : ∀ its : List (List Block),
    words ws (cellKids T (renderItems its)) = words ws (linCells fmtHtml ws its) ∧ Delim ws (cellKids T (renderItems its))
  | [] => by simp only [renderItems, cellKids, linCells]; exact ⟨trivial, Delim.nil⟩
  | it :: r => by
    rw [renderItems, linCells]
    exact flat_cons hw ok.liK (flat_Bs ok hw it).1 (delim_Bs fmtHtml hw it) (flat_Items ok hw r)
theorem flat_Cells (ok : HtmlOk T) (hw : WsOk ws) : ∀ cs : List (List Block),
    words ws (cellKids T (renderCells cs)) = words ws (linCells fmtHtml ws cs) ∧ Delim ws (cellKids T (renderCells cs))
  | [] => by simp only [renderCells, cellKids, linCells]; exact ⟨trivial, Delim.nil⟩
  | c :: r => by
    rw [renderCells, linCells]
    exact flat_cons hw ok.tdK (flat_Bs ok hw c).1 (delim_Bs fmtHtml hw c) (flat_Cells ok hw r)
theorem flat_Rows (ok : HtmlOk T) (hw : WsOk ws) : ∀ rows : List (List (List Block)),
    words ws (cellKids T (renderRows rows)) = words ws (linRows fmtHtml ws rows) ∧ Delim ws (cellKids T (renderRows rows))
  | [] => by simp only [renderRows, cellKids, linRows]; exact ⟨trivial, Delim.nil⟩
  | row :: r => by
    rw [renderRows, linRows]
    exact flat_cons hw ok.trK (flat_Cells ok hw row).1 (delim_Cells fmtHtml hw row) (flat_Rows ok hw r)
end

/-- text of one cell as `_extract_table` stores it -/
def cellOf (T : Tables) (ws : Char → Bool) (c : List Block) : Str :=
  collapse ws (strip ws (cellKids T (renderBs c)))

theorem cellOf_nil : cellOf T ws [] = [] := by
  simp [cellOf, renderBs, cellKids, strip, dropWhileEnd, collapse, collapseAux]

theorem words_cellOf (ok : HtmlOk T) (hw : WsOk ws) (c : List Block) :
    words ws (cellOf T ws c) = words ws (linBs fmtHtml ws c) := by
  rw [cellOf, words_collapse_strip _ hw.sp]; exact (flat_Bs ok hw c).1

theorem rowCells_render (cs : List (List Block)) : rowCells T ws (renderCells cs) = cs.map (cellOf T ws) := by
  induction cs with
  | nil => simp [renderCells, rowCells]
  | cons c r ih => simp [renderCells, rowCells, ih, cellOf, cellText, sTd]

theorem tableData_append (a b : List Node) : tableData T ws (a ++ b) = tableData T ws a ++ tableData T ws b := by
  induction a with
  | nil => simp [tableData]
  | cons x a ih => cases x with | mk t at1 tx k tl => simp [tableData, ih]

/-- a node that is neither a table nor a row: `_find_own_rows` only looks inside -/
theorem tableData_plain {tag : Str} (h : tag ≠ sTable ∧ tag ≠ sTr) (a : List (Str × Str)) (text : Str)
    (kids : List Node) (tail : Str) :
    tableData T ws [.mk tag a text kids tail] = tableData T ws kids := by
  simp [tableData, h.1, h.2]

theorem tableData_table (a : List (Str × Str)) (text : Str) (kids : List Node) (tail : Str) :
    tableData T ws [.mk sTable a text kids tail] = [] := by
  simp [tableData]

theorem tableData_cons (n : Node) (r : List Node) : tableData T ws (n :: r) = tableData T ws [n] ++ tableData T ws r :=
  tableData_append [n] r

/-! rendered content has no `tr` outside a (nested) table: the only rows `_find_own_rows` finds below a
    rendered cell are none, so a nested table's rows never leak into the outer table -/
mutual
theorem norows_I : ∀ x : Inline, tableData T ws (renderI x) = []
  | .text _ => by simp only [renderI, elem, tableData_plain span_ne, tableData]
  | .tab => by simp only [renderI, elem, tableData_plain span_ne, tableData]
  | .br => by simp only [renderI, tableData_plain br_ne, tableData]
  | .link _ xs => by simp only [renderI, elem, tableData_plain a_ne]; exact norows_Is xs
  | .ins xs => by simp only [renderI, elem, tableData_plain ins_ne]; exact norows_Is xs
  | .del _ => by simp only [renderI, tableData]
  | .ctl xs => by simp only [renderI]; exact norows_Is xs
  | .mark _ => by simp only [renderI, elem, tableData_plain a_ne, tableData]
  | .box bs => by simp only [renderI, elem, tableData_plain div_ne]; exact norows_Bs bs
theorem norows_Is : ∀ xs : List Inline, tableData T ws (renderIs xs) = []
  | [] => by simp only [renderIs, tableData]
  | x :: r => by simp only [renderIs, tableData_append, norows_I x, norows_Is r, List.append_nil]
theorem norows_B : ∀ b : Block, tableData T ws (renderB b) = []
  | .para _ xs => by simp only [renderB, elem, tableData_plain p_ne]; exact norows_Is xs
  | .heading n xs => by
    simp only [renderB, tableData_plain (headings_ne _ (hTag_mem n))]
    exact norows_Is xs
  | .list items => by simp only [renderB, elem, tableData_plain ul_ne]; exact norows_Items items
  | .table _ => by simp only [renderB, tableData_table]
  | .ctl bs => by simp only [renderB]; exact norows_Bs bs
theorem norows_Bs : ∀ bs : List Block, tableData T ws (renderBs bs) = []
  | [] => by simp only [renderBs, tableData]
  | b :: r => by simp only [renderBs, tableData_append, norows_B b, norows_Bs r, List.append_nil]
theorem norows_Items : ∀ its : List (List Block), tableData T ws (renderItems its) = []
  | [] => by simp only [renderItems, tableData]
  | it :: r => by
    rw [renderItems, tableData_cons, tableData_plain li_ne, norows_Bs it, norows_Items r]; rfl
end

theorem norows_Cells : ∀ cs : List (List Block), tableData T ws (renderCells cs) = []
  | [] => by simp only [renderCells, tableData]
  | c :: r => by
    rw [renderCells, tableData_cons, tableData_plain td_ne, norows_Bs c, norows_Cells r]; rfl

theorem tableData_render (rows : List (List (List Block))) :
    tableData T ws (renderRows rows) = (rows.filter (fun r => !r.isEmpty)).map (fun r => r.map (cellOf T ws)) := by
  induction rows with
  | nil => simp [renderRows, tableData]
  | cons row r ih =>
    rw [renderRows, tableData_cons, ih]
    simp only [tableData, tr_ne_table, if_false, if_true, rowCells_render, norows_Cells, List.append_nil]
    cases row <;> simp

theorem words_line (ok : HtmlOk T) (hw : WsOk ws) (n : Nat) (W : Nat → Nat) (r : List (List Block)) :
    words ws (dropWhileEnd ws (join " | ".toList ((List.range n).map fun i => ljust (W i) ((r.map (cellOf T ws)).getD i []))))
      = words ws (hrow ws n r) := by
  have hp : Delim ws " | ".toList := by simpa using Delim.wrap ' ' ' ' ['|'] hw.sp hw.sp
  rw [words_dropWhileEnd ws (fun _ h => h), hrow, words_join_delim hp (by simp), words_join_delim hp (by simp),
    List.map_map, List.map_map]
  refine congrArg _ (List.map_congr_left fun i _ => ?_)
  simp only [Function.comp]
  rw [words_ljust hw.sp]
  have := List.getD_map_default (cellOf T ws) r i []
  rw [cellOf_nil] at this
  rw [this, words_cellOf ok hw]

theorem words_hrows (hw : WsOk ws) (n : Nat) (rows : List (List (List Block))) :
    words ws (hrows ws n rows) = (rows.filter (fun r => !r.isEmpty)).flatMap (fun r => words ws (hrow ws n r)) := by
  induction rows with
  | nil => simp [hrows, words_nil]
  | cons row r ih =>
    simp only [hrows]
    cases row with
    | nil => simpa using ih
    | cons c cs =>
      simp only [List.isEmpty_cons, Bool.false_eq_true, if_false, List.cons_append, List.append_assoc, List.nil_append]
      rw [← List.cons_append, words_concat_wrapped _ _ hw.sp hw.sp, ih]
      simp

theorem words_formatTable (ok : HtmlOk T) (hw : WsOk ws) (rows : List (List (List Block))) :
    words ws (formatTable ws (tableData T ws (renderRows rows))) = words ws (hrows ws (numCols rows) rows) := by
  rw [tableData_render, words_hrows hw]
  -- the code counts the columns over the non-empty rows `R`, the spec (`numCols`) over all rows: an empty row does not
  -- move a maximum (`List.foldl_max_len_filter`, which needs `R` spelt as the filter again)
  generalize hR : rows.filter (fun r => !r.isEmpty) = R
  unfold formatTable
  by_cases hne : R = []
  · subst hne; simp [words_nil]
  · have e : (R.map (fun r => r.map (cellOf T ws))).isEmpty = false := by
      cases R <;> simp_all
    simp only [e, Bool.false_eq_true, if_false, List.foldl_map, List.length_map]
    rw [words_join_char hw.nl, ← hR, List.foldl_max_len_filter, hR]
    simp only [List.flatMap_map]
    have hn : rows.foldl (fun m r => max m r.length) 0 = numCols rows := rfl
    rw [hn]
    congr 1
    funext r
    exact words_line ok hw _ _ r

theorem procKids_append (d : Nat) (a b : List Node) :
    procKids T ws d (a ++ b) = procKids T ws d a ++ procKids T ws d b := by
  induction a with
  | nil => simp [procKids]
  | cons x a ih => simp [procKids, ih]

theorem proc_generic {tag : Str} (g : Generic T tag) (d : Nat) (it : Bool) (a : List (Str × Str)) (text : Str)
    (kids : List Node) (tail : Str) :
    procNode T ws d it (.mk tag a text kids tail) =
      (if T.block.contains tag then '\n' :: strip ws (text ++ procKids T ws d kids) ++ ['\n']
       else text ++ procKids T ws d kids) ++ (if it then tail else []) := by
  simp [procNode, g.nr, g.nt, g.nl, g.nh, g.nb, g.nhr]

theorem procNode_inline {tag : Str} (g : Generic T tag) (hb : tag ∉ T.block) (d : Nat) (a : List (Str × Str)) (text : Str)
    (kids : List Node) :
    procNode T ws d true (.mk tag a text kids []) = text ++ procKids T ws d kids := by
  simp [proc_generic g, hb]

theorem procNode_block {tag : Str} (g : Generic T tag) (hb : tag ∈ T.block) (d : Nat) (a : List (Str × Str)) (text : Str)
    (kids : List Node) :
    procNode T ws d true (.mk tag a text kids []) = '\n' :: strip ws (text ++ procKids T ws d kids) ++ ['\n'] := by
  simp [proc_generic g, hb]

theorem procNode_li (ok : HtmlOk T) (d : Nat) (kids : List Node) :
    procNode T ws d true (.mk sLi [] [] kids []) =
      List.replicate (2 * d) ' ' ++ '-' :: ' ' :: collapse ws (strip ws (procKids T ws (d + 1) kids)) ++ ['\n'] := by
  simp [procNode, ok.liR, li_ne]

theorem procNode_heading (ok : HtmlOk T) {h : Str} (hh : h ∈ headings) (d : Nat) (kids : List Node) :
    procNode T ws d true (.mk h [] [] kids []) = '\n' :: collapse ws (strip ws (cellKids T kids)) ++ ['\n'] := by
  simp [procNode, ok.hR h hh, headings_ne h hh, headings_ne_li h hh, hh]

theorem procNode_br (ok : HtmlOk T) (d : Nat) : procNode T ws d true (.mk sBr [] [] [] []) = ['\n'] := by
  simp [procNode, ok.brR, br_ne, br_ne_li, br_not_heading]

theorem procNode_table (ok : HtmlOk T) (d : Nat) (kids : List Node) :
    procNode T ws d true (.mk sTable [] [] kids []) = '\n' :: formatTable ws (tableData T ws kids) ++ ['\n'] := by
  simp [procNode, ok.tableR]

theorem procKids_single (d : Nat) (n : Node) : procKids T ws d [n] = procNode T ws d true n := by
  simp [procKids]

theorem procKids_cons (d : Nat) (n : Node) (r : List Node) :
    procKids T ws d (n :: r) = procNode T ws d true n ++ procKids T ws d r := by
  simp [procKids]

mutual
theorem hdelim_B (hw : WsOk ws) : ∀ b : Block, Delim ws (hlinB ws b)
  | .para _ _ | .heading _ _ | .list _ | .table _ => by simp only [hlinB]; exact Delim.wrap _ _ _ hw.sp hw.sp
  | .ctl bs => by simp only [hlinB]; exact hdelim_Bs hw bs
theorem hdelim_Bs (hw : WsOk ws) : ∀ bs : List Block, Delim ws (hlinBs ws bs)
  | [] => by simp only [hlinBs]; exact Delim.nil
  | b :: r => by simp only [hlinBs]; exact (hdelim_B hw b).append (hdelim_Bs hw r)
end

theorem words_dash (hd : DecoOk ws) (hw : WsOk ws) (x : Str) :
    words ws ('-' :: ' ' :: x) = ['-'] :: words ws x := by
  have := words_append_sep (ws := ws) ['-'] ' ' x hw.sp
  rw [words_token ['-'] (by simp) (by intro c hc; simp at hc; subst hc; exact hd.dash)] at this
  simpa using this

mutual
theorem proc_I (ok : HtmlOk T) (hw : WsOk ws) (hd : DecoOk ws) : ∀ (x : Inline) (d : Nat),
    Eqv ws (procKids T ws d (renderI x)) (hlinI ws x)
  | .text s, d => by
    simp only [renderI, elem, procKids_single, procNode_inline ok.span ok.spanB, procKids, List.append_nil, hlinI]
    exact Eqv.refl _
  | .tab, d => by
    simp only [renderI, elem, procKids_single, procNode_inline ok.span ok.spanB, procKids, List.append_nil, hlinI]
    exact Eqv.char hw.tab hw.sp
  | .br, d => by
    simp only [renderI, procKids_single, procNode_br ok, hlinI]
    exact Eqv.char hw.nl hw.sp
  | .link _ xs, d => by
    simp only [renderI, elem, procKids_single, procNode_inline ok.a ok.aB, List.nil_append, hlinI]
    exact proc_Is ok hw hd xs d
  | .ins xs, d => by
    simp only [renderI, elem, procKids_single, procNode_inline ok.ins ok.insB, List.nil_append, hlinI]
    exact proc_Is ok hw hd xs d
  | .del _, d => by simp only [renderI, procKids, hlinI]; exact Eqv.refl _
  | .ctl xs, d => by simp only [renderI, hlinI]; exact proc_Is ok hw hd xs d
  | .mark _, d => by
    simp only [renderI, elem, procKids_single, procNode_inline ok.a ok.aB, procKids, List.append_nil, hlinI]
    exact Eqv.refl _
  | .box bs, d => by
    simp only [renderI, elem, procKids_single, procNode_block ok.div ok.divB, List.nil_append, hlinI]
    exact Eqv.wrapc hw.nl hw.nl hw.sp hw.sp (by rw [words_strip_ws]; exact (proc_Bs ok hw hd bs d).1)
theorem proc_Is (ok : HtmlOk T) (hw : WsOk ws) (hd : DecoOk ws) : ∀ (xs : List Inline) (d : Nat),
    Eqv ws (procKids T ws d (renderIs xs)) (hlinIs ws xs)
  | [], d => by simp only [renderIs, procKids, hlinIs]; exact Eqv.refl _
  | x :: r, d => by
    simp only [renderIs, procKids_append, hlinIs]
    exact Eqv.append (proc_I ok hw hd x d) (proc_Is ok hw hd r d)
theorem proc_B (ok : HtmlOk T) (hw : WsOk ws) (hd : DecoOk ws) : ∀ (b : Block) (d : Nat),
    words ws (procKids T ws d (renderB b)) = words ws (hlinB ws b) ∧ Delim ws (procKids T ws d (renderB b))
  | .para _ xs, d => by
    simp only [renderB, elem, procKids_single, procNode_block ok.p ok.pB, List.nil_append, hlinB]
    exact words_delim_wrap hw.nl hw.nl (by
      rw [words_wrap hw.sp hw.sp, words_strip_ws]; exact (proc_Is ok hw hd xs d).toWords)
  | .heading n xs, d => by
    simp only [renderB, procKids_single, procNode_heading ok (hTag_mem n), hlinB]
    exact words_delim_wrap hw.nl hw.nl (by
      rw [words_wrap hw.sp hw.sp, words_collapse_strip _ hw.sp]; exact (flat_Is ok hw xs).toWords)
  | .list items, d => by
    simp only [renderB, elem, procKids_single, procNode_block ok.ul ok.ulB, List.nil_append, hlinB]
    exact words_delim_wrap hw.nl hw.nl (by
      rw [words_wrap hw.sp hw.sp, words_strip_ws]; exact proc_Items ok hw hd items d)
  | .table rows, d => by
    simp only [renderB, elem, procKids_single, procNode_table ok, tableData_plain tbody_ne, hlinB]
    exact words_delim_wrap hw.nl hw.nl ((words_formatTable ok hw rows).trans (words_wrap hw.sp hw.sp _).symm)
  | .ctl bs, d => by simp only [renderB, hlinB]; exact proc_Bs ok hw hd bs d
theorem proc_Bs (ok : HtmlOk T) (hw : WsOk ws) (hd : DecoOk ws) : ∀ (bs : List Block) (d : Nat),
    words ws (procKids T ws d (renderBs bs)) = words ws (hlinBs ws bs) ∧ Delim ws (procKids T ws d (renderBs bs))
  | [], d => by simp only [renderBs, procKids, hlinBs]; exact ⟨trivial, Delim.nil⟩
  | b :: r, d => by
    simp only [renderBs, procKids_append, hlinBs]
    exact words_delim_append (proc_B ok hw hd b d) (hdelim_B hw b) (proc_Bs ok hw hd r d)
theorem proc_Items (ok : HtmlOk T) (hw : WsOk ws) (hd : DecoOk ws) : ∀ (its : List (List Block)) (d : Nat),
    words ws (procKids T ws d (renderItems its)) = words ws (hlinItems ws its)
  | [], d => by simp only [renderItems, procKids, hlinItems]
  | it :: r, d => by
    have hb := proc_Bs ok hw hd it (d + 1)
    have hr := proc_Items ok hw hd r d
    rw [renderItems, procKids_cons, procNode_li ok]
    simp only [hlinItems]
    -- a bullet on either side: "- ", the item's text, one whitespace character
    have item : ∀ (c : Char) (x rest : Str), ws c = true →
        words ws ('-' :: ' ' :: (x ++ c :: rest)) = ['-'] :: words ws x ++ words ws rest :=
      fun c x rest hc => (words_append_sep ('-' :: ' ' :: x) c rest hc).trans (by rw [words_dash hd hw])
    simp only [List.append_assoc, List.cons_append, List.nil_append]
    rw [words_replicate_append _ _ hw.sp, item _ _ _ hw.nl, words_cons_ws _ _ hw.sp, item _ _ _ hw.sp,
      words_collapse_strip _ hw.sp, hb.1, hr]
end

theorem findNode_ne {t tag : Str} (h : tag ≠ t) (a : List (Str × Str)) (x : Str) (ks : List Node) (tl : Str) :
    findNode t (.mk tag a x ks tl) = findNodes t ks := by rw [findNode, if_neg h]

theorem findNodes_cons (t : Str) (n : Node) (r : List Node) :
    findNodes t (n :: r) = (findNode t n).or (findNodes t r) := by
  rw [findNodes]; cases findNode t n <;> rfl

theorem findBody (title : Str) (d : Doc) :
    findNode sBody (renderDoc title d) = some (.mk sBody [] [] (renderBs d.body) []) := by
  rw [renderDoc, elem, elem, elem, findNode_ne root_ne_body, findNodes_cons, findNode_ne html_ne_body, findNodes_cons,
    findNode_ne head_ne_body, findNodes_cons, findNode_ne title_ne_body, findNodes_cons, findNode, if_pos rfl]
  rfl

theorem body_generic (h : sBody ∉ T.remove) : Generic T sBody := by
  obtain ⟨h1, h2, h3, h4, h5⟩ : sBody ≠ sTable ∧ sBody ≠ sLi ∧ sBody ∉ headings ∧ sBody ≠ sBr ∧ sBody ≠ sHr := by
    decide_chars sLi sBr sTable sBody sHr headings
  exact { nr := h, nt := h1, nl := h2, nh := h3, nb := h4, nhr := h5 }

theorem words_cleanup (hw : WsOk ws) (s : Str) : words ws (cleanup ws s) = words ws s := by
  rw [cleanup, words_strip_ws, words_strip_lines hw.nl, words_squeezeNl hw.nl]

theorem html_words (ok : HtmlOk T) (hbody : sBody ∉ T.remove) (hw : WsOk ws) (hd : DecoOk ws) (title : Str) (d : Doc) :
    words ws (fullText T ws (renderDoc title d)) = htmlWords ws d := by
  rw [fullText, words_strip_ws, words_strip_ws, extract, findBody]
  simp only [Option.getD_some]
  rw [words_cleanup hw, htmlWords]
  rw [proc_generic (body_generic hbody)]
  simp only [List.nil_append, Bool.false_eq_true, if_false, List.append_nil, List.contains_iff_mem]
  -- whether `body` is a block tag is left open: the newlines and the `strip` of a block change no word
  split
  · rw [words_wrap hw.nl hw.nl, words_strip_ws]; exact (proc_Bs ok hw hd d.body 0).1
  · exact (proc_Bs ok hw hd d.body 0).1

end S2T.C02.Ooxml.Html
