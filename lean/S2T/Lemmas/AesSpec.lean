import S2T.Lemmas.AesBytes
import S2T.Model.Aes
import S2T.Lemmas.Keeps
import S2T.Lemmas.ListBasics
/-!
Structural lemmas about the FIPS-197 specification: every transformation maps 16-byte blocks to 16-byte blocks,
the inverse transformations invert them, InvCipher ∘ Cipher = id, the key schedule produces Nr+1 round keys of
16 bytes.  Independent of the Python source (only `IsBytes` is taken from the model file).
The predicates `Block`, `Word`, `Words`, `KeyOk` (and `TabOk`, `RconOk` of Lemmas/AesModel.lean, `Tab` of Lemmas/PyAes.lean) are
all of the form size ∧ content: `.1` of a hypothesis is the fact about the length, `.2` the fact about the bytes / entries.
-/
namespace S2T.AesL
open S2T.Aes (IsBytes)
open S2T.Spec.Fips197

theorem list16 {α} (s : List α) (h : s.length = 16) :
    ∃ a0 a1 a2 a3 a4 a5 a6 a7 a8 a9 a10 a11 a12 a13 a14 a15,
      s = [a0, a1, a2, a3, a4, a5, a6, a7, a8, a9, a10, a11, a12, a13, a14, a15] := by
  match s, h with
  | [a0, a1, a2, a3, a4, a5, a6, a7, a8, a9, a10, a11, a12, a13, a14, a15], _ =>
    exact ⟨a0, a1, a2, a3, a4, a5, a6, a7, a8, a9, a10, a11, a12, a13, a14, a15, rfl⟩

theorem list4 {α} (s : List α) (h : s.length = 4) : ∃ a0 a1 a2 a3, s = [a0, a1, a2, a3] := by
  match s, h with
  | [a0, a1, a2, a3], _ => exact ⟨a0, a1, a2, a3, rfl⟩

-- a fold invariant is `Keeps.foldl` of the fold compared with itself
theorem foldl_inv {σ β : Type} (P : σ → Prop) (f : σ → β → σ) (l : List β)
    (h : ∀ st b, b ∈ l → P st → P (f st b)) (st : σ) (hst : P st) : P (l.foldl f st) :=
  (Keeps.foldl l fun b hb s hs => ⟨rfl, h s b hb hs⟩).inv hst

theorem foldl_cancel {σ β} (P : σ → Prop) (f g : σ → β → σ) (l : List β)
    (h : ∀ st b, b ∈ l → P st → P (f st b) ∧ g (f st b) b = st) :
    ∀ st, P st → l.reverse.foldl g (l.foldl f st) = st := by
  induction l with
  | nil => intro st _; rfl
  | cons b t ih =>
    intro st hst
    obtain ⟨p, e⟩ := h st b (List.mem_cons_self ..) hst
    simp only [List.foldl_cons, List.reverse_cons, List.foldl_append, List.foldl_nil]
    rw [ih (fun st' b' hb' => h st' b' (List.mem_cons_of_mem _ hb')) _ p, e]

theorem foldl_range'_congr_inv {σ} (P : Nat → σ → Prop) (f g : σ → Nat → σ) :
    ∀ n s st, P s st → (∀ i st, s ≤ i → i < s + n → P i st → f st i = g st i ∧ P (i + 1) (g st i)) →
      (List.range' s n).foldl f st = (List.range' s n).foldl g st ∧ P (s + n) ((List.range' s n).foldl g st) := by
  intro n
  induction n with
  | zero => intro s st h _; exact ⟨rfl, h⟩
  | succ n ih =>
    intro s st h hs
    rw [List.range'_succ, List.foldl_cons, List.foldl_cons]
    obtain ⟨e, p⟩ := hs s st (Nat.le_refl _) (by omega) h
    rw [e, (by omega : s + (n + 1) = s + 1 + n)]
    exact ih (s + 1) (g st s) p (fun i st' h1 h2 h3 => hs i st' (by omega) (by omega) h3)

theorem foldl_range'_inv {σ} (P : Nat → σ → Prop) (f : σ → Nat → σ) (n s : Nat) (st : σ) (h0 : P s st)
    (h : ∀ i st, s ≤ i → i < s + n → P i st → P (i + 1) (f st i)) : P (s + n) ((List.range' s n).foldl f st) :=
  (foldl_range'_congr_inv P f f n s st h0 fun i st h1 h2 h3 => ⟨rfl, h i st h1 h2 h3⟩).2

theorem isBytes_nil : IsBytes [] := by intro b hb; cases hb
theorem isBytes_cons {a : Nat} {l : List Nat} : IsBytes (a :: l) ↔ a < 256 ∧ IsBytes l := by
  simp [IsBytes]
theorem isBytes_append {l m : List Nat} : IsBytes (l ++ m) ↔ IsBytes l ∧ IsBytes m := by
  simp only [IsBytes, List.mem_append, or_imp, forall_and]

/-- a 16-byte block -/
def Block (s : List Nat) : Prop := s.length = 16 ∧ IsBytes s

instance (s : List Nat) : Decidable (Block s) := by unfold Block; infer_instance

theorem isBytes_set {l : List Nat} (h : IsBytes l) (i v : Nat) (hv : v < 256) : IsBytes (l.set i v) := by
  intro b hb
  rcases List.mem_or_eq_of_mem_set hb with hb | rfl
  · exact h b hb
  · exact hv

theorem block_set {l : List Nat} {i v : Nat} (h : Block l) (hv : v < 256) : Block (l.set i v) :=
  ⟨by simp [h.1], isBytes_set h.2 i v hv⟩

theorem isBytes_zipWith_xor {a b : List Nat} (ha : IsBytes a) (hb : IsBytes b) :
    IsBytes (List.zipWith (· ^^^ ·) a b) := by
  induction a generalizing b with
  | nil => simpa using isBytes_nil
  | cons x t ih =>
    cases b with
    | nil => simpa using isBytes_nil
    | cons y u =>
      simp only [List.zipWith_cons_cons]
      rw [isBytes_cons] at ha hb ⊢
      exact ⟨xor_lt ha.1 hb.1, ih ha.2 hb.2⟩

theorem addRoundKey_block {s k : List Nat} (hs : Block s) (hk : Block k) : Block (addRoundKey s k) := by
  refine ⟨?_, isBytes_zipWith_xor hs.2 hk.2⟩
  simp [addRoundKey, hs.1, hk.1]

theorem zipWith_xor_cancel {s k : List Nat} (h : s.length = k.length) :
    List.zipWith (· ^^^ ·) (List.zipWith (· ^^^ ·) s k) k = s := by
  induction s generalizing k with
  | nil => simp
  | cons x t ih =>
    cases k with
    | nil => simp at h
    | cons y u =>
      simp only [List.zipWith_cons_cons, List.length_cons, Nat.add_right_cancel_iff] at h ⊢
      rw [ih h]
      congr 1
      rw [Nat.xor_comm x y, Nat.xor_comm, xcl]

theorem addRoundKey_cancel {s k : List Nat} (hs : Block s) (hk : Block k) :
    addRoundKey (addRoundKey s k) k = s := zipWith_xor_cancel (by rw [hs.1, hk.1])

theorem isBytes_map {f : Nat → Nat} (hf : ∀ a, a < 256 → f a < 256) {s : List Nat} (hs : IsBytes s) :
    IsBytes (s.map f) := by
  intro b hb
  obtain ⟨a, ha, rfl⟩ := List.mem_map.mp hb
  exact hf a (hs a ha)

theorem map_map_cancel {α β} {f : α → β} {g : β → α} {s : List α} (h : ∀ a ∈ s, g (f a) = a) :
    (s.map f).map g = s := by
  rw [List.map_map]
  exact (List.map_congr_left h).trans (List.map_id s)

theorem subBytes_block {s : List Nat} (hs : Block s) : Block (subBytes s) :=
  ⟨by simp [subBytes, hs.1], isBytes_map sbox_lt hs.2⟩

theorem invSubBytes_block {s : List Nat} (hs : Block s) : Block (invSubBytes s) :=
  ⟨by simp [invSubBytes, hs.1], isBytes_map (fun a _ => invSbox_lt a) hs.2⟩

theorem invSubBytes_subBytes {s : List Nat} (hs : IsBytes s) : invSubBytes (subBytes s) = s :=
  map_map_cancel fun a ha => invSbox_sbox a (hs a ha)

theorem subBytes_invSubBytes {s : List Nat} (hs : IsBytes s) : subBytes (invSubBytes s) = s :=
  map_map_cancel fun a ha => sbox_invSbox a (hs a ha)

theorem isBytes_getD {s : List Nat} (hs : IsBytes s) (j : Nat) : s.getD j 0 < 256 := by
  rw [List.getD_eq_getElem?_getD]
  cases h : s[j]? with
  | none => decide
  | some b => exact hs b (List.mem_of_getElem? h)

theorem isBytes_map_getD {s : List Nat} (hs : IsBytes s) (f : Nat → Nat) (l : List Nat) :
    IsBytes (l.map fun i => s.getD (f i) 0) := by
  intro b hb
  obtain ⟨i, _, rfl⟩ := List.mem_map.mp hb
  exact isBytes_getD hs _

theorem shiftRows_block {s : List Nat} (hs : Block s) : Block (shiftRows s) :=
  ⟨by simp [shiftRows], isBytes_map_getD hs.2 _ _⟩

theorem invShiftRows_block {s : List Nat} (hs : Block s) : Block (invShiftRows s) :=
  ⟨by simp [invShiftRows], isBytes_map_getD hs.2 _ _⟩

theorem invShiftRows_shiftRows {s : List Nat} (hl : s.length = 16) : invShiftRows (shiftRows s) = s := by
  obtain ⟨a0, a1, a2, a3, a4, a5, a6, a7, a8, a9, a10, a11, a12, a13, a14, a15, rfl⟩ := list16 s hl
  rfl

theorem shiftRows_invShiftRows {s : List Nat} (hl : s.length = 16) : shiftRows (invShiftRows s) = s := by
  obtain ⟨a0, a1, a2, a3, a4, a5, a6, a7, a8, a9, a10, a11, a12, a13, a14, a15, rfl⟩ := list16 s hl
  rfl

theorem exists_col {α} {s : List α} (h : 4 ≤ s.length) : ∃ a b c d t, s = a :: b :: c :: d :: t := by
  match s, h with
  | a :: b :: c :: d :: t, _ => exact ⟨a, b, c, d, t, rfl⟩

theorem cols_induction {P : Nat → List Nat → Prop} (nil : P 0 [])
    (col : ∀ n a b c d t, P n t → P (n + 1) (a :: b :: c :: d :: t)) : ∀ n s, s.length = 4 * n → P n s := by
  intro n
  induction n with
  | zero => intro s h; rw [List.length_eq_zero_iff.mp h]; exact nil
  | succ n ih =>
    intro s h
    obtain ⟨a, b, c, d, t, rfl⟩ := exists_col (s := s) (by omega)
    exact col n a b c d t (ih t (by simp only [List.length_cons] at h; omega))

/-- `g` applied to every column of the state -/
def mapCols (g : Nat → Nat → Nat → Nat → List Nat) : List Nat → List Nat
  | a :: b :: c :: d :: t => g a b c d ++ mapCols g t
  | _ => []

theorem matColumns_cols (M : List (List Nat)) {s : List Nat} (hl : s.length = 16) :
    matColumns M s = mapCols (fun a b c d => M.map fun row => dot row [a, b, c, d]) s := by
  -- `P n` is the body of `matColumns` with `n` columns for its four; `P 4 s` is the goal by unfolding
  refine cols_induction (P := fun n s => (List.range n).flatMap (fun c => M.map fun row =>
    dot row ((s.drop (4 * c)).take 4)) = mapCols (fun a b c d => M.map fun row => dot row [a, b, c, d]) s)
    rfl ?_ 4 s hl
  intro n a b c d t ih
  rw [List.range_succ_eq_map, List.flatMap_cons, List.flatMap_map, mapCols, ← ih]
  rfl

theorem mapCols_congr {g g' : Nat → Nat → Nat → Nat → List Nat}
    (h : ∀ a b c d, a < 256 → b < 256 → c < 256 → d < 256 → g a b c d = g' a b c d) {n : Nat} {s : List Nat}
    (hl : s.length = 4 * n) : IsBytes s → mapCols g s = mapCols g' s := by
  refine cols_induction (P := fun _ s => IsBytes s → mapCols g s = mapCols g' s) (fun _ => rfl) ?_ n s hl
  intro _ a b c d t ih hb
  simp only [isBytes_cons] at hb
  obtain ⟨ha, hb, hc, hd, ht⟩ := hb
  rw [mapCols, mapCols, h a b c d ha hb hc hd, ih ht]

theorem mapCols_bytes {g : Nat → Nat → Nat → Nat → List Nat}
    (h : ∀ a b c d, a < 256 → b < 256 → c < 256 → d < 256 → (g a b c d).length = 4 ∧ IsBytes (g a b c d))
    {n : Nat} {s : List Nat} (hl : s.length = 4 * n) :
    IsBytes s → (mapCols g s).length = 4 * n ∧ IsBytes (mapCols g s) := by
  refine cols_induction (P := fun n s => IsBytes s → (mapCols g s).length = 4 * n ∧ IsBytes (mapCols g s))
    (fun _ => ⟨rfl, isBytes_nil⟩) ?_ n s hl
  intro n a b c d t ih hb
  simp only [isBytes_cons] at hb
  obtain ⟨ha, hb, hc, hd, ht⟩ := hb
  obtain ⟨h1, h2⟩ := h a b c d ha hb hc hd
  obtain ⟨h3, h4⟩ := ih ht
  rw [mapCols, List.length_append, isBytes_append, h1, h3]
  exact ⟨by omega, h2, h4⟩

theorem mapCols_cancel {g g' : Nat → Nat → Nat → Nat → List Nat}
    (h : ∀ a b c d t, a < 256 → b < 256 → c < 256 → d < 256 →
      mapCols g' (g a b c d ++ t) = a :: b :: c :: d :: mapCols g' t) {n : Nat} {s : List Nat}
    (hl : s.length = 4 * n) : IsBytes s → mapCols g' (mapCols g s) = s := by
  refine cols_induction (P := fun _ s => IsBytes s → mapCols g' (mapCols g s) = s) (fun _ => rfl) ?_ n s hl
  intro _ a b c d t ih hb
  simp only [isBytes_cons] at hb
  obtain ⟨ha, hb, hc, hd, ht⟩ := hb
  rw [mapCols, h a b c d _ ha hb hc hd, ih ht]

/-- one column of (5.6), `{01}•a` written `a` -/
def mcol (a0 a1 a2 a3 : Nat) : List Nat :=
  [gmul a0 2 ^^^ gmul a1 3 ^^^ a2 ^^^ a3, a0 ^^^ gmul a1 2 ^^^ gmul a2 3 ^^^ a3,
   a0 ^^^ a1 ^^^ gmul a2 2 ^^^ gmul a3 3, gmul a0 3 ^^^ a1 ^^^ a2 ^^^ gmul a3 2]

/-- one column of (5.10) -/
def imcol (a0 a1 a2 a3 : Nat) : List Nat :=
  [gmul a0 14 ^^^ gmul a1 11 ^^^ gmul a2 13 ^^^ gmul a3 9, gmul a0 9 ^^^ gmul a1 14 ^^^ gmul a2 11 ^^^ gmul a3 13,
   gmul a0 13 ^^^ gmul a1 9 ^^^ gmul a2 14 ^^^ gmul a3 11, gmul a0 11 ^^^ gmul a1 13 ^^^ gmul a2 9 ^^^ gmul a3 14]

theorem foldl_xor_zipWith4 (f : Nat → Nat → Nat) (m0 m1 m2 m3 a b c d : Nat) :
    (List.zipWith f [m0, m1, m2, m3] [a, b, c, d]).foldl (· ^^^ ·) 0 = f m0 a ^^^ f m1 b ^^^ f m2 c ^^^ f m3 d := by
  simp only [List.zipWith_cons_cons, List.zipWith_nil_right, List.foldl_cons, List.foldl_nil, Nat.zero_xor]

-- through `foldl_xor_zipWith4`: with `gmul` in sight the kernel unfolds it while checking the `simp` steps
theorem dot4 (m0 m1 m2 m3 a b c d : Nat) :
    dot [m0, m1, m2, m3] [a, b, c, d] = gmul a m0 ^^^ gmul b m1 ^^^ gmul c m2 ^^^ gmul d m3 :=
  foldl_xor_zipWith4 _ ..

theorem mixColumns_cols {s : List Nat} (hs : Block s) : mixColumns s = mapCols mcol s := by
  rw [mixColumns, matColumns_cols _ hs.1]
  refine mapCols_congr (n := 4) (fun a b c d ha hb hc hd => ?_) hs.1 hs.2
  simp only [mixMatrix, List.map, dot4, mcol, gmul_one _ ha, gmul_one _ hb, gmul_one _ hc, gmul_one _ hd]

theorem invMixColumns_cols {s : List Nat} (hl : s.length = 16) : invMixColumns s = mapCols imcol s := by
  rw [invMixColumns, matColumns_cols _ hl]
  simp only [invMixMatrix, List.map, dot4]
  rfl

theorem xor4_lt {w x y z : Nat} (hw : w < 256) (hx : x < 256) (hy : y < 256) (hz : z < 256) :
    w ^^^ x ^^^ y ^^^ z < 256 := xor_lt (xor_lt (xor_lt hw hx) hy) hz

theorem mcol_bytes {a b c d : Nat} (ha : a < 256) (hb : b < 256) (hc : c < 256) (hd : d < 256) :
    IsBytes (mcol a b c d) := by
  simp only [mcol, isBytes_cons]
  exact ⟨xor4_lt (gmul_lt ha 2) (gmul_lt hb 3) hc hd, xor4_lt ha (gmul_lt hb 2) (gmul_lt hc 3) hd,
    xor4_lt ha hb (gmul_lt hc 2) (gmul_lt hd 3), xor4_lt (gmul_lt ha 3) hb hc (gmul_lt hd 2), isBytes_nil⟩

theorem imcol_bytes {a b c d : Nat} (ha : a < 256) (hb : b < 256) (hc : c < 256) (hd : d < 256) :
    IsBytes (imcol a b c d) := by
  have h : ∀ m0 m1 m2 m3, gmul a m0 ^^^ gmul b m1 ^^^ gmul c m2 ^^^ gmul d m3 < 256 := fun _ _ _ _ =>
    xor4_lt (gmul_lt ha _) (gmul_lt hb _) (gmul_lt hc _) (gmul_lt hd _)
  simp only [imcol, isBytes_cons]
  exact ⟨h .., h .., h .., h .., isBytes_nil⟩

theorem xor_transpose (a1 b1 c1 d1 a2 b2 c2 d2 a3 b3 c3 d3 a4 b4 c4 d4 : Nat) :
    (a1 ^^^ b1 ^^^ c1 ^^^ d1) ^^^ (a2 ^^^ b2 ^^^ c2 ^^^ d2) ^^^ (a3 ^^^ b3 ^^^ c3 ^^^ d3) ^^^ (a4 ^^^ b4 ^^^ c4 ^^^ d4)
      = (a1 ^^^ a2 ^^^ a3 ^^^ a4) ^^^ (b1 ^^^ b2 ^^^ b3 ^^^ b4) ^^^ (c1 ^^^ c2 ^^^ c3 ^^^ c4)
        ^^^ (d1 ^^^ d2 ^^^ d3 ^^^ d4) := by ac_rfl

theorem xor_rot {p q r s t : Nat} (h : p ^^^ q ^^^ r ^^^ s = t) : s ^^^ p ^^^ q ^^^ r = t := by
  rw [← h]; ac_rfl

/-- InvMixColumns ∘ MixColumns on one column: `gmul` is additive, and the terms in each of a, b, c, d make up an
    entry of the matrix product (the rows of InvMixMatrix are rotations of the first) -/
theorem imcol_mcol {a b c d : Nat} (ha : a < 256) (hb : b < 256) (hc : c < 256) (hd : d < 256) :
    imcol (gmul a 2 ^^^ gmul b 3 ^^^ c ^^^ d) (a ^^^ gmul b 2 ^^^ gmul c 3 ^^^ d)
      (a ^^^ b ^^^ gmul c 2 ^^^ gmul d 3) (gmul a 3 ^^^ b ^^^ c ^^^ gmul d 2) = [a, b, c, d] := by
  simp only [imcol, gmul_xor]
  congr 1
  · rw [xor_transpose, invMix_mix_diag a ha, invMix_mix_off1 b hb, invMix_mix_off2 c hc, invMix_mix_off3 d hd]
    simp only [Nat.xor_zero]
  congr 1
  · rw [xor_transpose, xor_rot (invMix_mix_off3 a ha), xor_rot (invMix_mix_diag b hb), xor_rot (invMix_mix_off1 c hc),
      xor_rot (invMix_mix_off2 d hd)]
    simp only [Nat.zero_xor, Nat.xor_zero]
  congr 1
  · rw [xor_transpose, xor_rot (xor_rot (invMix_mix_off2 a ha)), xor_rot (xor_rot (invMix_mix_off3 b hb)),
      xor_rot (xor_rot (invMix_mix_diag c hc)), xor_rot (xor_rot (invMix_mix_off1 d hd))]
    simp only [Nat.zero_xor, Nat.xor_zero]
  congr 1
  · rw [xor_transpose, xor_rot (xor_rot (xor_rot (invMix_mix_off1 a ha))), xor_rot (xor_rot (xor_rot (invMix_mix_off2 b hb))),
      xor_rot (xor_rot (xor_rot (invMix_mix_off3 c hc))), xor_rot (xor_rot (xor_rot (invMix_mix_diag d hd)))]
    simp only [Nat.zero_xor]

theorem mixColumns_block {s : List Nat} (hs : Block s) : Block (mixColumns s) := by
  rw [mixColumns_cols hs]
  exact mapCols_bytes (n := 4) (fun a b c d ha hb hc hd => ⟨rfl, mcol_bytes ha hb hc hd⟩) hs.1 hs.2

theorem invMixColumns_block {s : List Nat} (hs : Block s) : Block (invMixColumns s) := by
  rw [invMixColumns_cols hs.1]
  exact mapCols_bytes (n := 4) (fun a b c d ha hb hc hd => ⟨rfl, imcol_bytes ha hb hc hd⟩) hs.1 hs.2

theorem invMixColumns_mixColumns {s : List Nat} (hs : Block s) : invMixColumns (mixColumns s) = s := by
  rw [invMixColumns_cols (mixColumns_block hs).1, mixColumns_cols hs]
  refine mapCols_cancel (n := 4) (fun a b c d t ha hb hc hd => ?_) hs.1 hs.2
  show imcol _ _ _ _ ++ mapCols imcol t = _
  rw [imcol_mcol ha hb hc hd]
  rfl

/-- round keys 0 … nr are 16-byte blocks -/
def RKOk (rk : Nat → List Nat) (nr : Nat) : Prop := ∀ r, r ≤ nr → Block (rk r)

theorem round_index_le {r n : Nat} (h : r ∈ List.range' 1 (n - 1)) : r ≤ n := by
  obtain ⟨i, hi, rfl⟩ := List.mem_range'.mp h
  omega

theorem cipherRK_block {rk : Nat → List Nat} {nr : Nat} {b : List Nat} (hrk : RKOk rk nr) (hb : Block b) :
    Block (cipherRK rk nr b) := by
  unfold cipherRK
  apply addRoundKey_block _ (hrk nr (Nat.le_refl _))
  apply shiftRows_block; apply subBytes_block
  apply foldl_inv Block
  · intro st r hr hst
    exact addRoundKey_block (mixColumns_block (shiftRows_block (subBytes_block hst))) (hrk r (round_index_le hr))
  · exact addRoundKey_block hb (hrk 0 (Nat.zero_le _))

theorem invCipherRK_block {rk : Nat → List Nat} {nr : Nat} {b : List Nat} (hrk : RKOk rk nr) (hb : Block b) :
    Block (invCipherRK rk nr b) := by
  unfold invCipherRK
  apply addRoundKey_block _ (hrk 0 (Nat.zero_le _))
  apply invSubBytes_block; apply invShiftRows_block
  apply foldl_inv Block
  · intro st r hr hst
    exact invMixColumns_block (addRoundKey_block (invSubBytes_block (invShiftRows_block hst))
      (hrk r (round_index_le (List.mem_reverse.mp hr))))
  · exact addRoundKey_block hb (hrk nr (Nat.le_refl _))

/-- FIPS-197 InvCipher inverts Cipher, for every number of rounds and every sequence of 16-byte round keys.  Round `r` of
    InvCipher undoes ShiftRows∘SubBytes of the cipher's round `r + 1` and then AddRoundKey, MixColumns of round `r`: so the
    cipher's fold is re-bracketed (`e1`, by `List.foldl_hom`) into rounds `F'` that END after ShiftRows∘SubBytes, each of
    which `G` inverts (`hF`), and the two folds cancel round by round (`foldl_cancel`) -/
theorem invCipherRK_cipherRK {rk : Nat → List Nat} {nr : Nat} {b : List Nat} (hrk : RKOk rk nr) (hb : Block b) :
    invCipherRK rk nr (cipherRK rk nr b) = b := by
  have hk0 := hrk 0 (Nat.zero_le _)
  have hkn := hrk nr (Nat.le_refl _)
  let F' : List Nat → Nat → List Nat := fun t r => shiftRows (subBytes (addRoundKey (mixColumns t) (rk r)))
  let G : List Nat → Nat → List Nat := fun s r => invMixColumns (addRoundKey (invSubBytes (invShiftRows s)) (rk r))
  let l := List.range' 1 (nr - 1)
  let t0 := shiftRows (subBytes (addRoundKey b (rk 0)))
  have ht0 : Block t0 := shiftRows_block (subBytes_block (addRoundKey_block hb hk0))
  have hF : ∀ st r, r ∈ l → Block st → Block (F' st r) ∧ G (F' st r) r = st := by
    intro st r hr hst
    have hkr := hrk r (round_index_le hr)
    have h1 : Block (addRoundKey (mixColumns st) (rk r)) := addRoundKey_block (mixColumns_block hst) hkr
    refine ⟨shiftRows_block (subBytes_block h1), ?_⟩
    show invMixColumns (addRoundKey (invSubBytes (invShiftRows (shiftRows _))) _) = st
    rw [invShiftRows_shiftRows (subBytes_block h1).1, invSubBytes_subBytes h1.2,
      addRoundKey_cancel (mixColumns_block hst) hkr, invMixColumns_mixColumns hst]
  have e1 : cipherRK rk nr b = addRoundKey (l.foldl F' t0) (rk nr) := by
    have := List.foldl_hom (fun s => shiftRows (subBytes s))
      (g₁ := fun s r => addRoundKey (mixColumns (shiftRows (subBytes s))) (rk r)) (g₂ := F') (l := l)
      (init := addRoundKey b (rk 0)) fun _ _ => rfl
    exact congrArg (fun x => addRoundKey x (rk nr)) this.symm
  have hfold : Block (l.foldl F' t0) := foldl_inv Block F' l (fun st r hr hst => (hF st r hr hst).1) t0 ht0
  rw [e1]
  unfold invCipherRK
  rw [addRoundKey_cancel hfold hkn]
  show addRoundKey (invSubBytes (invShiftRows (l.reverse.foldl G _))) _ = b
  rw [foldl_cancel Block F' G l hF t0 ht0]
  show addRoundKey (invSubBytes (invShiftRows (shiftRows _))) _ = b
  have h0 := addRoundKey_block hb hk0
  rw [invShiftRows_shiftRows (subBytes_block h0).1, invSubBytes_subBytes h0.2, addRoundKey_cancel hb hk0]

/-- an AES key: 16, 24 or 32 bytes -/
def KeyOk (key : List Nat) : Prop := (key.length = 16 ∨ key.length = 24 ∨ key.length = 32) ∧ IsBytes key

instance (key : List Nat) : Decidable (KeyOk key) := by unfold KeyOk; infer_instance

def Word (x : List Nat) : Prop := x.length = 4 ∧ IsBytes x

theorem rotWord_word {x : List Nat} (h : Word x) : Word (rotWord x) :=
  ⟨by simp [rotWord, h.1], isBytes_append.mpr
    ⟨fun b hb => h.2 b (List.mem_of_mem_drop hb), fun b hb => h.2 b (List.mem_of_mem_take hb)⟩⟩

theorem subWord_word {x : List Nat} (h : Word x) : Word (subWord x) :=
  ⟨by simp [subWord, h.1], isBytes_map sbox_lt h.2⟩

theorem xorWords_word {x y : List Nat} (hx : Word x) (hy : Word y) : Word (xorWords x y) :=
  ⟨by simp [xorWords, hx.1, hy.1], isBytes_zipWith_xor hx.2 hy.2⟩

/-- the invariant of the key-schedule loop: `i` words so far -/
def Words (i : Nat) (w : List (List Nat)) : Prop := w.length = i ∧ ∀ x ∈ w, Word x

theorem Words.getD {i : Nat} {w : List (List Nat)} (hw : Words i w) {j : Nat} (hj : j < i) : Word (w.getD j []) :=
  hw.2 _ (List.getD_mem (hw.1.symm ▸ hj))

theorem keyOk_nk {key : List Nat} (hk : KeyOk key) :
    (Nk key = 4 ∨ Nk key = 6 ∨ Nk key = 8) ∧ key.length = 4 * Nk key := by
  unfold Nk; rcases hk.1 with h | h | h <;> rw [h] <;> decide

theorem isBytes_take_drop {l : List Nat} (h : IsBytes l) (a b : Nat) : IsBytes ((l.drop a).take b) :=
  fun x hx => h x (List.mem_of_mem_drop (List.mem_of_mem_take hx))

theorem words_init {key : List Nat} (hk : IsBytes key) {nk : Nat} (hkl : key.length = 4 * nk) :
    Words nk ((List.range nk).map fun i => (key.drop (4 * i)).take 4) := by
  refine ⟨by simp, fun x hx => ?_⟩
  obtain ⟨i, hi, rfl⟩ := List.mem_map.mp hx
  have hi := List.mem_range.mp hi
  exact ⟨by simp only [List.length_take, List.length_drop]; omega, isBytes_take_drop hk _ _⟩

/-- one step of the key-schedule loop, of the specification and of the model: the new word is the word `nk` back xor a word
    derived from the last one, by `f` at a multiple of `nk`, by `g` at the extra SubWord of the 256-bit schedule -/
theorem words_step {nk i : Nat} {w : List (List Nat)} (h0 : 0 < nk) (h1 : nk ≤ i) (hw : Words i w)
    {f g : List Nat → List Nat} (hf : ∀ x, Word x → Word (f x)) (hg : ∀ x, Word x → Word (g x)) :
    Words (i + 1) (w ++ [xorWords (w.getD (i - nk) []) (if i % nk = 0 then f (w.getD (i - 1) [])
      else if nk > 6 ∧ i % nk = 4 then g (w.getD (i - 1) []) else w.getD (i - 1) [])]) := by
  have ht : Word (w.getD (i - 1) []) := hw.getD (by omega)
  refine ⟨by simp [hw.1], fun x hx => ?_⟩
  rcases List.mem_append.mp hx with hx | hx
  · exact hw.2 x hx
  · rw [List.mem_singleton.mp hx]
    refine xorWords_word (hw.getD (by omega)) ?_
    split
    · exact hf _ ht
    · split
      · exact hg _ ht
      · exact ht

theorem expandStep_inv {nk : Nat} (h0 : 0 < nk) (w : List (List Nat)) (i : Nat) (hi : nk ≤ i) (hw : Words i w) :
    Words (i + 1) (expandStep nk w i) :=
  -- `expandStep nk w i` unfolds to the list `words_step` speaks of, with these `f`, `g`
  words_step h0 hi hw (f := fun t => xorWords (subWord (rotWord t)) [rcon (i / nk), 0, 0, 0])
    (fun _ hx => xorWords_word (subWord_word (rotWord_word hx)) ⟨rfl, by simp [isBytes_cons, rcon_lt, isBytes_nil]⟩)
    fun _ => subWord_word

theorem keyExpansion_inv {key : List Nat} (hk : KeyOk key) : Words (4 * (Nr key + 1)) (keyExpansion key) := by
  have hnk := (keyOk_nk hk).1
  have := foldl_range'_inv Words (expandStep (Nk key)) (4 * (Nr key + 1) - Nk key) (Nk key) _
    (words_init hk.2 (keyOk_nk hk).2) fun i st h1 _ h3 => expandStep_inv (by omega) st i h1 h3
  rwa [(by unfold Nr; omega : Nk key + (4 * (Nr key + 1) - Nk key) = 4 * (Nr key + 1))] at this

theorem words_flatten {l : List (List Nat)} (h : ∀ x ∈ l, Word x) :
    l.flatten.length = 4 * l.length ∧ IsBytes l.flatten := by
  induction l with
  | nil => exact ⟨rfl, isBytes_nil⟩
  | cons x t ih =>
    obtain ⟨h1, h2⟩ := ih fun y hy => h y (List.mem_cons_of_mem _ hy)
    obtain ⟨hl, hb⟩ := h x (List.mem_cons_self ..)
    rw [List.flatten_cons, List.length_append, isBytes_append, hl, h1, List.length_cons]
    exact ⟨by omega, hb, h2⟩

theorem roundKey_block {w : List (List Nat)} {n r : Nat} (hl : w.length = 4 * (n + 1)) (hw : ∀ x ∈ w, Word x)
    (hr : r ≤ n) : Block (roundKey w r) := by
  obtain ⟨h1, h2⟩ := words_flatten (l := (w.drop (4 * r)).take 4)
    fun x hx => hw x (List.mem_of_mem_drop (List.mem_of_mem_take hx))
  refine ⟨?_, h2⟩
  rw [roundKey, h1, List.length_take, List.length_drop]
  omega

theorem rk_ok {key : List Nat} (hk : KeyOk key) : RKOk (roundKey (keyExpansion key)) (Nr key) :=
  fun _ hr => roundKey_block (keyExpansion_inv hk).1 (keyExpansion_inv hk).2 hr

theorem aesEnc_block {key b : List Nat} (hk : KeyOk key) (hb : Block b) : Block (aesEnc key b) :=
  cipherRK_block (rk_ok hk) hb
theorem aesDec_block {key b : List Nat} (hk : KeyOk key) (hb : Block b) : Block (aesDec key b) :=
  invCipherRK_block (rk_ok hk) hb
theorem aesDec_aesEnc {key b : List Nat} (hk : KeyOk key) (hb : Block b) : aesDec key (aesEnc key b) = b :=
  invCipherRK_cipherRK (rk_ok hk) hb

def Blocks (bs : List (List Nat)) : Prop := ∀ b ∈ bs, Block b

instance (bs : List (List Nat)) : Decidable (Blocks bs) := by unfold Blocks; infer_instance

theorem blocks_nil : Blocks [] := fun _ h => by cases h
theorem blocks_cons {b : List Nat} {bs : List (List Nat)} : Blocks (b :: bs) ↔ Block b ∧ Blocks bs :=
  List.forall_mem_cons

theorem xorWords_block {a b : List Nat} (ha : Block a) (hb : Block b) : Block (xorWords a b) :=
  addRoundKey_block ha hb

theorem ecbEncrypt_blocks {key : List Nat} {bs : List (List Nat)} (hk : KeyOk key) (hbs : Blocks bs) :
    Blocks (ecbEncrypt key bs) := by
  intro c hc
  obtain ⟨b, hb, rfl⟩ := List.mem_map.mp hc
  exact aesEnc_block hk (hbs b hb)

theorem ecbDecrypt_ecbEncrypt {key : List Nat} {bs : List (List Nat)} (hk : KeyOk key) (hbs : Blocks bs) :
    ecbDecrypt key (ecbEncrypt key bs) = bs :=
  map_map_cancel fun b hb => aesDec_aesEnc hk (hbs b hb)

theorem cbcEncrypt_blocks {key : List Nat} (hk : KeyOk key) :
    ∀ (bs : List (List Nat)) (iv : List Nat), Block iv → Blocks bs → Blocks (cbcEncrypt key iv bs) := by
  intro bs
  induction bs with
  | nil => intro iv _ _; exact blocks_nil
  | cons p rest ih =>
    intro iv hiv hbs
    obtain ⟨hp, hrest⟩ := blocks_cons.mp hbs
    have hc : Block (aesEnc key (xorWords p iv)) := aesEnc_block hk (xorWords_block hp hiv)
    exact blocks_cons.mpr ⟨hc, ih _ hc hrest⟩

theorem cbcDecrypt_cbcEncrypt {key : List Nat} (hk : KeyOk key) :
    ∀ (bs : List (List Nat)) (iv : List Nat), Block iv → Blocks bs →
      cbcDecrypt key iv (cbcEncrypt key iv bs) = bs := by
  intro bs
  induction bs with
  | nil => intro iv _ _; rfl
  | cons p rest ih =>
    intro iv hiv hbs
    obtain ⟨hp, hrest⟩ := blocks_cons.mp hbs
    have hx : Block (xorWords p iv) := xorWords_block hp hiv
    have hc : Block (aesEnc key (xorWords p iv)) := aesEnc_block hk hx
    simp only [cbcEncrypt, cbcDecrypt]
    rw [aesDec_aesEnc hk hx, ih _ hc hrest]
    congr 1
    exact zipWith_xor_cancel (by rw [hp.1, hiv.1])

end S2T.AesL
