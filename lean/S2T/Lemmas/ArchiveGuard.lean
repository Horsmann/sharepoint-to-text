import S2T.Lemmas.Archive
import S2T.Model.ArchiveGuard
/-!
The third instance of the walk through
`extractall` (`FsInv`): every regular file the model of `extractall(members=…)` leaves in the private directory was
written for a REQUESTED entry (by index), under the path `_safe_join` gives for that entry's name, and holds no more
bytes than the entry declares; every result of the 7z path is read back from that directory for a selected entry.
-/
namespace S2T.Archive
open S2T.Router (Str Tables)

theorem TarKind.mem_all (k : TarKind) : k ∈ TarKind.all := by cases k <;> decide

theorem tarRunK_eq_tarRun (accept : TarKind → Bool) (follow : TarEntry → Option (List Nat)) (skip : Str → Str → Bool)
    (env : Env) (lim : Limits) (es : List TarEntry) :
    tarRunK accept follow skip env lim es =
      tarRun skip env lim (es.map fun e => { e.toMember follow with isReg := accept e.kind }) := by
  induction es with
  | nil => rfl
  -- the two loops have the same four tests; `rfl` sees them through `toMember` and the update of `isReg`
  | cons e r ih => rw [tarRunK, ih]; rfl

theorem tarRunK_eq (accept : TarKind → Bool) (follow : TarEntry → Option (List Nat)) (skip : Str → Str → Bool)
    (env : Env) (lim : Limits) (es : List TarEntry) :
    tarRunK accept follow skip env lim es =
      (es.filter fun e => accept e.kind && !skip e.name (basename e.name)).flatMap fun e =>
        yields env lim e.name e.size (e.toMember follow).read := by
  rw [tarRunK_eq_tarRun, tarRun_eq, List.filter_map, List.flatMap_map]
  rfl  -- the guard and the member composed with the map, field by field

/-- the file `p` with bytes `d` was written for a requested entry of the file list -/
def WrittenFor (cwd base : Str) (files : List FileInfo) (w : Wanted) (p : Str) (d : List Nat) : Prop :=
  ∃ i f, files[i]? = some f ∧ isWanted w i = true ∧ safeJoin cwd base f.filename = .ok p ∧ d.length ≤ f.uncompressed

/-- invariant of the overlay: every regular file in it was written for a requested entry -/
def FsInv (cwd base : Str) (files : List FileInfo) (w : Wanted) (fs : Overlay) : Prop :=
  ∀ p d, (p, Node.file d) ∈ fs → WrittenFor cwd base files w p d

theorem olookup_mem (p : Str) (fs : Overlay) (n : Node) (h : olookup p fs = some n) : (p, n) ∈ fs := by
  induction fs with
  | nil => simp [olookup] at h
  | cons kv r ih =>
    obtain ⟨k, v⟩ := kv
    unfold olookup at h
    split at h
    · rename_i hk
      have : p = k := by simpa using hk
      subst this
      cases h
      simp
    · exact List.mem_cons_of_mem _ (ih h)

theorem extractAllFull_inv {cwd base : Str} (env : Env) (files : List FileInfo) (fmap : List (Nat × Nat))
    (fd : List (Option (List Nat))) (fl : List Nat) (w : Wanted) (r : Run)
    (hr : FsInv cwd base files w r.fs) : FsInv cwd base files w (extractAllFull env cwd base files fmap fd fl w r).fs :=
  (extractAllFull_sim (env' := env) (I := fun r => FsInv cwd base files w r.fs)
    { err := fun _ _ h => h
      mkdirs := fun _ _ _ _ _ => mkdirsWalk_keeps (fun _ _ _ => rfl) (fun _ _ h => h) fun _ _ _ h _ p d hm =>
        h p d ((List.mem_cons.mp hm).resolve_left nofun)
      write := fun i f _ _ hf hw hp hd => writeFile_keeps (fun _ _ _ => rfl) (fun _ h => h) fun _ h q e hm =>
        (List.mem_cons.mp hm).elim (fun e' => by cases e'; exact ⟨i, f, hf, hw, hp, hd⟩) (h q e) }
    fmap fd fl r hr).2

theorem wanted_selected (skip : Str → Str → Bool) (lim : Limits) (files : List FileInfo) (i : Nat) (f : FileInfo)
    (hf : files[i]? = some f) (hw : isWanted (some ((select7z skip lim files).map (·.1))) i = true) :
    f.isDirectory = false ∧ skip f.filename (basename f.filename) = false ∧ f.uncompressed ≤ lim.maxMemory := by
  simp only [isWanted, List.contains_eq_mem, List.mem_map, decide_eq_true_eq] at hw
  obtain ⟨nf, hm, hi⟩ := hw
  obtain ⟨hg, h⟩ := mem_select7z hm
  rw [hi, hf] at hg
  cases hg
  exact h

theorem nodeAt_file_mem (env : Env) (base : Str) (fs : Overlay) (p : Str) (d : List Nat) (hin : Inside base p)
    (h : nodeAt env base fs p = some (.file d)) : (p, Node.file d) ∈ fs := by
  rw [nodeAt_inside env fs hin] at h
  split at h
  · cases h
  · exact olookup_mem p fs _ h

theorem readBack_res_mem {env : Env} {lim : Limits} {cwd base : Str} {fs : Overlay} {f : FileInfo} {r : Res}
    (h : r ∈ (readBack env lim cwd base fs f).res) : r.1 = f.filename ∧ r.2.length ≤ lim.maxEntry ∧
      ∃ p, safeJoin cwd base f.filename = .ok p ∧ nodeAt env base fs p = some (.file r.2) := by
  unfold readBack at h
  split at h
  · cases h
  · rename_i p hp
    split at h
    · cases h
    · cases h
    · rename_i d hd
      obtain ⟨rfl, hl⟩ := processEntry_mem h
      exact ⟨rfl, hl, p, hp, hd⟩

theorem run7z_res_mem (T : Tables) (nested : List Str) (env : Env) (lim : Limits) (cwd base : Str) (a : SevenZ)
    (c : Consumer) : ∀ r ∈ (run7z T nested env lim cwd base a c).res,
      ∃ nf ∈ select7z (shouldSkip T nested env) lim (buildFiles a.entries a.fileSizes a.emptyFiles),
        r.1 = nf.2.filename ∧ r.2.length ≤ lim.maxEntry ∧ ∃ p, safeJoin cwd base nf.2.filename = .ok p ∧
          nodeAt env base (run7zTemp (shouldSkip T nested env) env lim cwd base a).fs p = some (.file r.2) := by
  intro r hr
  unfold run7z run7zWith at hr
  split at hr
  · cases hr
  · dsimp only at hr  -- opens the `let`s
    split at hr
    · cases hr
    · obtain ⟨s, hs, hrs⟩ := List.mem_flatMap.mp ((consume_prefix _ _).2.subset hr)
      obtain ⟨nf, hnf, rfl⟩ := List.mem_map.mp hs
      -- `run7zTemp` is by definition the run of `extractall` that `run7zWith` binds to `r`
      exact ⟨nf, hnf, readBack_res_mem hrs⟩
end S2T.Archive
