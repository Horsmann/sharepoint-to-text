import S2T.Lemmas.PyBytes
import S2T.Py.Loops
import S2T.Lemmas.Loops
/-!
Lemmas for `Props/C12_LoopsSrc.lean`: the primitives of `S2T/Py/Loops.lean` in terms of the byte readers of the hand
models (`S2T.Loops.byte`, `u16le`, `u16be`, `u32le`, `u32be`, `beInt`, `slice`, `findFrom`), each as an `if` on the
bound that decides between the value and the exception — so that a translated loop body unfolds, by `simp`, into a
tree of `if`s that `omega` can walk (variants), or is evaluated along the one path that given hypotheses fix
(`py_eval`, agreement) — and the generic facts about `run`.
-/
namespace S2T.Py.Loops
open S2T.Py
open S2T.Loops (byte u16le u16be u32le u32be beInt findFrom matchAt absI32 dibSig)

theorem ite_bind {α β} (c : Prop) [Decidable c] (x y : M α) (f : α → M β) :
    ((if c then x else y) >>= f) = if c then x >>= f else y >>= f := by
  split <;> rfl

theorem ite_tryCatch {α} (c : Prop) [Decidable c] (x y : M α) (h : Exc → M α) :
    tryCatch (if c then x else y) h = if c then tryCatch x h else tryCatch y h := by
  split <;> rfl

theorem ite_eq_iff' {α} {c : Prop} [Decidable c] {a b x : α} :
    (if c then a else b) = x ↔ (c ∧ a = x) ∨ (¬ c ∧ b = x) := by
  split <;> simp_all

theorem map_ok' {α β} (f : α → β) (a : α) : Except.map f (Except.ok a : M α) = Except.ok (f a) := rfl
theorem map_error' {α β} (f : α → β) (e : Exc) : Except.map f (Except.error e : M α) = Except.error e := rfl

/-! the `do` elaborator's encoding of `return` / `break` inside `try … catch` (an `ExceptT` over `M`) -/

@[simp] theorem runK_ok {ρ α : Type} {β : Type} (a : α) (r : ρ → β) (p : α → β) :
    EarlyReturn.runK (Except.ok a : Except ρ α) r p = p a := rfl
@[simp] theorem runK_error {ρ α : Type} {β : Type} (e : ρ) (r : ρ → β) (p : α → β) :
    EarlyReturn.runK (Except.error e : Except ρ α) r p = r e := rfl
@[simp] theorem earlyReturn_return {ρ α : Type} (r : ρ) :
    (EarlyReturnT.return r : EarlyReturnT ρ M α) = (Except.ok (Except.error r) : M (Except ρ α)) := rfl

@[simp] theorem structError_isa_struct : structError.isa "struct.error" = true := by decide
@[simp] theorem structError_isa_exception : structError.isa "Exception" = true := by decide
@[simp] theorem indexError_isa_struct : indexError.isa "struct.error" = false := by decide
@[simp] theorem unpackError_isa_struct : unpackError.isa "struct.error" = false := by decide
@[simp] theorem badFormat_isa (c : String) : badFormat.isa c = false := by simp [badFormat, Exc.isa]

theorem getItemN_ite' {α} [Inhabited α] (l : List α) (i : Nat) :
    getItemN l i = if i < l.length then Except.ok (l[i]?.getD default) else Except.error indexError := by
  unfold getItemN
  by_cases h : i < l.length
  · simp [h]
  · simp [h]

/-- the model's reader `byte l i` is `l[i]?.getD 0` -/
theorem getItemN_ite (l : List Nat) (i : Nat) :
    getItemN l i = if i < l.length then Except.ok (byte l i) else Except.error indexError := getItemN_ite' l i

theorem getItem_ite {α} [Inhabited α] (l : List α) (z : Int) :
    getItem l z = if -(l.length : Int) ≤ z ∧ z < (l.length : Int)
      then Except.ok (l[(if 0 ≤ z then z else z + (l.length : Int)).toNat]?.getD default)
      else Except.error indexError := by
  unfold getItem normIndex
  by_cases h0 : 0 ≤ z
  · by_cases h1 : z.toNat < l.length
    · have : -(l.length : Int) ≤ z ∧ z < (l.length : Int) := by omega
      simp [h0, h1, this]
    · have : ¬ (-(l.length : Int) ≤ z ∧ z < (l.length : Int)) := by omega
      simp [h0, h1, this]
  · by_cases h1 : 0 ≤ z + (l.length : Int)
    · have h2 : (z + (l.length : Int)).toNat < l.length := by omega
      have : -(l.length : Int) ≤ z ∧ z < (l.length : Int) := by omega
      simp [h0, h1, this, List.getElem?_eq_getElem h2]
    · have : ¬ (-(l.length : Int) ≤ z ∧ z < (l.length : Int)) := by omega
      simp [h0, h1, this]

/-! (the proofs below are deliberately NOT `rfl`: `simp` applies `rfl`-lemmas by `dsimp`, which rewrites the condition of
   an `if` without re-synthesising its `Decidable` instance, and `split` / `ite` lemmas then no longer apply) -/
theorem getItemN_singleton {α} (x : α) : getItemN [x] 0 = Except.ok x := by simp [getItemN]
theorem byte_singleton (x : Nat) : byte [x] 0 = x := by simp [byte]

/-! a stack kept in a Python list: the top is the LAST element -/

theorem getItem_last {α} (xs : List α) (a : α) : getItem (xs ++ [a]) (-1) = Except.ok a := by
  unfold getItem normIndex
  have h : ¬ ((0 : Int) ≤ -1) := by omega
  have h2 : (0 : Int) ≤ -1 + ((xs ++ [a]).length : Int) := by simp; omega
  have h3 : (-1 + ((xs ++ [a]).length : Int)).toNat = xs.length := by simp; omega
  simp only [h, h2, if_false, if_true, h3]
  simp

theorem getItem_nil {α} (z : Int) : getItem ([] : List α) z = Except.error indexError := by
  unfold getItem normIndex
  by_cases h : 0 ≤ z <;> simp [h] <;> omega

theorem listPop_last {α} (xs : List α) (a : α) : listPop (xs ++ [a]) = Except.ok (a, xs) := by
  simp [listPop]

theorem listPop_nil {α} : listPop ([] : List α) = Except.error indexError := by
  simp [listPop]

theorem sliceN_model (l : List Nat) (a b : Nat) : sliceN l a b = S2T.Loops.slice l a b := by simp [sliceN, S2T.Loops.slice]

theorem length_sliceN (l : List Nat) (a b : Nat) : (sliceN l a b).length = min (b - a) (l.length - a) := by
  simp [sliceN]

theorem fromBytes_true (b : List Nat) : fromBytes true b = beInt b := by simp [fromBytes, beNat, beInt]
theorem fromBytes_false (b : List Nat) : fromBytes false b = leNat b := by simp [fromBytes]

theorem sliceN_bytes (d : List Nat) (o k : Nat) (h : o + k ≤ d.length) :
    sliceN d o (o + k) = (List.range k).map fun j => byte d (o + j) := by
  rw [sliceN, Nat.add_sub_cancel_left]
  exact List.take_drop_eq_map_getD d o k 0 h

theorem slice2 (d : List Nat) (o : Nat) (h : o + 2 ≤ d.length) :
    sliceN d o (o + 2) = [byte d o, byte d (o + 1)] := sliceN_bytes d o 2 h

theorem slice4 (d : List Nat) (o : Nat) (h : o + 4 ≤ d.length) :
    sliceN d o (o + 4) = [byte d o, byte d (o + 1), byte d (o + 2), byte d (o + 3)] := sliceN_bytes d o 4 h

/-- the readers of the hand models, for a slice written with any upper bound that IS `o + k` -/
theorem leNat_slice2 (d : List Nat) (o b : Nat) (hb : b = o + 2) (h : b ≤ d.length) : leNat (sliceN d o b) = u16le d o := by
  subst hb; rw [slice2 d o h]; simp [leNat, u16le]
theorem leNat_slice4 (d : List Nat) (o b : Nat) (hb : b = o + 4) (h : b ≤ d.length) : leNat (sliceN d o b) = u32le d o := by
  subst hb; rw [slice4 d o h]; simp [leNat, u32le]; omega
theorem beInt_slice2 (d : List Nat) (o b : Nat) (hb : b = o + 2) (h : b ≤ d.length) : beInt (sliceN d o b) = u16be d o := by
  subst hb; rw [slice2 d o h]; simp [beInt, u16be]; omega
theorem beInt_slice4 (d : List Nat) (o b : Nat) (hb : b = o + 4) (h : b ≤ d.length) : beInt (sliceN d o b) = u32be d o := by
  subst hb; rw [slice4 d o h]; simp [beInt, u32be]; omega

theorem windowAt_nat (d : List Nat) (o size : Nat) :
    windowAt d (o : Int) size = if o + size ≤ d.length then some (sliceN d o (o + size)) else none := by
  unfold windowAt sliceN
  have h0 : ¬ ((o : Int) < 0) := by omega
  simp only [h0, if_false, Int.toNat_natCast, false_or]
  by_cases h : o + size ≤ d.length
  · have : ¬ ((d.length : Int) - (o : Int) < (size : Int)) := by omega
    rw [if_neg this, if_pos h, show o + size - o = size by omega]
  · have : ((d.length : Int) - (o : Int) < (size : Int)) := by omega
    rw [if_pos this, if_neg h]

theorem unpackU_be {fmt : String} {n : Nat} (hp : parseFmt fmt = some (true, [(n, false)])) (b : List Nat) :
    unpackU fmt b = if b.length = n then Except.ok [beInt b] else Except.error structError := by
  simp only [unpackU, allUnsigned, unpackI, hp, calcsize]
  by_cases h : b.length = n
  · simp [h, decodeFields, map_ok', List.take_of_length_le (Nat.le_of_eq h), fromBytes_true]
  · simp [h, map_error']

theorem unpackU_beH (b : List Nat) :
    unpackU ">H" b = if b.length = 2 then Except.ok [beInt b] else Except.error structError := unpackU_be (by decide) b

theorem unpackU_beI (b : List Nat) :
    unpackU ">I" b = if b.length = 4 then Except.ok [beInt b] else Except.error structError := unpackU_be (by decide) b

theorem unpackU_beH_slice (d : List Nat) (a b : Nat) (hb : b = a + 2) :
    unpackU ">H" (sliceN d a b) = if b ≤ d.length then Except.ok [u16be d a] else Except.error structError := by
  subst hb
  rw [unpackU_beH, length_sliceN]
  by_cases h : a + 2 ≤ d.length
  · rw [if_pos (by omega), if_pos h, beInt_slice2 d a _ rfl h]
  · rw [if_neg (by omega), if_neg h]

theorem unpackU_beI_slice (d : List Nat) (a b : Nat) (hb : b = a + 4) :
    unpackU ">I" (sliceN d a b) = if b ≤ d.length then Except.ok [u32be d a] else Except.error structError := by
  subst hb
  rw [unpackU_beI, length_sliceN]
  by_cases h : a + 4 ≤ d.length
  · rw [if_pos (by omega), if_pos h, beInt_slice4 d a _ rfl h]
  · rw [if_neg (by omega), if_neg h]

/-- stated for a format VARIABLE with the equation as hypothesis (here and for the DIB header below), so that it rewrites a body
    that names the generated constant (`unpackFromU_HHI ppt_fmt`) without unfolding it -/
theorem unpackFromU_HHI {fmt : String} (hf : fmt = "<HHI") (d : List Nat) (o : Nat) :
    unpackFromU fmt d (o : Int) =
      if o + 8 ≤ d.length then Except.ok [u16le d o, u16le d (o + 2), u32le d (o + 4)]
      else Except.error structError := by
  subst hf
  have hp : parseFmt "<HHI" = some (false, [(2, false), (2, false), (4, false)]) := by decide
  simp only [unpackFromU, allUnsigned, unpackFromI, hp, calcsize, windowAt_nat]
  by_cases h : o + 8 ≤ d.length
  · simp only [List.map, List.sum_cons, List.sum_nil, Nat.add_zero, show (2 + (2 + 4) : Nat) = 8 by rfl, h, if_true,
      sliceN_bytes d o 8 h]
    simp [List.range_succ, decodeFields, map_ok', leNat, u16le, u32le, Nat.add_assoc, fromBytes_false]
    omega
  · simp [h, map_error']

/-- the 24 bytes `struct.Struct("<IiiHHII").unpack_from(d, i)` reads (`[]` when it raises) -/
def dibWindow (d : List Nat) (i : Int) : List Nat := (windowAt d i 24).getD []

theorem unpackFromI_dib {fmt : String} (hf : fmt = "<IiiHHII") (d : List Nat) (i : Int) :
    unpackFromI fmt d i =
      if (windowAt d i 24).isSome then
        Except.ok [(leNat ((dibWindow d i).take 4) : Int), toSigned 4 (leNat (((dibWindow d i).drop 4).take 4)),
          toSigned 4 (leNat (((dibWindow d i).drop 8).take 4)), (leNat (((dibWindow d i).drop 12).take 2) : Int),
          (leNat (((dibWindow d i).drop 14).take 2) : Int), (leNat (((dibWindow d i).drop 16).take 4) : Int),
          (leNat (((dibWindow d i).drop 20).take 4) : Int)]
      else Except.error structError := by
  subst hf
  have hp : parseFmt "<IiiHHII" = some (false, [(4, false), (4, true), (4, true), (2, false), (2, false), (4, false), (4, false)]) := by
    decide
  simp only [unpackFromI, hp, calcsize, List.map, List.sum_cons, List.sum_nil, Nat.add_zero,
    show (4 + (4 + (4 + (2 + (2 + (4 + 4))))) : Nat) = 24 by rfl, dibWindow]
  cases windowAt d i 24 with
  | none => rfl
  | some w => simp [decodeFields, fromBytes_false, List.drop_drop]

theorem findGo_ge {pat d : List Nat} {fuel i j : Nat} (h : findGo pat d fuel i = some j) : i ≤ j := by
  induction fuel generalizing i with
  | zero => simp only [findGo] at h; split at h <;> simp_all
  | succ n ih =>
    simp only [findGo] at h
    split at h
    · simp_all
    · have := ih h; omega

theorem bytesFind_ge (d pat : List Nat) (i : Int) :
    bytesFind d pat i = -1 ∨ (0 ≤ bytesFind d pat i ∧ i ≤ bytesFind d pat i) := by
  unfold bytesFind
  simp only
  -- `omega` needs the clamped start as an atom, with `hik : i ≤ k`
  generalize hk : (if i < 0 then (i + (d.length : Int)).toNat else i.toNat) = k
  have hik : i ≤ (k : Int) := by
    subst hk; split <;> omega
  split
  · left; rfl
  · split
    · rename_i j hj
      right
      have := findGo_ge hj
      omega
    · left; rfl

theorem map_toOption_some {σ ρ} {x : M (Step σ ρ)} {s' : σ}
    (h : x.map Step.toOption = Except.ok (some s')) : x = Except.ok (Step.next s') := by
  cases x with
  | error e => simp [Except.map] at h
  | ok v => cases v <;> simp_all [Except.map, Step.toOption]

section
variable {σ ρ : Type} {step : σ → M (Step σ ρ)} {s s' : σ} {r : Option ρ} {n : Nat} {P : σ → Prop}

/-- big-step reading of `run`, independent of the measure it recurses on: the loop started in `s` is left after `n`
    executions of its body, with `return` value `r`, in a state satisfying `P` -/
def Ends (step : σ → M (Step σ ρ)) (s : σ) (r : Option ρ) (n : Nat) (P : σ → Prop) : Prop :=
  ∀ m hv, ∃ fin, run step m hv s = .ok ⟨fin, r, n⟩ ∧ P fin

/-- … or an exception leaves it -/
def Fails (step : σ → M (Step σ ρ)) (s : σ) (e : Exc) : Prop := ∀ m hv, run step m hv s = .error e

theorem Ends.stop (hs : step s = .ok .stop) (hp : P s) : Ends step s none 0 P := fun _ _ => ⟨s, run_stop hs, hp⟩
theorem Ends.brk (hs : step s = .ok (.brk s')) (hp : P s') : Ends step s none 1 P := fun _ _ => ⟨s', run_brk hs, hp⟩
theorem Ends.ret {v : ρ} (hs : step s = .ok (.ret v)) (hp : P s) : Ends step s (some v) 1 P :=
  fun _ _ => ⟨s, run_ret hs, hp⟩
theorem Ends.next (hs : step s = .ok (.next s')) (h : Ends step s' r n P) : Ends step s r (n + 1) P := fun m hv =>
  let ⟨fin, e, hp⟩ := h m hv
  ⟨fin, by rw [run_next hs, e]; rfl, hp⟩
theorem Ends.imp {Q : σ → Prop} (h : Ends step s r n P) (hpq : ∀ fin, P fin → Q fin) : Ends step s r n Q := fun m hv =>
  let ⟨fin, e, hp⟩ := h m hv
  ⟨fin, e, hpq fin hp⟩
theorem Ends.outcome (h : Ends step s r n P) (m hv) :
    ∃ o, run step m hv s = .ok o ∧ o.result = r ∧ P o.final ∧ o.steps = n :=
  let ⟨_, e, hp⟩ := h m hv
  ⟨_, e, rfl, hp, rfl⟩
theorem Ends.run_eq (h : Ends step s r n P) (m hv) : ∃ fin, run step m hv s = .ok ⟨fin, r, n⟩ :=
  let ⟨fin, e, _⟩ := h m hv
  ⟨fin, e⟩
theorem ite_next {c : Prop} [Decidable c] {a b : M (Step σ ρ)} {Q : σ → Prop}
    (ha : ∃ s', a = .ok (.next s') ∧ Q s') (hb : ∃ s', b = .ok (.next s') ∧ Q s') :
    ∃ s', (if c then a else b) = .ok (.next s') ∧ Q s' := by split <;> assumption
theorem Fails.here {e} (hs : step s = .error e) : Fails step s e := fun _ _ => run_error hs
theorem Fails.next {e} (hs : step s = .ok (.next s')) (h : Fails step s' e) : Fails step s e :=
  fun m hv => by rw [run_next hs, h m hv]

/-- the variant bounds the cost -/
theorem run_steps_le {m : σ → Nat} {hv : ∀ s s', step s = Except.ok (Step.next s') → m s' < m s} :
    ∀ {s o}, run step m hv s = .ok o → o.steps ≤ m s + 1 := by
  intro s
  induction hk : m s using Nat.strongRecOn generalizing s with
  | _ k ih =>
    intro o h
    cases hs : step s with
    | error e => rw [run_error hs] at h; cases h
    | ok st =>
      cases st with
      | stop => rw [run_stop hs] at h; cases h; exact Nat.zero_le _
      | brk s' => rw [run_brk hs] at h; cases h; exact Nat.le_add_left _ _
      | ret v => rw [run_ret hs] at h; cases h; exact Nat.le_add_left _ _
      | next s' =>
        rw [run_next hs] at h
        cases h' : run step m hv s' with
        | error e => rw [h'] at h; cases h
        | ok o' =>
          rw [h'] at h; cases h
          have := ih (m s') (hk ▸ hv s s' hs) rfl h'
          have := hv s s' hs
          simp only [Outcome.bump]; omega
end

/-- a loop that pops a Python list (top LAST) while a test on its top holds, whatever its state type: it removes the
    longest prefix of the stack read top first on which the test holds, one element per iteration -/
theorem pop_ends {σ ρ α : Type} (mk : List α → σ) (step : σ → M (Step σ ρ)) (p : α → Bool)
    (hnil : step (mk []) = .ok .stop)
    (hcons : ∀ xs a, step (mk (xs ++ [a])) = .ok (if p a then .next (mk xs) else .stop)) (rs : List α) :
    Ends step (mk rs.reverse) none (rs.takeWhile p).length (· = mk (rs.dropWhile p).reverse) := by
  induction rs with
  | nil => exact .stop hnil rfl
  | cons a rest ih =>
    have hs := hcons rest.reverse a
    rw [← List.reverse_cons] at hs
    cases hp : p a <;> simp only [hp, if_true, if_false, Bool.false_eq_true] at hs
    · simpa [List.takeWhile_cons, List.dropWhile_cons, hp] using Ends.stop (P := (· = mk (a :: rest).reverse)) hs rfl
    · simpa [List.takeWhile_cons, List.dropWhile_cons, hp] using Ends.next hs ih

theorem pop_next {σ ρ α : Type} (mk : List α → σ) (get : σ → List α) (hmk : ∀ s, mk (get s) = s) (hget : ∀ l, get (mk l) = l)
    (step : σ → M (Step σ ρ)) (hnil : step (mk []) = .ok .stop)
    (hcons : ∀ xs a, ∃ c : Bool, step (mk (xs ++ [a])) = .ok (if c then .next (mk xs) else .stop))
    (s s' : σ) (h : step s = .ok (.next s')) : (get s').length < (get s).length := by
  rw [← hmk s] at h
  rcases List.eq_nil_or_concat (get s) with h0 | ⟨xs, a, h0⟩
  · rw [h0, hnil] at h; cases h
  · rw [List.concat_eq_append] at h0
    obtain ⟨c, hc⟩ := hcons xs a
    rw [h0, hc] at h
    cases c <;> simp at h
    subst h
    simp [h0, hget]

/-! for the agreement of the DIB carver with `dibCarve` (`dib_step_found`): `bytes.find` as `findFrom`, the header fields in the
    model's readers, the `int` arithmetic of `size_image` as casts of the model's `Nat` terms -/

theorem occursAt_matchAt (pat d : List Nat) (i : Nat) (h : i + pat.length ≤ d.length) :
    occursAt pat d i = matchAt pat d i := by
  simp [occursAt, matchAt, S2T.Loops.slice, h]

theorem findGo_none (pat d : List Nat) (fuel i : Nat) (h : d.length < i + pat.length) : findGo pat d fuel i = none := by
  induction fuel generalizing i with
  | zero => simp [findGo, occursAt]; omega
  | succ n ih =>
    simp only [findGo]
    have : occursAt pat d i = false := by simp [occursAt]; omega
    simp [this]
    exact ih (i + 1) (by omega)

theorem findGo_findFrom (pat d : List Nat) (i : Nat) (hi : i ≤ d.length) :
    findGo pat d (d.length - i) i = findFrom pat d i := by
  fun_induction findFrom pat d i with
  | case1 i h1 hm =>
    have : occursAt pat d i = true := by rw [occursAt_matchAt _ _ _ h1]; exact hm
    cases hf : d.length - i <;> simp [findGo, this]
  | case2 i h1 hm h2 ih =>
    have : occursAt pat d i = false := by rw [occursAt_matchAt _ _ _ h1]; simpa using hm
    have e : d.length - i = (d.length - (i + 1)) + 1 := by omega
    rw [e]
    simp only [findGo, this]
    simpa using ih (by omega)
  | case3 i h1 hm h2 =>
    have : occursAt pat d i = false := by rw [occursAt_matchAt _ _ _ h1]; simpa using hm
    have e : d.length - i = 0 := by omega
    rw [e]; simp [findGo, this]
  | case4 i h1 => exact findGo_none _ _ _ _ (by omega)

/-- (beyond the end both find nothing) -/
theorem bytesFind_findFrom (d pat : List Nat) (i : Nat) :
    bytesFind d pat (i : Int) = match findFrom pat d i with | some j => (j : Int) | none => -1 := by
  unfold bytesFind
  have h0 : ¬ ((i : Int) < 0) := by omega
  simp only [h0, if_false, Int.toNat_natCast]
  split
  · rw [findFrom, dif_neg (by omega)]
  · rw [findGo_findFrom _ _ _ (by omega)]
    cases findFrom pat d i <;> rfl

theorem take_drop_sliceN (d : List Nat) (s n a b : Nat) (h : a + b ≤ n) :
    ((sliceN d s (s + n)).drop a).take b = sliceN d (s + a) (s + a + b) := by
  simp only [sliceN, List.drop_take, List.take_take, List.drop_drop]
  congr 1
  · omega

theorem take_sliceN (d : List Nat) (s n b : Nat) (h : b ≤ n) :
    (sliceN d s (s + n)).take b = sliceN d s (s + b) := by
  have := take_drop_sliceN d s n 0 b (by omega)
  simpa using this

theorem unpackFromI_dib_nat {fmt : String} (hf : fmt = "<IiiHHII") (d : List Nat) (s : Nat) (h : s + 24 ≤ d.length) :
    unpackFromI fmt d (s : Int) =
      Except.ok [(u32le d s : Int), toSigned 4 (u32le d (s + 4)), toSigned 4 (u32le d (s + 8)), (u16le d (s + 12) : Int),
        (u16le d (s + 14) : Int), (u32le d (s + 16) : Int), (u32le d (s + 20) : Int)] := by
  rw [unpackFromI_dib hf]
  simp (disch := omega) only [dibWindow, windowAt_nat, if_pos h, Option.isSome_some, Option.getD_some, if_true, take_sliceN,
    take_drop_sliceN, leNat_slice2, leNat_slice4]

theorem natAbs_toSigned4 (v : Nat) (h : v < 4294967296) : (toSigned 4 v).natAbs = absI32 v := by
  unfold toSigned absI32
  have e : (256 : Nat) ^ 4 = 4294967296 := by decide
  rw [e]
  split <;> split <;> omega

theorem dib_size_cast (bpp aw ah : Nat) :
    ((bpp : Int) * (aw : Int) + 31) / 32 * 4 * (ah : Int) = (((bpp * aw + 31) / 32 * 4 * ah : Nat) : Int) := by
  push_cast
  rfl

theorem two_pow_cast (n : Nat) : (2 : Int) ^ n = ((2 ^ n : Nat) : Int) := by simp

theorem dibSig_header {d : List Nat} {i start : Nat} (hf : findFrom dibSig d i = some start) : u32le d start = 40 := by
  have hm := S2T.Loops.findFrom_matchAt hf
  have e : S2T.Loops.slice d start (start + 4) = [40, 0, 0, 0] := by
    simpa [matchAt, dibSig] using hm
  rw [← sliceN_model, slice4 d start (S2T.Loops.findFrom_ge hf).2] at e
  simp at e
  simp [u32le, e]

/-- the bit fields of a record header, in the arithmetic `omega` reads -/
theorem and15 (n : Nat) : n &&& 15 = n % 16 := Nat.and_two_pow_sub_one_eq_mod n 4
theorem shr4_and4095 (n : Nat) : (n >>> 4) &&& 4095 = (n / 16) % 4096 := by
  rw [Nat.shiftRight_eq_div_pow]; exact Nat.and_two_pow_sub_one_eq_mod _ 12

/-! (not `rfl`-lemmas, for the reason given at `getItemN_singleton`; moreover `simp` rejects a congruence hypothesis whose
   last step is a `dsimp` step, falls back to the default congruence and visits the continuation.  `Eq.trans rfl rfl` is the
   device: `simp` takes a theorem for an `rfl`-lemma when its proof term is `rfl`, and this one is not) -/
theorem pure_eq_ok {α} (a : α) : (pure a : M α) = Except.ok a := Eq.trans rfl rfl
/-- the tuple of reassigned locals a `try` block hands on (`StateT` over `EarlyReturnT`) -/
theorem run_pure {ρ σ α : Type} (a : α) (s : σ) :
    ExceptT.run ((pure a : StateT σ (ExceptT ρ M) α) s) = (Except.ok (Except.ok (a, s)) : M (Except ρ (α × σ))) :=
  Eq.trans rfl rfl

theorem bind_congr_arg {α β} {x x' : M α} (h : x = x') (f : α → M β) : x >>= f = x' >>= f := by rw [h]
theorem ite_congr_cond {α} {b c : Prop} {s : Decidable b} [Decidable c] (h : b = c) (x y : α) :
    @ite α b s x y = ite c x y := by subst h; congr

/-- one iteration along one path: `unfold X.step; py_eval [h₁, …]` evaluates a translated body the way Python runs it: `simp` rewrites the scrutinee of a
bind and the condition of an `if` only (the two congruence rules above, to be made `local congr` in the file that uses the
tactic), a primitive returns its value once `omega` has its bound from the hypotheses in scope, every test is decided by
`omega` (or by a hypothesis `hᵢ` given as a rewrite rule, for a test `omega` cannot read: membership in a generated
table, an oracle bit), and the branch not taken is never visited.  Sums are kept associated to the left, as the hand
models write them.  `X.step` and the generated constants in its tests are `unfold`ed first (`py_eval [X.step]` will do
for a body without such constants): as `simp` lemmas they would be applied by `dsimp`, which leaves the `Decidable`
instances of the tests behind.  A test the hypotheses do not decide stays an `if` with both branches evaluated, after
`omega` has been run on it to exhaustion under each of `↓if_pos`, `↓if_neg`, `if_pos`, `if_neg`.  Where several tests stay
open, bring the body into its tree once (`py_step_nf … at hx` on `hx : X.step … = x`) and prune that. -/
macro "py_eval" " [" ls:Lean.Parser.Tactic.simpLemma,* "]" loc:(Lean.Parser.Tactic.location)? : tactic => `(tactic|
  simp +instances +zetaDelta (disch := omega) only [↓S2T.Py.M.ok_bind', S2T.Py.M.ok_bind', S2T.Py.Loops.pure_eq_ok,
    EarlyReturn.runK, S2T.Py.M.tryCatch_ok', S2T.Py.Loops.run_pure, S2T.Py.M.ite_ok,
    Bool.if_true_left, Bool.if_false_right, Bool.decide_eq_true, Int.cast_ofNat_Int,
    S2T.Py.Loops.getItemN_ite, S2T.Py.Loops.getItemN_singleton, S2T.Py.Loops.unpackU_beH_slice, S2T.Py.Loops.unpackU_beI_slice,
    S2T.Py.Loops.fromBytes_true, S2T.Py.Loops.fromBytes_false, S2T.Py.Loops.beInt_slice2, S2T.Py.Loops.beInt_slice4,
    S2T.Py.Loops.leNat_slice2, S2T.Py.Loops.leNat_slice4, ← S2T.Py.Loops.sliceN_model, ← Nat.add_assoc,
    Bool.not_eq_true', Bool.and_eq_true, Bool.or_eq_true, decide_eq_true_eq, decide_eq_false_iff_not, bne_iff_ne, beq_iff_eq, ne_eq,
    List.contains_cons, List.contains_nil, Bool.or_false, and_true, true_and, not_true_eq_false, not_false_eq_true, Bool.false_eq_true, Bool.true_eq_false,
    ↓if_pos, ↓if_neg, if_pos, if_neg, if_true, if_false, $ls,*] $[$loc]?)

/-- unfold generated constants (`S2T.Gen.C12Consts.*`) everywhere — goal and hypotheses, `Decidable` instances included,
    which a `simp` rewrite with the definition (an `rfl`-lemma) would leave behind -/
macro "py_unfold_consts" " [" fs:ident,* "]" : tactic => do
  let tacs ← fs.getElems.mapM fun f => `(tactic| try unfold $f:ident at *)
  `(tactic| ($[$tacs]*))

/-- normal form of a translated loop body: monad plumbing unfolded, raising primitives as `if`s -/
macro "py_step_nf" " [" ls:Lean.Parser.Tactic.simpLemma,* "]" " [" fs:ident,* "]" loc:(Lean.Parser.Tactic.location)? : tactic =>
  `(tactic| (
    try simp +instances only [decide_eq_true_eq, decide_eq_false_iff_not, Bool.and_eq_true, Bool.or_eq_true,
      Bool.not_eq_true', Bool.not_eq_false', bne_iff_ne, beq_iff_eq, Bool.decide_eq_true, ne_eq, $ls,*] $[$loc]?
    py_unfold_consts [$fs,*]
    simp +instances [S2T.Py.Loops.ite_bind, S2T.Py.Loops.ite_tryCatch, S2T.Py.Loops.getItemN_singleton,
      S2T.Py.Loops.byte_singleton, S2T.Py.Loops.getItemN_ite, S2T.Py.Loops.unpackU_beH, S2T.Py.Loops.unpackU_beI, $ls,*] $[$loc]?
    try simp +instances [StateT.pure, ExceptT.run, ExceptT.pure, ExceptT.mk, pure, Except.pure, tryCatch, tryCatchThe,
      MonadExceptOf.tryCatch, Except.tryCatch, bind, Except.bind, S2T.Py.Loops.ite_bind, EarlyReturn.runK, $ls,*] $[$loc]?))

/-- closes `measure s' < measure s` from `h : <normal form of step … s> = .ok (.next s')`: walk the `if`s of `h`;
    a leaf that is not `.next` is contradictory, a `.next` leaf gives `s'` and `omega` compares the measures -/
macro "py_variant " h:ident : tactic => `(tactic| (
  repeat' split at $h:ident
  all_goals first
    | (simp at $h:ident; done)
    | (simp at $h:ident; subst $h:ident; simp; done)
    | (simp at $h:ident; subst $h:ident; (try simp at *); (repeat' split) <;> omega)
    | (simp at $h:ident; subst $h:ident; (try simp_all); (repeat' split) <;> omega)
    | (simp at $h:ident; omega)))

/-- the same without `split`: `h` is rewritten into a disjunction over the leaves (`ite_eq_iff'`) and `omega` walks it.
    `s'` must have been destructed (`cases s'`); `ls`: `X.State.mk.injEq`. -/
macro "py_variant_omega " h:ident " [" ls:Lean.Parser.Tactic.simpLemma,* "]" : tactic => `(tactic| (
  dsimp only
  simp only [S2T.Py.Loops.ite_eq_iff', Except.ok.injEq, S2T.Py.Loops.Step.next.injEq, reduceCtorEq, and_false, false_and,
    or_false, false_or, $ls,*] at $h:ident
  omega))

end S2T.Py.Loops
