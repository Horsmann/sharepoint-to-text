import S2T.Lemmas.TablesRtfText
/-! The joined text of a plain cell is clean (`Joined`); the passes behind the control-word removal leave it as it is (`tail_passes`). -/
namespace S2T.Tables.Rtf
open S2T.HtmlSkip (Str)
open S2T.Tables

theorem plainChar_not_nl {c : Char} (h : plainChar c = true) : c ≠ '\n' := by
  intro hc; subst hc; exact absurd h (by decide)

theorem isWs_of_plain {c : Char} (h : plainChar c = true) (hs : c ≠ ' ') : isWs c = false := by
  simp [isWs, hs, plainChar_not_nl h]

/-- a paragraph ends in a character that is no space, so the seam with clean text behind it is clean -/
theorem clean_append (p t : Str) (hall : p.all plainChar = true) (hnd : noDoubleSpace p = true)
    (hlast : p.getLast? ≠ some ' ') (ht : clean t = true) : clean (p ++ t) = true := by
  induction p with
  | nil => simpa using ht
  | cons c p ih =>
    simp only [List.all_cons, Bool.and_eq_true] at hall
    cases p with
    | nil =>
      have hc : c ≠ ' ' := by intro h; subst h; exact hlast rfl
      exact clean_cons.mpr ⟨Or.inr hall.1, fun hw => (by rw [isWs_of_plain hall.1 hc] at hw; cases hw), ht⟩
    | cons d p =>
      have hd := hall.2
      simp only [List.all_cons, Bool.and_eq_true] at hd
      have ih' := ih hall.2 (by simp only [noDoubleSpace, Bool.and_eq_true] at hnd; exact hnd.2)
        (by rw [List.getLast?_cons_cons] at hlast; exact hlast)
      refine clean_cons.mpr ⟨Or.inr hall.1, fun hw => ⟨d, p ++ t, rfl, isWs_of_plain hd.1 ?_⟩, ih'⟩
      -- a white-space character of the paragraph is a space, and no second space follows it
      by_cases hc : c = ' '
      · subst hc
        simp only [noDoubleSpace, Bool.and_eq_true, Bool.not_eq_true', Bool.and_eq_false_iff] at hnd
        rcases hnd.1 with h | h
        · exact absurd h (by decide)
        · simpa using h
      · rw [isWs_of_plain hall.1 hc] at hw; cases hw

theorem takeWhile_append_stop (p : Char → Bool) (s : Str) (c : Char) (t : Str) (hc : p c = false) :
    (s ++ c :: t).takeWhile p = s.takeWhile p := by
  induction s with
  | nil => simp [List.takeWhile, hc]
  | cons x s ih =>
    simp only [List.cons_append, List.takeWhile]
    cases p x <;> simp [ih]

theorem hexRunFree_append (s t : Str) (c : Char) (hc : isHex c = false) (hs : hexRunFree s = true)
    (ht : hexRunFree t = true) : hexRunFree (s ++ c :: t) = true := by
  induction s with
  | nil =>
    simp only [List.nil_append, hexRunFree, Bool.and_eq_true, decide_eq_true_eq]
    refine ⟨?_, ht⟩
    simp [List.takeWhile, hc]
  | cons x s ih =>
    simp only [hexRunFree, Bool.and_eq_true, decide_eq_true_eq] at hs
    simp only [List.cons_append, hexRunFree, Bool.and_eq_true, decide_eq_true_eq]
    refine ⟨?_, ih hs.2⟩
    have := takeWhile_append_stop isHex (x :: s) c t hc
    simp only [List.cons_append] at this
    rw [this]; exact hs.1

/-- what the passes behind the control-word removal need of the text `N` of a cell (its paragraphs joined by line ends) -/
structure Joined (N : Str) : Prop where
  isClean : clean N = true
  head : ∀ c r, N = c :: r → isWs c = false
  hex : hexRunFree N = true
  ne : N ≠ []

theorem Joined.clean_ws {N : Str} (J : Joined N) {w : Char} (hw : w = ' ' ∨ w = '\n') : clean (w :: N) = true := by
  obtain ⟨hc, hh, _, hne⟩ := J
  cases N with
  | nil => exact absurd rfl hne
  | cons d t =>
    exact clean_cons.mpr ⟨by rcases hw with rfl | rfl <;> decide, fun _ => ⟨d, t, rfl, hh d t rfl⟩, hc⟩

structure PlainParaParts (p : Str) : Prop where
  ne : p ≠ []
  chars : p.all plainChar = true
  head : p.head? ≠ some ' '
  last : p.getLast? ≠ some ' '
  noDouble : noDoubleSpace p = true
  hexFree : hexRunFree p = true

theorem plainPara_parts {p : Str} (h : plainPara p = true) : PlainParaParts p := by
  simp only [plainPara, Bool.and_eq_true, Bool.not_eq_true', bne_iff_ne, ne_eq] at h
  obtain ⟨⟨⟨⟨⟨h1, h2⟩, h3⟩, h4⟩, h5⟩, h6⟩ := h
  refine ⟨?_, h2, h3, h4, h5, h6⟩
  intro he; subst he; simp at h1

theorem plainPara_head {p : Str} (h : plainPara p = true) : ∃ c r, p = c :: r ∧ isWs c = false ∧ plainChar c = true := by
  have hp := plainPara_parts h
  cases p with
  | nil => exact absurd rfl hp.ne
  | cons c r =>
    have hall := hp.chars
    simp only [List.all_cons, Bool.and_eq_true] at hall
    refine ⟨c, r, rfl, isWs_of_plain hall.1 ?_, hall.1⟩
    intro hc; subst hc; exact hp.head rfl

theorem joined_of_plain : ∀ (ps : List Str), ps.all plainPara = true → ps ≠ [] → Joined (joinWith ['\n'] ps)
  | [], _, hne => absurd rfl hne
  | [p], h, _ => by
    simp only [List.all_cons, List.all_nil, Bool.and_true] at h
    have hp := plainPara_parts h
    have hc := clean_append p [] hp.chars hp.noDouble hp.last rfl
    simp only [List.append_nil] at hc
    refine ⟨by simpa [joinWith] using hc, ?_, by simpa [joinWith] using hp.hexFree, by simpa [joinWith] using hp.ne⟩
    intro c r he
    obtain ⟨c', r', he', hw, _⟩ := plainPara_head h
    simp only [joinWith] at he
    rw [he'] at he; cases he; exact hw
  | p :: q :: r, h, _ => by
    simp only [List.all_cons, Bool.and_eq_true] at h
    have ih := joined_of_plain (q :: r) (by simp only [List.all_cons, Bool.and_eq_true]; exact h.2) (by simp)
    have hp := plainPara_parts h.1
    rw [joinWith_cons_cons]
    have hnl := ih.clean_ws (Or.inr rfl)
    refine ⟨?_, ?_, ?_, ?_⟩
    · simpa using clean_append p _ hp.chars hp.noDouble hp.last hnl
    · intro c t he
      obtain ⟨c', r', he', hw, _⟩ := plainPara_head h.1
      rw [he'] at he; simp only [List.cons_append, List.append_assoc] at he
      cases he; exact hw
    · simpa using hexRunFree_append p _ '\n' (by decide) hp.hexFree ih.hex
    · cases p with
      | nil => exact absurd rfl hp.ne
      | cons c p => simp

theorem clean_noBs {s : Str} (h : clean s = true) : NoBs s := fun c hc =>
  (clean_mem h c hc).elim (fun e => e ▸ by decide) (fun h1 => (plainChar_parts h1).noBs)

/-- everything behind the control-word removal, on the text of a non-empty plain cell (with or without the
    space that the delimiter of the previous `\cell` leaves in front) -/
theorem tail_passes (N : Str) (J : Joined N) (lead : Str) (hl : lead = [] ∨ lead = [' ']) :
    pyStrip (multiNl (cellNl (cellSpace (hexRun (pyStrip (multiNl (multiSpace (removeBraces (lead ++ N))))))))) = N := by
  have hc : clean (lead ++ N) = true := by
    rcases hl with rfl | rfl
    · exact J.isClean
    · exact J.clean_ws (Or.inl rfl)
  have hs : ∀ x ∈ lead, isPySpace x = true := by rcases hl with rfl | rfl <;> decide
  rw [removeBraces_clean _ hc, multiSpace_clean _ hc, multiNl_clean _ hc, pyStrip_clean N J.isClean J.head lead hs,
    hexRun_of_hexRunFree N J.hex, cellSpace_clean N J.isClean, cellNl_clean N J.isClean, multiNl_clean N J.isClean]
  exact pyStrip_clean N J.isClean J.head [] nofun

end S2T.Tables.Rtf
