import S2T.Model.XmlEntities
/-! Without declared entities the characters produced are within the bytes written; a refusing stage, and so a chain of them,
accepts only parts that declare none. -/
namespace S2T.XmlEnt

theorem Item.len_nil_le (it : Item) (n : Nat) (h : it.len [] = some n) : n ≤ it.bytes := by
  cases it with
  | lit k => simp [Item.len] at h; simp [Item.bytes, h]
  | ref i => simp [Item.len] at h
  | amp => simp [Item.len] at h; simp [Item.bytes, ← h]

theorem itemsLen_nil_le (l : List Item) : ∀ n, itemsLen [] l = some n → n ≤ itemsBytes l := by
  induction l with
  | nil => intro n h; simp [itemsLen] at h; omega
  | cons it r ih =>
    intro n h
    unfold itemsLen at h
    split at h
    · rename_i a b ha hb
      have h1 := Item.len_nil_le it a ha
      have h2 := ih b hb
      simp at h
      simp [itemsBytes] at h2 ⊢
      omega
    · simp at h

theorem body_le_bytes (sz : Sizes) (p : Part) : itemsBytes p.body ≤ p.bytes sz := by
  unfold Part.bytes; omega

/-- what a refusing parser accepts declares no entity (referenced or not), and its text is the body read without
    entities -/
theorem runStage_refusing_ok {s : Stage} (hs : s.forbidEntities = true) {p : Part} {n : Nat}
    (h : runStage s p = .ok n) : p.declared = [] ∧ itemsLen [] p.body = some n := by
  unfold runStage at h
  cases hd : p.declared with
  | cons a b => simp [hd, hs] at h; split at h <;> simp at h
  | nil =>
    simp only [hd, List.isEmpty_nil, Bool.not_true, Bool.false_and, Bool.false_eq_true, ↓reduceIte, tableLens] at h
    refine ⟨rfl, ?_⟩
    split at h
    · cases h
    · split at h
      · cases h
      · split at h
        · cases h
        · rename_i k hk; cases h; exact hk

theorem runChain_ok {c : List Stage} {p : Part} {n : Nat} (h : runChain c p = .ok n) :
    ∃ s ∈ c, runStage s p = .ok n := by
  induction c with
  | nil => cases h
  | cons s rest ih =>
    cases rest with
    | nil => exact ⟨s, List.mem_cons_self, h⟩
    | cons t rest' =>
      have next (h : runChain (t :: rest') p = .ok n) : ∃ s' ∈ s :: t :: rest', runStage s' p = .ok n :=
        let ⟨x, hx, hr⟩ := ih h
        ⟨x, List.mem_cons_of_mem _ hx, hr⟩
      unfold runChain at h
      split at h
      · rename_i k hk
        exact ⟨s, List.mem_cons_self, hk ▸ h⟩
      · split at h
        · exact next h
        · cases h
      · split at h
        · exact next h
        · cases h

theorem runChain_refusing_ok {c : List Stage} (hc : ∀ s ∈ c, s.forbidEntities = true) {p : Part} {n : Nat}
    (h : runChain c p = .ok n) : p.declared = [] ∧ itemsLen [] p.body = some n :=
  let ⟨s, hs, hr⟩ := runChain_ok h
  runStage_refusing_ok (hc s hs) hr

theorem laughsEnts_ne_nil (a fan k : Nat) : laughsEnts a fan k ≠ [] := by
  cases k <;> simp [laughsEnts]

theorem itemsLen_replicate_ref (lens : List Nat) (i a : Nat) (h : lens[i]? = some a) (m : Nat) :
    itemsLen lens (List.replicate m (.ref i)) = some (m * a) := by
  induction m with
  | zero => simp [itemsLen]
  | succ k ih =>
    rw [List.replicate_succ, itemsLen, ih]
    simp [Item.len, h, Nat.succ_mul, Nat.add_comm]

theorem itemsBytes_replicate (it : Item) (m : Nat) : itemsBytes (List.replicate m it) = m * it.bytes := by
  simp [itemsBytes]

end S2T.XmlEnt
