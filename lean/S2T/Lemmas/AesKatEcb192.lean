import S2T.Lemmas.AesKatVec
import S2T.Lemmas.AesSpec
/-! Known-answer validation of the specification `S2T.Spec.Fips197`.  SP 800-38A F.1.3/F.1.4 (ECB-AES192): the
    encryption is evaluated by the kernel, the decryption follows because `ecbDecrypt` inverts `ecbEncrypt` -/
namespace S2T.AesL.Kat
open S2T.Spec.Fips197

/-- SP 800-38A F.1.3 ECB-AES192.Encrypt -/
theorem ecb192_encrypt : ecbEncrypt key192 pt = ecb192 := by decide +kernel
/-- SP 800-38A F.1.4 ECB-AES192.Decrypt -/
theorem ecb192_decrypt : ecbDecrypt key192 ecb192 = pt := by
  rw [← ecb192_encrypt]
  exact ecbDecrypt_ecbEncrypt (by decide) (by decide)

end S2T.AesL.Kat
