import S2T.Spec.C02SheetsDoc
import S2T.Lemmas.C02SheetsList
import S2T.Lemmas.C02OdfStr
namespace S2T.C02.Sheets.Xlsx
open S2T.Tok S2T.OdfText S2T.C02.Sheets S2T.C02.Sheets.XlsxDoc

structure XlsxOk (T : XlsxT) : Prop where
  colSep : SepOk T.isWs T.colSep
  rowSep : SepOk T.isWs T.rowSep
  unitSep : SepOk T.isWs T.unitSep
  joinSep : SepOk T.isWs T.joinSep
  sp : T.isWs ' ' = true

theorem padRow_tokens {p : Char → Bool} (n : Nat) (row : List Str) :
    (padRow n row).flatMap (tokens p) = row.flatMap (tokens p) := by
  simp [padRow, List.flatMap_replicate]

theorem formatSheet_tokens {T : XlsxT} (h : XlsxOk T) (rows : List (List Str)) :
    tokens T.isWs (formatSheet T rows) = rows.flatMap (fun r => r.flatMap (tokens T.isWs)) := by
  unfold formatSheet
  rw [S2T.Rtf.tokens_grid h.rowSep h.colSep h.sp, List.flatMap_map]
  congr 1; funext r
  exact padRow_tokens _ r

/-- `b`: in the header row, or below it -/
theorem nonEmpty_false {p : Char → Bool} (b : Bool) (c : XCell) (h : (!nonEmpty p c) = true) : tokens p (shown b c) = [] := by
  cases c with
  | empty => cases b <;> simp [shown, display]
  | str s =>
    have hb : blank p s = true := by simpa [nonEmpty] using h
    cases b <;> simp [shown, display, pyStr, blank_tokens hb]
  | int i => simp [nonEmpty] at h
  | bool v => simp [nonEmpty] at h
  | float r w => simp [nonEmpty] at h

theorem emptyRows_tokens {p : Char → Bool} (w : List (List XCell)) (h : ∀ r ∈ w, (!r.any (nonEmpty p)) = true) (b : Bool) :
    w.flatMap (fun r => r.flatMap (fun c => tokens p (shown b c))) = [] :=
  List.flatMap_eq_nil_iff.2 fun r hr => List.flatMap_eq_nil_iff.2 fun c hc =>
    nonEmpty_false b c (by have := h r hr; simp only [Bool.not_eq_true', List.any_eq_false] at this; simpa using this c hc)

theorem allRows_tokens {T : XlsxT} (rows : List (List XCell)) (hf : firstRowFull T.isWs rows = true) :
    (allRows T rows).flatMap (fun r => r.flatMap (tokens T.isWs)) = gridTokens T.isWs rows := by
  obtain ⟨w, h1, h2⟩ := rstrip_split (fun r => !r.any (nonEmpty T.isWs)) rows
  unfold allRows
  unfold firstRowFull at hf
  -- `trimRows` is this `rstrip` by definition
  change rows = trimRows T.isWs rows ++ w at h1
  conv => rhs; rw [h1]
  cases ht : trimRows T.isWs rows with
  | nil =>
    simp only [List.nil_append, List.flatMap_nil]
    cases w with
    | nil => rfl
    | cons f rest =>
      have e1 := emptyRows_tokens [f] (fun r hr => h2 r (by simp at hr; simp [hr])) true
      have e2 := emptyRows_tokens rest (fun r hr => h2 r (by simp [hr])) false
      simp only [List.flatMap_cons, List.flatMap_nil, List.append_nil] at e1
      simp [gridTokens, e1, e2]
  | cons first rest =>
    rw [ht] at hf
    simp only [Bool.and_eq_true, decide_eq_true_eq, List.all_eq_true] at hf
    obtain ⟨_, hfull⟩ := hf
    have hw := List.le_foldl_max_of_mem (lastCol T.isWs) (first :: rest) 0
    simp only [List.cons_append, gridTokens, List.flatMap_cons, List.flatMap_append, List.flatMap_map]
    rw [emptyRows_tokens w h2 false, List.append_nil]
    congr 1
    · rw [List.flatMap_zipIdx (first.take (width T.isWs (first :: rest))) 0 _ (fun c => tokens T.isWs (shown true c))]
      · exact take_flatMap _ _ (nonEmpty_false true) first _ (hw first (by simp))
      · intro c hc i
        have hne := hfull c hc
        cases c with
        | empty => simp [nonEmpty] at hne
        | _ => simp only [header, hne, if_true, shown]
    · apply List.flatMap_congr
      intro r hr
      -- `shown false` is `display`
      exact take_flatMap _ (fun c => tokens T.isWs (shown false c)) (nonEmpty_false false) r _ (hw r (by simp [hr]))

theorem unitOf_tokens {T : XlsxT} (h : XlsxOk T) (name text : Str) :
    tokens T.isWs (unitOf T name text) = tokens T.isWs name ++ tokens T.isWs text :=
  tokens_unit h.unitSep T.unitStrip name text

theorem fullText_tokens {T : XlsxT} (h : XlsxOk T) (sheets : List (Str × List (List XCell))) :
    tokens T.isWs (fullText T sheets)
      = sheets.flatMap (fun s => tokens T.isWs s.1 ++ (allRows T s.2).flatMap (fun r => r.flatMap (tokens T.isWs))) := by
  unfold fullText
  rw [tokens_strip, h.joinSep.tokens_join, List.flatMap_map]
  apply List.flatMap_congr
  intro s _
  rw [unitOf_tokens h, formatSheet_tokens h]

end S2T.C02.Sheets.Xlsx
