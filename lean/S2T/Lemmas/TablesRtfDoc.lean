import S2T.Lemmas.TablesRtfRows
/-! Where rows start and end in a text that is gaps and written rows in turn. -/
namespace S2T.Tables.Rtf
open S2T.HtmlSkip (Str)
open S2T.Tables

structure RowOk (r : RRow) : Prop where
  ne : r ≠ []
  cells : ∀ c ∈ r, plainCell c = true
structure SilentGap (P : Params) (G : Str) : Prop where
  trowd : Silent (kwAt P sTrowd) G
  row : Silent (kwAt P sRow) G
/-- a gap in front of a row (or behind the last one): silent, and `\row` can end in front of it -/
structure GapOk (P : Params) (g : Str) : Prop where
  silent : SilentGap P g
  startsNW : StartsNW P g

theorem appends_silentGap (P : Params) : Appends (SilentGap P) :=
  ⟨⟨fun _ => trivial, fun _ => trivial⟩,
    fun ha hb => ⟨(appends_silent _).append ha.trowd hb.trowd, (appends_silent _).append ha.row hb.row⟩⟩

theorem silentGap_noBs (P : Params) {g : Str} (h : NoBs g) : SilentGap P g :=
  ⟨silent_noBs (anch_kwAt P _) h, silent_noBs (anch_kwAt P _) h⟩

/-- a literal in which neither `\trowd` nor `\row` stands (`\cell` may: the check of `silent_lit` would fail on `sCellEnd`) -/
theorem silentGap_lit (P : Params) {a : Str} (h : noKw sTrowd a = true ∧ noKw sRow a = true) : SilentGap P a :=
  ⟨silent_noKw P h.1, silent_noKw P h.2⟩

theorem silentGap_cells (P : Params) (cs : List RCell) (h : ∀ c ∈ cs, plainCell c = true) :
    SilentGap P (cs.flatMap cellRtf) :=
  (appends_silentGap P).flatMap cellRtf cs fun c hc => by
    rw [cellRtf_eq]
    exact (appends_silentGap P).append ⟨silent_cellFront P .trowd c (h c hc), silent_cellFront P .row c (h c hc)⟩
      (silentGap_lit P (by decide))

theorem isWord_nl (P : Params) : isWord P '\n' = false := by simp [isWord, isAsciiAlpha, isDigit]

/-- a written row between its `\trowd` and its `\row` -/
def innerRtf (r : RRow) : Str := cellxs 0 r.length ++ ([' '] ++ r.flatMap cellRtf)

/-- the row as `a ++ '\\' :: (kw ++ c) ++ b`, the shape `findStarts_once` speaks of, for `kw = sRow` with `c = []` (the empty piece is
    written out so that `rw` finds the shape); for `kw = sTrowd` the use puts `a = []` in front -/
theorem rowRtf_eq (r : RRow) : rowRtf r = '\\' :: (sTrowd ++ innerRtf r) ++ '\\' :: (sRow ++ []) := by
  unfold rowRtf innerRtf
  simp only [List.append_assoc, List.cons_append, List.append_nil]
  rfl

theorem rowRtf_length_ge (r : RRow) : 4 ≤ (rowRtf r).length := by rw [rowRtf_eq]; simp [sRow]; omega

theorem silentGap_inner (P : Params) (r : RRow) (hc : ∀ c ∈ r, plainCell c = true) : SilentGap P (innerRtf r) :=
  have S := appends_silentGap P
  S.append (S.cellxs (fun k => ⟨silent_cellxW P .trowd k, silent_cellxW P .row k⟩) _ _)
    (S.append (silentGap_noBs P (noBs_of_all _ (by decide))) (silentGap_cells P r hc))

/-- the row definition starts with the backslash of `\cellx` -/
theorem startsNW_inner (P : Params) (r : RRow) (hne : r ≠ []) (x : Str) : StartsNW P (innerRtf r ++ x) := by
  obtain ⟨n, hn⟩ := Nat.exists_eq_add_one_of_ne_zero (mt List.length_eq_zero_iff.mp hne)
  unfold innerRtf
  rw [hn, cellxs_succ]
  exact startsNW_bs P _

theorem findStarts_trowd_row (P : Params) (r : RRow) (hr : RowOk r) (b : Str) (i : Nat) :
    findStarts P sTrowd i (rowRtf r ++ b) = i :: findStarts P sTrowd (i + (rowRtf r).length) b := by
  have e : rowRtf r = [] ++ '\\' :: (sTrowd ++ (innerRtf r ++ '\\' :: (sRow ++ []))) := by
    rw [rowRtf_eq]; simp only [List.nil_append, List.cons_append, List.append_assoc]
  rw [e, findStarts_once P sTrowd [] _ b i (noBs_of_all _ (by decide)) (appends_silent _).nil
    ((appends_silent _).append (silentGap_inner P r hr.cells).trowd (silent_noKw P (by decide)))
    (by rw [List.append_assoc]; exact startsNW_inner P r hr.ne _)]
  rfl

theorem findStarts_row_row (P : Params) (r : RRow) (hr : RowOk r) (b : Str) (hb : StartsNW P b) (i : Nat) :
    findStarts P sRow i (rowRtf r ++ b) = (i + (rowRtf r).length - 4) :: findStarts P sRow (i + (rowRtf r).length) b := by
  rw [rowRtf_eq, findStarts_once P sRow ('\\' :: (sTrowd ++ innerRtf r)) [] b i (noBs_of_all _ (by decide))
    ((appends_silent _).append (a := '\\' :: sTrowd) (silent_noKw P (by decide)) (silentGap_inner P r hr.cells).row)
    (appends_silent _).nil hb]
  congr 1
  simp only [List.length_append, List.length_cons, List.length_nil, show sRow.length = 3 from rfl]
  omega

abbrev Seg := Str × RRow

def body (segs : List Seg) (tail : Str) : Str := segs.flatMap (fun s => s.1 ++ rowRtf s.2) ++ tail

/-- `(trowd_pos, rpos, content)` of the rows when the text in front of them is `i` long -/
def rowsOf : Nat → List Seg → List (Nat × Nat × Str)
  | _, [] => []
  | i, s :: segs =>
    (i + s.1.length, i + s.1.length + (rowRtf s.2).length, rowRtf s.2) :: rowsOf (i + s.1.length + (rowRtf s.2).length) segs

structure WellSeg (P : Params) (segs : List Seg) (tail : Str) : Prop where
  seg : ∀ s ∈ segs, GapOk P s.1 ∧ RowOk s.2
  last : GapOk P tail

theorem WellSeg.tail {P : Params} {s : Seg} {segs : List Seg} {tail : Str} (h : WellSeg P (s :: segs) tail) :
    WellSeg P segs tail := ⟨fun x hx => h.seg x (List.mem_cons_of_mem _ hx), h.last⟩

theorem body_cons (s : Seg) (segs : List Seg) (tail : Str) :
    body (s :: segs) tail = s.1 ++ (rowRtf s.2 ++ body segs tail) := by
  simp [body, List.append_assoc]

/-- `\row` can end in front of what is left of the text: a gap, or directly the `\trowd` of the next row -/
theorem startsNW_body (P : Params) : ∀ (segs : List Seg) (tail : Str), WellSeg P segs tail → StartsNW P (body segs tail)
  | [], _, h => by simpa [body] using h.last.startsNW
  | s :: _, _, h => by
    rw [body_cons]
    refine startsNW_append P _ _ (h.seg s List.mem_cons_self).1.startsNW fun _ => ?_
    rw [rowRtf_eq]; exact startsNW_bs P _

theorem trowds_body (P : Params) : ∀ (segs : List Seg) (tail : Str) (i : Nat), WellSeg P segs tail →
    findStarts P sTrowd i (body segs tail) = (rowsOf i segs).map (·.1)
  | [], tail, i, h => by
    simpa [body, rowsOf] using findStarts_silent_nil P sTrowd tail i h.last.silent.trowd
  | s :: segs, tail, i, h => by
    obtain ⟨hg, hr⟩ := h.seg s List.mem_cons_self
    rw [body_cons, findStarts_silent P sTrowd _ _ i hg.silent.trowd, findStarts_trowd_row P s.2 hr,
      trowds_body P segs tail _ h.tail]
    simp [rowsOf]

theorem ends_body (P : Params) : ∀ (segs : List Seg) (tail : Str) (i : Nat), WellSeg P segs tail →
    (findStarts P sRow i (body segs tail)).map (· + 4) = (rowsOf i segs).map (·.2.1)
  | [], tail, i, h => by
    simpa [body, rowsOf] using findStarts_silent_nil P sRow tail i h.last.silent.row
  | s :: segs, tail, i, h => by
    obtain ⟨hg, hr⟩ := h.seg s List.mem_cons_self
    -- for the `- 4 + 4` below, in `Nat`
    have h4 := rowRtf_length_ge s.2
    rw [body_cons, findStarts_silent P sRow _ _ i hg.silent.row,
      findStarts_row_row P s.2 hr _ (startsNW_body P segs tail h.tail), List.map_cons, ends_body P segs tail _ h.tail]
    simp only [rowsOf, List.map_cons]
    rw [show i + s.1.length + (rowRtf s.2).length - 4 + 4 = i + s.1.length + (rowRtf s.2).length by omega]

end S2T.Tables.Rtf
