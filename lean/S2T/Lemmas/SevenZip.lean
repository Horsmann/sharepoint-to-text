import S2T.Model.SevenZip
/-!
The reference packer at structure level (what a standard 7z writer stores for a set of files under a grouping
into folders), and what `_build_file_list` and `extractall` make of such an archive.
-/
namespace S2T.SevenZip

structure Entry where
  name : Str
  isDir : Bool
  data : Bytes          -- `[]` for directories and empty files
deriving Repr, DecidableEq

/-- the entry has a data stream (7z: `EmptyStream` bit clear) -/
def Entry.hasStream (e : Entry) : Bool := !e.isDir && !e.data.isEmpty
/-- 7z `EmptyFile` bit -/
def Entry.isEmptyFile (e : Entry) : Bool := !e.isDir && e.data.isEmpty

theorem hasStream_iff {e : Entry} : e.hasStream = true ↔ e.isDir = false ∧ e.data ≠ [] := by
  simp [Entry.hasStream]

theorem isEmptyFile_iff {e : Entry} : e.isEmptyFile = true ↔ e.isDir = false ∧ e.data = [] := by
  simp [Entry.isEmptyFile]

theorem hasStream_not_dir {e : Entry} (h : e.hasStream = true) : e.isDir = false := (hasStream_iff.mp h).1

/-- one folder of the archive: its coder, its pack stream, and the entries listed while it is current
    (the files it holds, with directories / empty files interleaved anywhere) -/
structure Group where
  coder : Coder
  packed : Bytes
  entries : List Entry
deriving Repr

def streamData (es : List Entry) : Bytes := (es.filter (·.hasStream)).flatMap (·.data)
def streamCount (es : List Entry) : Nat := (es.filter (·.hasStream)).length

def Group.folder (g : Group) : Folder :=
  { coders := [g.coder], unpackSizes := [(streamData g.entries).length], numStreams := streamCount g.entries,
    numPackStreams := 1 }

def allEntries (gs : List Group) (tail : List Entry) : List Entry := gs.flatMap (·.entries) ++ tail

/-- the reader state after the streams info of such an archive has been parsed -/
def packR (packPos : Nat) (gs : List Group) (tail : List Entry) : R :=
  { stream := [], packPositions := [packPos + headerOffset], packSizes := gs.map (·.packed.length),
    folders := gs.map Group.folder,
    fileSizes := ((allEntries gs tail).filter (·.hasStream)).map (·.data.length) }

def rawEntries (attr : Entry → Nat) (es : List Entry) : List RawEntry :=
  es.map fun e => { name := e.name, emptyStream := !e.hasStream, attributes := attr e }

def emptyFileBits (es : List Entry) : List Bool := (es.filter (!·.hasStream)).map (·.isEmptyFile)

/-- what the first loop of `_build_file_list` makes of the entry: its file info, and whether it has a data stream -/
def info (attr : Entry → Nat) (e : Entry) : FileInfo × Bool :=
  ({ filename := e.name, uncompressed := e.data.length, isDirectory := e.isDir, attributes := attr e }, e.hasStream)

theorem streamCount_cons (e : Entry) (es : List Entry) :
    streamCount (e :: es) = (if e.hasStream then 1 else 0) + streamCount es := by
  unfold streamCount
  by_cases h : e.hasStream = true <;> simp [h] <;> omega

theorem streamData_cons (e : Entry) (es : List Entry) :
    streamData (e :: es) = (if e.hasStream then e.data else []) ++ streamData es := by
  unfold streamData
  by_cases h : e.hasStream = true <;> simp [h]

theorem streamless_of_count_zero (es : List Entry) (h : streamCount es = 0) : ∀ e ∈ es, e.hasStream = false := by
  intro e he
  unfold streamCount at h
  have := List.length_eq_zero_iff.mp h
  rw [List.filter_eq_nil_iff] at this
  simpa using this e he

theorem filter_hasStream_tail (tail : List Entry) (ht : ∀ e ∈ tail, e.hasStream = false) : tail.filter (·.hasStream) = [] :=
  List.filter_eq_nil_iff.mpr fun e he => by simp [ht e he]

theorem buildInfos_spec (attr : Entry → Nat) (es : List Entry) (xs : List Nat) (ys : List Bool)
    (hattr : ∀ e ∈ es, e.isDir = false → attr e &&& 0x10 = 0)
    (hdir : ∀ e ∈ es, e.isDir = true → e.data = []) :
    buildInfos (rawEntries attr es) (((es.filter (·.hasStream)).map (·.data.length)) ++ xs) (emptyFileBits es ++ ys)
      = es.map (info attr) := by
  induction es with
  | nil => simp [rawEntries, buildInfos]
  | cons e es ih =>
    rw [List.forall_mem_cons] at hattr hdir
    have ih' := ih hattr.2 hdir.2
    -- one round of `buildInfos` for the entry, by kind: a directory takes no size and the EmptyFile bit `false`, an empty
    -- file no size and the bit `true`, a file with data the head of the sizes (its own) and no bit
    cases hdr : e.isDir with
    | true =>
      simpa [rawEntries, buildInfos, Entry.hasStream, Entry.isEmptyFile, emptyFileBits, hdr, info, hdir.1 hdr] using ih'
    | false =>
      cases hdt : e.data <;>
        simpa [rawEntries, buildInfos, Entry.hasStream, Entry.isEmptyFile, emptyFileBits, hdr, info, hdt, hattr.1 hdr] using ih'

def itemsFrom : List Entry → Nat → List (Nat × Bool)
  | [], _ => []
  | e :: es, i => (i, !e.hasStream) :: itemsFrom es (i + 1)

/-- indices (from `i` on) of the entries satisfying `p` -/
def keepIdx (p : Entry → Bool) : List Entry → Nat → List Nat
  | [], _ => []
  | e :: es, i => if p e then i :: keepIdx p es (i + 1) else keepIdx p es (i + 1)

abbrev streamIdx := keepIdx (·.hasStream)
abbrev emptyIdx := keepIdx (·.isEmptyFile)

/-- the assignments a packer intends: the stream files of group `k` belong to folder `k` -/
def specAsg : List Group → Nat → Nat → List (Nat × Nat)
  | [], _, _ => []
  | g :: gs, i0, k0 => (streamIdx g.entries i0).map (·, k0) ++ specAsg gs (i0 + g.entries.length) (k0 + 1)

theorem itemsFrom_append (a b : List Entry) (i : Nat) :
    itemsFrom (a ++ b) i = itemsFrom a i ++ itemsFrom b (i + a.length) := by
  induction a generalizing i <;> simp [itemsFrom, *, Nat.add_assoc, Nat.add_comm 1]

theorem streamIdx_streamless (es : List Entry) (i : Nat) (h : ∀ e ∈ es, e.hasStream = false) : streamIdx es i = [] := by
  induction es generalizing i <;> simp_all [keepIdx]

theorem streamIdx_length (es : List Entry) (i : Nat) : (streamIdx es i).length = streamCount es := by
  induction es generalizing i with
  | nil => rfl
  | cons e es ih => cases h : e.hasStream <;> simp [keepIdx, streamCount, h, ih] <;> rfl

theorem assign_skip (folders : List Folder) (es : List Entry) (rest : List (Nat × Bool)) (i k inF : Nat)
    (h : ∀ e ∈ es, e.hasStream = false) :
    assignLoop folders (itemsFrom es i ++ rest) k inF = assignLoop folders rest k inF := by
  induction es generalizing i with
  | nil => simp [itemsFrom]
  | cons e es ih =>
    rw [List.forall_mem_cons] at h
    simp [itemsFrom, assignLoop, h.1]
    exact ih (i + 1) h.2

theorem assign_group (folders : List Folder) (fd : Folder) (k : Nat) (hk : folders[k]? = some fd) :
    ∀ (es : List Entry) (i inF : Nat) (rest : List (Nat × Bool)), streamCount es ≥ 1 →
      streamCount es + inF = fd.numStreams →
      assignLoop folders (itemsFrom es i ++ rest) k inF
        = (streamIdx es i).map (·, k) ++ assignLoop folders rest (k + 1) 0 := by
  intro es
  induction es with
  | nil => intro i inF rest h1; simp [streamCount] at h1
  | cons e es ih =>
    intro i inF rest h1 h2
    rw [streamCount_cons] at h1 h2
    cases he : e.hasStream with
    | false =>
      simp [he] at h1 h2
      simp [itemsFrom, assignLoop, he, keepIdx]
      exact ih (i + 1) inF rest h1 h2
    | true =>
      simp [he] at h1 h2
      simp only [itemsFrom, he, Bool.not_true, List.cons_append, assignLoop, hk, keepIdx, if_true,
        List.map_cons, Bool.false_eq_true, if_false]
      by_cases hlast : inF + 1 ≥ fd.numStreams
      · have h0 : streamCount es = 0 := by omega
        have hs := streamless_of_count_zero es h0
        simp [hlast, streamIdx_streamless es (i + 1) hs, assign_skip folders es rest (i + 1) (k + 1) 0 hs]
      · have h1' : streamCount es ≥ 1 := by omega
        have h2' : streamCount es + (inF + 1) = fd.numStreams := by omega
        simp [hlast, ih (i + 1) (inF + 1) rest h1' h2']

theorem assign_all (tail : List Entry) (ht : ∀ e ∈ tail, e.hasStream = false) :
    ∀ (gs done : List Group) (i : Nat), (∀ g ∈ gs, streamCount g.entries ≥ 1) →
      assignLoop ((done ++ gs).map Group.folder) (itemsFrom (allEntries gs tail) i) done.length 0
        = specAsg gs i done.length := by
  intro gs
  induction gs with
  | nil =>
    intro done i _
    have := assign_skip ((done ++ []).map Group.folder) tail [] i done.length 0 ht
    simpa [allEntries, specAsg, assignLoop] using this
  | cons g gs ih =>
    intro done i hg
    have hk : ((done ++ g :: gs).map Group.folder)[done.length]? = some g.folder := by
      simp
    have hg1 := hg g (List.mem_cons_self ..)
    have := assign_group _ g.folder done.length hk g.entries i 0 (itemsFrom (allEntries gs tail) (i + g.entries.length)) hg1
      (by simp [Group.folder])
    have e1 : allEntries (g :: gs) tail = g.entries ++ allEntries gs tail := by simp [allEntries]
    rw [e1, itemsFrom_append, this]
    have ih' := ih (done ++ [g]) (i + g.entries.length) (fun x hx => hg x (List.mem_cons_of_mem _ hx))
    simp only [List.append_assoc, List.singleton_append, List.length_append, List.length_singleton] at ih'
    simp only [specAsg, List.append_cancel_left_eq]
    simpa using ih'

theorem getElem?_setFolderIndex (files : List FileInfo) (asg : List (Nat × Nat)) (i : Nat) :
    (setFolderIndex files asg)[i]?
      = files[i]?.map fun f => { f with folderIndex := ((asg.find? (·.1 = i)).map (·.2)).getD f.folderIndex } := by
  simp only [setFolderIndex, List.getElem?_mapIdx]
  cases files[i]? <;> cases asg.find? (·.1 = i) <;> rfl

theorem skipItems_info (attr : Entry → Nat) (es : List Entry) (i : Nat) :
    skipItems (es.map (info attr)) i = itemsFrom es i := by
  induction es generalizing i with
  | nil => rfl
  | cons e es ih => cases h : e.isDir <;> simp [skipItems, info, itemsFrom, ih, Entry.hasStream, h]

theorem emptyIdxLoop_info (attr : Entry → Nat) (es : List Entry) (i : Nat) :
    emptyIdxLoop (es.map (info attr)) i = emptyIdx es i := by
  induction es generalizing i with
  | nil => rfl
  | cons e es ih =>
    simp only [List.map_cons, emptyIdxLoop, info, keepIdx, ih]
    have : (!e.isDir && !e.hasStream) = e.isEmptyFile := by
      unfold Entry.hasStream Entry.isEmptyFile
      cases e.isDir <;> simp
    rw [this]

theorem dictGet_dictAppend (m : List (Nat × List Nat)) (k v q : Nat) :
    dictGet (dictAppend m k v) q = if q = k then some ((dictGet m k).getD [] ++ [v]) else dictGet m q := by
  induction m with
  | nil =>
    by_cases h : q = k
    · simp [dictAppend, dictGet, h]
    · have h' : ¬ k = q := fun e => h e.symm
      simp [dictAppend, dictGet, h, h']
  | cons hd tl ih =>
    obtain ⟨k', vs⟩ := hd
    by_cases h1 : k' = k
    · subst h1
      by_cases h2 : q = k' <;> simp [dictAppend, dictGet, h2, eq_comm]
    · by_cases h2 : q = k
      · subst h2
        simp [dictAppend, dictGet, h1, ih]
      · by_cases h3 : k' = q <;> simp [dictAppend, dictGet, h1, h2, h3, ih]

theorem dictGet_foldl (asg : List (Nat × Nat)) (m : List (Nat × List Nat)) (q : Nat) :
    dictGet (asg.foldl (fun m p => dictAppend m p.2 p.1) m) q =
      if (asg.filter (·.2 = q)).map (·.1) = [] then dictGet m q
      else some ((dictGet m q).getD [] ++ (asg.filter (·.2 = q)).map (·.1)) := by
  induction asg generalizing m with
  | nil => simp
  | cons p ps ih =>
    simp only [List.foldl_cons, ih, dictGet_dictAppend]
    by_cases h : p.2 = q
    · subst h
      by_cases h2 : (ps.filter (·.2 = p.2)).map (·.1) = [] <;> simp [h2]
    · have h' : ¬ q = p.2 := fun e => h e.symm
      rw [List.filter_cons_of_neg (by simpa using h)]
      simp [h']

theorem filter_tag_ne (l : List Nat) {k q : Nat} (h : k ≠ q) : (l.map (·, k)).filter (·.2 = q) = [] := by
  simp [List.filter_map, Function.comp_def, h]

theorem specAsg_filter_lt (gs : List Group) (i0 k0 q : Nat) (h : q < k0) :
    (specAsg gs i0 k0).filter (·.2 = q) = [] := by
  induction gs generalizing i0 k0 with
  | nil => simp [specAsg]
  | cons g gs ih =>
    rw [specAsg, List.filter_append, filter_tag_ne _ (by omega), ih _ _ (by omega)]
    rfl

theorem specAsg_filter (a : List Group) (g : Group) (b : List Group) (i0 k0 : Nat) :
    ((specAsg (a ++ g :: b) i0 k0).filter (·.2 = k0 + a.length)).map (·.1)
      = streamIdx g.entries (i0 + (a.flatMap (·.entries)).length) := by
  induction a generalizing i0 k0 with
  | nil =>
    simp only [List.nil_append, specAsg, List.filter_append, List.length_nil, Nat.add_zero, List.flatMap_nil,
      List.map_append]
    rw [specAsg_filter_lt _ _ _ _ (by omega)]
    simp [List.filter_map, Function.comp_def]
  | cons x a ih =>
    simp only [List.cons_append, specAsg, List.filter_append, List.map_append, List.length_cons, List.flatMap_cons,
      List.length_append]
    rw [filter_tag_ne _ (by omega)]
    have := ih (i0 + x.entries.length) (k0 + 1)
    rw [show k0 + 1 + a.length = k0 + (a.length + 1) by omega] at this
    simp only [List.map_nil, List.nil_append, this]
    congr 1
    omega

/-- the file info `f` is that of the entry `e` -/
structure Lists (f : FileInfo) (e : Entry) : Prop where
  name : f.filename = e.name
  size : f.uncompressed = e.data.length
  dir : f.isDirectory = e.isDir

/-- `files` holds, from index `i0` on, the file infos of the entries `es` -/
def FilesAt (files : List FileInfo) (es : List Entry) (i0 : Nat) : Prop :=
  ∀ j e, es[j]? = some e → ∃ f, files[i0 + j]? = some f ∧ Lists f e

theorem FilesAt.head {files e es i0} (h : FilesAt files (e :: es) i0) : ∃ f, files[i0]? = some f ∧ Lists f e :=
  h 0 e rfl

theorem FilesAt.right {files a b i0} (h : FilesAt files (a ++ b) i0) : FilesAt files b (i0 + a.length) := by
  intro j x hx
  have := h (a.length + j) x (by rw [List.getElem?_append_right (by omega)]; simpa using hx)
  rwa [show i0 + (a.length + j) = i0 + a.length + j by omega] at this

theorem FilesAt.tail {files e es i0} (h : FilesAt files (e :: es) i0) : FilesAt files es (i0 + 1) :=
  h.right (a := [e])

theorem FilesAt.left {files a b i0} (h : FilesAt files (a ++ b) i0) : FilesAt files a i0 := by
  intro j x hx
  have hj : j < a.length := (List.getElem?_eq_some_iff.mp hx).1
  exact h j x (by rw [List.getElem?_append_left hj]; exact hx)

def streamFiles (es : List Entry) : List (Str × Bytes) := (es.filter (·.hasStream)).map fun e => (e.name, e.data)
def emptyFiles (es : List Entry) : List (Str × Bytes) := (es.filter (·.isEmptyFile)).map fun e => (e.name, [])

theorem streamFiles_all (gs : List Group) (tail : List Entry) (h : ∀ e ∈ tail, e.hasStream = false) :
    streamFiles (allEntries gs tail) = gs.flatMap fun g => streamFiles g.entries := by
  simp [allEntries, streamFiles, List.filter_flatMap, List.map_flatMap, filter_hasStream_tail tail h]

/-- the entries with `q` among `es` (listed from index `i` on) that are requested (`w` on the index in `list()`),
    each with its name and the bytes `d` written for it -/
def filesW (q : Entry → Bool) (d : Entry → Bytes) (w : Nat → Bool) : List Entry → Nat → List (Str × Bytes)
  | [], _ => []
  | e :: es, i => if q e && w i then (e.name, d e) :: filesW q d w es (i + 1) else filesW q d w es (i + 1)

abbrev streamFilesW := filesW (·.hasStream) (·.data)
abbrev emptyFilesW := filesW (·.isEmptyFile) fun _ => []

theorem keepIdx_eq (p : Entry → Bool) (es : List Entry) (i : Nat) :
    keepIdx p es i = ((es.zipIdx i).filter fun x => p x.1).map (·.2) := by
  induction es generalizing i with
  | nil => rfl
  | cons e es ih => simp only [keepIdx, ih, List.zipIdx_cons, List.filter_cons]; split <;> rfl

theorem filesW_eq (q d) (w : Nat → Bool) (es : List Entry) (i : Nat) :
    filesW q d w es i = ((es.zipIdx i).filter fun x => q x.1 && w x.2).map fun x => (x.1.name, d x.1) := by
  induction es generalizing i with
  | nil => rfl
  | cons e es ih => simp only [filesW, ih, List.zipIdx_cons, List.filter_cons]; split <;> rfl

theorem filesW_append (q d) (w : Nat → Bool) (a b : List Entry) (i : Nat) :
    filesW q d w (a ++ b) i = filesW q d w a i ++ filesW q d w b (i + a.length) := by
  simp only [filesW_eq, List.zipIdx_append, List.filter_append, List.map_append]

theorem filesW_nil (q d) (w : Nat → Bool) (es : List Entry) (i : Nat) (h : ∀ e ∈ es, q e = false) : filesW q d w es i = [] := by
  induction es generalizing i <;> simp_all [filesW]

theorem streamFilesW_all (w : Nat → Bool) (gs : List Group) (tail : List Entry) (h : ∀ e ∈ tail, e.hasStream = false) :
    streamFilesW w (allEntries gs tail) 0 = streamFilesW w (gs.flatMap (·.entries)) 0 := by
  unfold allEntries streamFilesW
  rw [filesW_append, filesW_nil _ _ w tail _ h, List.append_nil]

theorem filesW_none (q d) (es : List Entry) (i : Nat) :
    filesW q d (isWanted none) es i = (es.filter q).map fun e => (e.name, d e) := by
  induction es generalizing i with
  | nil => rfl
  | cons e es ih => cases he : q e <;> simp [filesW, he, isWanted, ih (i + 1)]

theorem filesW_keepIdx (q d) (p : Entry → Bool) (es : List Entry) (i : Nat) :
    filesW q d (isWanted (some (keepIdx p es i))) es i = ((es.filter p).filter q).map fun e => (e.name, d e) := by
  -- an index is kept exactly when the entry listed under it satisfies `p`: an index names one entry
  have key : ∀ x ∈ es.zipIdx i, (q x.1 && isWanted (some (keepIdx p es i)) x.2) = (q x.1 && p x.1) := fun x hx => by
    congr 1
    rw [isWanted, List.contains_eq_mem, keepIdx_eq, Bool.eq_iff_iff, decide_eq_true_iff, List.mem_map]
    constructor
    · rintro ⟨y, hy, hyx⟩
      have h1 := List.mem_zipIdx_iff_le_and_getElem?_sub.mp (List.mem_filter.mp hy).1
      have h2 := List.mem_zipIdx_iff_le_and_getElem?_sub.mp hx
      rw [hyx, h2.2] at h1
      rw [Option.some.inj h1.2]
      exact (List.mem_filter.mp hy).2
    · exact fun h => ⟨x, List.mem_filter.mpr ⟨hx, h⟩, rfl⟩
  rw [filesW_eq, List.filter_congr key, List.filter_filter]
  -- the right side too as a filter and map over `es.zipIdx i`; the two then agree by unfolding
  conv => rhs; rw [← List.zipIdx_map_fst i es, List.filter_map, List.map_map]
  rfl

/-- every requested non-empty file of `es` ends (at running offset `off` + its own size) within `n` -/
def EndsWithin (w : Nat → Bool) : List Entry → Nat → Nat → Nat → Prop
  | [], _, _, _ => True
  | e :: es, i, off, n =>
    if e.hasStream then (w i = true → off + e.data.length ≤ n) ∧ EndsWithin w es (i + 1) (off + e.data.length) n
    else EndsWithin w es (i + 1) off n

theorem endsWithin_all (w : Nat → Bool) : ∀ (es : List Entry) (i off n : Nat), off + (streamData es).length ≤ n →
    EndsWithin w es i off n := by
  intro es
  induction es with
  | nil => intro i off n _; trivial
  | cons e es ih =>
    intro i off n h
    cases he : e.hasStream with
    | false =>
      rw [streamData_cons, he] at h
      simpa [EndsWithin, he] using ih (i + 1) off n h
    | true =>
      rw [streamData_cons, he, if_pos rfl, List.length_append] at h
      simp only [EndsWithin, he, if_true]
      exact ⟨fun _ => by omega, ih (i + 1) _ n (by omega)⟩

theorem slice_take (x d r y : Bytes) (n : Nat) (h : x.length + d.length ≤ n) :
    (((x ++ d ++ r ++ y).take n).drop x.length).take d.length = d := by
  rw [List.drop_take, show x ++ d ++ r ++ y = x ++ (d ++ (r ++ y)) by simp, List.drop_left, List.take_take,
    Nat.min_eq_left (by omega), List.take_left]

theorem cutFiles_ok (files : List FileInfo) (wanted : Option (List Nat)) :
    ∀ (es : List Entry) (i0 : Nat) (x y : Bytes) (n : Nat), FilesAt files es i0 →
      EndsWithin (isWanted wanted) es i0 x.length n →
      cutFiles files wanted (streamIdx es i0) x.length ((x ++ streamData es ++ y).take n)
        = .ok (streamFilesW (isWanted wanted) es i0) := by
  intro es
  induction es with
  | nil => intro i0 x y n _ _; simp [keepIdx, cutFiles, filesW]
  | cons e es ih =>
    intro i0 x y n h hin
    have ht := h.tail
    cases he : e.hasStream with
    | false =>
      simp only [EndsWithin, he, Bool.false_eq_true, if_false] at hin
      have := ih (i0 + 1) x y n ht hin
      simpa [keepIdx, he, streamData_cons, filesW] using this
    | true =>
      simp only [EndsWithin, he, if_true] at hin
      obtain ⟨hhead, htail⟩ := hin
      obtain ⟨f, hf, hl⟩ := h.head
      have hdir : e.isDir = false := hasStream_not_dir he
      have hD : x ++ (e.data ++ streamData es) ++ y = x ++ e.data ++ streamData es ++ y := by simp
      have ih' := ih (i0 + 1) (x ++ e.data) y n ht (by simpa using htail)
      simp only [List.length_append] at ih'
      simp only [keepIdx, he, if_true, cutFiles, hf, hl.dir, hdir, Bool.false_eq_true, if_false, hl.size, streamData_cons, hD]
      cases hw : isWanted wanted i0 with
      | false =>
        simp only [Bool.not_false, if_true, ih']
        simp [filesW, he, hw]
      | true =>
        have hle := hhead hw
        have hlen : ¬ (x.length + e.data.length > ((x ++ e.data ++ streamData es ++ y).take n).length) := by
          simp only [List.length_take, List.length_append]; omega
        simp only [Bool.not_true, Bool.false_eq_true, if_false, hlen, ih']
        rw [slice_take x e.data (streamData es) y n hle]
        simp [filesW, he, hw, hl.name]

theorem emptyWrites_ok (files : List FileInfo) (wanted : Option (List Nat)) :
    ∀ (es : List Entry) (i0 : Nat), FilesAt files es i0 →
      emptyWrites files wanted (emptyIdx es i0) = .ok (emptyFilesW (isWanted wanted) es i0) := by
  intro es
  induction es with
  | nil => intro i0 _; simp [keepIdx, emptyWrites, filesW]
  | cons e es ih =>
    intro i0 h
    have := ih (i0 + 1) h.tail
    cases he : e.isEmptyFile with
    | false => simpa [keepIdx, he, filesW] using this
    | true =>
      obtain ⟨f, hf, hl⟩ := h.head
      cases hw : isWanted wanted i0 <;> simp [keepIdx, he, emptyWrites, hf, this, filesW, hl.name, hw]

/-- `m` is the least length with `P` at or after the answer so far `acc` -/
structure LeastFrom (P : Nat → Prop) (acc : Option Nat) (m : Nat) : Prop where
  ge_acc : ∀ a, acc = some a → a ≤ m
  holds : P m
  least : ∀ n, (∀ a, acc = some a → a ≤ n) → P n → m ≤ n

/-- what `_needed_output` answers: `none` only when no non-empty file of the folder is requested, otherwise the least
    length within which every requested file ends, i.e. the end of the last requested one
    (`acc` = the answer so far, an end already passed) -/
theorem neededLoop_ok (files : List FileInfo) (w : List Nat) :
    ∀ (es : List Entry) (i0 off : Nat) (acc : Option Nat), FilesAt files es i0 → (∀ a, acc = some a → a ≤ off) →
      ∃ r, neededLoop files w (streamIdx es i0) off acc = .ok r ∧
        (r = none → acc = none ∧ streamFilesW (isWanted (some w)) es i0 = []) ∧
        ∀ m, r = some m → LeastFrom (fun n => EndsWithin (isWanted (some w)) es i0 off n) acc m := by
  intro es
  induction es with
  | nil =>
    intro i0 off acc _ _
    exact ⟨acc, rfl, fun h => ⟨h, rfl⟩, fun m h =>
      ⟨fun a ha => by rw [h] at ha; cases ha; exact Nat.le_refl _, trivial, fun n hn _ => hn m h⟩⟩
  | cons e es ih =>
    intro i0 off acc h hacc
    cases he : e.hasStream with
    | false =>
      simp only [keepIdx, filesW, EndsWithin, he, Bool.false_eq_true, if_false, Bool.false_and]
      exact ih (i0 + 1) off acc h.tail hacc
    | true =>
      obtain ⟨f, hf, hl⟩ := h.head
      simp only [keepIdx, he, if_true, neededLoop, hf, hl.dir, hasStream_not_dir he, Bool.false_eq_true, if_false, hl.size,
        filesW, EndsWithin, isWanted, Bool.true_and]
      cases hw : w.contains i0 with
      | false =>
        -- not requested: the answer so far stands, and so does what it bounds
        obtain ⟨r, hr, hn, hs⟩ := ih (i0 + 1) (off + e.data.length) acc h.tail fun a ha => by have := hacc a ha; omega
        exact ⟨r, hr, by simpa using hn, fun m hm =>
          ⟨(hs m hm).ge_acc, by simpa using (hs m hm).holds, fun n hn hE => (hs m hm).least n hn hE.2⟩⟩
      | true =>
        -- requested: its end is the answer so far, so the final answer is at least that
        obtain ⟨r, hr, hn, hs⟩ := ih (i0 + 1) (off + e.data.length) (some (off + e.data.length)) h.tail
          fun a ha => by cases ha; exact Nat.le_refl _
        refine ⟨r, hr, fun h0 => (nomatch (hn h0).1), fun m hm => ?_⟩
        have := (hs m hm).ge_acc _ rfl
        exact ⟨fun a ha => by have := hacc a ha; omega, ⟨fun _ => this, (hs m hm).holds⟩,
          fun n _ hE => (hs m hm).least n (fun a ha => by cases ha; exact hE.1 rfl) hE.2⟩

/-- what the layout theorem needs of one folder: it holds at least one file, its pack stream is not empty,
    and its coder decodes its pack stream to the concatenation of its files — to the first `m` bytes of it
    when asked for at most `m` -/
structure GroupOk (ids : Ids) (c : Codec) (g : Group) : Prop where
  streams : streamCount g.entries ≥ 1
  packed_ne : g.packed ≠ []
  decodes : ∀ mo, applyDecoder ids c g.coder g.packed [(streamData g.entries).length] mo
      = .ok (capTo mo (streamData g.entries))

theorem decompress_group (ids : Ids) (c : Codec) (g : Group) (hg : GroupOk ids c g) (a b : Bytes) (mo : Option Nat) :
    decompressFolder ids c (a ++ g.packed ++ b) g.folder a.length [g.packed.length] mo
      = .ok (capTo mo (streamData g.entries)) := by
  have hne : g.packed.length ≠ 0 := mt List.length_eq_zero_iff.mp hg.packed_ne
  have h1 : ¬ (g.folder.coders = []) := by simp [Group.folder]
  have h2 : ¬ ([g.packed.length].sum = 0) := by simpa using hne
  have hdata : ((a ++ g.packed ++ b).drop a.length).take [g.packed.length].sum = g.packed := by
    rw [show a ++ g.packed ++ b = a ++ (g.packed ++ b) by simp, List.drop_left]
    simp
  unfold decompressFolder
  rw [if_neg h1]
  simp only [if_neg h2, hdata]
  simp only [Group.folder, List.reverse_cons, List.reverse_nil, List.nil_append, applyDecoders, hg.decodes]

theorem runPlan_step (ids : Ids) (c : Codec) (r : R) (wanted : Option (List Nat)) (g : Group)
    (hg : GroupOk ids c g) (i0 : Nat) (hF : FilesAt r.files g.entries i0) (a b : Bytes) (k : Nat)
    (hd : dictGet r.folderToFiles k = some (streamIdx g.entries i0)) (rest : List (Nat × Folder × Nat × List Nat))
    (ws : List (Str × Bytes)) (hrest : runPlan ids c (a ++ g.packed ++ b) r wanted rest = .ok ws) :
    runPlan ids c (a ++ g.packed ++ b) r wanted ((k, g.folder, a.length, [g.packed.length]) :: rest)
      = .ok (streamFilesW (isWanted wanted) g.entries i0 ++ ws) := by
  have hcut : ∀ n, EndsWithin (isWanted wanted) g.entries i0 0 n →
      cutFiles r.files wanted (streamIdx g.entries i0) 0 ((streamData g.entries).take n)
        = .ok (streamFilesW (isWanted wanted) g.entries i0) := fun n hE => by
    simpa using cutFiles_ok r.files wanted g.entries i0 [] [] n hF hE
  cases wanted with
  | none =>
    have := hcut _ (endsWithin_all (isWanted none) g.entries i0 0 (streamData g.entries).length (by omega))
    rw [List.take_length] at this
    simp only [runPlan, hd, folderCap, decompress_group ids c g hg a b, capTo, this, hrest]
  | some w =>
    obtain ⟨ans, hN, hnone, hsome⟩ := neededLoop_ok r.files w g.entries i0 0 none hF nofun
    cases ans with
    | none => simp only [runPlan, hd, folderCap, hN, (hnone rfl).2, hrest, List.nil_append]
    | some m => simp only [runPlan, hd, folderCap, hN, decompress_group ids c g hg a b, capTo, hcut m (hsome m rfl).holds, hrest]

theorem runPlan_spec (ids : Ids) (c : Codec) (G : List Group) (tail : List Entry) (r : R) (pre post : Bytes) (pp : Nat)
    (wanted : Option (List Nat))
    (hps : r.packSizes = G.map (·.packed.length)) (hpre : pre.length = pp)
    (hdict : ∀ a g b, G = a ++ g :: b →
      dictGet r.folderToFiles a.length = some (streamIdx g.entries (a.flatMap (·.entries)).length))
    (hfiles : FilesAt r.files (allEntries G tail) 0) :
    ∀ (gs done : List Group), G = done ++ gs → (∀ g ∈ gs, GroupOk ids c g) →
      runPlan ids c (pre ++ G.flatMap (·.packed) ++ post) r wanted
          (folderPlan r.packSizes pp (gs.map Group.folder) done.length done.length)
        = .ok (streamFilesW (isWanted wanted) (gs.flatMap (·.entries)) (done.flatMap (·.entries)).length) := by
  intro gs
  induction gs with
  | nil => intro done _ _; simp [folderPlan, runPlan, filesW]
  | cons g gs ih =>
    intro done hG hok
    have hg := hok g (List.mem_cons_self ..)
    have ih' := ih (done ++ [g]) (by simp [hG]) (fun x hx => hok x (List.mem_cons_of_mem _ hx))
    simp only [List.length_append, List.length_singleton, List.flatMap_append, List.flatMap_cons, List.flatMap_nil,
      List.append_nil] at ih'
    have hA : (r.packSizes.take done.length).sum = (done.flatMap (·.packed)).length := by
      rw [hps, hG, List.map_append, List.take_left' (by simp), List.length_flatMap]
    have hB : (r.packSizes.drop done.length).take 1 = [g.packed.length] := by
      rw [hps, hG, List.map_append, List.drop_left' (by simp)]
      simp
    have hfile : pre ++ G.flatMap (·.packed) ++ post
        = (pre ++ done.flatMap (·.packed)) ++ g.packed ++ (gs.flatMap (·.packed) ++ post) := by
      rw [hG]; simp
    have hpos : pp + (done.flatMap (·.packed)).length = (pre ++ done.flatMap (·.packed)).length := by
      simp [hpre]
    have hF : FilesAt r.files g.entries ((done.flatMap (·.entries)).length) := by
      have h1 : allEntries G tail = done.flatMap (·.entries) ++ (g.entries ++ (gs.flatMap (·.entries) ++ tail)) := by
        rw [hG]; simp [allEntries]
      rw [h1] at hfiles
      have := hfiles.right.left
      simpa using this
    simp only [List.map_cons, folderPlan, hA, hB, Group.folder, List.flatMap_cons, filesW_append]
    rw [hfile, hpos]
    exact runPlan_step ids c r wanted g hg _ hF _ _ _ (hdict done g gs hG) _ _ (by rw [← hfile]; exact ih')

end S2T.SevenZip
