import S2T.Model.Loops
import S2T.Lemmas.ListBasics
/-! The byte readers and `findFrom` of the loop models, and the step-count lemmas in the form "from offset `o`, at most
`len − o` iterations" (the loop variant bounds the iteration count). -/
namespace S2T.Loops

theorem byte_drop (d : Bytes) (o i : Nat) : byte (d.drop o) i = byte d (o + i) := by
  simp [byte, List.getD_eq_getElem?_getD]

theorem u32be_drop (d : Bytes) (o i : Nat) : u32be (d.drop o) i = u32be d (o + i) := by
  simp [u32be, byte_drop, Nat.add_assoc]

theorem u16le_drop (d : Bytes) (o i : Nat) : u16le (d.drop o) i = u16le d (o + i) := by
  simp [u16le, byte_drop, Nat.add_assoc]

theorem u32le_drop (d : Bytes) (o i : Nat) : u32le (d.drop o) i = u32le d (o + i) := by
  simp [u32le, byte_drop, Nat.add_assoc]

theorem slice_drop (d : Bytes) (o a b : Nat) : slice (d.drop o) a b = slice d (o + a) (o + b) := by
  simp [slice, Nat.add_sub_add_left]

theorem matchAt_drop (pat d : Bytes) (o i : Nat) : matchAt pat (d.drop o) i = matchAt pat d (o + i) := by
  simp only [matchAt, slice_drop, Nat.add_assoc]

theorem mem_of_matchAt {a : Nat} {pat d : Bytes} {i : Nat} (h : matchAt (a :: pat) d i = true) : a ∈ d.drop i := by
  simp only [matchAt, slice, beq_iff_eq] at h
  exact List.mem_of_mem_take (h ▸ List.mem_cons_self)

theorem findFrom_past {pat d : Bytes} {i : Nat} (h : d.length < i + pat.length) : findFrom pat d i = none := by
  rw [findFrom, dif_neg (by omega)]

theorem findFrom_hit {pat d : Bytes} {i : Nat} (hm : matchAt pat d i = true) (h : i + pat.length ≤ d.length) :
    findFrom pat d i = some i := by
  rw [findFrom, dif_pos h, if_pos hm]

theorem findFrom_step {pat d : Bytes} {i : Nat} (hm : matchAt pat d i = false) :
    findFrom pat d i = findFrom pat d (i + 1) := by
  rw [findFrom]
  split
  · rw [hm, if_neg Bool.false_ne_true]
    split
    · rfl
    · exact (findFrom_past (by omega)).symm
  · exact (findFrom_past (by omega)).symm

theorem findFrom_skip {pat d : Bytes} {i : Nat} (n : Nat) (h : ∀ p, i ≤ p → p < i + n → matchAt pat d p = false) :
    findFrom pat d i = findFrom pat d (i + n) := by
  induction n generalizing i with
  | zero => rfl
  | succ n ih =>
    rw [findFrom_step (h i (Nat.le_refl _) (by omega)), ih fun p h1 h2 => h p (by omega) (by omega), Nat.add_assoc,
      Nat.add_comm 1]

theorem findFrom_none {pat d : Bytes} {i : Nat} (h : ∀ p, i ≤ p → matchAt pat d p = false) : findFrom pat d i = none := by
  rw [findFrom_skip (d.length + 1) fun p h1 _ => h p h1]
  exact findFrom_past (by omega)

theorem findFrom_matchAt {pat d : Bytes} {i j : Nat} (h : findFrom pat d i = some j) : matchAt pat d j = true := by
  fun_induction findFrom pat d i with
  | case1 i h1 hm => cases h; exact hm
  | case2 i h1 hm h2 ih => exact ih h
  | case3 i h1 hm h2 => cases h
  | case4 i h1 => cases h

theorem u32le_lt (d : Bytes) (o : Nat) (hb : ∀ b ∈ d, b < 256) : u32le d o < 4294967296 := by
  have hbyte : ∀ i, byte d i < 256 := by
    intro i
    unfold byte
    by_cases h : i < d.length
    · simp [List.getD, List.getElem?_eq_getElem h]; exact hb _ (List.getElem_mem h)
    · simp [List.getD, List.getElem?_eq_none (Nat.le_of_not_lt h)]
  have := hbyte o; have := hbyte (o+1); have := hbyte (o+2); have := hbyte (o+3)
  unfold u32le; omega

theorem reverse_take_succ (l : List Nat) (k : Nat) (h : k < l.length) :
    (l.take (k + 1)).reverse = strAt l k :: (l.take k).reverse := by
  simpa [strAt, List.getD_eq_getElem?_getD] using List.reverse_map_take_succ id l k h

/-! `simp +zetaDelta only [] at *` (an empty `simp` set) substitutes the `let r := …` of the functional-induction cases, so that
`omega` sees the atoms of the induction hypothesis in the goal. -/

theorem xlsFilepass_steps_le (fp : Nat) (d : Bytes) (off : Nat) : (xlsFilepass fp d off).2 ≤ d.length - off := by
  fun_induction xlsFilepass fp d off <;> simp +zetaDelta only [] at * <;> omega

theorem jpegDims_steps_le (sof : List Nat) (d : Bytes) (off : Nat) : (jpegDims sof d off).2 ≤ d.length - off := by
  fun_induction jpegDims sof d off <;> simp +zetaDelta only [] at * <;> omega

theorem sofScan_steps_le (sof : List Nat) (strict : Bool) (d : Bytes) (i : Nat) :
    (sofScan sof strict d i).2 ≤ d.length - i := by
  fun_induction sofScan sof strict d i <;> simp +zetaDelta only [] at * <;> omega

theorem pptIter_steps_le (d : Bytes) (off : Nat) : (pptIter d off).2.1 ≤ d.length - off := by
  fun_induction pptIter d off <;> simp +zetaDelta only [] at * <;> omega

theorem pptIter_length_le (d : Bytes) (off : Nat) : (pptIter d off).1.length ≤ (pptIter d off).2.1 := by
  fun_induction pptIter d off <;> simp +zetaDelta only [List.length_cons, List.length_nil] at * <;> omega

theorem xlsBlipScan_steps_le (blip : List Nat) (d : Bytes) (off : Nat) :
    (xlsBlipScan blip d off).length ≤ d.length - off := by
  fun_induction xlsBlipScan blip d off <;> simp +zetaDelta only [List.length_cons, List.length_nil] at * <;> omega

theorem pngChunks_steps_le (d : Bytes) (pos : Nat) : (pngChunks d pos).2 ≤ d.length - pos := by
  fun_induction pngChunks d pos <;> simp +zetaDelta only [] at * <;> omega

theorem skipGroup_steps (s : Str) (i : Nat) (depth : Int) : (skipGroup s i depth).2 + i = (skipGroup s i depth).1 := by
  fun_induction skipGroup s i depth <;> simp +zetaDelta only [] at * <;> omega

theorem scanWhile_steps (p : Nat → Bool) (s : Str) (j : Nat) : (scanWhile p s j).2 + j = (scanWhile p s j).1 := by
  fun_induction scanWhile p s j <;> simp +zetaDelta only [] at * <;> omega

theorem scanWhile_le (p : Nat → Bool) (s : Str) (j : Nat) (h : j ≤ s.length) : (scanWhile p s j).1 ≤ s.length := by
  fun_induction scanWhile p s j <;> simp +zetaDelta only [] at * <;> omega

theorem trailingNumeric_steps_le (fl : List Bool) : (trailingNumeric fl).2 ≤ fl.length := by
  fun_induction trailingNumeric fl <;> simp +zetaDelta only [List.length_cons, List.length_nil] at * <;> omega

theorem lookAhead_steps_le (mb : Nat) (fl : List Bool) (blk : Nat) : (lookAhead mb fl blk).2 ≤ fl.length := by
  fun_induction lookAhead mb fl blk <;> simp +zetaDelta only [List.length_cons, List.length_nil] at * <;> omega

theorem gfMulLoop_steps_le (k : Nat) : ∀ a b r, b < 2 ^ k → (gfMulLoop a b r).2 ≤ k := by
  induction k with
  | zero => intro a b r h; have : b = 0 := by omega
            subst this; unfold gfMulLoop; simp
  | succ k ih =>
    intro a b r h
    unfold gfMulLoop
    split
    · simp
    · have := ih (xtime a) (b / 2) (if b % 2 = 1 then r ^^^ a else r) (by omega)
      simp +zetaDelta; omega

theorem normalizeLoop_steps_le (e : Nat) (m : List (List Char)) : (normalizeLoop e m).2 + e ≤ max m.length e := by
  fun_induction normalizeLoop e m
  · -- an adjacent all-digit pair is merged
    rename_i hm r ih
    have := mergeFirstPair_length _ _ hm
    simp +zetaDelta; omega
  · -- no such pair: the first two are merged
    rename_i h hm r ih
    simp +zetaDelta only [List.length_cons] at *; omega
  · -- one element, none: excluded by `length > expected ≥ 1`
    rename_i h hm; simp at h; omega
  · rename_i h hm; simp at h
  · -- the loop test fails
    simp; omega

/-- `_read_bytes(2)`; the general `readBytes` also has the empty read and the `OverflowError` -/
theorem readBytes_two (d : Bytes) (pos : Nat) :
    readBytes d pos 2 = if pos + 2 ≤ d.length then .ok ⟨slice d pos (pos + 2), pos + 2⟩ else .error .bad7z := by
  unfold readBytes
  split <;> simp_all

theorem readName_steps (d : Bytes) (pos : Nat) {nm p s} (h : readName d pos = .ok (nm, p, s)) :
    2 * s + pos = p ∧ p ≤ d.length := by
  fun_induction readName d pos generalizing nm p s
  · simp at h; omega
  · simp at h
  · rename_i heq ih
    have := ih heq
    simp at h; omega
  · simp at h

theorem skipArchiveProps_steps_le (d : Bytes) (pos : Nat) {q s} (h : skipArchiveProps d pos = .ok (q, s)) :
    s ≤ d.length - pos ∧ pos < q := by
  fun_induction skipArchiveProps d pos generalizing q s
  · simp at h
  · rename_i hp hz
    have := readU8_pos hp
    simp at h; omega
  · simp at h
  · simp at h
  · simp at h
  · rename_i hp hz sz hn b hb q' s' hr ih
    have := ih hr
    have := readU8_pos hp
    have := readNumber_pos hn
    have := readBytes_pos hb
    simp at h; omega

theorem dibCarve_steps_le (d : Bytes) (i : Nat) : (dibCarve d i).2 ≤ d.length - i := by
  fun_induction dibCarve d i
  · simp; omega
  · simp; omega
  · rename_i hf hs hl r ih
    have := (findFrom_ge hf).1
    simp +zetaDelta only [] at *; omega
  · rename_i hf hs dl hl r ih
    have := (findFrom_ge hf).1
    have := dibLenAt_ge hl
    simp +zetaDelta only [] at *; omega
  · simp

theorem pngCarve_outer_le (d : Bytes) (off : Nat) : (pngCarve d off).2.1 ≤ d.length - off + 1 := by
  fun_induction pngCarve d off
  · simp
  · rename_i start hf w r ih
    have := findFrom_ge hf
    simp [pngSig] at this
    simp +zetaDelta only [] at *; omega

/-- every chunk walk is bounded by the data length, so the inner steps are at most quadratic -/
theorem pngCarve_inner_le (d : Bytes) (off : Nat) : (pngCarve d off).2.2 ≤ (d.length - off) * d.length := by
  fun_induction pngCarve d off
  · simp
  · rename_i off start hf w r ih
    have h1 := findFrom_ge hf
    simp [pngSig] at h1
    have h2 := pngChunks_steps_le d (start + 8)
    simp +zetaDelta at *
    have h3 : d.length - off = (d.length - (start + 1)) + (start + 1 - off) := by omega
    rw [h3, Nat.add_mul]
    have h4 : d.length ≤ (start + 1 - off) * d.length := Nat.le_mul_of_pos_left _ (by omega)
    omega

theorem removeIgnorable_steps_le (pf : List Str) (t l : Str) (i : Nat) :
    (removeIgnorable pf t l i).2.1 + (removeIgnorable pf t l i).2.2 ≤ 2 * (t.length - i) := by
  fun_induction removeIgnorable pf t l i
  · simp +zetaDelta only [] at *; omega
  · rename_i i h hb hp g r ih
    have h1 := skipGroup_steps t i 0
    have h2 := skipGroup_gt t i 0 h
    have h3 := skipGroup_le t i 0 (Nat.le_of_lt h)
    simp +zetaDelta only [] at *; omega
  · simp +zetaDelta only [] at *; omega
  · simp

theorem removeIgnorable_out_le (pf : List Str) (t l : Str) (i : Nat) :
    (removeIgnorable pf t l i).1.length ≤ t.length - i := by
  fun_induction removeIgnorable pf t l i
  · simp +zetaDelta only [List.length_cons] at *; omega
  · rename_i i h hb hp g r ih
    have h2 := skipGroup_gt t i 0 h
    simp +zetaDelta only [] at *; omega
  · simp +zetaDelta only [List.length_cons] at *; omega
  · simp

theorem rtfWalk_length_le (alpha digit : Nat → Bool) (sd : Str → Nat → Bool) (s : Str) (i : Nat) (st : RtfState) :
    (rtfWalk alpha digit sd s i st).length ≤ s.length - i := by
  fun_induction rtfWalk alpha digit sd s i st
  -- the branches that advance `i` by a constant
  all_goals (try (simp only [List.length_cons]; omega))
  · -- `\u…`: by the length of the match, or by 2
    rename_i ih
    simp +zetaDelta only [List.length_cons] at *
    split at ih <;> simp_all <;> omega
  · -- `\'hh`: by 4, or by 2 at the end of the text
    rename_i i st _ _ _ _ _ _ _ _ _ _ _ ih
    simp +zetaDelta only [List.length_cons] at *
    by_cases hc : i + 3 < s.length <;> simp only [hc, ↓reduceDIte, ↓reduceIte] at ih ⊢ <;> omega
  · -- a control word: the three scans end at `j3` with `i + 2 ≤ j3 ≤ len`
    rename_i i st hlen c _ _ _ _ hi nc _ _ _ ha j1 j2 j3 ih
    have g1 := scanWhile_gt alpha s (i + 1) (by omega) ha
    have g1' := scanWhile_le alpha s (i + 1) (by omega)
    have g2 := scanWhile_ge (fun c => digit c || c == 45) s (scanWhile alpha s (i + 1)).1
    have g2' := scanWhile_le (fun c => digit c || c == 45) s (scanWhile alpha s (i + 1)).1 g1'
    have hj3 : i + 2 ≤ j3 ∧ j3 ≤ s.length := by
      simp +zetaDelta only []
      repeat' split
      all_goals omega
    simp only [List.length_cons]
    omega
  · -- `i` at the end of the text
    simp

theorem filesInfoLoop_steps_le (d : Bytes) (n pos : Nat) (names : Option (List (List Nat))) (ec st ns al : Nat) {r}
    (h : filesInfoLoop d n pos names ec st ns al = .ok r) : r.steps ≤ st + (d.length - pos) := by
  fun_induction filesInfoLoop d n pos names ec st ns al generalizing r
  all_goals (try (simp at h; done))
  · rename_i hp hz
    have := readU8_pos hp
    simp at h; subst h; simp; omega
  · rename_i hp hz sz hn endPos handled _ _ _ _ _ _ ih
    have := ih h
    have := readU8_pos hp
    have := readNumber_pos hn
    simp +zetaDelta at *
    omega

/-- a loop that pops a stack (top first) while a test on its top holds; `r` is what the model keeps of the stack that remains (the
    stack, or its height) -/
theorem pop_eq {α β} (p : α → Bool) (r : List α → β) (f : List α → β × Nat) (hnil : f [] = (r [], 0))
    (hcons : ∀ a l, f (a :: l) = if p a then ((f l).1, (f l).2 + 1) else (r (a :: l), 0)) (l : List α) :
    f l = (r (l.dropWhile p), (l.takeWhile p).length) := by
  induction l with
  | nil => exact hnil
  | cons a l ih => cases h : p a <;> simp [hcons, h, ih]

theorem popHeadings_pop (lvl : Int) (st : List Int) :
    popHeadings lvl st = (st.dropWhile (· ≥ lvl), (st.takeWhile (· ≥ lvl)).length) :=
  pop_eq (· ≥ lvl) id _ rfl (fun _ _ => by simp [popHeadings]) st

theorem popEnded_pop (o : Nat) (st : List (Nat × Nat)) :
    popEnded o st = (st.dropWhile (o ≥ ·.2), (st.takeWhile (o ≥ ·.2)).length) :=
  pop_eq (o ≥ ·.2) id _ rfl (fun _ _ => by simp [popEnded]) st

theorem trimEmptyRows_pop (rows : List (List Bool)) :
    trimEmptyRows rows = (rows.dropWhile (·.all id), (rows.takeWhile (·.all id)).length) :=
  pop_eq (fun r : List Bool => r.all id) id trimEmptyRows rfl (fun _ _ => rfl) rows

theorem trimBack_pop (p : Nat → Bool) (w : List Nat) :
    trimBack p w = ((w.dropWhile p).length, (w.takeWhile p).length) :=
  pop_eq p List.length (trimBack p) rfl (fun _ _ => rfl) w

theorem popSqrtClose_pop (st : List Bool) :
    popSqrtClose st = ((st.dropWhile (·)).length, (st.takeWhile (·)).length) :=
  pop_eq (·) List.length popSqrtClose rfl (fun _ _ => rfl) st

theorem popHeadings_map {α} (f : α → Int) (level : Int) (rs : List α) :
    popHeadings level (rs.map f) =
      ((rs.dropWhile fun a => decide (f a ≥ level)).map f, (rs.takeWhile fun a => decide (f a ≥ level)).length) := by
  rw [popHeadings_pop, List.dropWhile_map, List.takeWhile_map, List.length_map]
  rfl

theorem trimEmptyRows_map {α} (f : α → Bool) (rs : List α) :
    trimEmptyRows (rs.map fun r => [f r]) = ((rs.dropWhile f).map fun r => [f r], (rs.takeWhile f).length) := by
  simp [trimEmptyRows_pop, List.dropWhile_map, List.takeWhile_map, Function.comp_def]

theorem popHeadings_length (lvl : Int) (st : List Int) : (popHeadings lvl st).1.length + (popHeadings lvl st).2 = st.length := by
  rw [popHeadings_pop, Nat.add_comm, ← List.length_append, List.takeWhile_append_dropWhile]

end S2T.Loops
