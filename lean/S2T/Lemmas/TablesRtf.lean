import S2T.Spec.TablesRtf
import S2T.Lemmas.Chars
/-! The RTF part of C13 turns on one notion: a scanner (a substitution pass, a `\\kw\b` search) is `Silent` on a piece of text.
Written rows are appended from tokens, so a fact about rows is shown of the tokens (`Appends`). -/
namespace S2T.Tables.Rtf
open S2T.HtmlSkip (Str)
open S2T.Tables

theorem toNat_ofNat {n : Nat} (h : n < 55296) : (Char.ofNat n).toNat = n := by
  rw [Char.ofNat, dif_pos (Or.inl h)]; rfl

theorem eq_filter_range {p : Nat → Bool} {N : Nat} {l : List Nat} (hs : l.Pairwise (· < ·))
    (h1 : ∀ n ∈ l, n < N ∧ p n = true) (h2 : ∀ n, n < N → p n = true → n ∈ l) : l = (List.range N).filter p := by
  have hf : ((List.range N).filter p).Pairwise (· < ·) := List.pairwise_lt_range.filter _
  refine List.Perm.eq_of_pairwise (le := (· < ·)) (fun a b _ _ h1 h2 => absurd h1 (Nat.lt_asymm h2)) hs hf ?_
  refine (List.perm_ext_iff_of_nodup (hs.imp Nat.ne_of_lt) (hf.imp Nat.ne_of_lt)).mpr (fun n => ?_)
  rw [List.mem_filter, List.mem_range]
  exact ⟨h1 n, fun h => h2 n h.1 h.2⟩

theorem mem_of_between {l : List Nat} {a b n : Nat} (h : ∀ k ∈ List.range' a (b + 1 - a), k ∈ l) (ha : a ≤ n) (hb : n ≤ b) :
    n ∈ l :=
  h n (List.mem_range'_1.mpr ⟨ha, by omega⟩)

/-- `P` holds for every non-empty suffix -/
def AllSuffix (P : Str → Prop) : Str → Prop
  | [] => True
  | c :: r => P (c :: r) ∧ AllSuffix P r

theorem AllSuffix.cons {P : Str → Prop} {c : Char} {r : Str} : AllSuffix P (c :: r) ↔ P (c :: r) ∧ AllSuffix P r := Iff.rfl

theorem AllSuffix.mono {P Q : Str → Prop} (h : ∀ t, P t → Q t) : ∀ {s : Str}, AllSuffix P s → AllSuffix Q s
  | [], _ => trivial
  | _ :: _, ⟨h1, h2⟩ => ⟨h _ h1, AllSuffix.mono h h2⟩

theorem subst_nil (m) (k : Nat) : subst m k [] = [] := by cases k <;> rfl

theorem subst_skip (m) (a b : Str) (k : Nat) : subst m (a.length + k) (a ++ b) = subst m k b := by
  induction a with
  | nil => simp
  | cons c a ih =>
    have : (c :: a).length + k = (a.length + k) + 1 := by simp; omega
    rw [this]; simp only [List.cons_append, subst]; exact ih

theorem subst_head (m) (w b rep : Str) (hw : w ≠ []) (h : m (w ++ b) = some (rep, w.length)) :
    subst m 0 (w ++ b) = rep ++ subst m 0 b := by
  cases w with
  | nil => exact absurd rfl hw
  | cons c w =>
    simp only [List.cons_append] at h ⊢
    simp only [subst, h, List.length_cons, Nat.add_sub_cancel]
    rw [← Nat.add_zero w.length, subst_skip]

theorem subst_id (m) (s : Str)
    (h : AllSuffix (fun t => m t = none ∨ ∃ c r, t = c :: r ∧ m t = some ([c], 1)) s) : subst m 0 s = s := by
  induction s with
  | nil => rfl
  | cons c s ih =>
    obtain ⟨h1, h2⟩ := AllSuffix.cons.mp h
    rcases h1 with h1 | ⟨c', r', he, h1⟩
    · simp only [subst, h1]; rw [ih h2]
    · cases he
      simp only [subst, h1, Nat.sub_self]
      rw [ih h2]; rfl

/-! Every search of the model — the substitution passes and the three `\\kw\b` searches — looks at the text from one position on and
says whether its pattern matches there.  Those that meet the tokens of a written row (`uniM`, `hexEscM`, `specialM`, `ctlM`, `kwAt`)
match only at a backslash and decide by the control word behind it. -/

/-- the pass `m` as a scanner: does its pattern match at the head -/
def hits (m : Str → Option (Str × Nat)) (t : Str) : Bool := (m t).isSome

/-- no match of the scanner `f` starts inside `a`, whatever follows `a` -/
def Silent (f : Str → Bool) (a : Str) : Prop := ∀ b, AllSuffix (fun t => f (t ++ b) = false) a

/-- `f` matches only at a backslash -/
def Anch (f : Str → Bool) : Prop := ∀ c r, c ≠ '\\' → f (c :: r) = false

/-- `f` does not match at a control word that starts with `w`, whatever follows -/
def Rejects (f : Str → Bool) (w : Str) : Prop := ∀ u, f ('\\' :: (w ++ u)) = false

def NoBs (s : Str) : Prop := ∀ c ∈ s, c ≠ '\\'

theorem noBs_append {a b : Str} (ha : NoBs a) (hb : NoBs b) : NoBs (a ++ b) := List.forall_mem_append.mpr ⟨ha, hb⟩

theorem ne_of_all {x : Char} (s : Str) (h : s.all (fun c => c != x) = true) : ∀ c ∈ s, c ≠ x := by
  intro c hc
  simp only [List.all_eq_true, bne_iff_ne, ne_eq] at h
  exact h c hc

/-- a property of texts that the empty text has and appending keeps: shown of the tokens of a written row, it holds
    of the row (as: a scanner is silent on it, it holds no brace) -/
structure Appends (Φ : Str → Prop) : Prop where
  nil : Φ []
  append : ∀ {a b : Str}, Φ a → Φ b → Φ (a ++ b)

theorem joinWith_cons_cons (sep x y : Str) (r : List Str) :
    joinWith sep (x :: y :: r) = x ++ sep ++ joinWith sep (y :: r) := by simp [joinWith]

theorem joinWith_cons (sep p : Str) (rest : List Str) : joinWith sep (p :: rest) = p ++ rest.flatMap (sep ++ ·) := by
  induction rest generalizing p with
  | nil => simp [joinWith]
  | cons q r ih => rw [joinWith_cons_cons, ih, List.flatMap_cons, List.append_assoc, List.append_assoc]

theorem Appends.flatMap {Φ : Str → Prop} (h : Appends Φ) {α : Type} (f : α → Str) :
    ∀ (l : List α), (∀ x ∈ l, Φ (f x)) → Φ (l.flatMap f)
  | [], _ => h.nil
  | x :: l, hl => by
    rw [List.flatMap_cons]
    exact h.append (hl x List.mem_cons_self) (h.flatMap f l (fun y hy => hl y (List.mem_cons_of_mem _ hy)))

theorem Appends.join {Φ : Str → Prop} (h : Appends Φ) {sep : Str} (hs : Φ sep) :
    ∀ (ps : List Str), (∀ p ∈ ps, Φ p) → Φ (joinWith sep ps)
  | [], _ => h.nil
  | p :: r, hp => by
    rw [joinWith_cons]
    exact h.append (hp p List.mem_cons_self) (h.flatMap _ r fun q hq => h.append hs (hp q (List.mem_cons_of_mem _ hq)))

theorem appends_silent (f : Str → Bool) : Appends (Silent f) := by
  refine ⟨fun _ => trivial, fun {a b} ha hb x => ?_⟩
  induction a with
  | nil => exact hb x
  | cons c a ih => exact ⟨by simpa using (ha (b ++ x)).1, ih (fun y => (ha y).2)⟩

theorem silent_noBs {f : Str → Bool} (hf : Anch f) : ∀ {a : Str}, NoBs a → Silent f a
  | [], _, _ => trivial
  | c :: _, ha, b =>
    ⟨hf c _ (ha c List.mem_cons_self), silent_noBs hf (fun x hx => ha x (List.mem_cons_of_mem _ hx)) b⟩

/-- a control word `\w` with its parameter / delimiter `d` -/
theorem silent_word {f : Str → Bool} (hf : Anch f) {w : Str} (h : Rejects f w) (hw : NoBs w) {d : Str} (hd : NoBs d) :
    Silent f ('\\' :: (w ++ d)) :=
  fun b => ⟨by show f ('\\' :: (w ++ d ++ b)) = false; rw [List.append_assoc]; exact h _,
    silent_noBs hf (noBs_append hw hd) b⟩

theorem subst_silent (m) {a : Str} (h : Silent (hits m) a) (X : Str) : subst m 0 (a ++ X) = a ++ subst m 0 X := by
  induction a with
  | nil => rfl
  | cons c a ih =>
    have h1 : m (c :: (a ++ X)) = none := by simpa [hits] using (h X).1
    simp only [List.cons_append, subst, h1]
    rw [ih fun b => (h b).2]

theorem subst_noBs (m) (hm : Anch (hits m)) (a b : Str) (ha : NoBs a) : subst m 0 (a ++ b) = a ++ subst m 0 b :=
  subst_silent m (silent_noBs hm ha) b

theorem subst_noBs_id (m) (hm : Anch (hits m)) (a : Str) (ha : NoBs a) : subst m 0 a = a := by
  have := subst_noBs m hm a [] ha
  simpa [subst_nil] using this

theorem anch_uniM : Anch (hits uniM) := by
  intro c r hc
  unfold hits uniM uniAt
  split <;> simp_all

theorem anch_hexEscM : Anch (hits hexEscM) := by
  intro c r hc
  unfold hits hexEscM
  split <;> simp_all

theorem anch_specialM (kw ch : Str) : Anch (hits (specialM kw ch)) := by
  intro c r hc
  unfold hits specialM
  split <;> simp_all

theorem anch_ctlM : Anch (hits ctlM) := by
  intro c r hc
  unfold hits ctlM
  split <;> simp_all

end S2T.Tables.Rtf
