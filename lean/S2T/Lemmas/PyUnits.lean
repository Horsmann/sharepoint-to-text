import S2T.Lemmas.PyPaths
import S2T.Py.Units
import S2T.Lemmas.Units
/-!
Lemmas about the units prelude (`S2T/Py/Units.lean`) and the shapes the translated `iterate_units` / `get_full_text`
methods take after `simp`.  Methods that can raise are followed construct by construct with the rules of `Ends` ("ends
without raising, in a value satisfying `Q`").
-/
namespace S2T.Py.Units
open S2T.Py S2T.Units

/-- what the property statement observes of one unit (the model's `DUnit` without its book-keeping `lines`);
numbers are Python ints -/
structure UView where
  number : Int
  text : Str
  path : List Str := []
  level : Option Int := none
  nImages : Nat := 0
  nTables : Nat := 0
  deriving DecidableEq, Repr

/-- the view of a unit of the hand model -/
def viewD (d : DUnit) : UView :=
  { number := (d.number : Int), text := d.text, path := d.path, level := d.level, nImages := d.nImages, nTables := d.nTables }

@[simp] theorem nl_toList : "\n".toList = ['\n'] := by decide
@[simp] theorem empty_toList : "".toList = ([] : List Char) := by decide

@[simp] theorem strJoin_nl (l : List Str) : strJoin ['\n'] l = joinNl l := by
  induction l with
  | nil => rfl
  | cons s t ih =>
    cases t with
    | nil => simp [strJoin, joinNl_singleton]
    | cons t1 t2 =>
      simp [strJoin, ih, joinNl_cons_cons]

@[simp] theorem getT_some {α} [Truthy α] (a : α) (h) : getT (some a) h = a := rfl
@[simp] theorem getS_some {α} (a : α) (h) : getS (some a) h = a := rfl
theorem getS_of_eq {α} (o : Option α) (a : α) (e : o = some a) (h) : getS o h = a := by subst e; rfl
@[simp] theorem getN_some {α} (a : α) (h) : getN (some a) h = a := rfl
@[simp] theorem getNT_some {α} [Truthy α] (a : α) (h) : getNT (some a) h = a := rfl
@[simp] theorem firstNE_cons {α} (a : α) (l : List α) (h) : firstNE (a :: l) h = a := rfl
@[simp] theorem firstNT_cons {α} (a : α) (l : List α) (h) : firstNT (a :: l) h = a := rfl
@[simp] theorem lastNE_eq {α} (l : List α) (h) : lastNE l h = l.getLast (by intro e; subst e; simp [truthy] at h) := rfl
@[simp] theorem lastNT_eq {α} (l : List α) (h) : lastNT l h = l.getLast (by intro e; subst e; simp [truthy] at h) := rfl
@[simp] theorem popNE_eq {α} (l : List α) (h) : popNE l h = l.dropLast := rfl
@[simp] theorem truthy_str (s : Str) : truthy s = !s.isEmpty := rfl
theorem isEmpty_eq_decide {α} (l : List α) : l.isEmpty = decide (l = []) := by cases l <;> simp
@[simp] theorem orD_none {α} [Truthy α] (d : α) : orD none d = d := rfl
@[simp] theorem orD_some {α} [Truthy α] (a d : α) : orD (some a) d = if truthy a then a else d := rfl
theorem orV_str_nil (s : Str) : orV s "".toList = s := by
  cases s <;> simp [orV]

/-- the shape `simp` gives a `for x in xs: yield g x` loop -/
@[simp] theorem flatten_map_singleton {α β} (g : α → β) (l : List α) : (l.map (fun x => [g x])).flatten = l.map g := by
  induction l with
  | nil => rfl
  | cons x r ih => simp [ih]

/-- a `for x in xs: yield g x` loop inside a function that can raise (before the loop) -/
@[simp] theorem forIn_ok_yield_map {α β} (xs : List α) (g : α → β) (init : List β) :
    forIn xs init (fun x acc => (Except.ok (ForInStep.yield (acc ++ [g x])) : M _)) = Except.ok (init ++ xs.map g) :=
  forIn_append_map g xs _ (fun _ _ _ => rfl) init

/-- `for u in units: yield u` -/
@[simp] theorem forIn_yield_all {α} (xs init : List α) :
    forIn xs init (fun x acc => (pure (ForInStep.yield (acc ++ [x])) : M _)) = Except.ok (init ++ xs) :=
  (forIn_ok_yield_map xs id init).trans (by rw [List.map_id])

theorem enumerateFrom_map {α β} (m : α → β) (k : Int) (xs : List α) :
    enumerateFrom k (xs.map m) = (enumerateFrom k xs).map (fun p => (p.1, m p.2)) := by
  induction xs generalizing k with
  | nil => rfl
  | cons x r ih => simp [enumerateFrom, ih]

theorem enumerateFrom_length {α} (k : Int) (xs : List α) : (enumerateFrom k xs).length = xs.length := by
  induction xs generalizing k with
  | nil => rfl
  | cons x r ih => simp [enumerateFrom, ih]

theorem enumerateFrom_natCast {α} (k : Nat) (xs : List α) :
    enumerateFrom k xs = (xs.zipIdx k).map fun p => ((p.2 : Int), p.1) := by
  induction xs generalizing k with
  | nil => rfl
  | cons x r ih => simp [enumerateFrom, ← ih]

theorem map_enumerateFrom_enumUnits {α β} (F : Int × α → UView) (m : α → β) (g : Nat → β → DUnit)
    (h : ∀ (k : Nat) x, F ((k : Int), x) = viewD (g k (m x))) (k : Nat) (xs : List α) :
    (enumerateFrom (k : Int) xs).map F = (enumUnits g k (xs.map m)).map viewD := by
  simp [enumerateFrom_natCast, enumUnits_eq_zipIdx, List.zipIdx_map, h]

theorem map_enumerateFrom_enumUnits' {α} (F : Int × α → UView) (g : Nat → α → DUnit)
    (h : ∀ (k : Nat) x, F ((k : Int), x) = viewD (g k x)) (k : Nat) (xs : List α) :
    (enumerateFrom (k : Int) xs).map F = (enumUnits g k xs).map viewD := by
  simpa using map_enumerateFrom_enumUnits F id g h k xs

/-- For functions that can raise, a small logic of "ends without raising, in a value satisfying `Q`".
Its rules follow the constructs of the translated text (`if`, `>>=`, `for`), so a proof walks the body once and never
unfolds the join points (`__do_jp`) the `do` notation shares between branches.  The rules for a test of a list or string,
of an optional value and of a comparison hand each branch the fact about the variables (`l ≠ []`, `o = some v`, `a < b`),
not the translated test. -/
def Ends {α} (Q : α → Prop) (x : M α) : Prop := ∃ a, x = Except.ok a ∧ Q a

/-- the result of a loop iteration that goes on, in a state satisfying `Inv` -/
def Goes {σ} (Inv : σ → Prop) (r : ForInStep σ) : Prop := ∃ s, r = ForInStep.yield s ∧ Inv s

/- Inside this namespace `pure`, `bind`, `ite`, `dite` are the rules below, not core's; the monad's `pure` is written `Pure.pure`. -/
namespace Ends
variable {α β : Type} {Q : α → Prop}

theorem pure {a : α} (h : Q a) : Ends Q (Pure.pure a) := ⟨a, rfl, h⟩

theorem goes {σ} {Inv : σ → Prop} {s : σ} (h : Inv s) : Ends (Goes Inv) (Pure.pure (ForInStep.yield s)) :=
  ⟨_, rfl, s, rfl, h⟩

theorem ite {c : Prop} [Decidable c] {a b : M α} (ha : c → Ends Q a) (hb : ¬ c → Ends Q b) :
    Ends Q (if c then a else b) := by
  split
  · exact ha ‹_›
  · exact hb ‹_›

theorem dite {c : Prop} [Decidable c] {a : c → M α} {b : ¬ c → M α} (ha : ∀ h, Ends Q (a h)) (hb : ∀ h, Ends Q (b h)) :
    Ends Q (if h : c then a h else b h) := by
  split
  · exact ha _
  · exact hb _

/-- `if x is not None:`, the value at hand in the first branch -/
theorem dite_isSome {γ} {o : Option γ} {a : o.isSome = true → M α} {b : ¬ o.isSome = true → M α}
    (ha : ∀ v, o = some v → ∀ h, Ends Q (a h)) (hb : o = none → ∀ h, Ends Q (b h)) :
    Ends Q (if h : o.isSome = true then a h else b h) := by
  cases o with
  | none => exact dite (fun h => nomatch h) (hb rfl)
  | some v => exact dite (ha v rfl) fun h => absurd rfl h

/-- `if a < b:` and the other comparisons -/
theorem ite_decide {p : Prop} [Decidable p] {a b : M α} (ha : p → Ends Q a) (hb : ¬ p → Ends Q b) :
    Ends Q (if decide p = true then a else b) :=
  ite (fun h => ha (of_decide_eq_true h)) fun h => hb fun hp => h (decide_eq_true hp)

/-- `if l:` on a list or a string -/
theorem ite_truthy {γ} {l : List γ} {a b : M α} (ha : l ≠ [] → Ends Q a) (hb : l = [] → Ends Q b) :
    Ends Q (if truthy l = true then a else b) := by
  cases l with
  | nil => exact hb rfl
  | cons x r => exact ha (List.cons_ne_nil x r)

/-- `if not l:` -/
theorem ite_falsy {γ} {l : List γ} {a b : M α} (ha : l = [] → Ends Q a) (hb : l ≠ [] → Ends Q b) :
    Ends Q (if (!truthy l) = true then a else b) := by
  cases l with
  | nil => exact ha rfl
  | cons x r => exact hb (List.cons_ne_nil x r)

/-- `if l: t.extend(l)` in front of a call `a` that takes `t`: for an empty `l` the two branches are the same call (`t ++ []`
is `t`), which is what the default proof of `hb` checks -/
theorem ite_extend {γ} {l : List γ} {a b : M α} (ha : Ends Q a)
    (hb : l = [] → b = a := by intro e; subst e; rw [List.append_nil]) : Ends Q (if truthy l = true then a else b) :=
  ite_truthy (fun _ => ha) fun e => hb e ▸ ha

theorem bind {R : α → Prop} {Q : β → Prop} {x : M α} {k : α → M β} (hx : Ends R x)
    (hk : ∀ a, R a → Ends Q (k a)) : Ends Q (x >>= k) := by
  obtain ⟨a, rfl, ha⟩ := hx
  exact hk a ha

/-- `if c: <x>` in front of the rest `k`, which starts from `a` when `c` fails -/
theorem ite_bind {R : α → Prop} {Q : β → Prop} {c : Prop} [Decidable c] {x : M α} {k : α → M β} {a : α}
    (hx : c → Ends R x) (ha : R a) (hk : ∀ a, R a → Ends Q (k a)) : Ends Q (if c then x >>= k else k a) :=
  ite (fun h => bind (hx h) hk) (fun _ => hk a ha)

theorem map_eq {g : α → β} {b : β} {x : M α} (h : Ends (fun a => g a = b) x) : g <$> x = Except.ok b := by
  obtain ⟨a, rfl, ha⟩ := h
  exact congrArg Except.ok ha

theorem yields {σ} {Inv : σ → Prop} {x : M (ForInStep σ)} (h : Ends (Goes Inv) x) :
    ∃ s, x = Except.ok (ForInStep.yield s) ∧ Inv s := by
  obtain ⟨_, h1, s, rfl, h2⟩ := h
  exact ⟨s, h1, h2⟩

end Ends

/-- `S2T.Py.forIn_suffix` as a rule of the logic: every iteration goes on and takes the invariant, which may speak of the
items still to come, from `x :: r` to `r` -/
theorem Ends.suffix {α σ} (I : List α → σ → Prop) {f : α → σ → M (ForInStep σ)}
    (hstep : ∀ x r s, I (x :: r) s → Ends (Goes (I r)) (f x s)) (xs : List α) {s0 : σ} (h0 : I xs s0) :
    Ends (I []) (forIn xs s0 f) :=
  forIn_suffix I (fun x r s h => (hstep x r s h).yields) xs h0

theorem Ends.loop {α σ} {Inv : σ → Prop} {f : α → σ → M (ForInStep σ)} (xs : List α) {s0 : σ} (h0 : Inv s0)
    (hf : ∀ x s, Inv s → Ends (Goes Inv) (f x s)) : Ends Inv (forIn xs s0 f) :=
  Ends.suffix (fun _ => Inv) (fun x _ s => hf x s) xs h0

@[simp] theorem map_ok {α β} (f : α → β) (a : α) : f <$> (Except.ok a : M α) = Except.ok (f a) := rfl

theorem map_eq_ok {α β} (f : α → β) (x : M α) (b : β) (h : f <$> x = Except.ok b) : ∃ a, x = Except.ok a ∧ f a = b := by
  cases x with
  | error e => cases h
  | ok a => exact ⟨a, rfl, by cases h; rfl⟩

/-- `for x in xs: yield g(x)` at the end of a generator -/
theorem Ends.yield_map {α β} {Q : List β → Prop} {xs : List α} (g : α → β) {init : List β} (h : Q (init ++ xs.map g)) :
    Ends Q (forIn xs init (fun x acc => (Pure.pure (ForInStep.yield (acc ++ [g x])) : M _)) >>= fun s => Pure.pure s) :=
  -- `show`: the body is written with `Pure.pure` here, with `Except.ok` in `forIn_ok_yield_map`
  ⟨_, by rw [show (forIn xs init fun x acc => (Pure.pure (ForInStep.yield (acc ++ [g x])) : M _)) = _ from
    forIn_ok_yield_map xs g init]; rfl, h⟩

theorem Ends.yield_all {α} {Q : List α → Prop} {xs init : List α} (h : Q (init ++ xs)) :
    Ends Q (forIn xs init (fun x acc => (Pure.pure (ForInStep.yield (acc ++ [x])) : M _)) >>= fun s => Pure.pure s) :=
  Ends.yield_map id (by rwa [List.map_id])

theorem listGetItem_ok {α} (xs : List α) (i : Int) (h0 : 0 ≤ i) (h1 : i < len xs) :
    ∃ a, listGetItem xs i = Except.ok a ∧ xs.drop i.toNat = a :: xs.drop (i.toNat + 1) := by
  obtain ⟨n, rfl⟩ := Int.eq_ofNat_of_zero_le h0
  have hn : n < xs.length := by simpa [len] using h1
  exact ⟨_, listGetItem_natCast xs n hn, List.drop_eq_getElem_cons hn⟩

/-- the state a loop body hands on -/
def stepVal {β} : ForInStep β → β
  | .yield b => b
  | .done b => b
@[simp] theorem stepVal_yield {β} (b : β) : stepVal (ForInStep.yield b) = b := rfl
@[simp] theorem stepVal_pure_yield {β} (b : β) : stepVal (pure (ForInStep.yield b) : Id (ForInStep β)) = b := rfl

/-- if every iteration appends something to the list and never stops the loop — `f x acc = yield (acc ++ (what f x
appends to []))` — the loop appends the concatenation of what the iterations append -/
theorem forIn_id_append {α β} (xs : List α) (f : α → List β → Id (ForInStep (List β)))
    (hf : ∀ x acc, f x acc = pure (ForInStep.yield (acc ++ stepVal (f x [])))) (init : List β) :
    forIn xs init f = (pure (init ++ xs.flatMap (fun x => stepVal (f x []))) : Id (List β)) := by
  induction xs generalizing init with
  | nil => simp
  | cons x r ih =>
    rw [List.forIn_cons, hf]
    simp [ih]

/-- a loop (in a function that cannot raise) whose every iteration goes on — `f x acc = yield (…)`, whatever the
shape of the body — is the fold of what an iteration leaves -/
theorem forIn_id_step {α β} (xs : List α) (f : α → β → Id (ForInStep β))
    (hf : ∀ x acc, f x acc = pure (ForInStep.yield (stepVal (f x acc)))) (init : β) :
    forIn xs init f = (pure (xs.foldl (fun acc x => stepVal (f x acc)) init) : Id β) :=
  (congrArg (forIn xs init) (funext fun x => funext (hf x))).trans (List.forIn_pure_yield_eq_foldl ..)

/-- discharges the body hypothesis of `forIn_id_step`: split the body's `if`s / `match`es, every leaf yields -/
macro "py_yields" : tactic => `(tactic| (
  intro x acc
  (repeat' split) <;> first | rfl | (simp [S2T.Py.Units.stepVal, pure]; done) | fail))

theorem flatMap_ite_singleton {α β} (p : α → Prop) [DecidablePred p] (g : α → β) (l : List α) :
    l.flatMap (fun x => if p x then [g x] else []) = (l.filter (fun x => decide (p x))).map g := by
  induction l with
  | nil => rfl
  | cons x r ih => by_cases h : p x <;> simp [h, ih]

theorem flatMap_ite_singleton' {α β} (p : α → Prop) [DecidablePred p] (g : α → β) (l : List α) :
    l.flatMap (fun x => if p x then [] else [g x]) = (l.filter (fun x => !decide (p x))).map g := by
  induction l with
  | nil => rfl
  | cons x r ih => by_cases h : p x <;> simp [h, ih]

theorem flatMap_ite_singletons {α β} (p : α → Prop) [DecidablePred p] (g h : α → β) (l : List α) :
    l.flatMap (fun x => if p x then [g x] else [h x]) = l.map (fun x => if p x then g x else h x) := by
  induction l with
  | nil => rfl
  | cons x r ih => by_cases hp : p x <;> simp [hp, ih]

/-- discharges the body hypothesis of `forIn_id_append`: split the body's `if`s, every leaf appends -/
macro "py_appends" : tactic => `(tactic| (
  intro x acc
  (repeat' split) <;> first | rfl | (simp [S2T.Py.Units.stepVal, S2T.Py.listAppend, pure]; done) | fail))

section dict
variable {κ β : Type} [BEq κ] [LawfulBEq κ]

theorem lookup_dSet (k k' : κ) (v : β) (d : List (κ × β)) :
    (dSet k v d).lookup k' = if k' == k then some v else d.lookup k' := by
  induction d with
  | nil =>
    by_cases h : (k' == k) = true <;> simp [dSet, List.lookup, h]
  | cons kv r ih =>
    obtain ⟨k0, v0⟩ := kv
    by_cases h0 : (k0 == k) = true
    · have e : k0 = k := by simpa using h0
      subst e
      by_cases h1 : (k' == k0) = true <;> simp [dSet, List.lookup, h1]
    · by_cases h1 : (k' == k0) = true
      · have e : k' = k0 := by simpa using h1
        subst e
        have h2 : (k' == k) = false := by simpa using h0
        simp [dSet, List.lookup, h0]
      · simp [dSet, List.lookup, h0, h1, ih]

variable {α : Type}

/-- after `if k not in d: d[k] = []` the lookup `d[k]` succeeds and gives `d.get(k, [])` of the dict before -/
theorem group_body_lookup (key : κ) (d : List (κ × List α)) :
    dGetItem (if (!dContains d key) = true then dSet key [] d else d) key = Except.ok (dGetD d key []) := by
  unfold dContains dGetItem dGetD
  cases hl : d.lookup key with
  | none => simp [lookup_dSet]
  | some v => simp [hl]

/-- one iteration of the group-by loop `for x in xs: k = key(x); if k not in d: d[k] = []; d[k].append(x)` as the
translation writes it: it never raises (the look-up finds the entry made just before) and appends `x` to what is found
under its key; a dictionary is only ever asked, so that says all -/
theorem group_body (key : α → κ) (x : α) (d : List (κ × List α)) :
    Ends (Goes fun d' => ∀ k, dGetD d' k [] = dGetD d k [] ++ if key x == k then [x] else [])
      (if (!dContains d (key x)) = true then
        dGetItem (dSet (key x) [] d) (key x) >>= fun l =>
          pure (ForInStep.yield (dSet (key x) (l ++ [x]) (dSet (key x) [] d)))
      else dGetItem d (key x) >>= fun l => pure (ForInStep.yield (dSet (key x) (l ++ [x]) d)) : M _) := by
  unfold dContains dGetItem
  cases h : d.lookup (key x)
  -- `case'`, not `case`: the `?_` of each branch stays open, so that the one script under `all_goals` closes both
  case' none => refine ⟨_, by simp [lookup_dSet]; rfl, _, rfl, fun k => ?_⟩
  case' some v => refine ⟨_, by simp; rfl, _, rfl, fun k => ?_⟩
  all_goals
    by_cases hk : k = key x
    · subst hk; simp [dGetD, lookup_dSet, h]
    · simpa [dGetD, lookup_dSet, hk] using fun e => hk e.symm

end dict

theorem Ends.groupBy {κ α : Type} [BEq κ] (key : α → κ) {f : α → List (κ × List α) → M (ForInStep (List (κ × List α)))}
    (hf : ∀ x d, Ends (Goes fun d' => ∀ k, dGetD d' k [] = dGetD d k [] ++ if key x == k then [x] else []) (f x d))
    (xs : List α) : Ends (fun d => ∀ k, dGetD d k [] = xs.filter (fun x => key x == k)) (forIn xs [] f) := by
  have := Ends.suffix (fun r d => ∀ k, dGetD d k [] ++ r.filter (fun x => key x == k) = xs.filter (fun x => key x == k))
    (fun x r d hI => by
      obtain ⟨_, h1, d', rfl, h2⟩ := hf x d
      exact ⟨_, h1, d', rfl, fun k => by rw [h2, ← hI k, List.filter_cons]; split <;> simp⟩) xs (s0 := []) (fun k => rfl)
  simpa using this

theorem orD_one_eq_pageOr1 (o : Option Int) : orD o 1 = pageOr1 o := by
  cases o with
  | none => rfl
  | some n => simp [orD, pageOr1, truthy]

theorem filter_page_length {α} (pn : α → Option Int) (l : List α) (k : Nat) :
    (l.filter (fun x => orD (pn x) 1 == (k : Int))).length = countOnPage (l.map pn) k := by
  induction l with
  | nil => rfl
  | cons x r ih =>
    simp only [countOnPage, List.map_cons, List.filter_cons, orD_one_eq_pageOr1] at ih ⊢
    by_cases h : pageOr1 (pn x) = (k : Int)
    · simp [h, ih]
    · simp [h, ih]

/-- `filter_page_length` at page 1 with the literal `(1 : Int)`, which is what `simp` meets at the single-unit branches (not
`((1 : Nat) : Int)`) -/
theorem filter_page_length_one {α} (pn : α → Option Int) (l : List α) :
    (l.filter (fun x => orD (pn x) 1 == 1)).length = countOnPage (l.map pn) 1 := by
  simpa using filter_page_length pn l 1

/-- what one iteration of a search loop does at position `i`: stop there, or go on with `None` -/
def Finds (i : Nat) (r : M (ForInStep (Option Nat))) : Prop :=
  r = Except.ok (ForInStep.done (some i)) ∨ r = Except.ok (ForInStep.yield none)

theorem Finds.found (i : Nat) : Finds i (pure (ForInStep.done (some i))) := Or.inl rfl
theorem Finds.next (i : Nat) : Finds i (pure (ForInStep.yield none)) := Or.inr rfl
theorem Finds.ite {i : Nat} {c : Prop} [Decidable c] {a b : M (ForInStep (Option Nat))} (ha : Finds i a) (hb : Finds i b) :
    Finds i (if c then a else b) := by
  split <;> assumption

theorem mem_zipIdx_lt {α} (us : List α) (q : α × Nat) (h : q ∈ us.zipIdx) : q.2 < us.length := by
  have := List.mem_zipIdx h
  omega

theorem Ends.search {α} {f : α × Nat → Option Nat → M (ForInStep (Option Nat))} (hf : ∀ u i, Finds i (f (u, i) none))
    (us : List α) : Ends (fun r => ∀ i, r = some i → i < us.length) (forIn (withIndex us) none f) := by
  suffices h : ∀ (l : List (α × Nat)), (∀ q ∈ l, q.2 < us.length) →
      Ends (fun r => ∀ i, r = some i → i < us.length) (forIn l none f) from h _ (mem_zipIdx_lt us)
  intro l hl
  induction l with
  | nil => exact ⟨none, rfl, by intro i hi; cases hi⟩
  | cons q t ih =>
    rcases hf q.1 q.2 with h | h
    · exact ⟨some q.2, by simp [List.forIn_cons, h], by intro i hi; cases hi; exact hl q (by simp)⟩
    · obtain ⟨r, hr, hlt⟩ := ih (fun q' hq' => hl q' (by simp [hq']))
      exact ⟨r, by simp [List.forIn_cons, h, hr], hlt⟩

theorem refLast_ok {α} (us : List α) (h : us ≠ []) : refLast us = Except.ok (us.length - 1) := by
  cases us with
  | nil => exact absurd rfl h
  | cons a l => rfl
theorem refFirst_ok {α} (us : List α) (h : us ≠ []) : refFirst us = Except.ok 0 := by
  cases us with
  | nil => exact absurd rfl h
  | cons a l => rfl
theorem deref_ok {α} (us : List α) (i : Nat) (h : i < us.length) : deref us i = Except.ok us[i] := by
  simp [deref, List.getElem?_eq_getElem h]
theorem refModify_ok {α} (us : List α) (i : Nat) (f : α → α) (h : i < us.length) :
    refModify us i f = Except.ok (us.modify i f) := by
  simp [refModify, h]
theorem refFindLast_lt {α} (p : α → Bool) (us : List α) (i : Nat) (h : refFindLast p us = some i) : i < us.length := by
  unfold refFindLast at h
  cases hf : us.zipIdx.reverse.find? (fun q => p q.1) with
  | none => simp [hf] at h
  | some q =>
    simp [hf] at h
    have hm := List.mem_of_find?_eq_some hf
    rw [List.mem_reverse] at hm
    have := mem_zipIdx_lt us q hm
    omega

theorem refFindLast_getD_lt {α} (p : α → Bool) (us : List α) (h : 0 < us.length) :
    (refFindLast p us).getD (us.length - 1) < us.length := by
  cases hr : refFindLast p us with
  | none => simp; omega
  | some i => simpa using refFindLast_lt p us i hr

theorem map_modify_view {α β} (v : α → β) (f : α → α) (hv : ∀ u, v (f u) = v u) (us : List α) (i : Nat) :
    (us.modify i f).map v = us.map v := by
  induction us generalizing i with
  | nil => simp
  | cons a l ih =>
    cases i with
    | zero => simp [hv]
    | succ k => simp [ih]

/-- what an attachment loop keeps: the views of the units, and that there is at least one -/
structure attachInv {α β} (v : α → β) (V : List β) (us : List α) : Prop where
  views : us.map v = V
  ne : us ≠ []

theorem attachInv.pos {α β} {v : α → β} {V : List β} {us : List α} (hI : attachInv v V us) : 0 < us.length :=
  List.length_pos_iff.mpr hI.ne

section attach
variable {α β : Type} (v : α → β) (V : List β) (us : List α)

/-- `us[i].attr.append(x)`: an iteration that ends with it keeps the invariant -/
theorem attach_step (i : Nat) (f : α → α) (hI : attachInv v V us) (hi : i < us.length) (hv : ∀ u, v (f u) = v u) :
    Ends (Goes (attachInv v V)) (refModify us i f >>= fun a => pure (ForInStep.yield a)) := by
  refine ⟨_, by rw [refModify_ok us i f hi]; rfl, us.modify i f, rfl, ?_, ?_⟩
  · rw [map_modify_view v f hv]; exact hI.views
  · exact mt List.modify_eq_nil_iff.mp hI.ne

/-- `(r or us[-1]).attr.append(x)` -/
theorem attach_step_or (r : Option Nat) (f : α → α) (hI : attachInv v V us)
    (hr : ∀ i, r = some i → i < us.length) (hv : ∀ u, v (f u) = v u) :
    Ends (Goes (attachInv v V))
      (refOr r (refLast us) >>= fun i => refModify us i f >>= fun a => pure (ForInStep.yield a)) := by
  have hpos := hI.pos
  cases r with
  | none => rw [refOr, refLast_ok us hI.ne]; exact attach_step v V us _ f hI (by omega) hv
  | some i => exact attach_step v V us i f hI (hr i rfl) hv

/-- `r.attr.append(g(r.other))`: the element is read, then changed -/
theorem attach_step_deref (j : Nat) (F : α → α → α) (hI : attachInv v V us) (hj : j < us.length)
    (hv : ∀ d u, v (F d u) = v u) :
    Ends (Goes (attachInv v V))
      (derefOpt us (some j) >>= fun d => refModifyOpt us (some j) (F d) >>= fun a => pure (ForInStep.yield a)) := by
  simp only [derefOpt, deref_ok us j hj, M.ok_bind', refModifyOpt]
  exact attach_step v V us j _ hI hj (hv _)

/-- the same for what a search loop found, in the branch where it found something -/
theorem attach_step_deref_found (r : Option Nat) (F : α → α → α) (hI : attachInv v V us) (hn : ¬ r.isNone = true)
    (hr : ∀ i, r = some i → i < us.length) (hv : ∀ d u, v (F d u) = v u) :
    Ends (Goes (attachInv v V))
      (derefOpt us r >>= fun d => refModifyOpt us r (F d) >>= fun a => pure (ForInStep.yield a)) := by
  cases r with
  | none => exact absurd rfl hn
  | some i => exact attach_step_deref v V us i F hI (hr i rfl) hv

/-- `r = (the last unit satisfying p, else units[-1])`, then `r.attr.append(g(r.other))` -/
theorem attach_step_deref_last (p : α → Bool) (F : α → α → α) (hI : attachInv v V us) (hv : ∀ d u, v (F d u) = v u) :
    Ends (Goes (attachInv v V))
      (refLast us >>= fun l => derefOpt us (some ((refFindLast p us).getD l)) >>= fun d =>
        refModifyOpt us (some ((refFindLast p us).getD l)) (F d) >>= fun a => pure (ForInStep.yield a)) := by
  rw [refLast_ok us hI.ne]
  exact attach_step_deref v V us _ F hI (refFindLast_getD_lt p us hI.pos) hv

end attach

end S2T.Py.Units
