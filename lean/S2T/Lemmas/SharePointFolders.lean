import S2T.Lemmas.SharePointStarts
/-! `list_files_filtered` as the generator it is (C18, core Lean only).  Every lazy function is made of four steps
(`liftG`, `G.prepend`, `thenG` and the model's `G.filter`); what is kept by the steps (`GenLaw`) and holds of the three
base calls holds of the functions. -/
namespace S2T.SP

/-- an eager call inside a generator: its error ends the generator -/
def liftG {α β} (m : St → R α) (f : α → St → G β) (s : St) : G β :=
  match m s with
  | (.error e, s) => (⟨[], some e⟩, s)
  | (.ok a, s) => f a s

/-- `xs` have been handed out before `g` starts -/
def G.prepend {α} (xs : List α) (g : G α) : G α := (⟨xs ++ g.1.out, g.1.err⟩, g.2)

/-- `yield from g`, then, unless it raised, go on as `f` -/
def thenG {α} (g f : St → G α) (s : St) : G α :=
  match g s with
  | (⟨a, some e⟩, s) => (⟨a, some e⟩, s)
  | (⟨a, none⟩, s) => (f s).prepend a

theorem pagesL_succ {α} (c : Cfg) (t : Transport) (proj : Item → Option α) (fuel : Nat) (u : Url) :
    pagesL c t proj (fuel + 1) u = liftG (getJson c t u) (fun o s =>
      match o.next with
      | none => (⟨o.value.filterMap proj, none⟩, s)
      | some u' => (pagesL c t proj fuel u' s).prepend (o.value.filterMap proj)) := by
  funext s
  rw [pagesL.eq_2, liftG]
  rcases getJson c t u s with ⟨_ | o, s1⟩
  · rfl
  · cases o.next <;> rfl

theorem forFoldersL_some (rec : Str → Str → St → G FileMeta) (parent name fid : Str) (rest : List (Str × Option Str)) :
    forFoldersL rec parent ((name, some fid) :: rest) =
      if fid.isEmpty then forFoldersL rec parent rest
      else thenG (rec fid (childPath parent name)) (forFoldersL rec parent rest) := by
  funext s
  simp only [forFoldersL]
  split
  · rfl
  · rw [thenG]
    rcases rec fid (childPath parent name) s with ⟨⟨a, _ | e⟩, s1⟩ <;> rfl

theorem walkL_succ (c : Cfg) (t : Transport) (site : Str) (fuel : Nat) (item : Option Str) (parent : Str) :
    walkL c t site (fuel + 1) item parent =
      thenG (pagesL c t (fileOf parent) fuel (.children site item))
        (liftG (getFolders c t fuel (.children site item)) (fun folders =>
          forFoldersL (fun fid p s => walkL c t site fuel (some fid) p s) parent folders)) := by
  funext s
  rw [walkL.eq_2, thenG]
  rcases pagesL c t (fileOf parent) fuel (.children site item) s with ⟨⟨files, _ | e⟩, s1⟩
  · simp only [liftG]
    rcases getFolders c t fuel (.children site item) s1 with ⟨_ | folders, s2⟩
    · simp [G.prepend]  -- `files ++ [] = files`: the folder pass failed before anything more was handed out
    · rfl
  · rfl

theorem walkAndFilterL_eq (c : Cfg) (t : Transport) (keep : FileMeta → Bool) (site : Str) (fuel : Nat) (path : Str)
    (h : path.isEmpty = false) :
    walkAndFilterL c t keep site fuel path = liftG (getFolderByPath c t site path) (fun o s =>
      match o with
      | none => (⟨[], none⟩, s)
      | some o => (walkL c t site fuel o.id (stripSlash path) s).filter keep) := by
  funext s
  simp only [walkAndFilterL, h, Bool.false_eq_true, if_false, liftG]
  rcases getFolderByPath c t site path s with ⟨_ | _ | o, s1⟩ <;> rfl

theorem forStartL_cons (c : Cfg) (t : Transport) (keep : FileMeta → Bool) (site : Str) (fuel : Nat) (p : Str)
    (ps : List Str) :
    forStartL c t keep site fuel (p :: ps) =
      thenG (walkAndFilterL c t keep site fuel p) (forStartL c t keep site fuel ps) := by
  funext s
  rw [forStartL.eq_2, thenG]
  rcases walkAndFilterL c t keep site fuel p s with ⟨⟨a, _ | e⟩, s1⟩ <;> rfl

theorem listFilteredL_eq (c : Cfg) (t : Transport) (iso lower glob) (f : Filter) (folders : List Str) (fuel : Nat) :
    listFilteredL c t iso lower glob f folders fuel = liftG (getSiteId c t) (fun site =>
      if folders.isEmpty then walkAndFilterL c t (matchesF c iso lower glob f) site fuel []
      else forStartL c t (matchesF c iso lower glob f) site fuel folders) := by
  funext s
  simp only [listFilteredL, liftG]
  rcases getSiteId c t s with ⟨_ | site, s1⟩
  · rfl
  · cases folders <;> rfl

theorem toR_ok {α} {g : G α} {xs : List α} {s' : St} (h : g.toR = (.ok xs, s')) : g = (⟨xs, none⟩, s') := by
  obtain ⟨⟨o, _ | e⟩, s⟩ := g
  · cases h; rfl
  · cases h

theorem toR_error {α} {g : G α} {e : Err} (h : g.toR.1 = .error e) : g.1.err = some e := by
  obtain ⟨⟨o, _ | e'⟩, s⟩ := g
  · cases h
  · cases h; rfl

theorem toR_liftG {α β} (m : St → R α) (f : α → St → G β) (s : St) :
    (liftG m f s).toR = bindR m (fun a s => (f a s).toR) s := by
  unfold liftG bindR
  rcases m s with ⟨_ | a, s1⟩ <;> rfl

theorem toR_prepend {α} (xs : List α) (g : G α) : (g.prepend xs).toR = mapR (xs ++ ·) g.toR := by
  rcases g with ⟨⟨o, _ | e⟩, s⟩ <;> rfl

theorem toR_filter {α} (keep : α → Bool) (g : G α) : (g.filter keep).toR = mapR (·.filter keep) g.toR := by
  rcases g with ⟨⟨o, _ | e⟩, s⟩ <;> rfl

theorem toR_thenG {α} (g f : St → G α) (s : St) :
    (thenG g f s).toR = bindR (fun s => (g s).toR) (fun a s => mapR (a ++ ·) (f s).toR) s := by
  unfold thenG bindR
  dsimp only
  rcases g s with ⟨⟨a, _ | e⟩, s1⟩
  · exact toR_prepend a (f s1)
  · rfl

theorem pagesL_toR {α} (c : Cfg) (t : Transport) (proj : Item → Option α) :
    ∀ fuel u s, (pagesL c t proj fuel u s).toR = pagesWith c t proj fuel u s
  | 0, _, _ => rfl
  | fuel + 1, u, s => by
    rw [pagesL_succ, pagesWith_succ, toR_liftG]
    congr 1
    funext o s
    cases o.next with
    | none => rfl
    | some u' => exact (toR_prepend _ _).trans (congrArg _ (pagesL_toR c t proj fuel u' s))

theorem forFoldersL_toR {recL : Str → Str → St → G FileMeta} {rec : Str → Str → St → R (List FileMeta)}
    (hrec : ∀ fid p s, (recL fid p s).toR = rec fid p s) (parent : Str) :
    ∀ fs s, (forFoldersL recL parent fs s).toR = forFolders rec parent fs s
  | [], _ => rfl
  | (_, none) :: rest, s => forFoldersL_toR hrec parent rest s
  | (name, some fid) :: rest, s => by
    rw [forFoldersL_some, forFolders_some]
    split
    · exact forFoldersL_toR hrec parent rest s
    · rw [toR_thenG]
      simp only [hrec, forFoldersL_toR hrec parent rest]

theorem walkL_toR (c : Cfg) (t : Transport) (site : Str) :
    ∀ fuel item parent s, (walkL c t site fuel item parent s).toR = walk c t site fuel item parent s
  | 0, _, _, _ => rfl
  | fuel + 1, item, parent, s => by
    rw [walkL_succ, walk_succ, toR_thenG]
    simp only [pagesL_toR, toR_liftG, listPaginated,
      forFoldersL_toR (rec := fun fid p s => walk c t site fuel (some fid) p s)
        (fun fid p s => walkL_toR c t site fuel (some fid) p s)]

/-- `QR` (eager calls) and `QG` (generators) relate two runs started in the same state - below, the runs of one function
    against two transports - and are kept by the steps a generator is made of.  A property of ONE run is the instance
    that ignores the second transport (`RunLaw.gen`); "same run, or stopped in an error after a prefix" is `relLaw`.
    A further property proves its `GenLaw` and the three base facts `hJ`, `hF`, `hS` of `listFilteredL_law` by going
    through `getJson`, `getFolderByPath`, `getSiteId`; everything above those three is `listFilteredL_law`. -/
structure GenLaw (QR : ∀ {α : Type}, St → R α → R α → Prop) (QG : ∀ {α : Type}, St → G α → G α → Prop) : Prop where
  ret : ∀ {α} (xs : List α) (s : St), QG s (⟨xs, none⟩, s) (⟨xs, none⟩, s)
  fuel : ∀ {α} (s : St), QG (α := α) s (⟨[], some .outOfFuel⟩, s) (⟨[], some .outOfFuel⟩, s)
  lift : ∀ {α β} {m m' : St → R α} {f f' : α → St → G β}, (∀ s, QR s (m s) (m' s)) →
    (∀ a s, QG s (f a s) (f' a s)) → ∀ s, QG s (liftG m f s) (liftG m' f' s)
  seq : ∀ {α} {g g' f f' : St → G α}, (∀ s, QG s (g s) (g' s)) → (∀ s, QG s (f s) (f' s)) →
    ∀ s, QG s (thenG g f s) (thenG g' f' s)
  prepend : ∀ {α} {s : St} {g g' : G α} (xs : List α), QG s g g' → QG s (g.prepend xs) (g'.prepend xs)
  filter : ∀ {α} {s : St} {g g' : G α} (keep : α → Bool), QG s g g' → QG s (g.filter keep) (g'.filter keep)
  toR : ∀ {α} {s : St} {g g' : G α}, QG s g g' → QR s g.toR g'.toR

theorem RunLaw.gen {Q : ∀ {α : Type}, St → R α → Prop} (h : RunLaw Q) :
    GenLaw (fun {_} s x _ => Q s x) (fun {_} s g _ => Q s g.toR) where
  ret xs s := h.ret xs s
  fuel s := h.fuel s
  lift hm hf s := by rw [toR_liftG]; exact h.bindR hm hf s
  seq hg hf s := by rw [toR_thenG]; exact h.bindR hg (fun a s => h.mapR _ (hf s)) s
  prepend xs hg := by rw [toR_prepend]; exact h.mapR _ hg
  filter keep hg := by rw [toR_filter]; exact h.mapR _ hg
  toR hg := hg

section lawG
variable {QR : ∀ {α : Type}, St → R α → R α → Prop} {QG : ∀ {α : Type}, St → G α → G α → Prop}
  {c : Cfg} {t t' : Transport}

theorem pagesL_law (h : GenLaw QR QG) (hJ : ∀ u s, QR s (getJson c t u s) (getJson c t' u s)) {α}
    (proj : Item → Option α) : ∀ fuel u s, QG s (pagesL c t proj fuel u s) (pagesL c t' proj fuel u s)
  | 0, _, s => h.fuel s
  | fuel + 1, u, s => by
    rw [pagesL_succ, pagesL_succ]
    refine h.lift (hJ u) (fun o s => ?_) s
    cases o.next with
    | none => exact h.ret _ _
    | some u' => exact h.prepend _ (pagesL_law h hJ proj fuel u' s)

theorem forFoldersL_law (h : GenLaw QR QG) {rec rec' : Str → Str → St → G FileMeta}
    (hrec : ∀ fid p s, QG s (rec fid p s) (rec' fid p s)) (parent : Str) :
    ∀ fs s, QG s (forFoldersL rec parent fs s) (forFoldersL rec' parent fs s)
  | [], s => h.ret _ _
  | (_, none) :: rest, s => forFoldersL_law h hrec parent rest s
  | (name, some fid) :: rest, s => by
    rw [forFoldersL_some, forFoldersL_some]
    split
    · exact forFoldersL_law h hrec parent rest s
    · exact h.seq (hrec fid _) (forFoldersL_law h hrec parent rest) s

theorem walkL_law (h : GenLaw QR QG) (hJ : ∀ u s, QR s (getJson c t u s) (getJson c t' u s)) (site : Str) :
    ∀ fuel item parent s, QG s (walkL c t site fuel item parent s) (walkL c t' site fuel item parent s)
  | 0, _, _, s => h.fuel s
  | fuel + 1, item, parent, s => by
    rw [walkL_succ, walkL_succ]
    refine h.seq (pagesL_law h hJ _ fuel _) (h.lift (fun s => ?_) (fun folders =>
      forFoldersL_law h (fun fid p s => walkL_law h hJ site fuel (some fid) p s) parent folders)) s
    -- `_get_folders_from_url` is not a generator: it is `list(·)` of the paging loop
    have := h.toR (pagesL_law h hJ folderOf fuel (.children site item) s)
    rwa [pagesL_toR, pagesL_toR] at this

theorem walkAndFilterL_law (h : GenLaw QR QG) (hJ : ∀ u s, QR s (getJson c t u s) (getJson c t' u s))
    (hF : ∀ site path s, QR s (getFolderByPath c t site path s) (getFolderByPath c t' site path s))
    (keep : FileMeta → Bool) (site : Str) (fuel : Nat) (path : Str) (s : St) :
    QG s (walkAndFilterL c t keep site fuel path s) (walkAndFilterL c t' keep site fuel path s) := by
  have hw := fun item parent s => h.filter keep (walkL_law h hJ site fuel item parent s)
  cases hp : path.isEmpty with
  | true => simp only [walkAndFilterL, hp, if_true]; exact hw none [] s
  | false =>
    rw [walkAndFilterL_eq _ _ _ _ _ _ hp, walkAndFilterL_eq _ _ _ _ _ _ hp]
    refine h.lift (hF site path) (fun o s => ?_) s
    cases o with
    | none => exact h.ret _ _
    | some o => exact hw _ _ s

theorem forStartL_law (h : GenLaw QR QG) (hJ : ∀ u s, QR s (getJson c t u s) (getJson c t' u s))
    (hF : ∀ site path s, QR s (getFolderByPath c t site path s) (getFolderByPath c t' site path s))
    (keep : FileMeta → Bool) (site : Str) (fuel : Nat) :
    ∀ (ps : List Str) (s : St), QG s (forStartL c t keep site fuel ps s) (forStartL c t' keep site fuel ps s)
  | [], s => h.ret _ _
  | p :: ps, s => by
    rw [forStartL_cons, forStartL_cons]
    exact h.seq (walkAndFilterL_law h hJ hF keep site fuel p) (forStartL_law h hJ hF keep site fuel ps) s

theorem listFilteredL_law (h : GenLaw QR QG) (hJ : ∀ u s, QR s (getJson c t u s) (getJson c t' u s))
    (hF : ∀ site path s, QR s (getFolderByPath c t site path s) (getFolderByPath c t' site path s))
    (hS : ∀ s, QR s (getSiteId c t s) (getSiteId c t' s))
    (iso lower glob) (f : Filter) (folders : List Str) (fuel : Nat) (s : St) :
    QG s (listFilteredL c t iso lower glob f folders fuel s) (listFilteredL c t' iso lower glob f folders fuel s) := by
  rw [listFilteredL_eq, listFilteredL_eq]
  refine h.lift hS (fun site s => ?_) s
  split
  · exact walkAndFilterL_law h hJ hF _ site fuel [] s
  · exact forStartL_law h hJ hF _ site fuel folders s

end lawG

/-! the eager listings are `list(·)` of the lazy ones, so what is kept on the way up is kept by them -/

theorem listAllL_eq (c : Cfg) (t : Transport) (fuel : Nat) :
    listAllL c t fuel = liftG (getSiteId c t) (fun site => walkL c t site fuel none []) := by
  funext s
  rw [listAllL, liftG]
  rcases getSiteId c t s with ⟨_ | site, s1⟩ <;> rfl

theorem listAllL_toR (c : Cfg) (t : Transport) (fuel : Nat) (s : St) : (listAllL c t fuel s).toR = listAll c t fuel s := by
  rw [listAllL_eq, toR_liftG, listAll_eq]
  simp only [walkL_toR]

section law
variable {Q : ∀ {α : Type}, St → R α → Prop} {c : Cfg} {t : Transport}

theorem listAll_law (h : RunLaw Q) (hJ : ∀ u s, Q s (getJson c t u s)) (hS : ∀ s, Q s (getSiteId c t s))
    (fuel : Nat) (s : St) : Q s (listAll c t fuel s) := by
  rw [← listAllL_toR, listAllL_eq, toR_liftG]
  exact h.bindR hS (fun site => walkL_law (t' := t) h.gen hJ site fuel none []) s

theorem listFiltered_law (h : RunLaw Q) (hJ : ∀ u s, Q s (getJson c t u s)) (hS : ∀ s, Q s (getSiteId c t s))
    (iso lower glob) (f : Filter) (fuel : Nat) (s : St) : Q s (listFiltered c t iso lower glob f fuel s) := by
  rw [listFiltered_eq]
  exact h.mapR _ (listAll_law h hJ hS fuel s)

theorem listAll_pres {P : St → Prop} (h : Pres c t P) (fuel : Nat) (s : St) : P s → P (listAll c t fuel s).2 :=
  listAll_law (Pres.law P) (getJson_pres h) (getSiteId_pres h) fuel s

theorem listFiltered_pres {P : St → Prop} (h : Pres c t P) (iso lower glob) (f : Filter) (fuel : Nat) (s : St) :
    P s → P (listFiltered c t iso lower glob f fuel s).2 :=
  listFiltered_law (Pres.law P) (getJson_pres h) (getSiteId_pres h) iso lower glob f fuel s

theorem listAll_tr (c : Cfg) (hc : c.checkObject = true) (fuel : Nat) (s : St) :
    TrBy Fine t s.log (listAll c t fuel s).1 (listAll c t fuel s).2.log :=
  listAll_law (TrBy.law Fine t) (getJson_tr c hc) (getSiteId_tr c hc) fuel s

theorem listFiltered_tr (c : Cfg) (hc : c.checkObject = true) (iso lower glob) (f : Filter) (fuel : Nat) (s : St) :
    TrBy Fine t s.log (listFiltered c t iso lower glob f fuel s).1 (listFiltered c t iso lower glob f fuel s).2.log :=
  listFiltered_law (TrBy.law Fine t) (getJson_tr c hc) (getSiteId_tr c hc) iso lower glob f fuel s

end law

section presStart
variable {c : Cfg} {t : Transport} {P : St → Prop}

theorem getFolderByPath_pres (h : Pres c t P) (site path : Str) (s : St) (hs : P s) :
    P (getFolderByPath c t site path s).2 := by
  have h1 := getJson_pres h (.byPath site (quote (stripSlash path))) s hs
  unfold getFolderByPath
  split
  · rename_i o s' he; rw [he] at h1; exact h1
  · rename_i e s' he; rw [he] at h1
    split <;> exact h1

theorem listFilteredL_pres (h : Pres c t P) (iso lower glob) (f : Filter) (folders : List Str) (fuel : Nat) (s : St) :
    P s → P (listFilteredL c t iso lower glob f folders fuel s).2 :=
  listFilteredL_law (t' := t) (Pres.law P).gen (getJson_pres h) (getFolderByPath_pres h) (getSiteId_pres h)
    iso lower glob f folders fuel s

end presStart

section healthyStart
variable (c : Cfg) (L : Lib) (n : Nat)

theorem getFolderByPath_healthy (raw : Str) (cs : List Str) (hne : cs ≠ []) (hv : ValidComps cs)
    (hraw : stripSlash raw = joinPath cs) :
    Yields (getFolderByPath c (healthy L n) srvSite raw)
      (match nodeAt (fun c nm => nm == c) cs (.folder [] L) with
        | some (.folder id _) => some { id := some id, hasFolder := true }
        | _ => none) := by
  intro s
  have hserve : serve L n (.byPath srvSite (quote (stripSlash raw))) =
      byPathAnswer (nodeAt (fun c nm => nm == c) cs (.folder [] L)) := by
    simp only [serve, if_true, hraw]
    exact serveByPath_spec L _ hne hv
  unfold getFolderByPath
  cases hnd : nodeAt (fun c nm => nm == c) cs (.folder [] L) with
  | none =>
    rw [hnd] at hserve
    obtain ⟨s1, h1⟩ := getJson_healthy_err c L n _ 404 hserve s
    rw [h1]
    exact ⟨s1, rfl⟩
  | some nd =>
    rw [hnd] at hserve
    obtain ⟨s1, h1⟩ := getJson_healthy c L n _ _ hserve s
    rw [h1]
    cases nd <;> exact ⟨s1, rfl⟩

theorem walkAndFilterL_healthy (keep : FileMeta → Bool) (hn : 0 < n) (hL : resolves L L = true)
    (fuel : Nat) (hf : L.size + 2 ≤ fuel) (raw : Str) (cs : List Str)
    (hst : Denotes raw cs) :
    Yields (fun s => (walkAndFilterL c (healthy L n) keep srvSite fuel raw s).toR) ((clientAt cs L).filter keep) := by
  obtain ⟨hv, hraw, hroot⟩ := hst
  have hw : ∀ (K : Lib) (item : Option Str) (parent : Str), K.size + 2 ≤ fuel → resolves L K = true →
      folderItems L item = some K.items →
      Yields (fun s => ((walkL c (healthy L n) srvSite fuel item parent s).filter keep).toR)
        ((clientListing parent K).filter keep) := by
    intro K item parent h1 h2 h3
    simp only [toR_filter, walkL_toR]
    exact (walk_healthy c L n hn fuel K item parent h1 h2 h3).mapR _
  cases cs with
  | nil =>
    rw [hroot rfl]
    simp only [walkAndFilterL, List.isEmpty_nil, if_true]
    exact hw L none [] hf hL rfl
  | cons c0 r =>
    have hrne : raw.isEmpty = false := by
      cases raw with
      | nil => exact absurd hraw.symm (joinPath_ne_nil _ (by simp) hv)
      | cons _ _ => rfl
    rw [walkAndFilterL_eq _ _ _ _ _ _ hrne]
    simp only [toR_liftG]
    refine (getFolderByPath_healthy c L n raw _ (by simp) hv hraw).bindR ?_
    simp only [clientAt, folderAt]
    cases hnd : nodeAt (fun c nm => nm == c) (c0 :: r) (.folder [] L) with
    | none => exact Yields.ret _
    | some nd =>
      cases nd with
      | file f => exact Yields.ret _
      | folder id k =>
        obtain ⟨hfind, hresk, hszk⟩ := resolves_nodeAt L _ (c0 :: r) _ id k (by simp) hnd [] L rfl hL
        rw [hraw]
        exact hw k (some id) _ (by omega) hresk (by simp [folderItems, hfind])

/-- the start folders are of any type `σ` that carries the string written (`raw`): `Start` is defined with the property -/
theorem forStartL_yields {t : Transport} {σ : Type} (raw : σ → Str) (v : σ → List FileMeta) (keep : FileMeta → Bool)
    (site : Str) (fuel : Nat) :
    ∀ (sts : List σ), (∀ st ∈ sts, Yields (fun s => (walkAndFilterL c t keep site fuel (raw st) s).toR) (v st)) →
      Yields (fun s => (forStartL c t keep site fuel (sts.map raw) s).toR) (sts.flatMap v)
  | [], _ => Yields.ret _
  | st :: rest, h => by
    simp only [List.map_cons, forStartL_cons, toR_thenG]
    exact (h st (by simp)).bindR
      ((forStartL_yields raw v keep site fuel rest (fun x hx => h x (List.mem_cons_of_mem _ hx))).mapR _)

theorem listFilteredL_healthy {σ : Type} (raw : σ → Str) (comps : σ → List Str) (iso lower glob) (f : Filter)
    (hn : 0 < n) (hL : resolves L L = true) (fuel : Nat) (hf : L.size + 2 ≤ fuel) (sts : List σ)
    (hsts : ∀ st ∈ sts, Denotes (raw st) (comps st))
    (s : St) (hs : Consistent s) :
    ∃ s', listFilteredL c (healthy L n) iso lower glob f (sts.map raw) fuel s =
        (⟨if sts = [] then (clientListing [] L).filter (matchesF c iso lower glob f)
          else sts.flatMap (fun st => (clientAt (comps st) L).filter (matchesF c iso lower glob f)), none⟩, s') := by
  obtain ⟨s1, h1⟩ := getSiteId_healthy c L n s hs
  unfold listFilteredL
  rw [h1]
  cases sts with
  | nil =>
    simp only [List.map_nil, List.isEmpty_nil, if_true]
    -- `toR_ok`: `list(gen)` returned `xs`, so the generator handed out `xs` and ended normally
    exact (walkAndFilterL_healthy c L n (matchesF c iso lower glob f) hn hL fuel hf [] []
      ⟨(by intro x hx; cases hx), rfl, fun _ => rfl⟩ s1).imp fun _ => toR_ok
  | cons st rest =>
    simp only [List.map_cons, List.isEmpty_cons, Bool.false_eq_true, if_false, reduceCtorEq]
    exact (forStartL_yields c raw _ _ srvSite fuel (st :: rest) (fun x hx => walkAndFilterL_healthy c L n
      (matchesF c iso lower glob f) hn hL fuel hf _ _ (hsts x hx)) s1).imp fun _ => toR_ok

end healthyStart

/-! The trace: with start folders a request answered "404" may be followed by more requests (the lookup of a
start folder takes it for "no such folder"); every other failed request is the last one. -/

/-- outcomes that carry HTTP status 404 -/
def IsNotFound (o : Outcome) : Prop := o = .httpError 404 ∨ ∃ b, o = .resp 404 b

/-- the request was answered normally, or by a 404 -/
def Fine' (o : Outcome) : Prop := Fine o ∨ IsNotFound o

def AllFine' (t : Transport) (l : List (Nat × Url)) : Prop := ∀ p ∈ l, Fine' (t p.1 p.2)

def Tr' (t : Transport) (l : List (Nat × Url)) {α : Type} (r : Except Err α) (l' : List (Nat × Url)) : Prop :=
  ∃ new, l' = new ++ l ∧
    match r with
    | .ok _ => AllFine' t new
    | .error e => (e = .outOfFuel ∧ AllFine' t new) ∨
        ∃ i u rest, new = (i, u) :: rest ∧ AllFine' t rest ∧ Raised (t i u) u e

section trStart
variable {t : Transport}

theorem Tr'_iff {α} {l l'} {r : Except Err α} : Tr' t l r l' ↔ TrBy Fine' t l r l' := by
  cases r <;> exact Iff.rfl

theorem Tr'.err_ty {α β} {l l'} {e : Err} (h : Tr' t l (α := α) (.error e) l') : Tr' t l (α := β) (.error e) l' := h

theorem fine_fine' (o : Outcome) (h : Fine o) : Fine' o := Or.inl h

theorem raised_notFound {o : Outcome} {u : Url} {e : Err} (h : Raised o u e) (hn : notFound e = true) :
    IsNotFound o := by
  cases o with
  | urlError => cases raised_urlError.mp h; cases hn
  | httpError code =>
    cases raised_httpError.mp h
    exact Or.inl (by rw [eq_of_beq hn])
  | resp st b =>
    cases hok : ok2xx st with
    | true => rcases (raised_resp_ok hok).mp h with rfl | rfl <;> cases hn
    | false =>
      cases (raised_resp_bad hok).mp h
      exact Or.inr ⟨b, by rw [eq_of_beq hn]⟩

theorem getFolderByPath_tr' (c : Cfg) (hc : c.checkObject = true) (site path : Str) (s : St) :
    TrBy Fine' t s.log (getFolderByPath c t site path s).1 (getFolderByPath c t site path s).2.log := by
  have h1 := getJson_tr (t := t) c hc (.byPath site (quote (stripSlash path))) s
  unfold getFolderByPath
  split
  · rename_i o s' he; rw [he] at h1; exact h1.weaken fine_fine'
  · rename_i e s' he; rw [he] at h1; simp only at h1
    split
    · rename_i hnf
      obtain ⟨new, hl, hr⟩ := h1
      refine ⟨new, hl, ?_⟩
      rcases hr with ⟨he', _⟩ | ⟨i, u, rest, hn, hf, hra⟩
      · subst he'; simp [notFound] at hnf
      · intro p hp
        rw [hn] at hp
        rcases List.mem_cons.mp hp with h | h
        · subst h; exact Or.inr (raised_notFound hra hnf)
        · exact Or.inl (hf p h)
    · exact h1.weaken fine_fine'

/-- the trace of a generator run: of what the consumer `list(gen)` sees -/
def TrG (t : Transport) (l : List (Nat × Url)) {α : Type} (g : G α) : Prop := TrBy Fine' t l g.toR.1 g.2.log

theorem listFilteredL_trG (c : Cfg) (hc : c.checkObject = true) (iso lower glob) (f : Filter)
    (folders : List Str) (fuel : Nat) (s : St) :
    TrG t s.log (listFilteredL c t iso lower glob f folders fuel s) :=
  listFilteredL_law (t' := t) (TrBy.law Fine' t).gen (fun u s => (getJson_tr c hc u s).weaken fine_fine')
    (getFolderByPath_tr' c hc) (fun s => (getSiteId_tr c hc s).weaken fine_fine') iso lower glob f folders fuel s

end trStart

/-! Lazy delivery.  Let `t` answer like `t'` except for one request (`DiffersAt`).  Started from the same state, a run
against `t` either is the run against `t'`, or it ends in an error after having yielded a prefix of what the run against
`t'` yields.  Both relations are kept by every step the functions are made of, so they hold of the functions. -/

/-- `t` answers every request like `t'` except the k-th, which it answers with something that is neither fine nor
    a 404 (and the client rejects non-object JSON) -/
structure DiffersAt (c : Cfg) (t t' : Transport) (k : Nat) : Prop where
  check : c.checkObject = true
  agree : ∀ i u, i ≠ k → t i u = t' i u
  bad : ∀ u, ¬ Fine' (t k u)

/-- same result, or `r` is an error `_get_folder_by_path` does not swallow -/
def RelR {α : Type} (r r' : R α) : Prop := r = r' ∨ ∃ e s, r = (.error e, s) ∧ notFound e = false

/-- same run, or `g` ended in such an error after a prefix of what `g'` yields -/
def RelG {α : Type} (g g' : G α) : Prop :=
  g = g' ∨ ((∃ e, g.1.err = some e ∧ notFound e = false) ∧ g.1.out <+: g'.1.out)

theorem RelG.filter {α} {g g' : G α} (keep : α → Bool) (h : RelG g g') : RelG (g.filter keep) (g'.filter keep) := by
  rcases h with h | ⟨⟨e, he, hn⟩, hp⟩
  · exact Or.inl (by rw [h])
  · exact Or.inr ⟨⟨e, he, hn⟩, hp.filter keep⟩

theorem RelR.bindR {α β} {m m' : St → R α} {f f' : α → St → R β} (hm : ∀ s, RelR (m s) (m' s))
    (hf : ∀ a s, RelR (f a s) (f' a s)) (s : St) : RelR (bindR m f s) (bindR m' f' s) := by
  unfold SP.bindR
  rcases hm s with h | ⟨e, s1, h, hn⟩ <;> rw [h]
  · rcases m' s with ⟨_ | a, s1⟩
    · exact Or.inl rfl
    · exact hf a s1
  · exact Or.inr ⟨e, s1, rfl, hn⟩

theorem RelG.prepend {α} {g g' : G α} (xs : List α) (h : RelG g g') : RelG (g.prepend xs) (g'.prepend xs) := by
  rcases h with h | ⟨he, hp⟩
  · exact Or.inl (by rw [h])
  · exact Or.inr ⟨he, (List.prefix_append_right_inj _).mpr hp⟩

theorem relLaw : GenLaw (fun {_} _ => RelR) (fun {_} _ => RelG) where
  ret _ _ := Or.inl rfl
  fuel _ := Or.inl rfl
  lift {_ _ _ m' _ _} hm hf s := by
    unfold liftG
    rcases hm s with h | ⟨e, s1, h, hn⟩ <;> rw [h]
    · rcases m' s with ⟨_ | a, s1⟩
      · exact Or.inl rfl
      · exact hf a s1
    · exact Or.inr ⟨⟨e, rfl, hn⟩, List.nil_prefix⟩
  seq {_ g g' _ _} hg hf s := by
    unfold thenG
    rcases hg s with h | ⟨⟨e, he, hn⟩, hp⟩
    · rw [h]
      rcases g' s with ⟨⟨a, _ | e⟩, s1⟩
      · exact (hf s1).prepend a
      · exact Or.inl rfl
    · -- `g` raised after a prefix of what `g'` yields, and whatever follows `g'` only appends to that
      rcases hr : g s with ⟨⟨a, ae⟩, s1⟩
      rw [hr] at he hp; simp only at he hp; subst he
      refine Or.inr ⟨⟨e, rfl, hn⟩, ?_⟩
      rcases hr' : g' s with ⟨⟨a', _ | e'⟩, s1'⟩ <;> rw [hr'] at hp
      · exact hp.trans (List.prefix_append _ _)
      · exact hp
  prepend xs h := h.prepend xs
  filter keep h := h.filter keep
  toR {_ _ g _} h := by
    rcases h with h | ⟨⟨e, he, hn⟩, _⟩
    · exact Or.inl (by rw [h])
    · exact Or.inr ⟨e, g.2, by unfold G.toR; simp only [he], hn⟩

section lazyPrefix
variable {c : Cfg} {t t' : Transport} {k : Nat}

theorem send_agree (h : DiffersAt c t t' k) (u : Url) (s : St) (hk : s.log.length ≠ k) :
    send c t u s = send c t' u s := by
  unfold send
  simp only [h.agree _ u hk]

/-- at the request that differs, a one-request call ends in an error that is not taken for "no such folder" -/
theorem OneReq.relR {α} (h : DiffersAt c t t' k) {u : Url} {s : St} {x x' : R α} (hk : s.log.length = k)
    (hx : OneReq t u s x) : RelR x x' := by
  obtain ⟨_, hx⟩ := hx
  rw [hk] at hx
  rcases x with ⟨e | a, s1⟩
  · refine Or.inr ⟨e, s1, rfl, ?_⟩
    cases hnf : notFound e with
    | false => rfl
    | true => exact absurd (Or.inr (raised_notFound hx hnf)) (h.bad u)
  · exact absurd (Or.inl hx) (h.bad u)

theorem fetchToken_rel (h : DiffersAt c t t' k) (s : St) : RelR (fetchToken c t s) (fetchToken c t' s) := by
  by_cases hk : s.log.length = k
  · exact (fetchToken_oneReq c h.check s).relR h hk
  · left; unfold fetchToken; rw [send_agree h .token s hk]

theorem ensureToken_rel (h : DiffersAt c t t' k) (s : St) : RelR (ensureToken c t s) (ensureToken c t' s) := by
  unfold ensureToken
  cases s.token with
  | some tok => exact Or.inl rfl
  | none => exact fetchToken_rel h s

theorem sendJson_rel (h : DiffersAt c t t' k) (u : Url) (s : St) : RelR (sendJson c t u s) (sendJson c t' u s) := by
  by_cases hk : s.log.length = k
  · exact (sendJson_oneReq c h.check u s).relR h hk
  · left; unfold sendJson; rw [send_agree h u s hk]

theorem getJson_rel (h : DiffersAt c t t' k) (u : Url) (s : St) : RelR (getJson c t u s) (getJson c t' u s) := by
  rw [getJson_eq, getJson_eq]
  exact RelR.bindR (ensureToken_rel h) (fun _ => sendJson_rel h u) s

theorem getFolderByPath_rel (h : DiffersAt c t t' k) (site path : Str) (s : St) :
    RelR (getFolderByPath c t site path s) (getFolderByPath c t' site path s) := by
  unfold getFolderByPath
  rcases getJson_rel h (.byPath site (quote (stripSlash path))) s with he | ⟨e, s1, he, hn⟩ <;> rw [he]
  · exact Or.inl rfl
  · exact Or.inr ⟨e, s1, by simp [hn], hn⟩

theorem getSiteId_rel (h : DiffersAt c t t' k) (s : St) : RelR (getSiteId c t s) (getSiteId c t' s) := by
  unfold getSiteId
  cases s.site with
  | some id => exact Or.inl rfl
  | none =>
    simp only
    rcases getJson_rel h .site s with he | ⟨e, s1, he, hn⟩ <;> rw [he]
    · exact Or.inl rfl
    · exact Or.inr ⟨e, s1, rfl, hn⟩

theorem listFilteredL_rel (h : DiffersAt c t t' k) (iso lower glob) (f : Filter) (folders : List Str) (fuel : Nat)
    (s : St) :
    RelG (listFilteredL c t iso lower glob f folders fuel s) (listFilteredL c t' iso lower glob f folders fuel s) :=
  listFilteredL_law relLaw (getJson_rel h) (getFolderByPath_rel h) (getSiteId_rel h) iso lower glob f folders fuel s

end lazyPrefix

end S2T.SP
