import S2T.Lemmas.SevenZip
import S2T.Lemmas.Varint
import S2T.Lemmas.Bits
import S2T.Spec.SevenZipWriter
import S2T.Lemmas.ListBasics
/-!
The 7z header round trip (C10, `Props/C10_Header.lean`): the model of the library's header parser
(`S2T/Model/SevenZip.lean`) applied to what the writer specification (`S2T/Spec/SevenZipWriter.lean`) emits.  A reader
that inverts a writer is `Reads reader bytes value`; the reader state is written with its eight fields explicit so that
such facts rewrite under `simp`.
-/
namespace S2T.SevenZip
open S2T.Spec.SevenZipWriter

/- the plumbing of the reader monad `M = StateT R (Except Err)`, unfolded by every `simp` below -/
attribute [local simp] bind StateT.bind Except.bind pure StateT.pure Except.pure get getThe MonadStateOf.get StateT.get
  modify modifyGet MonadStateOf.modifyGet StateT.modifyGet bad

theorem flatMap_length_const {α : Type} (l : List α) (f : α → Bytes) (k : Nat) (h : ∀ a, (f a).length = k) :
    (l.flatMap f).length = k * l.length := by
  simp [List.length_flatMap, h, List.map_const', Nat.mul_comm]

theorem ids_kEnd : specIds.kEnd = 0 := rfl
theorem ids_kHeader : specIds.kHeader = 1 := rfl
theorem ids_kArchiveProperties : specIds.kArchiveProperties = 2 := rfl
theorem ids_kAdditionalStreamsInfo : specIds.kAdditionalStreamsInfo = 3 := rfl
theorem ids_kMainStreamsInfo : specIds.kMainStreamsInfo = 4 := rfl
theorem ids_kFilesInfo : specIds.kFilesInfo = 5 := rfl
theorem ids_kPackInfo : specIds.kPackInfo = 6 := rfl
theorem ids_kUnpackInfo : specIds.kUnpackInfo = 7 := rfl
theorem ids_kSubStreamsInfo : specIds.kSubStreamsInfo = 8 := rfl
theorem ids_kSize : specIds.kSize = 9 := rfl
theorem ids_kCRC : specIds.kCRC = 10 := rfl
theorem ids_kFolder : specIds.kFolder = 11 := rfl
theorem ids_kCodersUnpackSize : specIds.kCodersUnpackSize = 12 := rfl
theorem ids_kNumUnpackStream : specIds.kNumUnpackStream = 13 := rfl
theorem ids_kEmptyStream : specIds.kEmptyStream = 14 := rfl
theorem ids_kEmptyFile : specIds.kEmptyFile = 15 := rfl
theorem ids_kName : specIds.kName = 17 := rfl
theorem ids_kWinAttributes : specIds.kWinAttributes = 21 := rfl
theorem ids_kEncodedHeader : specIds.kEncodedHeader = 23 := rfl
theorem ids_all : specIds.kEnd = 0 ∧ specIds.kHeader = 1 ∧ specIds.kArchiveProperties = 2 ∧ specIds.kAdditionalStreamsInfo = 3 ∧ specIds.kMainStreamsInfo = 4 ∧ specIds.kFilesInfo = 5 ∧ specIds.kPackInfo = 6 ∧ specIds.kUnpackInfo = 7 ∧ specIds.kSubStreamsInfo = 8 ∧ specIds.kSize = 9 ∧ specIds.kCRC = 10 ∧ specIds.kFolder = 11 ∧ specIds.kCodersUnpackSize = 12 ∧ specIds.kNumUnpackStream = 13 ∧ specIds.kEmptyStream = 14 ∧ specIds.kEmptyFile = 15 ∧ specIds.kName = 17 ∧ specIds.kWinAttributes = 21 ∧ specIds.kEncodedHeader = 23 := by decide

/-- `m` takes the bytes `w` off the front of the stream and returns `a`; no other field of the reader changes -/
@[reducible] def Reads {α} (m : M α) (w : Bytes) (a : α) : Prop :=
  ∀ (rest : Bytes) (pp ps fo fs fi f2f ef),
    m ⟨w ++ rest, pp, ps, fo, fs, fi, f2f, ef⟩ = .ok (a, ⟨rest, pp, ps, fo, fs, fi, f2f, ef⟩)

theorem Reads.pure {α} (a : α) : Reads (pure a) [] a := fun _ _ _ _ _ _ _ _ => rfl

theorem Reads.bind {α β} {m : M α} {f : α → M β} {w w' : Bytes} {a : α} {b : β} (h : Reads m w a) (h' : Reads (f a) w' b) :
    Reads (m >>= f) (w ++ w') b := by
  unfold Reads
  intros
  simp only [List.append_assoc, Bind.bind, StateT.bind, h _, Except.bind, h' _]

theorem Reads.map {α β} {m : M α} {w : Bytes} {a : α} (h : Reads m w a) (g : α → β) :
    Reads (do let x ← m; Pure.pure (g x)) w (g a) := by
  have := h.bind (f := fun x => Pure.pure (g x)) (Reads.pure (g a))
  rwa [List.append_nil] at this

theorem Reads.replicate {α β} {m : M β} {w : α → Bytes} {g : α → β} (xs : List α) (h : ∀ x ∈ xs, Reads m (w x) (g x)) :
    Reads (replicateM' m xs.length) (xs.flatMap w) (xs.map g) := by
  induction xs with
  | nil => exact Reads.pure _
  | cons x xs ih =>
    rw [List.forall_mem_cons] at h
    exact h.1.bind ((ih h.2).map _)

theorem Reads.runOn {α} {m : M α} {w : Bytes} {a : α} (h : Reads m w a) (rest : Bytes) : runOn m (w ++ rest) = .ok a := by
  simp [SevenZip.runOn, h rest]

theorem le_eq_leBytes (k n : Nat) : le k n = leBytes k n := by
  induction k generalizing n <;> simp [le, leBytes, *]

theorem number_eq (n : Nat) (h : n < 2 ^ 64) : number n = writeNumberK (S2T.C10.widthOf n) n := by
  have e0 : writeNumberK 0 n = [n] := by simp [writeNumberK, hiMask, leBytes]
  have e8 : writeNumberK 8 n = 0xFF :: le 8 n := by simp [writeNumberK, hiMask, Nat.div_eq_of_lt h, le_eq_leBytes]
  rw [S2T.C10.widthOf]
  -- the same nine-way choice on both sides; the branches for one to seven extra bytes agree by unfolding
  simp only [apply_ite (writeNumberK · n), e0, e8]
  rfl

theorem readNumber_number (n : Nat) (h : n < 2 ^ 64) : Reads readNumber (number n) n := by
  intro rest pp ps fo fs fi f2f ef
  rw [number_eq n h]
  exact readNumber_writeNumberK _ n rest (S2T.C10.widthOf_le n) (S2T.C10.widthOf_fit n h) ⟨[], pp, ps, fo, fs, fi, f2f, ef⟩

theorem number_ne_nil (n : Nat) : number n ≠ [] := by
  simp only [number, ne_eq, apply_ite (· = ([] : Bytes)), reduceCtorEq, ite_self, not_false_eq_true]

theorem readU8_cons (b : Nat) (rest : Bytes) (pp ps fo fs fi f2f ef) :
    readU8 ⟨b :: rest, pp, ps, fo, fs, fi, f2f, ef⟩ = .ok (b, ⟨rest, pp, ps, fo, fs, fi, f2f, ef⟩) := rfl

theorem le_length (k n : Nat) : (le k n).length = k := by
  induction k generalizing n <;> simp [le, *]

theorem leValue_le (k n : Nat) : leValue (le k n) = n % 256 ^ k := by
  induction k generalizing n with
  | zero => simp [le, leValue, Nat.mod_one]
  | succ k ih =>
    simp only [le, leValue, ih]
    rw [Nat.pow_succ, Nat.mul_comm (256 ^ k) 256, Nat.mod_mul]

theorem leValue_le_of_lt (k n : Nat) (h : n < 256 ^ k) : leValue (le k n) = n := by
  rw [leValue_le, Nat.mod_eq_of_lt h]

theorem le_lt (k n : Nat) : ∀ b ∈ le k n, b < 256 := by
  induction k generalizing n with
  | zero => simp [le]
  | succ k ih =>
    intro b hb
    simp only [le, List.mem_cons] at hb
    rcases hb with rfl | hb
    · exact Nat.mod_lt _ (by decide)
    · exact ih _ b hb

theorem startHeader_length (crc : Bytes → Nat) (n : Nat) (h : Bytes) : (startHeader crc n h).length = 32 := by
  simp [startHeader, startFields, magic, le_length]

theorem archive_length (crc : Bytes → Nat) (L : Layout) (body : Bytes) :
    (archive crc L body).length = 32 + body.length + (writeHeader L).length := by
  simp only [archive, List.length_append, startHeader_length]

theorem le_succ_add (k c n : Nat) (hc : c < 256) : le (k + 1) (c + 256 * n) = c :: le k n := by
  rw [le, Nat.add_mul_mod_self_left, Nat.mod_eq_of_lt hc, Nat.add_mul_div_left _ _ (by decide), Nat.div_eq_of_lt hc,
    Nat.zero_add]

theorem le_succ_last (k n : Nat) : le (k + 1) n = le k n ++ [n / 256 ^ k % 256] := by
  induction k generalizing n with
  | zero => simp [le]
  | succ k ih => rw [le, ih, le, Nat.div_div_eq_div_mul, Nat.pow_succ, Nat.mul_comm]; rfl

theorem readBytes_append (a : Bytes) : Reads (readBytes a.length) a a := by
  unfold Reads
  intros
  simp [readBytes]

theorem readU32_mod (v : Nat) : Reads readU32 (le 4 v) (v % 256 ^ 4) := by
  have := (readBytes_append (le 4 v)).map leValue
  rwa [le_length, leValue_le] at this

theorem readU32_le (v : Nat) (h : v < 2 ^ 32) : Reads readU32 (le 4 v) v := by
  have := readU32_mod v
  rwa [Nat.mod_eq_of_lt (by simpa using h)] at this

/-- the digests after `kCRC` with AllAreDefined = 1 -/
theorem readDefinedU32_map {α} (l : List α) (c : α → Nat) (h : ∀ x ∈ l, c x < 2 ^ 32) :
    Reads (readDefinedU32 (List.replicate l.length true)) (l.flatMap fun x => le 4 (c x)) (l.map fun x => some (c x)) := by
  induction l with
  | nil => exact Reads.pure _
  | cons x l ih =>
    rw [List.forall_mem_cons] at h
    exact (readU32_le _ h.1).bind ((ih h.2).map _)

theorem readDefinedU32_all (cs : List Nat) (h : ∀ c ∈ cs, c < 2 ^ 32) :
    Reads (readDefinedU32 (List.replicate cs.length true)) (cs.flatMap (le 4)) (cs.map some) := by
  simpa using readDefinedU32_map cs id h

theorem readBoolVector_allDefined (n : Nat) (rest : Bytes) (pp ps fo fs fi f2f ef) :
    readBoolVector n true ⟨1 :: rest, pp, ps, fo, fs, fi, f2f, ef⟩
      = .ok (List.replicate n true, ⟨rest, pp, ps, fo, fs, fi, f2f, ef⟩) := by
  simp [readBoolVector, readU8_cons]

/- The one-byte readers and the number reader are rewrite rules of every `simp` below as well.  The bounds handed to those
   `simp`s (`h.packPos`, `h.nfolders`, …) are there to discharge the side condition `n < 2^64` of `readNumber_number`; the
   `Reads` facts handed to them (`hsz`, `hfo`, `hcr`, `hA`, …) rewrite because `Reads` is reducible: each is an equation for
   every rest of the stream and every value of the other seven fields. -/
attribute [local simp] readU8_cons readBoolVector_allDefined readNumber_number

theorem two_pow_succ_half (k : Nat) : 2 ^ (k + 1) / 2 = 2 ^ k := by
  rw [Nat.pow_succ, Nat.mul_div_cancel _ (by decide)]

/-- the bit of weight `2^k` moves into the part above it -/
theorem bit_push (hi low k : Nat) (b : Bool) :
    2 ^ (k + 1) * hi + ((if b then 2 ^ k else 0) + low) = 2 ^ k * (2 * hi + (if b then 1 else 0)) + low := by
  rw [Nat.pow_succ]; cases b <;> simp [Nat.mul_add, Nat.mul_assoc] <;> omega

theorem bit_extract (hi low k : Nat) (b : Bool) (h : low < 2 ^ k) :
    ((2 ^ (k + 1) * hi + ((if b then 2 ^ k else 0) + low)) &&& 2 ^ k != 0) = b := by
  rw [and_two_pow_bne_zero, bit_push, Nat.testBit_two_pow_mul_add _ h]
  simp [Nat.testBit_zero]
  cases b <;> simp <;> omega

theorem bitsByte_lt : ∀ (c : List Bool) (k : Nat), c.length ≤ k → bitsByte c (2 ^ k / 2) < 2 ^ k
  | [], k, _ => Nat.pow_pos (by decide)
  | _ :: _, 0, h => by simp at h
  | b :: t, k + 1, h => by
    have ih := bitsByte_lt t k (by simpa using h)
    rw [two_pow_succ_half, bitsByte, Nat.pow_succ]
    split <;> omega

theorem readBits_fetch (n bv B : Nat) (s : Bytes) (pp ps fo fs fi f2f ef) :
    readBitsAux (n + 1) bv 0 ⟨B :: s, pp, ps, fo, fs, fi, f2f, ef⟩
      = readBitsAux (n + 1) B 0x80 ⟨s, pp, ps, fo, fs, fi, f2f, ef⟩ := by
  simp [readBitsAux]

theorem bitVector_cons (b : Bool) (t : List Bool) :
    bitVector (b :: t) = bitsByte ((b :: t).take 8) 0x80 :: bitVector ((b :: t).drop 8) := by
  rw [bitVector]

theorem bitVector_length (bs : List Bool) : (bitVector bs).length ≤ bs.length := by
  fun_induction bitVector bs with
  | case1 => exact Nat.le_refl _
  | case2 b r ih =>
    simp only [List.length_cons, List.length_drop] at ih ⊢
    omega

/-- the loop of `_read_boolean_vector` with `j` bits of the current byte still to come (weights `2^j / 2 …`; `j = 0`:
    the mask is exhausted and the next byte is fetched), on the bits `bs` a packer wrote -/
theorem readBits_at (bs : List Bool) : ∀ (j hi : Nat), j ≤ 8 →
    Reads (readBitsAux bs.length (2 ^ j * hi + bitsByte (bs.take j) (2 ^ j / 2)) (2 ^ j / 2)) (bitVector (bs.drop j)) bs := by
  induction bs with
  | nil => intro j hi _; rw [List.drop_nil, bitVector]; exact Reads.pure _
  | cons b t ih =>
    -- inside a byte: the bit of weight `2^k` is `b`; it moves into the part above and `k` bits are left
    have mid : ∀ k hi, k < 8 →
        Reads (readBitsAux (t.length + 1) (2 ^ (k + 1) * hi + bitsByte ((b :: t).take (k + 1)) (2 ^ k)) (2 ^ k))
          (bitVector (t.drop k)) (b :: t) := by
      intro k hi hk rest pp ps fo fs fi f2f ef
      have hpos : 2 ^ k ≠ 0 := Nat.ne_of_gt (Nat.pow_pos (by decide))
      have hlow : bitsByte (t.take k) (2 ^ k / 2) < 2 ^ k := bitsByte_lt _ k (by simp; omega)
      have hbit := bit_extract hi (bitsByte (t.take k) (2 ^ k / 2)) k b hlow
      simp only [readBitsAux, List.take_succ_cons, bitsByte, bind, StateT.bind, Except.bind, if_neg hpos, pure,
        StateT.pure, Except.pure, hbit]
      rw [bit_push, Nat.shiftRight_eq_div_pow, Nat.pow_one,
        ih k (2 * hi + (if b then 1 else 0)) (by omega) rest pp ps fo fs fi f2f ef]
    intro j hi hj
    cases j with
    | zero =>
      -- the byte is used up: the next bit comes from the next byte
      intro rest pp ps fo fs fi f2f ef
      have := mid 7 0 (by decide) rest pp ps fo fs fi f2f ef
      simp only [List.drop_zero, bitVector_cons, List.cons_append, List.length_cons]
      rw [show (2 ^ 0 / 2) = 0 by decide, readBits_fetch]
      simpa using this
    | succ k =>
      have := mid k hi (by omega)
      rwa [← two_pow_succ_half k] at this

theorem readBoolVector_bitVector (bs : List Bool) : Reads (readBoolVector bs.length false) (bitVector bs) bs := by
  simpa [readBoolVector, bitsByte] using readBits_at bs 0 0 (by decide)

/-- Unicode scalar value other than NUL -/
def CpOk (c : Nat) : Prop := c ≠ 0 ∧ c < 0x110000 ∧ ¬ (0xD800 ≤ c ∧ c < 0xE000)

theorem cpOk_of_nameOk {name : List Nat} (h : nameOk name = true) : name ≠ [] ∧ ∀ c ∈ name, CpOk c := by
  simp only [nameOk, Bool.and_eq_true, Bool.not_eq_true', List.isEmpty_eq_false_iff, List.all_eq_true, bne_iff_ne,
    decide_eq_true_eq, Bool.and_eq_false_imp, decide_eq_false_iff_not] at h
  refine ⟨h.1, fun c hc => ?_⟩
  have := h.2 c hc
  refine ⟨this.1.1, this.1.2, ?_⟩
  intro hh
  exact this.2 hh.1 hh.2

theorem readNameUnits_units (us : List Nat) (h : ∀ u ∈ us, u ≠ 0 ∧ u < 65536) (rest : Bytes) :
    readNameUnits (us.flatMap unitBytes ++ 0 :: 0 :: rest) = .ok (us, rest) := by
  induction us with
  | nil => simp [readNameUnits]
  | cons u us ih =>
    rw [List.forall_mem_cons] at h
    have hz : ¬ (u % 256 = 0 ∧ u / 256 = 0) := by omega
    have hv : u % 256 + 256 * (u / 256) = u := by omega
    simp only [List.flatMap_cons, unitBytes, List.cons_append, List.nil_append, readNameUnits, if_neg hz, ih h.2, hv]

theorem units_ok (name : List Nat) (h : ∀ c ∈ name, CpOk c) : ∀ u ∈ name.flatMap utf16Units, u ≠ 0 ∧ u < 65536 := by
  intro u hu
  obtain ⟨c, hc, huc⟩ := List.mem_flatMap.mp hu
  obtain ⟨c0, c1, c2⟩ := h c hc
  unfold utf16Units at huc
  split at huc
  · simp at huc; omega
  · simp at huc; omega

theorem decodeUtf16_units (name : List Nat) (h : ∀ c ∈ name, CpOk c) :
    decodeUtf16 (name.flatMap utf16Units) = name := by
  unfold decodeUtf16
  induction name with
  | nil => rfl
  | cons c cs ih =>
    rw [List.forall_mem_cons] at h
    obtain ⟨c0, c1, c2⟩ := h.1
    have ih' := ih h.2
    by_cases hb : c < 0x10000
    · have hns : ¬ (0xD800 ≤ c ∧ c < 0xDC00) := by omega
      simp only [List.flatMap_cons, utf16Units, if_pos hb, List.cons_append, List.nil_append, decodeUtf16Aux,
        if_neg hns, ih']
    · have h1 : 0xD800 ≤ 0xD800 + (c - 0x10000) / 0x400 ∧ 0xD800 + (c - 0x10000) / 0x400 < 0xDC00 := by omega
      have h2 : 0xDC00 ≤ 0xDC00 + (c - 0x10000) % 0x400 ∧ 0xDC00 + (c - 0x10000) % 0x400 < 0xE000 := by omega
      have hv : 0x10000 + (0xD800 + (c - 0x10000) / 0x400 - 0xD800) * 0x400 + (0xDC00 + (c - 0x10000) % 0x400 - 0xDC00) = c := by omega
      simp only [List.flatMap_cons, utf16Units, if_neg hb, List.cons_append, List.nil_append, decodeUtf16Aux, if_pos h1,
        if_pos h2, hv, ih']

theorem readNames_names (names : List (List Nat)) (h : ∀ n ∈ names, ∀ c ∈ n, CpOk c) (rest : Bytes) :
    readNames decodeUtf16 names.length (names.flatMap nameBytes ++ rest) = .ok (names, rest) := by
  induction names with
  | nil => simp [readNames]
  | cons n ns ih =>
    rw [List.forall_mem_cons] at h
    have := readNameUnits_units (n.flatMap utf16Units) (units_ok n h.1) (ns.flatMap nameBytes ++ rest)
    simp only [List.length_cons, List.flatMap_cons, nameBytes, List.append_assoc, List.cons_append, List.nil_append,
      readNames, this, ih h.2, decodeUtf16_units n h.1]

def coderOf : Method → Coder
  | .copy => ⟨[0x00], none⟩
  | .lzma p => ⟨[0x03, 0x01, 0x01], some p⟩
  | .lzma2 p => ⟨[0x21], some [p]⟩

theorem parseCoder_coder (m : Method) (hm : methodOk m = true) : Reads parseCoder (coderBytes m) (coderOf m, 1) := by
  unfold Reads
  intros
  cases m with
  | copy =>
    simp [parseCoder, coderBytes, coderOf, readBytes]
  | lzma p =>
    have hp : p.length = 5 := by simp [methodOk] at hm; exact hm.1
    -- `+arith` for the length test of `readBytes 3`, on a stream of length `_ + 1 + 1 + 1`
    simp +arith [parseCoder, coderBytes, coderOf, readBytes, readNumber_number p.length (by omega) _]
  | lzma2 q =>
    simp [parseCoder, coderBytes, coderOf, readBytes, readNumber_number 1 (by decide) _]

/-- the folder as `_parse_folder` leaves it: its one coder, no unpack size yet -/
def folder0 (f : FolderSpec) : Folder := { coders := [coderOf f.method], unpackSizes := [], numPackStreams := 1 }

theorem parseFolder_folder (f : FolderSpec) (hm : methodOk f.method = true) : Reads parseFolder (folderBytes f) (folder0 f) := by
  unfold Reads
  intros
  simp [parseFolder, folderBytes, folder0, readNumber_number 1 (by decide) _, replicateM', parseCoder_coder f.method hm _]

theorem readUnpackSizes_sizes (l : List FolderSpec) (hu : ∀ f ∈ l, f.unpackSize < 2 ^ 64) :
    Reads (readUnpackSizes (l.map folder0)) (l.flatMap fun f => number f.unpackSize)
      (l.map fun f => { folder0 f with unpackSizes := [f.unpackSize] }) := by
  induction l with
  | nil => exact Reads.pure _
  | cons f l ih =>
    rw [List.forall_mem_cons] at hu
    exact ((readNumber_number _ hu.1).map ([·])).bind ((ih hu.2).map _)

/-- what the header needs of the folders of a layout (all of it follows from `WellFormed`) -/
structure FoldersOk (L : Layout) : Prop where
  packPos : L.packPos < 2 ^ 64
  nfolders : L.folders.length < 2 ^ 64
  packSize : ∀ f ∈ L.folders, f.packSize < 2 ^ 64
  packCrc : ∀ f ∈ L.folders, f.packCrc < 2 ^ 32
  method : ∀ f ∈ L.folders, methodOk f.method = true
  unpack : ∀ f ∈ L.folders, f.unpackSize < 2 ^ 64
  crc : ∀ f ∈ L.folders, f.crc < 2 ^ 32
  count1 : ∀ f ∈ L.folders, f.count ≥ 1
  count2 : ∀ f ∈ L.folders, f.count < 2 ^ 64
  sizes : ∀ f ∈ L.folders, ∀ x ∈ f.sizes, x ≠ 0 ∧ x < 2 ^ 64
  subCrc : ∀ c ∈ subCrcs L, c < 2 ^ 32

theorem parsePackInfo_write (L : Layout) (h : FoldersOk L) (rest : Bytes) (pp ps fo fs fi f2f ef) :
    parsePackInfo specIds ⟨packInfo L ++ rest, pp, ps, fo, fs, fi, f2f, ef⟩
      = .ok (some (L.packPos + 32, L.folders.map (·.packSize)),
             ⟨rest, [L.packPos + 32], L.folders.map (·.packSize), fo, fs, fi, f2f, ef⟩) := by
  have hsz : Reads (replicateM' readNumber L.folders.length) (L.folders.flatMap fun f => number f.packSize)
      (L.folders.map (·.packSize)) := Reads.replicate _ fun f hf => readNumber_number _ (h.packSize f hf)
  have hcr := readDefinedU32_map L.folders (·.packCrc) h.packCrc
  unfold parsePackInfo packInfo
  cases L.opts.packCrc
  · simp [specIds, h.packPos, h.nfolders, hsz, headerOffset]
  · simp [specIds, h.packPos, h.nfolders, hsz, headerOffset, digests, List.flatMap_map, hcr]

/-- the folders as `_parse_unpack_info` leaves them -/
def foldersU (L : Layout) : List Folder :=
  L.folders.map fun f => { coders := [coderOf f.method], unpackSizes := [f.unpackSize],
                           crc := if L.opts.folderCrc then some f.crc else none, numPackStreams := 1 }

theorem setCrcs_all {α : Type} (l : List α) (g : α → Folder) (c : α → Nat) :
    setCrcs (l.map g) (l.map fun f => some (c f)) = l.map fun f => { g f with crc := some (c f) } := by
  induction l with
  | nil => rfl
  | cons f l ih => simp [setCrcs, ih]

theorem parseUnpackInfo_write (L : Layout) (h : FoldersOk L) (rest : Bytes) (pp ps fo fs fi f2f ef) :
    parseUnpackInfo specIds ⟨unpackInfo L ++ rest, pp, ps, fo, fs, fi, f2f, ef⟩
      = .ok (foldersU L, ⟨rest, pp, ps, foldersU L, fs, fi, f2f, ef⟩) := by
  have hfo := Reads.replicate L.folders fun f hf => parseFolder_folder f (h.method f hf)
  have hcr := readDefinedU32_map L.folders (·.crc) h.crc
  unfold parseUnpackInfo unpackInfo foldersU
  cases L.opts.folderCrc
  · simp [specIds, h.nfolders, hfo, readUnpackSizes_sizes L.folders h.unpack, folder0]
  · simp [specIds, h.nfolders, hfo, readUnpackSizes_sizes L.folders h.unpack, digests, List.flatMap_map, hcr, setCrcs_all,
      folder0]

/-- the folders as `_parse_substreams_info` leaves them -/
def foldersS (L : Layout) : List Folder :=
  L.folders.map fun f => { coders := [coderOf f.method], unpackSizes := [f.unpackSize],
                           crc := if L.opts.folderCrc then some f.crc else none, numStreams := f.count, numPackStreams := 1 }

theorem readNumStreams_counts {α : Type} (l : List α) (g : α → Folder) (c : α → Nat) (hc : ∀ f ∈ l, c f < 2 ^ 64) :
    Reads (readNumStreams (l.map g)) (l.flatMap fun f => number (c f)) (l.map fun f => { g f with numStreams := c f }) := by
  induction l with
  | nil => exact Reads.pure _
  | cons f l ih =>
    rw [List.forall_mem_cons] at hc
    exact (readNumber_number _ hc.1).bind ((ih hc.2).map _)

theorem readSubSizes_sizes (xs : List Nat) (hx : ∀ x ∈ xs, x < 2 ^ 64) (total : Int) :
    Reads (readSubSizes xs.length total) (xs.flatMap number) (xs, total - (xs.sum : Nat)) := by
  induction xs generalizing total with
  | nil => unfold Reads; intros; simp [readSubSizes]
  | cons x xs ih =>
    rw [List.forall_mem_cons] at hx
    unfold Reads
    intros
    simp only [List.length_cons, readSubSizes, List.flatMap_cons, List.append_assoc, bind, StateT.bind,
      readNumber_number _ hx.1 _, Except.bind, ih hx.2 (total - x) _, pure, StateT.pure, Except.pure, List.sum_cons]
    congr 3
    omega

theorem readFolderFileSizes_sizes {α : Type} (l : List α) (g : α → Folder) (sz : α → List Nat)
    (hu : ∀ f ∈ l, (g f).unpackSizes = [(sz f).sum]) (hn : ∀ f ∈ l, (g f).numStreams = (sz f).length)
    (hne : ∀ f ∈ l, sz f ≠ []) (hpos : ∀ f ∈ l, ∀ x ∈ sz f, x ≠ 0 ∧ x < 2 ^ 64) :
    Reads (readFolderFileSizes (l.map g)) (l.flatMap fun f => (sz f).dropLast.flatMap number) (l.flatMap sz) := by
  induction l with
  | nil => exact Reads.pure _
  | cons f l ih =>
    rw [List.forall_mem_cons] at hu hn hne hpos
    have hsub := readSubSizes_sizes (sz f).dropLast (fun x hx => (hpos.1 x (List.dropLast_subset _ hx)).2) ((sz f).sum : Nat)
    have hlen : (g f).numStreams - 1 = (sz f).dropLast.length := by simp [hn.1]
    have hsum := List.sum_dropLast_getLast (sz f) hne.1
    have hlast := (hpos.1 _ (List.getLast_mem hne.1)).1
    have hleft : ((((sz f).sum : Nat) : Int) - (((sz f).dropLast.sum : Nat) : Int)) = (((sz f).getLast hne.1 : Nat) : Int) := by omega
    have hgt : ((((sz f).getLast hne.1 : Nat) : Int)) > 0 := by omega
    unfold Reads
    intros
    simp only [List.map_cons, readFolderFileSizes, List.flatMap_cons, List.append_assoc, hu.1, List.getLast?_singleton, hlen,
      bind, StateT.bind, hsub _, Except.bind, hleft, if_pos hgt, Int.toNat_natCast, ih hu.2 hn.2 hne.2 hpos.2 _, pure,
      StateT.pure, Except.pure]
    rw [← List.append_assoc, List.dropLast_concat_getLast hne.1]

/-- what the reader (`known = true`: repaired, `false`: previous) needs of the SubStreamsInfo digests:
    none written, or as many as it counts -/
def DigestsOk (known : Bool) (L : Layout) : Prop :=
  subCrcs L = [] ∨ (subCrcs L).length = digestCount known (foldersS L)

theorem fileCrcs_length (f : FolderSpec) : f.fileCrcs.length = f.count := by
  simp [FolderSpec.fileCrcs, FolderSpec.count, FolderSpec.sizes]

theorem subCrcs_length (L : Layout) :
    (subCrcs L).length = (L.folders.map fun f => if L.opts.folderCrc && f.count == 1 then 0 else f.count).sum := by
  unfold subCrcs
  induction L.folders with
  | nil => rfl
  | cons f l ih =>
    simp only [List.flatMap_cons, List.length_append, List.map_cons, List.sum_cons, ih]
    split <;> simp [fileCrcs_length]

theorem digestCount_foldersS (known : Bool) (L : Layout) :
    digestCount known (foldersS L)
      = (L.folders.map fun f => if known && L.opts.folderCrc && f.count == 1 then 0 else f.count).sum := by
  unfold digestCount foldersS
  induction L.folders with
  | nil => rfl
  | cons f l ih =>
    simp only [List.map_cons, List.filter_cons, List.sum_cons, ← ih]
    cases known <;> cases L.opts.folderCrc <;> cases f.count == 1 <;> simp

/-- the repaired reader counts exactly the digests 7zFormat.txt stores — for EVERY layout -/
theorem digestsOk_fixed (L : Layout) : DigestsOk true L :=
  Or.inr (by rw [subCrcs_length, digestCount_foldersS]; simp only [Bool.true_and])

/-- the layouts whose SubStreamsInfo digests the reader cannot follow: folder CRCs are stored AND some folder holds
    one file while another holds several (then 7zFormat.txt stores digests for the latter's files only) -/
def mixedWithFolderCrc (L : Layout) : Bool :=
  L.opts.folderCrc && L.folders.any (·.count == 1) && L.folders.any (fun f => decide (f.count > 1))

/-- the previous reader counted one digest per substream: right only without that mixture -/
theorem digestsOk_legacy (L : Layout) (hc1 : ∀ f ∈ L.folders, f.count ≥ 1) (h : mixedWithFolderCrc L = false) :
    DigestsOk false L := by
  unfold DigestsOk
  rw [← List.length_eq_zero_iff, subCrcs_length, digestCount_foldersS]
  simp only [Bool.false_and, Bool.false_eq_true, if_false]
  cases hfc : L.opts.folderCrc
  · exact Or.inr (by simp)
  · simp only [mixedWithFolderCrc, hfc, Bool.true_and, Bool.and_eq_false_imp, List.any_eq_true, beq_iff_eq,
      List.any_eq_false, decide_eq_true_eq] at h
    by_cases hs : ∃ f ∈ L.folders, f.count = 1
    · -- some folder holds one file: then all do, and nothing is stored
      refine Or.inl ?_
      rw [List.map_congr_left (g := fun _ => 0) fun f hf => by
        have := h hs f hf
        have := hc1 f hf
        simp [show f.count = 1 by omega]]
      rw [List.map_const', List.sum_replicate_nat, Nat.mul_zero]
    · exact Or.inr (congrArg List.sum (List.map_congr_left fun f hf => by
        have : f.count ≠ 1 := fun h1 => hs ⟨f, hf, h1⟩
        simp [this]))

theorem unpackSize_of_count_one (l : List FolderSpec) (h : ∀ f ∈ l, f.count = 1) :
    l.map (·.unpackSize) = l.flatMap (·.sizes) := by
  induction l with
  | nil => rfl
  | cons f l ih =>
    rw [List.forall_mem_cons] at h
    obtain ⟨x, hx⟩ := List.length_eq_one_iff.mp h.1
    simp [← ih h.2, FolderSpec.unpackSize, hx]

theorem parseSubstreamsInfo_write (L : Layout) (h : FoldersOk L) (known : Bool) (hdig : DigestsOk known L)
    (rest : Bytes) (pp ps fs fi f2f ef) :
    parseSubstreamsInfo specIds known ⟨subStreamsBody L ++ rest, pp, ps, foldersU L, fs, fi, f2f, ef⟩
      = .ok ((), ⟨rest, pp, ps, foldersS L, L.folders.flatMap (·.sizes), fi, f2f, ef⟩) := by
  have hA : Reads (readNumStreams (foldersU L)) (L.folders.flatMap fun f => number f.count) (foldersS L) :=
    readNumStreams_counts L.folders _ (·.count) h.count2
  have hB : Reads (readFolderFileSizes (foldersS L)) (L.folders.flatMap fun f => f.sizes.dropLast.flatMap number)
      (L.folders.flatMap (·.sizes)) :=
    readFolderFileSizes_sizes L.folders _ (·.sizes) (fun f _ => rfl) (fun f _ => rfl)
      (fun f hf => by have := h.count1 f hf; unfold FolderSpec.count at this; intro h0; rw [h0] at this; simp at this) h.sizes
  have hD : (subCrcs L).isEmpty = false →
      Reads (readDefinedU32 (List.replicate (digestCount known (foldersS L)) true)) ((subCrcs L).flatMap (le 4))
        ((subCrcs L).map some) := by
    intro hne
    rcases hdig with h0 | h1
    · rw [h0] at hne; simp at hne
    · rw [← h1]
      exact readDefinedU32_all (subCrcs L) h.subCrc
  unfold parseSubstreamsInfo subStreamsBody
  cases c2 : writesSubSizes L
  · -- every folder holds one file: its size is the folder's, and 1 is its `numStreams` whether written or not
    have hone : ∀ f ∈ L.folders, f.count = 1 := fun f hf => by
      have := h.count1 f hf
      have := List.any_eq_false.mp c2 f hf
      simp at this
      omega
    have hF : (foldersS L).filterMap (fun f => f.unpackSizes.getLast?) = L.folders.flatMap (·.sizes) := by
      simpa [foldersS, List.filterMap_map, Function.comp_def] using unpackSize_of_count_one _ hone
    have hE : (foldersU L).map (fun f => { f with numStreams := 1 }) = foldersS L := by
      simp only [foldersU, foldersS, List.map_map, Function.comp_def]
      exact List.map_congr_left fun f hf => by simp [hone f hf]
    cases c1 : writesNumStreams L <;> cases c3 : (subCrcs L).isEmpty <;>
      simp [specIds, hA, digests, hD, c3, hE, hF]
  · have c1 : writesNumStreams L = true := by
      obtain ⟨f, hf, h⟩ := List.any_eq_true.mp c2
      exact Bool.or_eq_true_iff.mpr (Or.inr (List.any_eq_true.mpr ⟨f, hf, by simp at h ⊢; omega⟩))
    rw [c1]
    cases c3 : (subCrcs L).isEmpty <;>
      simp [specIds, hA, hB, digests, hD, c3]

/- From here on the ids are rewrite rules and `specIds` stays folded: the block lemmas above are used as hypotheses that
   mention `specIds`, and `simp [specIds]` would open it under them.  The five ids that only those blocks test
   (kSize, kCRC, kFolder, kCodersUnpackSize, kNumUnpackStream) are left out. -/
attribute [local simp] ids_kEnd ids_kHeader ids_kArchiveProperties ids_kAdditionalStreamsInfo ids_kMainStreamsInfo ids_kFilesInfo ids_kPackInfo
  ids_kUnpackInfo ids_kSubStreamsInfo ids_kEmptyStream ids_kEmptyFile ids_kName ids_kWinAttributes ids_kEncodedHeader

theorem parseStreamsInfo_write (L : Layout) (h : FoldersOk L) (known : Bool) (hdig : DigestsOk known L)
    (rest : Bytes) (pp ps fo fs fi f2f ef) :
    parseStreamsInfo specIds known ⟨streamsInfo L ++ rest, pp, ps, fo, fs, fi, f2f, ef⟩
      = .ok ((), ⟨rest, [L.packPos + 32], L.folders.map (·.packSize), foldersS L, L.folders.flatMap (·.sizes), fi, f2f, ef⟩) := by
  -- the id bytes of the two blocks in the open: `parseStreamsInfo` reads each and pushes it back for the block parser
  obtain ⟨tp, htp⟩ : ∃ t, packInfo L = 6 :: t := ⟨_, rfl⟩
  obtain ⟨tu, htu⟩ : ∃ t, unpackInfo L = 7 :: t := ⟨_, rfl⟩
  have hP := parsePackInfo_write L h
  have hU := parseUnpackInfo_write L h
  have hS := parseSubstreamsInfo_write L h known hdig
  rw [htp] at hP
  rw [htu] at hU
  simp only [List.cons_append] at hP hU
  unfold parseStreamsInfo streamsInfo subStreamsInfo
  rw [htp, htu]
  simp [hP, hU, hS]

theorem filesProps_end (dec : List Nat → Str) (ext : Bool) (n : Nat) (acc : FilesAcc) (rest : Bytes) :
    filesProps specIds dec ext n acc (0 :: rest) = .ok (acc, rest) := by
  rw [filesProps]; rw [if_pos (show (0 : Nat) = specIds.kEnd from rfl)]

/-- one property of the stream: `fileProp` is handed the body (with what follows), then the body is skipped by its
    declared size and the loop goes on behind it -/
theorem filesProps_cons {dec : List Nat → Str} {ext : Bool} {n : Nat} {acc acc' : FilesAcc} {pid : Nat} {body : Bytes}
    (hp : pid ≠ 0) (hb : body.length < 2 ^ 64)
    (h : ∀ rest, fileProp specIds dec ext n acc pid (body ++ rest) = .ok acc') (X : Bytes) :
    filesProps specIds dec ext n acc (prop pid body ++ X) = filesProps specIds dec ext n acc' X := by
  have hn := readNumber_number body.length hb (body ++ X) [] [] [] [] [] [] []
  simp only [prop, List.cons_append, List.append_assoc]
  rw [filesProps, if_neg (show ¬ pid = specIds.kEnd from hp)]
  split
  · rename_i e he; rw [hn] at he; cases he
  · rename_i size r1 he
    rw [hn] at he
    cases he
    simp only [List.drop_left, h X]

theorem filesProps_opt {dec : List Nat → Str} {ext : Bool} {n : Nat} {acc acc' : FilesAcc} {pid : Nat} {body : Bytes}
    {c : Prop} [Decidable c] (hp : pid ≠ 0) (hb : body.length < 2 ^ 64)
    (h : c → ∀ rest, fileProp specIds dec ext n acc pid (body ++ rest) = .ok acc') (X : Bytes) :
    filesProps specIds dec ext n acc ((if c then prop pid body else []) ++ X)
      = filesProps specIds dec ext n (if c then acc' else acc) X := by
  split
  · exact filesProps_cons hp hb (h ‹_›) X
  · rfl

theorem fileProp_emptyStream (dec : List Nat → Str) (ext : Bool) (acc : FilesAcc) (bits : List Bool) (rest : Bytes) :
    fileProp specIds dec ext bits.length acc 0x0E (bitVector bits ++ rest) = .ok { acc with emptyStreams := bits } := by
  have := (readBoolVector_bitVector bits).runOn rest
  simp [fileProp, this]

theorem fileProp_emptyFile (dec : List Nat → Str) (ext : Bool) (n : Nat) (acc : FilesAcc) (bits : List Bool) (rest : Bytes)
    (h : (acc.emptyStreams.filter id).length = bits.length) :
    fileProp specIds dec ext n acc 0x0F (bitVector bits ++ rest) = .ok { acc with emptyFiles := bits } := by
  have := (readBoolVector_bitVector bits).runOn rest
  simp [fileProp, h, this]

theorem fileProp_names (ext : Bool) (acc : FilesAcc) (names : List (List Nat)) (h : ∀ n ∈ names, ∀ c ∈ n, CpOk c) (rest : Bytes) :
    fileProp specIds decodeUtf16 ext names.length acc 0x11 (0 :: (names.flatMap nameBytes ++ rest)) = .ok { acc with names := names } := by
  simp [fileProp, readNames_names names h]

theorem fileProp_unknown (dec : List Nat → Str) (ext : Bool) (n : Nat) (acc : FilesAcc) (pid : Nat) (body : Bytes)
    (h : pid ≠ 0x0E ∧ pid ≠ 0x0F ∧ pid ≠ 0x11 ∧ pid ≠ 0x15) :
    fileProp specIds dec ext n acc pid body = .ok acc := by
  simp [fileProp, h]

/-- what `_parse_files_info` takes for the attributes: it does not consume the `External` byte of the property, so
    every value is read one byte early — the low byte is the previous entry's high byte (0 for the first), the
    upper three bytes are the entry's lower three. -/
def seenAttrs : Nat → List Nat → List Nat
  | _, [] => []
  | c, a :: r => (c + 256 * (a % 2 ^ 24)) :: seenAttrs (a / 2 ^ 24) r

def carryOut : Nat → List Nat → Nat
  | c, [] => c
  | _, a :: r => carryOut (a / 2 ^ 24) r

theorem readDefinedU32_shifted (as : List Nat) (h : ∀ a ∈ as, a < 2 ^ 32) (c : Nat) (hc : c < 256) (rest : Bytes)
    (pp ps fo fs fi f2f ef) :
    readDefinedU32 (List.replicate as.length true) ⟨c :: (as.flatMap (le 4) ++ rest), pp, ps, fo, fs, fi, f2f, ef⟩
      = .ok ((seenAttrs c as).map some, ⟨carryOut c as :: rest, pp, ps, fo, fs, fi, f2f, ef⟩) := by
  induction as generalizing c with
  | nil => rfl
  | cons a as ih =>
    rw [List.forall_mem_cons] at h
    -- the carried byte and the low three bytes of `a` are the four bytes of `c + 256 * a`; the top byte of `a` is carried on
    have hsplit : c :: le 4 a = le 4 (c + 256 * a) ++ [a / 2 ^ 24] := by
      rw [le_succ_add 3 c a hc, le_succ_last 3 a]
      congr 3
      omega
    have hv : (c + 256 * a) % 256 ^ 4 = c + 256 * (a % 2 ^ 24) := by omega
    rw [List.flatMap_cons, List.append_assoc, ← List.cons_append, hsplit, List.append_assoc, List.singleton_append]
    simp only [List.length_cons, List.replicate_succ, readDefinedU32, bind, StateT.bind, readU32_mod _ _, Except.bind,
      ih h.2 (a / 2 ^ 24) (by omega), pure, StateT.pure, Except.pure, hv, seenAttrs, carryOut, List.map_cons]

theorem seenAttrs_length (c : Nat) (as : List Nat) : (seenAttrs c as).length = as.length := by
  induction as generalizing c <;> simp [seenAttrs, *]

theorem setAttrs_all (vals : List Nat) : setAttrs (List.replicate vals.length 0) (vals.map some) = vals := by
  induction vals <;> simp [List.replicate_succ, setAttrs, *]

/-- the attributes as the reader ends up with them: as written (`ext = true`, repaired) or one byte early -/
def readAttrs (ext : Bool) (as : List Nat) : List Nat := if ext then as else seenAttrs 0 as

theorem readAttrs_length (ext : Bool) (as : List Nat) : (readAttrs ext as).length = as.length := by
  unfold readAttrs; split <;> simp [seenAttrs_length]

/-- the attributes property: AllAreDefined = 1, External = 0, the values.  The repaired reader consumes the
    External byte and gets the values as written; the previous one (`ext = false`) gets `seenAttrs`. -/
theorem fileProp_attrs (dec : List Nat → Str) (ext : Bool) (acc : FilesAcc) (as : List Nat) (h : ∀ a ∈ as, a < 2 ^ 32) (rest : Bytes)
    (hacc : acc.attributes = List.replicate as.length 0) :
    fileProp specIds dec ext as.length acc 0x15 (1 :: 0 :: (as.flatMap (le 4) ++ rest))
      = .ok { acc with attributes := readAttrs ext as } := by
  cases ext
  · have h1 := readDefinedU32_shifted as h 0 (by decide) rest [] [] [] [] [] [] []
    have hl : (seenAttrs 0 as).length = as.length := seenAttrs_length 0 as
    have h2 := setAttrs_all (seenAttrs 0 as)
    rw [hl] at h2
    simp [fileProp, runOn, h1, hacc, h2, readAttrs]
  · have h1 := readDefinedU32_all as h rest [] [] [] [] [] [] []
    have h2 := setAttrs_all as
    simp [fileProp, runOn, h1, hacc, h2, readAttrs]
/-- the EmptyFile vector as the reader ends up with it (`[]` when the property is absent) -/
def efParsed (es : List EntrySpec) : List Bool := if (emptyFileVec es).any id then emptyFileVec es else []

theorem emptyStream_count (es : List EntrySpec) : ((emptyStreamVec es).filter id).length = (emptyFileVec es).length := by
  simp [emptyStreamVec, emptyFileVec, List.filter_map, Function.comp_def]

theorem emptyProps_run (dec : List Nat → Str) (ext : Bool) (es : List EntrySpec) (hn : es.length < 2 ^ 60) (acc : FilesAcc)
    (h1 : acc.emptyStreams = List.replicate es.length false) (h2 : acc.emptyFiles = []) (X : Bytes) :
    filesProps specIds dec ext es.length acc (emptyProps es ++ X)
      = filesProps specIds dec ext es.length { acc with emptyStreams := emptyStreamVec es, emptyFiles := efParsed es } X := by
  have hlen : (emptyStreamVec es).length = es.length := by simp [emptyStreamVec]
  have hb1 : (bitVector (emptyStreamVec es)).length < 2 ^ 64 := by
    have := bitVector_length (emptyStreamVec es); omega
  have hb2 : (bitVector (emptyFileVec es)).length < 2 ^ 64 := by
    have := bitVector_length (emptyFileVec es)
    have h3 : (emptyFileVec es).length ≤ es.length := by
      simp only [emptyFileVec, List.length_map]; exact List.length_filter_le _ _
    omega
  unfold emptyProps
  cases hes : (emptyStreamVec es).any id
  · -- no entry without a stream: nothing is written, and the defaults are the vectors
    have hall : emptyStreamVec es = List.replicate es.length false :=
      List.eq_replicate_iff.mpr ⟨hlen, by simpa using hes⟩
    have hef : emptyFileVec es = [] := List.length_eq_zero_iff.mp (by rw [← emptyStream_count, hall]; simp)
    have : efParsed es = [] := by simp [efParsed, hef]
    simp only [Bool.false_eq_true, if_false, List.nil_append, this, hall]
    congr 1
    cases acc; simp_all
  · have hs := fileProp_emptyStream dec ext acc (emptyStreamVec es)
    rw [hlen] at hs
    simp only [if_true, List.append_assoc]
    rw [filesProps_cons (by decide) hb1 hs]
    cases hef : (emptyFileVec es).any id
    · simp [efParsed, hef, h2]
    · simp only [if_true, efParsed, hef]
      exact filesProps_cons (by decide) hb2 (fileProp_emptyFile dec ext es.length _ (emptyFileVec es) · (emptyStream_count es)) X

theorem names_run (ext : Bool) (es : List EntrySpec) (hok : ∀ e ∈ es, ∀ c ∈ e.name, CpOk c) (hl : (namesBody es).length < 2 ^ 64)
    (acc : FilesAcc) (X : Bytes) :
    filesProps specIds decodeUtf16 ext es.length acc (prop 0x11 (namesBody es) ++ X)
      = filesProps specIds decodeUtf16 ext es.length { acc with names := es.map (·.name) } X := by
  refine filesProps_cons (by decide) hl (fun rest => ?_) X
  simpa [namesBody, List.flatMap_map] using fileProp_names ext acc (es.map (·.name)) (by simpa using hok) rest

/-- the attribute of every entry as the reader ends up with it (0 when the property is absent) -/
def attrsParsed (ext : Bool) (o : Opts) (es : List EntrySpec) : List Nat :=
  if o.attrs then readAttrs ext (es.map (·.attrib)) else List.replicate es.length 0

theorem otherProps_end (dec : List Nat → Str) (ext : Bool) (o : Opts) (es : List EntrySpec) (hn : es.length < 2 ^ 60)
    (hd : o.dummy < 2 ^ 64) (ha : ∀ e ∈ es, e.attrib < 2 ^ 32) (acc : FilesAcc)
    (hacc : acc.attributes = List.replicate es.length 0) (rest : Bytes) :
    filesProps specIds dec ext es.length acc (otherProps o es ++ 0 :: rest)
      = .ok ({ acc with attributes := attrsParsed ext o es }, rest) := by
  have hl1 : (List.replicate o.dummy 0).length < 2 ^ 64 := by simpa using hd
  have hl2 : (mtimeBody es).length < 2 ^ 64 := by
    simp only [mtimeBody, List.length_append, flatMap_length_const es _ 8 (fun e => le_length 8 _), List.length_cons,
      List.length_nil]
    omega
  have hl3 : (attrsBody es).length < 2 ^ 64 := by
    simp only [attrsBody, List.length_append, flatMap_length_const es _ 4 (fun e => le_length 4 _), List.length_cons,
      List.length_nil]
    omega
  have hat : ∀ rest, fileProp specIds dec ext es.length acc 0x15 (attrsBody es ++ rest)
      = .ok { acc with attributes := readAttrs ext (es.map (·.attrib)) } := fun rest => by
    simpa [attrsBody, List.flatMap_map] using
      fileProp_attrs dec ext acc (es.map (·.attrib)) (by simpa using ha) rest (by simpa using hacc)
  -- kDummy and MTime are skipped, the attributes are taken, then `kEnd`
  unfold otherProps attrsParsed
  simp only [List.append_assoc]
  rw [filesProps_opt (by decide) hl1 fun _ _ => fileProp_unknown _ _ _ _ _ _ (by decide), ite_self,
    filesProps_opt (by decide) hl2 fun _ _ => fileProp_unknown _ _ _ _ _ _ (by decide), ite_self,
    filesProps_opt (by decide) hl3 fun _ => hat, filesProps_end]
  cases o.attrs <;> simp [← hacc]

/-- what the header needs of the entries of a layout (follows from `WellFormed`) -/
structure EntriesOk (o : Opts) (es : List EntrySpec) : Prop where
  names : ∀ e ∈ es, ∀ c ∈ e.name, CpOk c
  namesLen : (namesBody es).length < 2 ^ 60
  count : es.length < 2 ^ 60
  attrib : ∀ e ∈ es, e.attrib < 2 ^ 32
  dummy : o.dummy < 2 ^ 64

theorem namesBody_length_ge (es : List EntrySpec) : 2 * es.length ≤ (namesBody es).length := by
  induction es with
  | nil => simp [namesBody]
  | cons e es ih =>
    simp only [namesBody, List.flatMap_cons, List.length_cons, List.length_append, nameBytes] at ih ⊢
    omega

theorem prop_length (pid : Nat) (body : Bytes) : body.length ≤ (prop pid body).length := by
  simp [prop]; omega

theorem propsStream_length (o : Opts) (es : List EntrySpec) : es.length ≤ (propsStream o es).length := by
  have h1 := namesBody_length_ge es
  have h2 := prop_length 0x11 (namesBody es)
  unfold propsStream
  split <;> simp only [List.length_append] <;> omega

/-- the entries as `_parse_files_info` hands them to `_build_file_list` -/
def rawOf (ext : Bool) (o : Opts) (es : List EntrySpec) : List RawEntry :=
  zipEntries (es.map (·.name)) (emptyStreamVec es) (attrsParsed ext o es)

theorem parseFilesInfo_write (ext : Bool) (o : Opts) (es : List EntrySpec) (h : EntriesOk o es)
    (rest : Bytes) (pp ps fo fs fi f2f ef) :
    parseFilesInfo specIds decodeUtf16 true ext ⟨number es.length ++ (propsStream o es ++ 0 :: rest), pp, ps, fo, fs, fi, f2f, ef⟩
      = .ok ((), buildFileList ⟨rest, pp, ps, fo, fs, fi, f2f, ef⟩ (rawOf ext o es) (efParsed es)) := by
  have hn64 : es.length < 2 ^ 64 := by have := h.count; omega
  have hnl : (namesBody es).length < 2 ^ 64 := by have := h.namesLen; omega
  have hlen : ¬ (es.length > (propsStream o es ++ 0 :: rest).length) := by
    have := propsStream_length o es
    simp only [List.length_append]; omega
  unfold parseFilesInfo
  simp only [bind, StateT.bind, Except.bind, readNumber_number es.length hn64 _, get, getThe, MonadStateOf.get, StateT.get,
    pure, Except.pure, if_neg hlen]
  -- the property stream in either order of Names and the EmptyStream / EmptyFile vectors
  unfold propsStream
  cases o.namesFirst
  · simp only [Bool.false_eq_true, if_false, List.append_assoc]
    rw [emptyProps_run _ ext es h.count _ rfl rfl, names_run ext es h.names hnl,
      otherProps_end _ ext o es h.count h.dummy h.attrib _ rfl]
    rfl
  · simp only [if_true, List.append_assoc]
    rw [names_run ext es h.names hnl, emptyProps_run _ ext es h.count _ rfl rfl,
      otherProps_end _ ext o es h.count h.dummy h.attrib _ rfl]
    rfl

/-- the reader after the streams info of the layout (nothing at all when there is no folder) -/
def streamsState (L : Layout) : R :=
  if L.folders ≠ [] then
    { stream := [], packPositions := [L.packPos + 32], packSizes := L.folders.map (·.packSize), folders := foldersS L,
      fileSizes := L.folders.flatMap (·.sizes) }
  else { stream := [] }

/-- the reader state after `__init__`: `_build_file_list` run on the parsed streams info with the entries' names,
    EmptyStream bits, attributes and EmptyFile bits.  `ext = false`: with the attributes as the PREVIOUS reader took
    them (`seenAttrs`, one byte early). -/
def stateOfV (ext : Bool) (L : Layout) : R :=
  if L.entries ≠ [] then buildFileList (streamsState L) (rawOf ext L.opts L.entries) (efParsed L.entries)
  else streamsState L

/-- **the reader state a well-formed layout stands for** (attributes as written) -/
def stateOf (L : Layout) : R := stateOfV true L

theorem readU8_buildFileList (b : Nat) (s : Bytes) (pp ps fo fs fi f2f ef) (raw : List RawEntry) (efs : List Bool) :
    readU8 (buildFileList ⟨b :: s, pp, ps, fo, fs, fi, f2f, ef⟩ raw efs)
      = .ok (b, buildFileList ⟨s, pp, ps, fo, fs, fi, f2f, ef⟩ raw efs) := by
  simp [buildFileList, readU8]

theorem parseMainHeader_write (L : Layout) (hf : FoldersOk L) (known ext : Bool) (hd : DigestsOk known L)
    (he : EntriesOk L.opts L.entries) :
    parseMainHeader specIds { fixed with digestsKnown := known, attrExternal := ext } ⟨(writeHeader L).tail, [], [], [], [], [], [], []⟩
      = .ok ((), stateOfV ext L) := by
  have hS := parseStreamsInfo_write L hf known hd
  have hF := parseFilesInfo_write ext L.opts L.entries he
  unfold parseMainHeader writeHeader stateOfV streamsState filesInfo
  by_cases h1 : L.folders = [] <;> by_cases h2 : L.entries = [] <;>
    simp [h1, h2, hS, hF, fixed, readU8_buildFileList]

/-- `entryOk e`, `folderOk f` and `WellFormed L` of the writer specification, read as propositions -/
structure EntryFacts (e : EntrySpec) : Prop where
  name : nameOk e.name = true
  size : e.size < 2 ^ 64
  attrib : e.attrib < 2 ^ 32
  crc : e.crc < 2 ^ 32

structure FolderFacts (f : FolderSpec) : Prop where
  method : methodOk f.method = true
  packSize : f.packSize < 2 ^ 64
  packCrc : f.packCrc < 2 ^ 32
  crc : f.crc < 2 ^ 32
  count : f.count ≥ 1
  unpack : f.unpackSize < 2 ^ 64
  entries : ∀ e ∈ f.entries, entryOk e = true

structure LayoutFacts (L : Layout) : Prop where
  folders : ∀ f ∈ L.folders, folderOk f = true
  tail : ∀ e ∈ L.tail, entryOk e = true ∧ e.hasStream = false
  packPos : L.packPos < 2 ^ 64
  dummy : L.opts.dummy < 2 ^ 64
  namesLen : (namesBody L.entries).length < 2 ^ 60

theorem entryOk_facts {e : EntrySpec} (h : entryOk e = true) : EntryFacts e := by
  simp only [entryOk, Bool.and_eq_true, decide_eq_true_eq] at h
  exact ⟨h.1.1.1.1.1, h.1.1.1.1.2, h.1.1.1.2, h.1.2⟩

theorem folderOk_facts {f : FolderSpec} (h : folderOk f = true) : FolderFacts f := by
  simp only [folderOk, Bool.and_eq_true, decide_eq_true_eq, List.all_eq_true] at h
  exact ⟨h.1.1.1.1.1.1, h.1.1.1.1.1.2, h.1.1.1.1.2, h.1.1.1.2, h.1.1.2, h.1.2, h.2⟩

theorem wf_facts {L : Layout} (h : WellFormed L) : LayoutFacts L := by
  simp only [WellFormed, wellFormed, Bool.and_eq_true, decide_eq_true_eq, List.all_eq_true, Bool.not_eq_true'] at h
  exact ⟨h.1.1.1.1, h.1.1.1.2, h.1.1.2, h.1.2, h.2⟩

theorem wf_entryOk {L : Layout} (h : WellFormed L) : ∀ e ∈ L.entries, entryOk e = true := by
  intro e he
  simp only [Layout.entries, List.mem_append, List.mem_flatMap] at he
  rcases he with ⟨f, hf, hef⟩ | he
  · exact (folderOk_facts ((wf_facts h).folders f hf)).entries e hef
  · exact ((wf_facts h).tail e he).1

theorem count_le_entries (f : FolderSpec) : f.count ≤ f.entries.length := by
  simp only [FolderSpec.count, FolderSpec.sizes, List.length_map]
  exact List.length_filter_le _ _

theorem length_le_flatMap (l : List FolderSpec) (h : ∀ f ∈ l, f.count ≥ 1) : l.length ≤ (l.flatMap (·.entries)).length := by
  induction l with
  | nil => simp
  | cons f l ih =>
    rw [List.forall_mem_cons] at h
    have := ih h.2
    have h2 := count_le_entries f
    simp only [List.length_cons, List.flatMap_cons, List.length_append]
    omega

theorem entries_length_ge (l : List FolderSpec) (f : FolderSpec) (hf : f ∈ l) :
    f.entries.length ≤ (l.flatMap (·.entries)).length :=
  (List.sublist_flatten_of_mem (List.mem_map_of_mem hf)).length_le

theorem wf_entriesOk {L : Layout} (h : WellFormed L) : EntriesOk L.opts L.entries := by
  have hL := wf_facts h
  have he := fun e hm => entryOk_facts (wf_entryOk h e hm)
  refine ⟨fun e hm => (cpOk_of_nameOk (he e hm).name).2, hL.namesLen, ?_, fun e hm => (he e hm).attrib, hL.dummy⟩
  have := namesBody_length_ge L.entries
  have := hL.namesLen
  omega

theorem wf_foldersOk {L : Layout} (h : WellFormed L) : FoldersOk L := by
  have hL := wf_facts h
  have hn := (wf_entriesOk h).count
  have hF := fun f m => folderOk_facts (hL.folders f m)
  have hc1 : ∀ f ∈ L.folders, f.count ≥ 1 := fun f m => (hF f m).count
  have hfl : (L.folders.flatMap (·.entries)).length ≤ L.entries.length := by simp [Layout.entries]
  have hsize : ∀ f ∈ L.folders, ∀ e ∈ f.entries.filter (·.hasStream), e.size ≠ 0 ∧ EntryFacts e := by
    intro f hf e he
    have ⟨hin, hs⟩ := List.mem_filter.mp he
    refine ⟨?_, entryOk_facts ((hF f hf).entries e hin)⟩
    simp only [EntrySpec.hasStream, Bool.and_eq_true, bne_iff_ne, ne_eq] at hs
    exact hs.2
  refine ⟨hL.packPos, ?_, fun f m => (hF f m).packSize, fun f m => (hF f m).packCrc, fun f m => (hF f m).method,
    fun f m => (hF f m).unpack, fun f m => (hF f m).crc, hc1, ?_, ?_, ?_⟩
  · have := length_le_flatMap L.folders hc1; omega
  · intro f hf
    have := count_le_entries f
    have := entries_length_ge L.folders f hf
    omega
  · intro f hf x hx
    simp only [FolderSpec.sizes, List.mem_map] at hx
    obtain ⟨e, he, rfl⟩ := hx
    exact ⟨(hsize f hf e he).1, (hsize f hf e he).2.size⟩
  · intro c hc
    simp only [subCrcs, List.mem_flatMap] at hc
    obtain ⟨f, hf, hcf⟩ := hc
    split at hcf
    · simp at hcf
    · simp only [FolderSpec.fileCrcs, List.mem_map] at hcf
      obtain ⟨e, he, rfl⟩ := hcf
      exact (hsize f hf e he).2.crc

/-- the entry as the writer sees it: its size instead of its bytes, plus the values of the optional properties
    (`x e` = attribute, mtime, CRC) -/
def specEntry (x : Entry → Nat × Nat × Nat) (e : Entry) : EntrySpec :=
  { name := e.name, isDir := e.isDir, size := e.data.length, attrib := (x e).1, mtime := (x e).2.1, crc := (x e).2.2 }

def layoutOf (x : Entry → Nat × Nat × Nat) (mgs : List (Method × Group)) (tail : List Entry) (o : Opts) : Layout :=
  { packPos := 0,
    folders := mgs.map fun p => { method := p.1, packSize := p.2.packed.length, entries := p.2.entries.map (specEntry x) },
    tail := tail.map (specEntry x), opts := o }

theorem specEntry_hasStream (x) (e : Entry) : (specEntry x e).hasStream = e.hasStream := by
  simp only [EntrySpec.hasStream, specEntry, Entry.hasStream]
  cases e.isDir <;> cases h : e.data <;> simp

theorem specEntry_isEmptyFile (x) (e : Entry) : (specEntry x e).isEmptyFile = e.isEmptyFile := by
  simp only [EntrySpec.isEmptyFile, specEntry, Entry.isEmptyFile]
  cases e.isDir <;> cases h : e.data <;> simp

theorem layoutOf_entries (x) (mgs : List (Method × Group)) (tail : List Entry) (o : Opts) :
    (layoutOf x mgs tail o).entries = (allEntries (mgs.map (·.2)) tail).map (specEntry x) := by
  simp [Layout.entries, layoutOf, allEntries, List.flatMap_map, List.map_flatMap]

theorem sizes_spec (x) (es : List Entry) :
    ((es.map (specEntry x)).filter (·.hasStream)).map (·.size) = (es.filter (·.hasStream)).map (·.data.length) := by
  simp only [List.filter_map, List.map_map, Function.comp_def, specEntry_hasStream]
  rfl

theorem emptyStreamVec_spec (x) (es : List Entry) : emptyStreamVec (es.map (specEntry x)) = es.map (!·.hasStream) := by
  simp [emptyStreamVec, List.map_map, Function.comp_def, specEntry_hasStream]

theorem emptyFileVec_spec (x) (es : List Entry) : emptyFileVec (es.map (specEntry x)) = emptyFileBits es := by
  simp [emptyFileVec, emptyFileBits, List.filter_map, Function.comp_def, specEntry_hasStream, specEntry_isEmptyFile]

theorem buildInfos_allFalse (raw : List RawEntry) (sizes : List Nat) (efs : List Bool) (h : ∀ b ∈ efs, b = false) :
    buildInfos raw sizes efs = buildInfos raw sizes [] := by
  induction raw generalizing sizes efs with
  | nil => rfl
  | cons r raw ih =>
    have hhead : efs.head?.getD false = false := by
      cases efs with
      | nil => rfl
      | cons b t => simp [h b (List.mem_cons_self ..)]
    have htail : ∀ b ∈ efs.tail, b = false := fun b hb => h b (List.mem_of_mem_tail hb)
    simp only [buildInfos, hhead, List.head?_nil, Option.getD_none, List.tail_nil, Bool.and_false]
    cases r.emptyStream <;> simp [ih _ _ htail, ih _ _ h]
    all_goals (split <;> simp [ih _ _ htail, ih _ _ h])

theorem zipEntries_lookup (es : List Entry) (xs : List Nat) (f : Entry → Nat)
    (hl : xs.length = es.length) (hf : ∀ i (h : i < es.length), f es[i] = xs[i]'(by omega)) :
    zipEntries (es.map (·.name)) (es.map (!·.hasStream)) xs = rawEntries f es := by
  induction es generalizing xs with
  | nil => simp [zipEntries, rawEntries]
  | cons e es ih =>
    cases xs with
    | nil => simp at hl
    | cons a xs =>
      have h0 := hf 0 (by simp)
      simp only [List.getElem_cons_zero] at h0
      have := ih xs (by simpa using hl) (fun i h => by have := hf (i + 1) (by simp; omega); simpa only [List.getElem_cons_succ] using this)
      simp only [rawEntries] at this
      simp [zipEntries, rawEntries, this, h0]

theorem attrsParsed_length (ext : Bool) (o : Opts) (es : List EntrySpec) : (attrsParsed ext o es).length = es.length := by
  unfold attrsParsed
  split <;> simp [readAttrs_length]

theorem zipEntries_map (es : List Entry) (f : Entry → Nat) :
    zipEntries (es.map (·.name)) (es.map (!·.hasStream)) (es.map f) = rawEntries f es :=
  zipEntries_lookup es (es.map f) f (by simp) (by simp)

/-- the attribute the (repaired) reader reports for an entry: the stored one, 0 without the property -/
def attrOf (x : Entry → Nat × Nat × Nat) (o : Opts) (e : Entry) : Nat := if o.attrs then (x e).1 else 0

theorem attrsParsed_spec (x) (o : Opts) (es : List Entry) :
    attrsParsed true o (es.map (specEntry x)) = es.map (attrOf x o) := by
  unfold attrsParsed attrOf readAttrs
  cases o.attrs <;> simp [Function.comp_def, specEntry, List.map_const']

theorem buildFileList_efParsed (r : R) (raw : List RawEntry) (x) (es : List Entry) :
    buildFileList r raw (efParsed (es.map (specEntry x))) = buildFileList r raw (emptyFileBits es) := by
  unfold efParsed
  rw [emptyFileVec_spec]
  split
  · rfl
  · rename_i h
    have hall : ∀ b ∈ emptyFileBits es, b = false := by
      intro b hb
      simp only [List.any_eq_true, id_eq, not_exists, not_and, Bool.not_eq_true] at h
      exact h b hb
    simp only [buildFileList, buildInfos_allFalse raw r.fileSizes (emptyFileBits es) hall]

/-- the state a layout stands for is the state the layout theorems of `Props/C10.lean` start from -/
theorem stateOf_layoutOf (x : Entry → Nat × Nat × Nat) (mgs : List (Method × Group)) (tail : List Entry) (o : Opts)
    (hcoder : ∀ p ∈ mgs, p.2.coder = coderOf p.1) (ht : ∀ e ∈ tail, e.hasStream = false) (hfc : o.folderCrc = false)
    (hne : mgs ≠ []) (hes : allEntries (mgs.map (·.2)) tail ≠ []) :
    stateOf (layoutOf x mgs tail o)
      = buildFileList (packR 0 (mgs.map (·.2)) tail) (rawEntries (attrOf x o) (allEntries (mgs.map (·.2)) tail))
          (emptyFileBits (allEntries (mgs.map (·.2)) tail)) := by
  have hent := layoutOf_entries x mgs tail o
  have h1 : (layoutOf x mgs tail o).entries ≠ [] := by rw [hent]; simpa using hes
  have h2 : (layoutOf x mgs tail o).folders ≠ [] := by simpa [layoutOf] using hne
  have hstreams : streamsState (layoutOf x mgs tail o) = packR 0 (mgs.map (·.2)) tail := by
    unfold streamsState
    rw [if_pos h2]
    unfold packR foldersS
    simp only [layoutOf, List.map_map, Function.comp_def, hfc, Bool.false_eq_true, if_false, headerOffset, Nat.zero_add,
      List.flatMap_map]
    congr 1
    · apply List.map_congr_left
      intro p hp
      simp only [Group.folder, FolderSpec.unpackSize, FolderSpec.count, FolderSpec.sizes, sizes_spec, hcoder p hp,
        streamData, streamCount, List.length_flatMap, List.length_map]
    · simp only [FolderSpec.sizes, sizes_spec, allEntries, List.filter_append, filter_hasStream_tail tail ht,
        List.append_nil, List.filter_flatMap, List.map_flatMap, List.flatMap_map]
  have hraw : rawOf true o (layoutOf x mgs tail o).entries
      = rawEntries (attrOf x o) (allEntries (mgs.map (·.2)) tail) := by
    rw [hent]
    unfold rawOf
    rw [emptyStreamVec_spec, attrsParsed_spec]
    simp only [List.map_map, Function.comp_def, specEntry]
    exact zipEntries_map _ _
  unfold stateOf stateOfV
  rw [if_pos h1, hstreams]
  -- `(layoutOf x mgs tail o).opts` written as `o`, the form `hraw` has
  show buildFileList _ (rawOf true o (layoutOf x mgs tail o).entries) _ = _
  rw [hraw, hent, buildFileList_efParsed]
end S2T.SevenZip
