import S2T.Lemmas.SerialMain
namespace S2T.Serial

variable {S : Schema}

theorem ser_canon_obj (c : Str) (C : Class) (fs : List (Str × PyVal))
    (ih : ∀ e ∈ fs, ∀ ty, ser true (canon S ty e.2) = ser true e.2) :
    ser true (.obj c (canonFields S C fs)) = ser true (.obj c fs) := by
  rw [ser_obj_eq, ser_obj_eq, canonFields_eq]
  congr 2
  simp only [objEntries, mapVals, fieldKeys, List.map_cons, List.map_map]
  congr 1
  apply List.map_congr_left
  intro e he
  simp [ih e he]

/-- lists, and tuples and sets, which `canon` and `ser` treat as lists -/
theorem ser_canon_seq (ty : Ty) (xs : List PyVal) (ih : ∀ x ∈ xs, ∀ t, ser true (canon S t x) = ser true x) :
    ser true (canon S ty (.list xs)) = ser true (.list xs) := by
  simp only [canon]
  -- here and in `ser_canon`: `simp only []` reduces the `match` of `canon` on the constructor that `cases` has put in
  cases hu : unwrapOpt ty <;> simp only []
  case list t =>
    simp only [ser, serList_eq, canonList_eq, List.map_map]
    congr 1
    exact List.map_congr_left fun x hx => ih x hx t
  all_goals exact ser_ser true (.list xs)

theorem ser_canon (v : PyVal) : ∀ ty : Ty, ser true (canon S ty v) = ser true v := by
  induction v using PyVal.ind with | _ v ih => ?_
  intro ty
  cases v with
  | list xs | tuple xs | set xs => exact ser_canon_seq ty xs ih
  | dict kvs =>
    simp only [canon]
    cases hu : unwrapOpt ty <;> simp only []
    case dict kt vt =>
      rw [canonKVs_eq, ser_dict_norm true (canon S vt) (ser true) _ (strKeyed_strKeys kvs)
        (vals_strKeys kvs ▸ fun w hw => ih w hw vt), ser_dict_eq]
    all_goals exact ser_ser true (.dict kvs)
  | obj c fs =>
    simp only [canon]
    cases hf : S.find c <;> simp only []
    · exact ser_ser true (.obj c fs)
    · exact ser_canon_obj c _ fs fun e he => ih _ (List.mem_map_of_mem he)
  | bytearray => simp [canon, ser]
  | _ => simp [canon]

theorem ser_canon_list : ∀ (xs : List PyVal), ∀ x ∈ xs, ∀ ty, ser true (canon S ty x) = ser true x :=
  fun _ x _ => ser_canon x
theorem ser_canon_vals : ∀ (l : List (Key × PyVal)), ∀ e ∈ l, ∀ ty, ser true (canon S ty e.2) = ser true e.2 :=
  fun _ e _ => ser_canon e.2
theorem ser_canon_fields : ∀ (l : List (Str × PyVal)), ∀ e ∈ l, ∀ ty, ser true (canon S ty e.2) = ser true e.2 :=
  fun _ e _ => ser_canon e.2

theorem isJsonList_iff (xs : List PyVal) : isJsonList xs = true ↔ ∀ x ∈ xs, isJson x = true := by
  induction xs with
  | nil => simp [isJsonList]
  | cons x xs ih => simp [isJsonList, ih]

theorem isJsonKVs_iff (l : List (Key × PyVal)) :
    isJsonKVs l = true ↔ ∀ e ∈ l, (∃ s, e.1 = Key.str s) ∧ isJson e.2 = true := by
  induction l with
  | nil => simp [isJsonKVs]
  | cons e l ih =>
    obtain ⟨k, v⟩ := e
    cases k <;> simp [isJsonKVs, ih]

theorem keysNodup_iff (l : List (Key × PyVal)) : keysNodup l = true ↔ (l.map (·.1)).Nodup := by
  induction l with
  | nil => simp [keysNodup]
  | cons e l ih =>
    obtain ⟨k, v⟩ := e
    simp only [keysNodup, List.map_cons, List.nodup_cons, Bool.and_eq_true, Bool.not_eq_true',
      List.contains_eq_mem, decide_eq_false_iff_not] at ih ⊢
    rw [ih]

theorem isJson_dict_norm (f : PyVal → PyVal) (L : List (Key × PyVal)) (hk : strKeyed L)
    (h : ∀ e ∈ L, isJson (f e.2) = true) : isJson (.dict (normKeys (mapVals f L))) = true := by
  simp only [isJson, Bool.and_eq_true]
  refine ⟨?_, (keysNodup_iff _).mpr (normKeys_keys_nodup _)⟩
  rw [isJsonKVs_iff]
  intro e he
  obtain ⟨a, hm, rfl⟩ := mem_mapVals.mp (mem_normKeys _ e he)
  exact ⟨hk a hm, h a hm⟩

theorem noForeignList_eq (xs : List PyVal) : noForeignList xs = xs.all noForeign := by
  induction xs with
  | nil => rfl
  | cons x xs ih => simp [noForeignList, ih]

theorem noForeignKVs_eq (l : List (Key × PyVal)) : noForeignKVs l = l.all (noForeign ·.2) := by
  induction l with
  | nil => rfl
  | cons e l ih => cases e; simp [noForeignKVs, ih]

theorem noForeignFields_eq (l : List (Str × PyVal)) : noForeignFields l = l.all (noForeign ·.2) := by
  induction l with
  | nil => rfl
  | cons e l ih => cases e; simp [noForeignFields, ih]

theorem isJson_ser (b : Bool) (v : PyVal) : noForeign v = true → isJson (ser b v) = true := by
  induction v using PyVal.ind with | _ v ih => ?_
  intro h
  cases v with
  | foreign => simp [noForeign] at h
  | bytes | bytearray | bytesio => cases b <;> simp [ser, isJson, isJsonKVs, keysNodup]
  | list xs | tuple xs | set xs =>
    simp only [noForeign, noForeignList_eq, List.all_eq_true] at h
    simp only [ser, isJson, serList_eq, isJsonList_iff, List.forall_mem_map]
    exact fun x hx => ih x hx (h x hx)
  | dict kvs =>
    simp only [noForeign, noForeignKVs_eq, List.all_eq_true] at h
    simp only [ser, serKVs_eq]
    apply isJson_dict_norm (ser b) (strKeys kvs) (strKeyed_strKeys kvs)
    intro e he
    obtain ⟨kv, hm, rfl⟩ := mem_strKeys.mp he
    exact ih kv.2 (List.mem_map_of_mem hm) (h kv hm)
  | obj c fs =>
    simp only [noForeign, noForeignFields_eq, List.all_eq_true] at h
    rw [ser_obj_eq]
    apply isJson_dict_norm (ser b) _ (strKeyed_objEntries c fs)
    intro e he
    rcases mem_objEntries.mp he with rfl | he
    · simp [ser, isJson]
    · obtain ⟨kv, hm, rfl⟩ := mem_fieldKeys.mp he
      exact ih kv.2 (List.mem_map_of_mem hm) (h kv hm)
  | _ => simp [ser, isJson]

theorem isJson_ser_list (b : Bool) : ∀ xs : List PyVal, noForeignList xs = true → ∀ x ∈ xs, isJson (ser b x) = true :=
  fun xs h x hx => isJson_ser b x (List.all_eq_true.mp (noForeignList_eq xs ▸ h) x hx)
theorem isJson_ser_kvs (b : Bool) : ∀ l : List (Key × PyVal), noForeignKVs l = true → ∀ e ∈ l, isJson (ser b e.2) = true :=
  fun l h e he => isJson_ser b e.2 (List.all_eq_true.mp (noForeignKVs_eq l ▸ h) e he)
theorem isJson_ser_fields (b : Bool) : ∀ l : List (Str × PyVal), noForeignFields l = true → ∀ e ∈ l, isJson (ser b e.2) = true :=
  fun l h e he => isJson_ser b e.2 (List.all_eq_true.mp (noForeignFields_eq l ▸ h) e he)

theorem serList_dropBinary (xs : List PyVal) (h : ∀ x ∈ xs, ser false x = ser true (dropBinary x)) :
    serList false xs = serList true (dropBinaryList xs) := by
  induction xs with
  | nil => rfl
  | cons x xs ih =>
    rw [List.forall_mem_cons] at h
    simp only [serList, dropBinaryList, h.1, ih h.2]

theorem serKVs_dropBinary (l : List (Key × PyVal)) (h : ∀ w ∈ l.map (·.2), ser false w = ser true (dropBinary w)) :
    serKVs false l = serKVs true (dropBinaryKVs l) := by
  induction l with
  | nil => rfl
  | cons e l ih =>
    rw [List.map_cons, List.forall_mem_cons] at h
    simp only [serKVs, dropBinaryKVs, h.1, ih h.2]

theorem serFields_dropBinary (l : List (Str × PyVal)) (h : ∀ w ∈ l.map (·.2), ser false w = ser true (dropBinary w)) :
    serFields false l = serFields true (dropBinaryFields l) := by
  induction l with
  | nil => rfl
  | cons e l ih =>
    rw [List.map_cons, List.forall_mem_cons] at h
    simp only [serFields, dropBinaryFields, h.1, ih h.2]

theorem ser_false : ∀ v : PyVal, ser false v = ser true (dropBinary v) := by
  intro v
  induction v using PyVal.ind with | _ v ih => ?_
  cases v with
  | list xs | tuple xs | set xs => simp only [ser, dropBinary, serList_dropBinary xs ih]
  | dict kvs => simp only [ser, dropBinary, serKVs_dropBinary kvs ih]
  | obj c fs => simp only [ser, dropBinary, serFields_dropBinary fs ih]
  | _ => simp [ser, dropBinary]

theorem ser_false_list : ∀ xs : List PyVal, serList false xs = serList true (dropBinaryList xs) :=
  fun xs => serList_dropBinary xs fun x _ => ser_false x
theorem ser_false_kvs : ∀ l : List (Key × PyVal), serKVs false l = serKVs true (dropBinaryKVs l) :=
  fun l => serKVs_dropBinary l fun w _ => ser_false w
theorem ser_false_fields : ∀ l : List (Str × PyVal), serFields false l = serFields true (dropBinaryFields l) :=
  fun l => serFields_dropBinary l fun w _ => ser_false w

theorem serializeExtraction_obj (b : Bool) (c : Str) (fs : List (Str × PyVal)) :
    serializeExtraction b (.obj c fs) = ser b (.obj c fs) := by
  simp [serializeExtraction, ser]

theorem deserializeExtraction_of_deserValue {c : Str} {J : List (Key × PyVal)} (h : InstanceDict c J) :
    deserializeExtraction S (.dict J) = deserValue S .any (.dict J) := by
  simp [deserializeExtraction, deserValue_instanceDict (ty := .any) (by simp [unwrapOpt]) h, h.type]

/-- `from_json(to_json(x))` of a well-typed dataclass instance is its canonical form -/
theorem deserializeExtraction_ser_obj (hS : SchemaOk S = true) (c : Str) (fs : List (Str × PyVal))
    (h : WellTyped S .any (.obj c fs) = true) :
    deserializeExtraction S (serializeExtraction true (.obj c fs)) = .ok (canon S .any (.obj c fs)) := by
  obtain ⟨C, hC⟩ := wt_obj h
  have hJ := ser_obj_entries hS c fs C hC.find hC.names
  rw [serializeExtraction_obj, hJ,
    deserializeExtraction_of_deserValue (instanceDict_objEntries hS c fs C hC.find hC.names), ← hJ, deser_ser hS _ _ h]

mutual
/-- a rendering into text, used only to state disequalities of concrete values decidably -/
def render : PyVal → List Char
  | .none => "null".toList
  | .bool b => if b then "true".toList else "false".toList
  | .int i => intStr i
  | .float t => 'f' :: t
  | .str s => '"' :: s ++ ['"']
  | .bytes b => 'b' :: (toString b).toList
  | .bytearray b => 'a' :: (toString b).toList
  | .bytesio b => 'i' :: (toString b).toList
  | .list xs => '[' :: renderList xs ++ [']']
  | .tuple xs => '(' :: renderList xs ++ [')']
  | .set xs => '<' :: renderList xs ++ ['>']
  | .dict kvs => '{' :: renderKVs kvs ++ ['}']
  | .obj c fs => c ++ '(' :: renderFields fs ++ [')']
  | .foreign n => '?' :: n
def renderList : List PyVal → List Char
  | [] => []
  | x :: xs => render x ++ ',' :: renderList xs
def renderKVs : List (Key × PyVal) → List Char
  | [] => []
  | (k, v) :: r => keyStr k ++ ':' :: render v ++ ',' :: renderKVs r
def renderFields : List (Str × PyVal) → List Char
  | [] => []
  | (k, v) :: r => k ++ '=' :: render v ++ ',' :: renderFields r
end

theorem ne_of_render_ne {a b : PyVal} (h : render a ≠ render b) : a ≠ b := fun e => h (congrArg render e)

end S2T.Serial
