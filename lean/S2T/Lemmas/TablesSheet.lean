import S2T.Lemmas.Chars
import S2T.Model.Tables
import S2T.Lemmas.ListBasics
/-! C13, sheets as tables.  `Xlsx.lastIdx` is the backwards scan of `_find_last_data_row` / `_find_last_data_column`.
`_read_sheet_data` (XLSX) and `_extract_sheet` (ODS) shape a sheet in the same way and differ in what counts as data
(`_is_cell_non_empty` / "is not None"): the facts about the used range of a grid (`crop d`) are proved for every `d`. -/
namespace S2T.Tables
open S2T.HtmlSkip (Str)

theorem getDim_fst {α : Type} (data : List (List α)) : (getDim data).1 = data.length := rfl

namespace Xlsx

theorem lastIdx_le {α : Type} (p : α → Bool) (l : List α) : lastIdx p l ≤ l.length := by
  induction l with
  | nil => simp [lastIdx]
  | cons x r ih => simp only [lastIdx, List.length_cons]; split <;> (try split) <;> omega

theorem lastIdx_map_of_mem {α β : Type} (f : α → β) (p : β → Bool) (q : α → Bool) (l : List α) (h : ∀ a ∈ l, p (f a) = q a) :
    lastIdx p (l.map f) = lastIdx q l := by
  induction l with
  | nil => rfl
  | cons a r ih =>
    simp only [List.map_cons, lastIdx, ih (fun b hb => h b (List.mem_cons_of_mem _ hb)), h a (List.mem_cons_self ..)]

theorem lastIdx_after {α : Type} (p : α → Bool) (l : List α) (j : Nat) (hj : lastIdx p l ≤ j) (x : α)
    (hx : l[j]? = some x) : p x = false := by
  induction l generalizing j with
  | nil => simp at hx
  | cons y r ih =>
    simp only [lastIdx] at hj
    by_cases hk : lastIdx p r > 0
    · rw [if_pos hk] at hj
      cases j with
      | zero => omega
      | succ j => exact ih j (by omega) (by simpa using hx)
    · rw [if_neg hk] at hj
      cases j with
      | zero =>
        by_cases hy : p y = true
        · rw [if_pos hy] at hj; omega
        · simp at hx; subst hx; simpa using hy
      | succ j => exact ih j (by omega) (by simpa using hx)

theorem lastIdx_eq_length {α : Type} (p : α → Bool) (l : List α) (hne : l ≠ [])
    (h : p (l.getLast hne) = true) : lastIdx p l = l.length := by
  apply Nat.le_antisymm (lastIdx_le p l)
  apply Nat.le_of_not_lt
  intro hlt
  have := lastIdx_after p l (l.length - 1) (by omega) _ (List.getLast?_eq_getElem?.symm.trans (List.getLast?_eq_some_getLast hne))
  exact Bool.noConfusion (this.symm.trans h)

theorem lastIdx_at {α : Type} (p : α → Bool) (l : List α) (h : lastIdx p l > 0) :
    ∃ x, l[lastIdx p l - 1]? = some x ∧ p x = true := by
  induction l with
  | nil => simp [lastIdx] at h
  | cons y r ih =>
    simp only [lastIdx] at h ⊢
    by_cases hk : lastIdx p r > 0
    · rw [if_pos hk]
      obtain ⟨x, hx, hp⟩ := ih hk
      refine ⟨x, ?_, hp⟩
      have : lastIdx p r + 1 - 1 = (lastIdx p r - 1) + 1 := by omega
      rw [this]; simpa using hx
    · rw [if_neg hk] at h ⊢
      by_cases hy : p y = true
      · rw [if_pos hy]; exact ⟨y, by simp, hy⟩
      · rw [if_neg hy] at h; omega

theorem lastIdx_append {α : Type} (p : α → Bool) (a b : List α) :
    lastIdx p (a ++ b) = if lastIdx p b > 0 then a.length + lastIdx p b else lastIdx p a := by
  induction a with
  | nil => simp only [List.nil_append, List.length_nil, lastIdx]; split <;> omega
  | cons x a ih =>
    simp only [List.cons_append, lastIdx, ih, List.length_cons]
    by_cases hb : lastIdx p b > 0
    · simp only [hb, if_true]
      rw [if_pos (by omega)]; omega
    · simp only [hb, if_false]

theorem lastIdx_replicate {α : Type} (p : α → Bool) (n : Nat) (x : α) :
    lastIdx p (List.replicate n x) = if p x then n else 0 := by
  induction n with
  | zero => simp [lastIdx]
  | succ n ih =>
    simp only [List.replicate_succ, lastIdx, ih]
    by_cases hp : p x = true
    · simp only [hp, if_true]; split <;> omega
    · simp [hp]

theorem lastIdx_eq_zero_iff {α : Type} (p : α → Bool) (l : List α) : lastIdx p l = 0 ↔ ∀ x ∈ l, p x = false := by
  constructor
  · intro h x hx
    obtain ⟨j, hj⟩ := List.getElem?_of_mem hx
    exact lastIdx_after p l j (by omega) x hj
  · intro h
    apply Nat.eq_zero_of_not_pos
    intro hpos
    obtain ⟨x, hx, hp⟩ := lastIdx_at p l hpos
    exact Bool.noConfusion ((h x (List.mem_of_getElem? hx)).symm.trans hp)

theorem lastIdx_le_of {α β : Type} (p : α → Bool) (q : β → Bool) (a : List α) (b : List β)
    (h : ∀ (j : Nat) (x : α), a[j]? = some x → p x = true → ∃ y, b[j]? = some y ∧ q y = true) :
    lastIdx p a ≤ lastIdx q b := by
  apply Nat.le_of_not_lt
  intro hlt
  obtain ⟨x, hx, hpx⟩ := lastIdx_at p a (by omega)
  obtain ⟨y, hy, hqy⟩ := h _ x hx hpx
  have := lastIdx_after q b (lastIdx p a - 1) (by omega) y hy
  rw [this] at hqy
  exact Bool.noConfusion hqy

theorem padTake_length (n : Nat) (row : List Val) : (padTake n row).length = n := by
  simp only [padTake, List.length_append, List.length_take, List.length_replicate]; omega

theorem padTake_get (n : Nat) (row : List Val) (j : Nat) (hj : j < n) :
    (padTake n row)[j]? = some (row[j]?.getD Val.none) := by
  unfold padTake
  by_cases h : j < row.length
  · rw [List.getElem?_append_left (by simp; omega), List.getElem?_take_of_lt hj]
    simp [h]
  · have hl : (row.take n).length = row.length := by simp; omega
    rw [List.getElem?_append_right (by omega), hl, List.getElem?_replicate]
    have : j - row.length < n - row.length := by omega
    simp [this, List.getElem?_eq_none (Nat.le_of_not_lt h)]

end Xlsx

section crop
open Xlsx

/-- 1-based index of the last row holding a `d` -/
def dataRows (d : Val → Bool) (G : VGrid) : Nat := lastIdx (fun row => row.any d) G
/-- 1-based index of the last column in which some row holds a `d` -/
def dataCols (d : Val → Bool) (G : VGrid) : Nat := G.foldl (fun m row => max m (lastIdx d row)) 0

/-- a grid cut behind the last row and behind the last column holding a `d`, shorter rows filled up with empty cells -/
def crop (d : Val → Bool) (G : VGrid) : VGrid :=
  (G.take (dataRows d G)).map (padTake (dataCols d (G.take (dataRows d G))))

variable (d : Val → Bool)

theorem crop_length (G : VGrid) : (crop d G).length = dataRows d G := by
  have := lastIdx_le (fun row => row.any d) G
  simp only [crop, List.length_map, List.length_take, dataRows] at this ⊢
  omega

theorem crop_rect (G : VGrid) : ∀ row ∈ crop d G, row.length = dataCols d (G.take (dataRows d G)) := by
  intro row hrow
  simp only [crop, List.mem_map] at hrow
  obtain ⟨r, _, rfl⟩ := hrow
  exact padTake_length _ _

theorem crop_cell (G : VGrid) (i j : Nat) (hi : i < dataRows d G) (hj : j < dataCols d (G.take (dataRows d G))) :
    ((crop d G)[i]?.bind (fun row => row[j]?)) = some (((G[i]?.bind (fun row => row[j]?))).getD Val.none) := by
  have hle := lastIdx_le (fun row => row.any d) G
  have hlt : i < G.length := by simp only [dataRows] at hi; omega
  simp only [crop, List.getElem?_map, List.getElem?_take_of_lt hi, List.getElem?_eq_getElem hlt, Option.map_some,
    Option.bind_some]
  exact padTake_get _ _ _ hj

theorem data_inside (G : VGrid) (i j : Nat) (row : List Val) (v : Val) (hr : G[i]? = some row)
    (hv : row[j]? = some v) (hd : d v = true) :
    i < dataRows d G ∧ j < dataCols d (G.take (dataRows d G)) := by
  have hi : i < dataRows d G := by
    apply Nat.lt_of_not_le
    intro hle
    have := lastIdx_after (fun (row : List Val) => row.any d) G i hle row hr
    have hmem : v ∈ row := List.mem_of_getElem? hv
    simp only [List.any_eq_false] at this
    exact absurd hd (by simpa using this v hmem)
  refine ⟨hi, ?_⟩
  have hmem : row ∈ G.take (dataRows d G) := by
    apply List.mem_of_getElem? (i := i)
    rw [List.getElem?_take_of_lt hi]; exact hr
  have h1 : j < lastIdx d row := by
    apply Nat.lt_of_not_le
    intro hle
    have := lastIdx_after d row j hle v hv
    rw [this] at hd; exact absurd hd (by decide)
  have h2 := List.le_foldl_max_of_mem (lastIdx d) (G.take (dataRows d G)) 0 row hmem
  unfold dataCols
  omega

theorem crop_lastRow (G : VGrid) (row : List Val) (h : (crop d G).getLast? = some row) : row.any d = true := by
  rw [List.getLast?_eq_getElem?, crop_length] at h
  have hn : 0 < dataRows d G := by
    apply Nat.pos_of_ne_zero
    intro h0
    have hl := crop_length d G
    rw [h0, List.length_eq_zero_iff] at hl
    rw [hl] at h; simp at h
  obtain ⟨r, hr, hp⟩ := lastIdx_at (fun row : List Val => row.any d) G hn
  -- `lastIdx …` folded back into `dataRows`, the form `data_inside` and `crop_cell` speak of
  change G[dataRows d G - 1]? = some r at hr
  obtain ⟨v, hv, hd⟩ := List.any_eq_true.mp hp
  obtain ⟨j, hj⟩ := List.getElem?_of_mem hv
  obtain ⟨hi', hj'⟩ := data_inside d G (dataRows d G - 1) j r v hr hj hd
  have := crop_cell d G (dataRows d G - 1) j hi' hj'
  simp only [h, hr, Option.bind_some, hj, Option.getD_some] at this
  exact List.any_eq_true.mpr ⟨v, List.mem_of_getElem? this, hd⟩

theorem crop_lastCol (G : VGrid) (hw : 0 < dataCols d (G.take (dataRows d G))) :
    ∃ row ∈ crop d G, ∃ v, row[dataCols d (G.take (dataRows d G)) - 1]? = some v ∧ d v = true := by
  rcases List.foldl_max_attained (lastIdx d) (G.take (dataRows d G)) 0 with h0 | ⟨r, hr, he⟩
  · unfold dataCols at hw; omega
  · obtain ⟨v, hv, hd⟩ := lastIdx_at d r (by unfold dataCols at hw; omega)
    obtain ⟨i, hi⟩ := List.getElem?_of_mem hr
    have hlt : i < dataRows d G := by
      have := (List.getElem?_eq_some_iff.mp hi).1
      simp only [List.length_take] at this; omega
    rw [List.getElem?_take_of_lt hlt] at hi
    rw [he] at hv
    -- the fold over the rows folded back into `dataCols`, as above
    change r[dataCols d (G.take (dataRows d G)) - 1]? = some v at hv
    have hc := crop_cell d G i _ hlt (by omega : dataCols d (G.take (dataRows d G)) - 1 < _)
    rw [hi] at hc
    cases hrow : (crop d G)[i]? with
    | none => rw [hrow] at hc; simp at hc
    | some row =>
      rw [hrow] at hc
      simp only [Option.bind_some, hv, Option.getD_some] at hc
      exact ⟨row, List.mem_of_getElem? hrow, v, hc, hd⟩

theorem crop_id (g : VGrid) (c : Nat) (hne : g ≠ []) (hrect : ∀ row ∈ g, row.length = c)
    (hrow : (g.getLast hne).any d = true)
    (hcol : ∃ row ∈ g, ∃ hr : row ≠ [], d (row.getLast hr) = true) :
    crop d g = g := by
  unfold crop
  have h1 : dataRows d g = g.length := lastIdx_eq_length _ g hne hrow
  simp only [h1, List.take_length]
  have h2 : dataCols d g = c := by
    obtain ⟨row, hmem, hr, hp⟩ := hcol
    exact List.foldl_max_eq _ g c (fun row h => hrect row h ▸ lastIdx_le _ row) hmem
      ((lastIdx_eq_length _ row hr hp).trans (hrect row hmem))
  rw [h2]
  conv => rhs; rw [← List.map_id g]
  apply List.map_congr_left
  intro row hrow
  rw [← hrect row hrow]; simp [padTake]

end crop

namespace Xlsx

/-- the header names generated from the first row -/
def headersOf (first : List Val) (strOf : Nat → Str) : List Val :=
  (List.range first.length).zipWith (fun i v => headerName i v (strOf i)) first

/-- the used range: rows up to the last row with data, columns up to the last column with data -/
def usedRange (rows : VGrid) : VGrid :=
  let rs := rows.take (findLastDataRow rows)
  rs.map (padTake (findLastDataColumn rs))

/-- by unfolding: `findLastDataRow` is `dataRows isCellNonEmpty`, `findLastDataColumn` is `dataCols isCellNonEmpty`, which is how
    the XLSX theorems of Props/C13 read the `crop_*` facts -/
theorem usedRange_eq_crop (rows : VGrid) : usedRange rows = crop isCellNonEmpty rows := rfl

theorem readSheetData_eq (rows : VGrid) (strOf : Nat → Str) :
    readSheetData rows strOf =
      match usedRange rows with
      | [] => ([], [])
      | first :: rest => (headersOf first strOf :: rest.map (fun row => row.map getCellValue), first.map getCellValue) := by
  unfold readSheetData usedRange
  cases rows with
  | nil => simp [findLastDataRow, lastIdx]
  | cons r rs =>
    simp only [List.isEmpty_cons, Bool.false_eq_true, if_false]
    cases h : List.take (findLastDataRow (r :: rs)) (r :: rs) with
    | nil => simp
    | cons a as => simp only [List.map_cons]; rfl

/-- a table-name first row is dropped: the table starts at the second used row -/
theorem sheetData_nameRow (rows : VGrid) (strOf : Nat → Str) (first : List Val) (rest : VGrid)
    (h : usedRange rows = first :: rest) (hname : isTableNameRow (headersOf first strOf) = true) :
    sheetData rows strOf = rest.map (fun row => row.map getCellValue) := by
  unfold sheetData
  rw [readSheetData_eq, h]
  simp [hname]

end Xlsx

namespace Xls

theorem dictSet_fresh (d : List (Str × Val)) (k : Str) (v : Val) (h : ∀ kv ∈ d, kv.1 ≠ k) :
    dictSet d k v = d ++ [(k, v)] := by
  induction d with
  | nil => rfl
  | cons kv r ih =>
    obtain ⟨k', v'⟩ := kv
    have hne : k ≠ k' := fun e => h (k', v') (by simp) e.symm
    simp only [dictSet, hne, if_false, List.cons_append]
    rw [ih (fun kv hkv => h kv (by simp [hkv]))]

theorem foldl_dictSet_nodup (pairs : List (Str × Val)) (acc : List (Str × Val))
    (hnd : (acc.map (·.1) ++ pairs.map (·.1)).Nodup) :
    pairs.foldl (fun d hc => dictSet d hc.1 hc.2) acc = acc ++ pairs := by
  induction pairs generalizing acc with
  | nil => simp
  | cons p ps ih =>
    simp only [List.foldl_cons]
    have hfresh : ∀ kv ∈ acc, kv.1 ≠ p.1 := by
      intro kv hkv e
      rw [List.nodup_append] at hnd
      exact hnd.2.2 kv.1 (List.mem_map.mpr ⟨kv, hkv, rfl⟩) p.1 (by simp) e
    rw [dictSet_fresh acc p.1 p.2 hfresh, ih]
    · simp
    · simpa [List.map_append, List.append_assoc] using hnd

theorem rowDict_nodup (headers : List Str) (row : List Cell) (hnd : headers.Nodup) (hlen : row.length = headers.length) :
    rowDict headers row = headers.zip (row.map (·.native)) := by
  unfold rowDict
  have : (headers.zip row).foldl (fun d hc => dictSet d hc.1 hc.2.native) [] =
      ((headers.zip row).map (fun hc => (hc.1, hc.2.native))).foldl (fun d hc => dictSet d hc.1 hc.2) [] := by
    rw [List.foldl_map]
  rw [this, foldl_dictSet_nodup]
  · simp only [List.nil_append]
    rw [List.zip_map_right]
    rfl
  · simp only [List.map_nil, List.nil_append, List.map_map]
    have : (List.map ((fun x => x.fst) ∘ fun hc => (hc.fst, hc.snd.native)) (headers.zip row)) = headers := by
      have h2 : ((fun x : Str × Val => x.fst) ∘ fun hc : Str × Cell => (hc.fst, hc.snd.native)) = Prod.fst := rfl
      rw [h2, List.map_fst_zip]; omega
    rw [this]; exact hnd

theorem dictGet_zip (headers : List Str) (vals : List Val) (hnd : headers.Nodup) (hlen : vals.length = headers.length) :
    headers.map (dictGet (headers.zip vals)) = vals := by
  induction headers generalizing vals with
  | nil => cases vals <;> simp_all
  | cons k ks ih =>
    cases vals with
    | nil => simp at hlen
    | cons v vs =>
      simp only [List.zip_cons_cons, List.map_cons]
      have hk : dictGet ((k, v) :: ks.zip vs) k = v := by simp [dictGet]
      rw [hk]
      congr 1
      rw [List.nodup_cons] at hnd
      rw [← ih vs hnd.2 (by simpa using hlen)]
      apply List.map_congr_left
      intro k' hk'
      have : k ≠ k' := fun e => hnd.1 (e ▸ hk')
      have e : ((k, v).1 == k') = false := by simp [this]
      simp only [dictGet, List.find?_cons, e]
      rw [ih vs hnd.2 (by simpa using hlen)]

/-- XLS: with pairwise distinct header texts and at least one data row, `get_table()` is the
    header texts followed by the native values of every data row, cell by cell -/
theorem getTable_sheetData (first : List Cell) (rest : List (List Cell)) (hne : rest ≠ [])
    (hnd : (first.map (·.hdr)).Nodup) (hlen : ∀ row ∈ rest, row.length = first.length) :
    getTable (sheetData (first :: rest)) =
      (first.map (fun c => Val.str c.hdr)) :: rest.map (fun row => row.map (·.native)) := by
  unfold sheetData
  have hrows : rest.map (rowDict (first.map (·.hdr))) = rest.map (fun row => (first.map (·.hdr)).zip (row.map (·.native))) := by
    apply List.map_congr_left
    intro row hrow
    exact rowDict_nodup _ row hnd (by simp [hlen row hrow])
  simp only
  rw [hrows]
  cases rest with
  | nil => exact absurd rfl hne
  | cons r0 rs =>
    simp only [List.map_cons, getTable]
    have h0 : ((first.map (·.hdr)).zip (r0.map (·.native))).map (·.1) = first.map (·.hdr) := by
      rw [List.map_fst_zip]; simp [hlen r0 (by simp)]
    rw [h0]
    congr 1
    · simp
    · congr 1
      · exact dictGet_zip _ _ hnd (by simp [hlen r0 (by simp)])
      · rw [List.map_map]
        apply List.map_congr_left
        intro row hrow
        exact dictGet_zip _ _ hnd (by simp [hlen row (by simp [hrow])])

end Xls

end S2T.Tables

