import S2T.Model.UnitsBound
import S2T.Lemmas.Units
/-! The mbox splitter is read against the writer `mboxWrite`, line by line: `rawLines` finds the stored lines again
(`mboxAllLines`), `mboxGo` cuts them at the separator lines. -/
namespace S2T.Units

theorem rawLines_line (l rest acc : Str) (h : '\n' ∉ l) :
    rawLines (l ++ '\n' :: rest) acc = (acc.reverse ++ l, true) :: rawLines rest [] := by
  induction l generalizing acc with
  | nil => simp [rawLines]
  | cons c r ih =>
    have hc : c ≠ '\n' := fun e => h (by simp [e])
    have hr : '\n' ∉ r := fun e => h (by simp [e])
    simp only [List.cons_append, rawLines, if_neg hc]
    rw [ih _ hr]
    simp

theorem rawLines_lines (ls : List Str) (rest : Str) (h : ∀ l ∈ ls, '\n' ∉ l) :
    rawLines ((ls.map (· ++ ['\n'])).flatten ++ rest) [] = ls.map (fun l => (l, true)) ++ rawLines rest [] := by
  induction ls with
  | nil => simp
  | cons l r ih =>
    have hl : '\n' ∉ l := h l (by simp)
    have hr : ∀ x ∈ r, '\n' ∉ x := fun x hx => h x (by simp [hx])
    simp only [List.map_cons, List.flatten_cons, List.append_assoc, List.cons_append]
    rw [rawLines_line l _ [] hl]
    simp only [List.nil_append, List.reverse_nil]
    rw [ih hr]

theorem rawLines_nil : rawLines [] [] = [] := by simp [rawLines]

theorem mboxGo_body (ls : List Str) (rest : List (Str × Bool)) (m : Str) (h : ∀ l ∈ ls, isFromLine l = false) :
    mboxGo (ls.map (fun l => (l, true)) ++ rest) (some m) = mboxGo rest (some (m ++ (ls.map (· ++ ['\n'])).flatten)) := by
  induction ls generalizing m with
  | nil => simp
  | cons l r ih =>
    have hl : isFromLine l = false := h l (by simp)
    have hr : ∀ x ∈ r, isFromLine x = false := fun x hx => h x (by simp [hx])
    simp only [List.map_cons, List.cons_append, mboxGo, hl, Bool.and_false, Bool.false_eq_true, if_false, Option.map_some]
    rw [ih _ hr]
    simp

/-- all lines of a mailbox, in file order -/
def mboxAllLines (ms : List MboxMsg) : List (Str × Bool) :=
  (ms.map (fun m => (m.sep, true) :: m.lines.map (fun l => (l, true)))).flatten

theorem rawLines_mboxWrite (ms : List MboxMsg) (h : MboxWellFormed ms) :
    rawLines (mboxWrite ms) [] = mboxAllLines ms := by
  induction ms with
  | nil => simp [mboxWrite, mboxAllLines, rawLines]
  | cons m r ih =>
    have hm := h m (by simp)
    have hr : MboxWellFormed r := fun x hx => h x (by simp [hx])
    have e : mboxWrite (m :: r) = m.sep ++ '\n' :: ((m.lines.map (· ++ ['\n'])).flatten ++ mboxWrite r) := by
      simp [mboxWrite, mboxMsgText]
    rw [e, rawLines_line _ _ [] hm.2.1, rawLines_lines _ _ (fun l hl => (hm.2.2 l hl).2), ih hr]
    simp [mboxAllLines]

theorem mboxGo_mboxAllLines (ms : List MboxMsg) (h : MboxWellFormed ms) (cur : Option Str) :
    mboxGo (mboxAllLines ms) cur = cur.toList ++ ms.map mboxMsgText := by
  induction ms generalizing cur with
  | nil => cases cur <;> simp [mboxAllLines, mboxGo]
  | cons m r ih =>
    have hm := h m (by simp)
    have hr : MboxWellFormed r := fun x hx => h x (by simp [hx])
    have e : mboxAllLines (m :: r) = (m.sep, true) :: (m.lines.map (fun l => (l, true)) ++ mboxAllLines r) := by
      simp [mboxAllLines]
    rw [e]
    simp only [mboxGo, hm.1, Bool.and_self, if_true]
    rw [mboxGo_body _ _ _ (fun l hl => (hm.2.2 l hl).1), ih hr]
    cases cur <;> simp [mboxMsgText]

/-- `ht`, kept along the loop: the memo table only ever holds what `mk` would give -/
theorem pdfExtractMemo_eq {π κ} [DecidableEq κ] (key : π → κ) (mk : π → Page)
    (hk : ∀ p q, key p = key q → mk p = mk q) (pages : List π) (tbl : List (κ × Page))
    (ht : ∀ p v, tbl.lookup (key p) = some v → v = mk p) :
    pdfExtractMemo key mk pages tbl = pages.map mk := by
  induction pages generalizing tbl with
  | nil => rfl
  | cons p r ih =>
    unfold pdfExtractMemo
    cases hl : tbl.lookup (key p) with
    | some v =>
      simp only [List.map_cons]
      rw [ht p v hl, ih tbl ht]
    | none =>
      simp only [List.map_cons]
      rw [ih]
      intro q v hq
      simp only [List.lookup_cons] at hq
      split at hq
      · next heq =>
        have : key q = key p := by simpa using heq
        cases hq
        exact (hk q p this).symm
      · exact ht q v hq

end S2T.Units
