import S2T.Model.Guard
import S2T.Lemmas.Wrapper
/-! Soundness of the two skeleton analyses of `S2T.Model.Guard` with respect to `Run`. -/
namespace S2T.Guard

variable {encT stuck : String → Bool}

/-! The list versions of the analyses exist because of the mutual recursion. -/

theorem noYieldL_eq (hs : List G) : noYieldL encT stuck hs = hs.all (noYield encT stuck) := by
  induction hs <;> simp [noYieldL, *]
theorem mayNormalL_eq (hs : List G) : mayNormalL encT stuck hs = hs.any (mayNormal encT stuck) := by
  induction hs <;> simp [mayNormalL, *]
theorem mayYieldL_eq (hs : List G) : mayYieldL hs = hs.any mayYield := by
  induction hs <;> simp [mayYieldL, *]
theorem mayRaiseL_eq (hs : List G) : mayRaiseL hs = hs.any mayRaise := by
  induction hs <;> simp [mayRaiseL, *]
theorem quietL_eq (hs : List G) : quietL hs = hs.all quiet := by
  induction hs <;> simp [quietL, *]

/-! An analysis applied to a constructor unfolds by `rfl` (`mayYield (.seq a b)` is `mayYield a || mayYield b`), so the
    cases below name the disjunct or conjunct they use and do not rewrite with the definition first. -/
theorem bor_inl {a b : Bool} (h : a = true) : (a || b) = true := by rw [h]; rfl
theorem bor_inr {a b : Bool} (h : b = true) : (a || b) = true := by rw [h]; exact Bool.or_true a

section
variable {hs : List G} {h : G} (hm : h ∈ hs)
include hm

theorem noYieldL_mem (hn : noYieldL encT stuck hs = true) : noYield encT stuck h = true :=
  List.all_eq_true.mp (noYieldL_eq hs ▸ hn) h hm
theorem quietL_mem (hn : quietL hs = true) : quiet h = true := List.all_eq_true.mp (quietL_eq hs ▸ hn) h hm
theorem mayNormalL_mem (hn : mayNormal encT stuck h = true) : mayNormalL encT stuck hs = true :=
  mayNormalL_eq hs ▸ List.any_eq_true.mpr ⟨h, hm, hn⟩
theorem mayYieldL_mem (hn : mayYield h = true) : mayYieldL hs = true := mayYieldL_eq hs ▸ List.any_eq_true.mpr ⟨h, hm, hn⟩

end

theorem mayRaiseL_mem {hs : List G} {h : G} (hm : h ∈ hs) (hn : mayRaise h = true) : mayRaiseL hs = true :=
  mayRaiseL_eq hs ▸ List.any_eq_true.mpr ⟨h, hm, hn⟩

/-- Two parts that yield `n` and `m` times: if the whole yields, one of the parts does. -/
theorem or_of_add_pos {y y' : Bool} {n m : Nat} (h : 0 < n → y = true) (h' : 0 < m → y' = true) (hp : 0 < n + m) :
    (y || y') = true :=
  (Nat.add_pos_iff_pos_or_pos.mp hp).elim (fun h0 => bor_inl (h h0)) fun h0 => bor_inr (h' h0)

/-- A part that yields only if `y`, followed by something that raises and does so only if `r`:
    when the analysis excludes `y && r`, the part has yielded nothing. -/
theorem eq_zero_of_and_false {y r : Bool} {n : Nat} (hy : 0 < n → y = true) (hr : r = true) (h : (y && r) = false) :
    n = 0 :=
  n.eq_zero_or_pos.elim id fun h0 => by rw [hy h0, hr] at h; cases h

structure NoYieldTry (encT stuck : String → Bool) (b : G) (hs : List G) (f : G) : Prop where
  body : noYield encT stuck b = true
  handlers : noYieldL encT stuck hs = true
  fin : noYield encT stuck f = true

theorem noYield_try {body fin : G} {hs : List G} (h : noYield encT stuck (.try_ body hs fin) = true) :
    NoYieldTry encT stuck body hs fin := by
  simp only [noYield, Bool.and_eq_true] at h
  exact ⟨h.1.1, h.1.2, h.2⟩

/-- Beside its parts being quiet, `quiet` asks of a `try` statement that the `finally` part does not raise after a yield of
    the body or a handler (`yield_raise`) and does not yield before an exception of the body or a handler is passed on
    (`raise_yield`). -/
structure QuietTry (b : G) (hs : List G) (f : G) : Prop where
  body : quiet b = true
  handlers : quietL hs = true
  fin : quiet f = true
  yield_raise : ((mayYield b || mayYieldL hs) && mayRaise f) = false
  raise_yield : (mayYield f && (mayRaise b || mayRaiseL hs)) = false

theorem quiet_try {body fin : G} {hs : List G} (h : quiet (.try_ body hs fin) = true) : QuietTry body hs fin := by
  simp only [quiet, Bool.and_eq_true, Bool.not_eq_true'] at h
  exact ⟨h.1.1.1.1, h.1.1.1.2, h.1.1.2, h.1.2, h.2⟩

/-- What the analyses say about one execution that yields `n` times and ends with `o`. -/
structure Sound (encT stuck : String → Bool) (s : G) (n : Nat) (o : Out) : Prop where
  of_noYield : noYield encT stuck s = true → n = 0
  mayNormal_of : o = .normal → mayNormal encT stuck s = true
  mayYield_of : 0 < n → mayYield s = true
  mayRaise_of : o = .raised → mayRaise s = true
  of_quiet : quiet s = true → o = .raised → n = 0

theorem Sound.zero {s : G} {o : Out} (hn : o = .normal → mayNormal encT stuck s = true)
    (hr : o = .raised → mayRaise s = true) : Sound encT stuck s 0 o :=
  ⟨fun _ => rfl, hn, fun h => absurd h (Nat.lt_irrefl 0), hr, fun _ _ => rfl⟩

/-- All five analyses are sound, by one induction on the execution: `quiet` rests on `mayYield` / `mayRaise` of the
    parts, `noYield` on `mayNormal`, and these are the induction hypotheses for the parts. -/
theorem run_sound {s : G} {n : Nat} {o : Out} (h : Run encT stuck s n o) : Sound encT stuck s n o := by
  induction h with
  | atomOk hs => exact .zero (fun _ => by simp [mayNormal, hs]) fun h => by cases h
  | writeOk | loopDone => exact .zero (fun _ => rfl) fun h => by cases h
  | ret | brk | cont => exact .zero (fun h => by cases h) fun h => by cases h
  | atomRaise | raise_ | reraise | writeRaise | ifRaise => exact .zero (fun h => by cases h) fun _ => rfl
  | yield_ => exact ⟨fun h => (by cases h), fun _ => rfl, fun _ => rfl, fun h => (by cases h), fun _ h => (by cases h)⟩
  | seqStop _ hne ih =>
    exact ⟨fun hy => ih.of_noYield (Bool.and_eq_true_iff.mp hy).1, fun ho => absurd ho hne,
      fun hn => bor_inl (ih.mayYield_of hn), fun ho => bor_inl (ih.mayRaise_of ho), fun hq ho => by
        simp only [quiet, Bool.and_eq_true] at hq
        exact ih.of_quiet hq.1.1 ho⟩
  | seqGo _ _ iha ihb =>
    refine ⟨fun hy => ?_, fun ho => ?_, or_of_add_pos iha.mayYield_of ihb.mayYield_of, fun ho => bor_inr (ihb.mayRaise_of ho),
      fun hq ho => ?_⟩
    · -- `a` completes normally, so it is judged `mayNormal` and `noYield` asks for `noYield b`
      simp only [noYield, iha.mayNormal_of rfl, Bool.not_true, Bool.false_or, Bool.and_eq_true] at hy
      rw [iha.of_noYield hy.1, ihb.of_noYield hy.2]
    · simp only [mayNormal, Bool.and_eq_true]; exact ⟨iha.mayNormal_of rfl, ihb.mayNormal_of ho⟩
    · simp only [quiet, Bool.and_eq_true, Bool.not_eq_true'] at hq
      rw [eq_zero_of_and_false iha.mayYield_of (ihb.mayRaise_of ho) hq.2, ihb.of_quiet hq.1.2 ho]
  | iteL _ ih =>
    exact ⟨fun hy => ih.of_noYield (Bool.and_eq_true_iff.mp hy).1, fun ho => bor_inl (ih.mayNormal_of ho),
      fun hn => bor_inl (ih.mayYield_of hn), fun ho => bor_inl (ih.mayRaise_of ho),
      fun hq => ih.of_quiet (Bool.and_eq_true_iff.mp hq).1⟩
  | iteR _ ih =>
    exact ⟨fun hy => ih.of_noYield (Bool.and_eq_true_iff.mp hy).2, fun ho => bor_inr (ih.mayNormal_of ho),
      fun hn => bor_inr (ih.mayYield_of hn), fun ho => bor_inr (ih.mayRaise_of ho),
      fun hq => ih.of_quiet (Bool.and_eq_true_iff.mp hq).2⟩
  | ifTrue hs _ ih =>
    refine ⟨fun hy => ?_, fun ho => ?_, fun hn => bor_inl (ih.mayYield_of hn), fun _ => rfl,
      fun hq => ih.of_quiet (Bool.and_eq_true_iff.mp hq).1⟩
    · simp only [noYield, hs, Bool.false_or, Bool.and_eq_true] at hy; exact ih.of_noYield hy.1
    · simp only [mayNormal, hs, Bool.not_false, Bool.true_and]; exact bor_inl (ih.mayNormal_of ho)
  | ifFalse hs he _ ih =>
    refine ⟨fun hy => ?_, fun ho => ?_, fun hn => bor_inr (ih.mayYield_of hn), fun _ => rfl,
      fun hq => ih.of_quiet (Bool.and_eq_true_iff.mp hq).2⟩
    · simp only [noYield, hs, he, Bool.false_or, Bool.and_eq_true] at hy; exact ih.of_noYield hy.2
    · simp only [mayNormal, hs, he, Bool.not_false, Bool.true_and]; exact bor_inr (ih.mayNormal_of ho)
  | loopBrk _ ih => exact ⟨ih.of_noYield, fun _ => rfl, ih.mayYield_of, fun h => (by cases h), fun _ h => (by cases h)⟩
  | loopStep _ _ _ ihb ihl =>
    refine ⟨fun hy => (by rw [ihb.of_noYield hy, ihl.of_noYield hy]), fun _ => rfl,
      fun hn => (Nat.add_pos_iff_pos_or_pos.mp hn).elim ihb.mayYield_of ihl.mayYield_of, ihl.mayRaise_of, fun hq ho => ?_⟩
    rw [ihl.of_quiet hq ho]
    simp only [quiet, Bool.and_eq_true, Bool.not_eq_true'] at hq
    exact eq_zero_of_and_false ihb.mayYield_of (ihl.mayRaise_of ho) hq.2
  | loopExit _ ho ih =>
    exact ⟨ih.of_noYield, fun hn => (by simp [hn] at ho), ih.mayYield_of, ih.mayRaise_of,
      fun hq => ih.of_quiet (Bool.and_eq_true_iff.mp hq).1⟩
  | tryNoExc _ hne _ ihb ihf =>
    refine ⟨fun hy => ?_, fun ho => ?_, or_of_add_pos (fun h => bor_inl (ihb.mayYield_of h)) ihf.mayYield_of,
      fun ho => (Wrapper.tryOut_eq ho).elim (fun h => bor_inr (ihf.mayRaise_of h.2)) fun h => absurd h.2 hne, fun hq ho => ?_⟩
    · rw [ihb.of_noYield (noYield_try hy).body, ihf.of_noYield (noYield_try hy).fin]
    · simp only [mayNormal, Bool.and_eq_true, Bool.or_eq_true]
      exact ⟨Or.inl (ihb.mayNormal_of (Wrapper.tryOut_normal ho).1), ihf.mayNormal_of (Wrapper.tryOut_normal ho).2⟩
    · have q := quiet_try hq
      have hf' : _ = Out.raised := (Wrapper.tryOut_eq ho).elim (·.2) fun h => absurd h.2 hne
      rw [eq_zero_of_and_false (fun h => bor_inl (ihb.mayYield_of h)) (ihf.mayRaise_of hf') q.yield_raise,
        ihf.of_quiet q.fin hf']
  | tryUncaught _ _ ihb ihf =>
    refine ⟨fun hy => ?_, fun ho => (nomatch (Wrapper.tryOut_normal ho).1),
      or_of_add_pos (fun h => bor_inl (ihb.mayYield_of h)) ihf.mayYield_of, fun _ => bor_inl (bor_inl (ihb.mayRaise_of rfl)),
      fun hq _ => ?_⟩
    · rw [ihb.of_noYield (noYield_try hy).body, ihf.of_noYield (noYield_try hy).fin]
    · have q := quiet_try hq
      rw [ihb.of_quiet q.body rfl, eq_zero_of_and_false ihf.mayYield_of (bor_inl (ihb.mayRaise_of rfl)) q.raise_yield]
  | @tryCaught _ hs _ _ _ k _ _ _ _ hm _ _ ihb ihh ihf =>
    have hyL : 0 < k → mayYieldL hs = true := fun h => mayYieldL_mem hm (ihh.mayYield_of h)
    refine ⟨fun hy => ?_, fun ho => ?_, or_of_add_pos (or_of_add_pos ihb.mayYield_of hyL) ihf.mayYield_of,
      fun _ => bor_inl (bor_inl (ihb.mayRaise_of rfl)), fun hq ho => ?_⟩
    · have y := noYield_try hy
      rw [ihb.of_noYield y.body, ihh.of_noYield (noYieldL_mem hm y.handlers), ihf.of_noYield y.fin]
    · simp only [mayNormal, Bool.and_eq_true, Bool.or_eq_true]
      exact ⟨Or.inr (mayNormalL_mem hm (ihh.mayNormal_of (Wrapper.tryOut_normal ho).1)),
        ihf.mayNormal_of (Wrapper.tryOut_normal ho).2⟩
    · have q := quiet_try hq
      rw [ihb.of_quiet q.body rfl, eq_zero_of_and_false ihf.mayYield_of (bor_inl (ihb.mayRaise_of rfl)) q.raise_yield,
        Nat.zero_add, Nat.add_zero]
      -- the exception comes out of the `finally` part after a handler that may not have yielded, or out of the handler
      exact (Wrapper.tryOut_eq ho).elim
        (fun h => eq_zero_of_and_false (fun hk => bor_inr (hyL hk)) (ihf.mayRaise_of h.2) q.yield_raise)
        fun h => ihh.of_quiet (quietL_mem hm q.handlers) h.2

end S2T.Guard
