import S2T.Lemmas.C02OdfXml
import S2T.Lemmas.ListBasics
/-! List and token facts the ODP / ODS / XLSX lemma files of the C02 'sheets' part share. -/
namespace S2T.C02.Sheets
open S2T.Tok S2T.OdfText

theorem filter_map_tag_true {α} (t : Str) (f : α → Xml) (l : List α) (h : ∀ a, (f a).tag = t) :
    (l.map f).filter (fun e => decide (e.tag = t)) = l.map f :=
  List.filter_eq_self.2 (by simp [h])

theorem filter_map_tag_false {α} (t : Str) (f : α → Xml) (l : List α) (h : ∀ a, (f a).tag ≠ t) :
    (l.map f).filter (fun e => decide (e.tag = t)) = [] :=
  List.filter_eq_nil_iff.2 (by simp [h])

theorem find?_tag_cons (t : Str) (k : Xml) (ks : List Xml) :
    (k :: ks).find? (fun e => decide (e.tag = t))
      = if k.tag = t then some k else ks.find? (fun e => decide (e.tag = t)) := by
  by_cases h : k.tag = t <;> simp [h]

theorem insertBy_map {α β} (f : α → β) (le1 : β → β → Bool) (le2 : α → α → Bool)
    (h : ∀ a b, le1 (f a) (f b) = le2 a b) (x : α) (l : List α) :
    insertBy le1 (f x) (l.map f) = (insertBy le2 x l).map f := by
  induction l with
  | nil => rfl
  | cons y r ih =>
    simp only [List.map_cons, insertBy, h]
    by_cases hc : le2 x y = true
    · simp [hc]
    · simp [hc, ih]

theorem sortBy_map {α β} (f : α → β) (le1 : β → β → Bool) (le2 : α → α → Bool)
    (h : ∀ a b, le1 (f a) (f b) = le2 a b) (l : List α) :
    sortBy le1 (l.map f) = (sortBy le2 l).map f := by
  induction l with
  | nil => rfl
  | cons x r ih => simp only [List.map_cons, sortBy, ih, insertBy_map f le1 le2 h]

theorem mem_insertBy {α} (le : α → α → Bool) (x y : α) (l : List α) : y ∈ insertBy le x l ↔ y = x ∨ y ∈ l := by
  induction l with
  | nil => simp [insertBy]
  | cons a r ih =>
    simp only [insertBy]
    by_cases hc : le x a = true
    · simp [hc]
    · simp only [hc, Bool.false_eq_true, if_false, List.mem_cons, ih]
      constructor <;> (intro h; rcases h with h | h | h <;> simp [h])

theorem mem_sortBy {α} (le : α → α → Bool) (y : α) (l : List α) : y ∈ sortBy le l ↔ y ∈ l := by
  induction l with
  | nil => simp [sortBy]
  | cons a r ih => simp [sortBy, mem_insertBy, ih]

/-- `List.strip_eq_nil_iff` in the words of the C02 models (`strip`, `blank`) -/
theorem strip_eq_nil_iff {p : Char → Bool} (s : Str) : strip p s = [] ↔ blank p s = true :=
  List.strip_eq_nil_iff

theorem flatMap_tokens_map_strip {p : Char → Bool} (l : List Str) :
    (l.map (strip p)).flatMap (tokens p) = l.flatMap (tokens p) := by
  induction l with
  | nil => rfl
  | cons a r ih => simp [tokens_strip, ih]

theorem rstrip_flatMap {α β : Type} (q : α → Bool) (g : α → List β) (hg : ∀ a, q a = true → g a = []) (l : List α) :
    (rstrip q l).flatMap g = l.flatMap g := by
  obtain ⟨w, h1, h2⟩ := rstrip_split q l
  conv => rhs; rw [h1]
  rw [List.flatMap_append, List.flatMap_eq_nil_iff.2 (fun x hx => hg x (h2 x hx)), List.append_nil]

theorem take_flatMap {α β : Type} (q : α → Bool) (g : α → List β) (hg : ∀ a, q a = true → g a = []) (r : List α) (n : Nat)
    (hn : (rstrip q r).length ≤ n) : (r.take n).flatMap g = r.flatMap g := by
  obtain ⟨w, h1, h2⟩ := rstrip_split q r
  -- `subst` wants a variable for `rstrip q r`
  generalize rstrip q r = a at h1 hn
  subst h1
  rw [List.take_append, List.take_of_length_le hn, List.flatMap_append, List.flatMap_append,
    List.flatMap_eq_nil_iff.2 (fun x hx => hg x (h2 x hx)),
    List.flatMap_eq_nil_iff.2 (fun x hx => hg x (h2 x (List.mem_of_mem_take hx)))]

/-- `SepOk` from the check the `…TablesOk` predicates make on a separator -/
theorem sepOk_of {p : Char → Bool} {s : Str} (h : (!s.isEmpty) = true ∧ s.all p = true) : SepOk p s :=
  ⟨by simpa [List.isEmpty_iff] using h.1, h.2⟩

/-- `(name + sep + text.strip())`, stripped or not: the name's tokens, then the text's -/
theorem tokens_unit {p : Char → Bool} {sep : Str} (hs : SepOk p sep) (b : Bool) (name text : Str) :
    tokens p (if b = true then strip p (name ++ sep ++ strip p text) else name ++ sep ++ strip p text)
      = tokens p name ++ tokens p text := by
  have := tokens_append_sep name sep (strip p text) hs.2 hs.1
  rw [tokens_strip, List.append_assoc] at this
  cases b <;> simp [tokens_strip, this]

end S2T.C02.Sheets
