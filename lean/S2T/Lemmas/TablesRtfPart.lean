import S2T.Lemmas.TablesRtfPass
/-! The passes on the paragraphs of a written cell joined by `\par `; control-word removal on what stands in front of them. -/
namespace S2T.Tables.Rtf
open S2T.HtmlSkip (Str)
open S2T.Tables

theorem pass_join (m : Str → Option (Str × Nat)) (sepIn sepOut : Str) (g : Str → Str) (ps : List Str)
    (hp : ∀ p ∈ ps, ∀ X, subst m 0 (g p ++ X) = p ++ subst m 0 X)
    (hs : ∀ q ∈ ps, ∀ X, subst m 0 (sepIn ++ (g q ++ X)) = sepOut ++ subst m 0 (g q ++ X)) :
    subst m 0 (joinWith sepIn (ps.map g)) = joinWith sepOut ps := by
  -- behind the first paragraph: every further one with its separator in front
  have tail : ∀ rest : List Str, (∀ q ∈ rest, q ∈ ps) →
      subst m 0 ((rest.map g).flatMap (sepIn ++ ·)) = rest.flatMap (sepOut ++ ·) := by
    intro rest
    induction rest with
    | nil => intro _; rfl
    | cons q r ih =>
      intro h
      rw [List.map_cons, List.flatMap_cons, List.flatMap_cons, List.append_assoc, hs q (h q List.mem_cons_self),
        hp q (h q List.mem_cons_self), ih fun x hx => h x (List.mem_cons_of_mem _ hx), List.append_assoc]
  cases ps with
  | nil => rfl
  | cons p r =>
    rw [List.map_cons, joinWith_cons, joinWith_cons, hp p List.mem_cons_self, tail r fun q hq => List.mem_cons_of_mem _ hq]

theorem textChar_noBs {p : Str} (h : p.all textChar = true) : NoBs p :=
  fun c hc => (textChar_parts (List.all_eq_true.mp h c hc)).noBs

theorem plainPara_textChar {p : Str} (h : plainPara p = true) : p.all textChar = true := by
  exact List.all_eq_true.mpr (fun c hc => textChar_of_plain (List.all_eq_true.mp (plainPara_parts h).chars c hc))

/-- `\par ` as a control word for `silent_word`: the delimiting space counts to the word, nothing follows it -/
theorem silent_sPar {f : Str → Bool} (hf : Anch f) (h : Rejects f ['p', 'a', 'r', ' ']) : Silent f sPar := by
  unfold sPar
  rw [String.toList_ofList]
  exact silent_word hf h (noBs_of_all _ (by decide)) (d := []) nofun

theorem uniEsc_join (ps : List Str) (h : ∀ p ∈ ps, p.all textChar = true) :
    subst uniM 0 (joinWith sPar (ps.map esc)) = joinWith sPar ps :=
  pass_join uniM sPar sPar esc ps (fun p hp X => uniEsc_esc p X (h p hp))
    (fun _ _ _ => subst_silent uniM (silent_sPar anch_uniM (rejects_uniM _ (by decide))) _)

theorem hexEsc_join (ps : List Str) (h : ∀ p ∈ ps, NoBs p) :
    subst hexEscM 0 (joinWith sPar ps) = joinWith sPar ps := by
  have := pass_join hexEscM sPar sPar id ps
    (fun p hp X => subst_noBs hexEscM anch_hexEscM p X (h p hp))
    (fun _ _ _ => subst_silent hexEscM (silent_sPar anch_hexEscM (rejects_hexEscM _ (by decide))) _)
  simpa using this

theorem specialM_par (c : Char) (X : Str) (hc : isPySpace c = false) :
    specialM "par".toList ['\n'] (sPar ++ (c :: X)) = some (['\n'], sPar.length) := by
  have h1 : sPar ++ (c :: X) = '\\' :: 'p' :: 'a' :: 'r' :: ' ' :: c :: X := by rfl
  have h2 : (' ' :: c :: X).takeWhile isPySpace = [' '] := by
    rw [List.takeWhile_cons_of_pos (by decide), List.takeWhile_cons_of_neg (by simp [hc])]
  rw [h1]
  simp only [specialM]
  rw [if_pos (by rfl)]
  simp only [show ("par".toList).length = 3 by rfl, List.drop_succ_cons, List.drop_zero, h2]
  rfl

theorem par_join (ps : List Str) (h : ps.all plainPara = true) :
    subst (specialM "par".toList ['\n']) 0 (joinWith sPar ps) = joinWith ['\n'] ps := by
  have := pass_join (specialM "par".toList ['\n']) sPar ['\n'] id ps
    (fun p hp X => subst_noBs _ (anch_specialM _ _) p X
      (textChar_noBs (plainPara_textChar (List.all_eq_true.mp h p hp))))
    (fun q hq X => by
      simp only [id]
      obtain ⟨c, r, he, hw, hpl⟩ := plainPara_head (List.all_eq_true.mp h q hq)
      have hsp : isPySpace c = false := by
        apply plainChar_not_space hpl
        intro hc; subst hc; exact absurd hw (by decide)
      rw [he]
      simp only [List.cons_append]
      exact subst_head _ sPar _ ['\n'] (by decide) (specialM_par c _ hsp))
  simpa using this

theorem digit_not_alpha : ∀ c : Char, isDigit c = true → isCtlAlpha c = false := by
  intro c h
  simp only [isDigit, Bool.and_eq_true, decide_eq_true_eq] at h
  have h1 : 48 ≤ c.toNat := h.1
  have h2 : c.toNat ≤ 57 := h.2
  simp only [isCtlAlpha, isAsciiAlpha, Bool.or_eq_false_iff, Bool.and_eq_false_iff, decide_eq_false_iff_not, beq_eq_false_iff_ne]
  have e1 : ('a' ≤ c) = (97 ≤ c.toNat) := rfl
  have e2 : ('A' ≤ c) = (65 ≤ c.toNat) := rfl
  have e3 : (c ≤ 'Z') = (c.toNat ≤ 90) := rfl
  simp only [e1, e2, e3]
  omega

/-- a character that ends a control word with its parameter: no letter, no digit, no minus -/
structure EndsWord (c : Char) : Prop where
  noAlpha : isCtlAlpha c = false
  noDigit : isDigit c = false
  noMinus : c ≠ '-'

theorem endsWord_bs : EndsWord '\\' := ⟨by decide, by decide, by decide⟩
theorem endsWord_sp : EndsWord ' ' := ⟨by decide, by decide, by decide⟩

theorem ctlM_eval (name ds : Str) (c : Char) (Y : Str) (hname : ∀ x ∈ name, isCtlAlpha x = true) (hne : name ≠ [])
    (hds : ∀ x ∈ ds, isDigit x = true) (hc : EndsWord c) :
    ctlM ('\\' :: (name ++ (ds ++ c :: Y))) =
      some ([], 1 + name.length + ds.length + (if isPySpace c then 1 else 0)) := by
  obtain ⟨x, rest, hx, hxa, hxm⟩ : ∃ x rest, ds ++ c :: Y = x :: rest ∧ isCtlAlpha x = false ∧ x ≠ '-' := by
    cases ds with
    | nil => exact ⟨c, Y, rfl, hc.noAlpha, hc.noMinus⟩
    | cons d ds =>
      refine ⟨d, ds ++ c :: Y, rfl, digit_not_alpha d (hds d List.mem_cons_self), ?_⟩
      intro h; subst h; exact absurd (hds _ List.mem_cons_self) (by decide)
  have hname' : (name ++ (ds ++ c :: Y)).takeWhile isCtlAlpha = name := by
    rw [hx]; exact (List.takeWhile_dropWhile_append_cons isCtlAlpha name x rest hname hxa).1
  have hneg : ((ds ++ c :: Y).head? == some '-') = false := by
    rw [hx]; simpa using hxm
  have hds' : (ds ++ c :: Y).takeWhile isDigit = ds := (List.takeWhile_dropWhile_append_cons isDigit ds c Y hds hc.noDigit).1
  simp only [ctlM, hname', List.drop_left, hneg, Bool.false_eq_true, if_false, hds']
  rw [if_neg (by simpa using hne)]
  have hplen : (if ds.isEmpty = true then 0 else ds.length + 0) = ds.length := by
    cases ds <;> simp
  simp only [hplen, List.drop_left]

theorem ctlWords_noBs_append (a b : Str) (h : NoBs a) : ctlWords (a ++ b) = a ++ ctlWords b := subst_noBs ctlM anch_ctlM a b h

theorem ctlWords_noBs (N : Str) (h : NoBs N) : ctlWords N = N := subst_noBs_id ctlM anch_ctlM N h

theorem ctl_word (name ds : Str) (c : Char) (Y : Str) (hname : ∀ x ∈ name, isCtlAlpha x = true) (hne : name ≠ [])
    (hds : ∀ x ∈ ds, isDigit x = true) (hc : EndsWord c) :
    ctlWords ('\\' :: (name ++ (ds ++ c :: Y))) = ctlWords (if isPySpace c then Y else c :: Y) := by
  have m := ctlM_eval name ds c Y hname hne hds hc
  unfold ctlWords
  cases hsp : isPySpace c with
  | false =>
    have e : '\\' :: (name ++ (ds ++ c :: Y)) = ('\\' :: (name ++ ds)) ++ c :: Y := by simp
    rw [hsp, e] at m
    rw [e, subst_head ctlM _ _ [] (List.cons_ne_nil _ _) (by rw [m]; simp; omega)]
    rfl
  | true =>
    have e : '\\' :: (name ++ (ds ++ c :: Y)) = ('\\' :: (name ++ (ds ++ [c]))) ++ Y := by simp
    rw [hsp, e] at m
    rw [e, subst_head ctlM _ _ [] (List.cons_ne_nil _ _) (by rw [m]; simp; omega)]
    rfl

theorem ctl_cellStart (N : Str) (h : NoBs N) : ctlWords (sCellStart ++ N) = N := by
  -- the two words in the shape `\name ++ (digits ++ c :: Y)` of `ctl_word`, with no digits: `[] ++`
  have e : sCellStart ++ N = '\\' :: ("pard".toList ++ ([] ++ '\\' :: ("intbl".toList ++ ([] ++ ' ' :: N)))) := by
    rw [sCellStart_eq]; simp
  rw [e, ctl_word "pard".toList [] '\\' _ (by decide) (by decide) (by simp) endsWord_bs,
    if_neg (by decide),
    ctl_word "intbl".toList [] ' ' N (by decide) (by decide) (by simp) endsWord_sp,
    if_pos (by decide)]
  exact ctlWords_noBs N h

theorem ctl_cellx (k : Nat) (c : Char) (Y : Str) (hc : EndsWord c) :
    ctlWords (cellxW k ++ c :: Y) = ctlWords (if isPySpace c then Y else c :: Y) := by
  rw [← ctl_word "cellx".toList (toDec k) c Y (by decide) (by decide) (toDec_digits k) hc, cellxW,
    List.cons_append, List.append_assoc]

theorem ctl_cellxs : ∀ (n i : Nat) (Y : Str), ctlWords (cellxs i (n + 1) ++ ' ' :: Y) = ctlWords Y
  | 0, i, Y => by
    rw [cellxs_succ, show cellxs (i + 1) 0 = [] from rfl, List.append_nil,
      ctl_cellx _ ' ' Y endsWord_sp, if_pos (by decide)]
  | n + 1, i, Y => by
    have e : ∀ (k : Nat) (Z : Str), cellxW k ++ Z = '\\' :: ("cellx".toList ++ toDec k ++ Z) := fun _ _ => rfl
    have ih := ctl_cellxs n (i + 1) Y
    rw [cellxs_succ, List.append_assoc, e] at ih
    rw [cellxs_succ, List.append_assoc, cellxs_succ (i + 1) n, List.append_assoc, e (1500 * (i + 1 + 1)),
      ctl_cellx _ '\\' _ endsWord_bs, if_neg (by decide)]
    exact ih

theorem ctl_trowd (Y : Str) : ctlWords ("\\trowd".toList ++ '\\' :: Y) = ctlWords ('\\' :: Y) := by
  have e : "\\trowd".toList = '\\' :: ("trowd".toList ++ []) := by decide_chars
  rw [e, List.cons_append, List.append_assoc,
    ctl_word "trowd".toList [] '\\' Y (by decide) (by decide) (by simp) endsWord_bs,
    if_neg (by decide)]

theorem ctl_lead {L L' : Str} (hL : LeadOf L L') (N : Str) (h : NoBs N) :
    ctlWords (L ++ sCellStart ++ N) = L' ++ N := by
  cases hL with
  | first n =>
    have e : ctlWords (lead0 (n + 1) ++ sCellStart ++ N) = ctlWords (cellxs 0 (n + 1) ++ ' ' :: (sCellStart ++ N)) := by
      unfold lead0
      simp only [cellxs_succ, cellxW, List.append_assoc, List.cons_append, List.nil_append]
      exact ctl_trowd _
    rw [e, ctl_cellxs n 0]
    exact ctl_cellStart N h
  | later =>
    rw [List.append_assoc, ctlWords_noBs_append [' '] _ (noBs_of_all _ (by decide)), ctl_cellStart N h]

end S2T.Tables.Rtf
