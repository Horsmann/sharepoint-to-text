import S2T.Spec.Opc
import S2T.Lemmas.ListBasics
/-! The string functions of the OPC specification (`Spec/Opc.lean`) are core's: `split("/")` is `List.splitOn`,
`"/".join` is `List.intercalate`. -/
namespace S2T.Spec.Opc

theorem splitSlash_eq (s : Str) : splitSlash s = s.splitOn '/' :=
  List.eq_splitOn '/' _ rfl (fun x r p ps h => by rw [splitSlash, h]) s

theorem joinSlash_eq (l : List Str) : joinSlash l = ['/'].intercalate l := by
  fun_induction joinSlash l with
  | case1 => rfl
  | case2 s => exact List.intercalate_singleton.symm
  | case3 s t h ih =>
    obtain ⟨a, t', rfl⟩ := List.exists_cons_of_ne_nil h
    rw [ih, List.intercalate_cons_cons]; simp

end S2T.Spec.Opc
