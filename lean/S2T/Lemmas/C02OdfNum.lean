import S2T.Spec.C02OdfDoc
import S2T.Lemmas.Decimal
import S2T.Lemmas.ListBasics
/-! Decimal numerals: `int(str(n)) = n` for the model's `pyInt` and the renderer's `natToDec`. -/
namespace S2T.OdfDoc
open S2T.Tok S2T.OdfText

theorem natToDec_eq (n : Nat) : natToDec n = Nat.toDigits 10 n :=
  Decimal.eq_toDigits natToDec (fun n => by
    have hd : ∀ d, d < 10 → digitChar d = d.digitChar := by decide
    unfold natToDec
    rw [digitsRev]
    split
    · simp [hd n ‹_›]
    · simp [hd _ (Nat.mod_lt n (by decide : 0 < 10))]) n

theorem natToDec_isDigit {n : Nat} {c : Char} (h : c ∈ natToDec n) : c.isDigit = true :=
  Decimal.isDigit_toDigits (natToDec_eq n ▸ h)

theorem natToDec_ne_nil (n : Nat) : natToDec n ≠ [] := natToDec_eq n ▸ Nat.toDigits_ne_nil

theorem parseDigits_digits (s : Str) (hs : ∀ c ∈ s, c.isDigit = true) (acc : Nat) (flag : Bool)
    (hne : s ≠ [] ∨ flag = true) : parseDigits s acc flag = some (Nat.ofDigitChars 10 s acc) := by
  induction s generalizing acc flag with
  | nil => simpa [parseDigits] using hne
  | cons c r ih =>
    have hc : digitVal c = some (c.toNat - 48) := if_pos (by simpa [Char.isDigit, Char.le_def] using hs c (by simp))
    simp only [parseDigits, hc, Nat.ofDigitChars_cons, Nat.mul_comm acc 10]
    exact ih (fun x hx => hs x (by simp [hx])) _ true (Or.inr rfl)

theorem digitChar_toNat {d : Nat} (h : d < 10) : (digitChar d).toNat = 48 + d :=
  (by decide : ∀ d < 10, (digitChar d).toNat = 48 + d) d h

/-- whitespace never contains an ASCII digit -/
def NoDigitWs (p : Char → Bool) : Prop := ∀ d, d < 10 → p (digitChar d) = false

/-- `NoDigitWs` from the check the `…TablesOk` predicates make on the whitespace table -/
theorem noDigit_of {ws : List Nat} (h : (List.range 10).all (fun d => !ws.contains (48 + d)) = true) :
    NoDigitWs (isWsTab ws) := by
  intro d hd
  have hm : ws.contains (48 + d) = false := by simpa using List.all_eq_true.mp h d (List.mem_range.2 hd)
  simp only [isWsTab, digitChar_toNat hd, hm]

theorem digitChar_of_isDigit {c : Char} (h : c.isDigit = true) : ∃ d, d < 10 ∧ digitChar d = c := by
  have hc : 48 ≤ c.toNat ∧ c.toNat ≤ 57 := by simpa [Char.isDigit, UInt32.le_iff_toNat_le] using h
  refine ⟨c.toNat - 48, by omega, Char.toNat_inj.mp ?_⟩
  have := digitChar_toNat (d := c.toNat - 48) (by omega)
  omega

theorem NoDigitWs.isDigit {p : Char → Bool} (hp : NoDigitWs p) (c : Char) (h : c.isDigit = true) : p c = false := by
  obtain ⟨d, hd, rfl⟩ := digitChar_of_isDigit h
  exact hp d hd

theorem natToDec_noWs {p : Char → Bool} (hp : NoDigitWs p) (n : Nat) : ∀ c ∈ natToDec n, p c = false :=
  fun c hc => hp.isDigit c (natToDec_isDigit hc)

theorem pyInt_natToDec {p : Char → Bool} (hp : NoDigitWs p) (n : Nat) : pyInt p (natToDec n) = some (n : Int) := by
  have hpd := parseDigits_digits (natToDec n) (fun _ => natToDec_isDigit) 0 false (Or.inl (natToDec_ne_nil n))
  -- core's round trip is stated for `Nat.toDigits`: `natToDec_eq` there and back
  rw [natToDec_eq n, Nat.ofDigitChars_ten_toDigits, ← natToDec_eq n] at hpd
  have hs : strip p (natToDec n) = natToDec n :=
    List.strip_eq_self (fun c hc => natToDec_noWs hp n c (List.mem_of_mem_head? hc))
      fun c hc => natToDec_noWs hp n c (List.mem_of_mem_getLast? hc)
  unfold pyInt
  rw [hs]
  cases hcons : natToDec n with
  | nil => exact absurd hcons (natToDec_ne_nil n)
  | cons d r =>
    have hd : d.isDigit = true := natToDec_isDigit (hcons ▸ List.mem_cons_self)
    rw [hcons] at hpd
    -- the first character is a digit, so neither sign branch of `pyInt` is taken
    split
    · rename_i heq; cases heq; exact absurd hd (by decide)
    · rename_i heq; cases heq; exact absurd hd (by decide)
    · rw [hpd]; rfl

end S2T.OdfDoc
