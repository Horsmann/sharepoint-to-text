/-! Two ways to compare what is produced with what was put in, for every list of items (C12, C18):
a bound item by item is a bound on the sums, and
a family of inputs whose output grows like a square while its size grows linearly refutes every linear bound
(`Amplifies`). -/
namespace S2T.Bounds

theorem sum_map_le_mul {α} (R : Nat) (f g : α → Nat) (l : List α) (h : ∀ a ∈ l, f a ≤ R * g a) :
    (l.map f).sum ≤ R * (l.map g).sum := by
  induction l with
  | nil => simp
  | cons a r ih =>
    have := h a List.mem_cons_self
    have := ih fun x hx => h x (List.mem_cons_of_mem _ hx)
    simp only [List.map_cons, List.sum_cons, Nat.mul_add]
    omega

theorem sum_map_le {α} (f g : α → Nat) (l : List α) (h : ∀ a ∈ l, f a ≤ g a) : (l.map f).sum ≤ (l.map g).sum := by
  simpa using sum_map_le_mul 1 f g l (by simpa using h)

theorem length_flatMap_le_mul {α β} (R : Nat) (f : α → List β) (g : α → Nat) (l : List α)
    (h : ∀ a ∈ l, (f a).length ≤ R * g a) : (l.flatMap f).length ≤ R * (l.map g).sum := by
  rw [List.length_flatMap]
  exact sum_map_le_mul R _ g l h

theorem sum_filterMap_le {α} (f : α → Option Nat) (g : α → Nat) (l : List α)
    (h : ∀ a ∈ l, ∀ n, f a = some n → n ≤ g a) : (l.filterMap f).sum ≤ (l.map g).sum := by
  induction l with
  | nil => simp
  | cons a r ih =>
    have ih := ih fun x hx => h x (List.mem_cons_of_mem _ hx)
    have ha := h a List.mem_cons_self
    rw [List.filterMap_cons, List.map_cons, List.sum_cons]
    cases hf : f a with
    | none => simp only []; omega
    | some n => have := ha n hf; simp only [List.sum_cons]; omega

/-- the output is not within any fixed multiple of the size (the `*_unbounded` theorems of `Props/C12_Amplify.lean` state this
    unfolded, with `>`; their proofs are terms of this type) -/
def Amplifies {α} (out size : α → Nat) : Prop := ∀ K, ∃ x, K * size x < out x

theorem Amplifies.no_linear_bound {α} {out size : α → Nat} (h : Amplifies out size) :
    ¬ ∃ K, ∀ x, out x ≤ K * size x := fun ⟨K, hK⟩ =>
  let ⟨x, hx⟩ := h K
  Nat.lt_irrefl _ (Nat.lt_of_lt_of_le hx (hK x))

theorem Amplifies.of_comp {α β} {out size : β → Nat} (x : α → β) (h : Amplifies (out ∘ x) (size ∘ x)) :
    Amplifies out size := fun K =>
  let ⟨n, hn⟩ := h K
  ⟨x n, hn⟩

/-- a square outgrows every linear function: at `n = K (a + b) + 1` it is above `K (a + b n)` -/
theorem linear_lt_sq (K a b : Nat) :
    K * (a + b * (K * (a + b) + 1)) < (K * (a + b) + 1) * (K * (a + b) + 1) := by
  generalize hn : K * (a + b) + 1 = n
  have h1 : a + b * n ≤ (a + b) * n := by
    rw [Nat.add_mul]
    exact Nat.add_le_add_right (Nat.le_mul_of_pos_right a (by omega)) _
  calc K * (a + b * n) ≤ K * ((a + b) * n) := Nat.mul_le_mul_left K h1
    _ = (K * (a + b)) * n := (Nat.mul_assoc ..).symm
    _ < n * n := Nat.mul_lt_mul_of_pos_right (by omega) (by omega)

theorem amplifies_of_sq {α} {out size : α → Nat} (x : Nat → α) (a b : Nat) (hsize : ∀ n, size (x n) ≤ a + b * n)
    (hout : ∀ n, n * n ≤ out (x n)) : Amplifies out size := fun K =>
  ⟨x (K * (a + b) + 1), Nat.lt_of_le_of_lt (Nat.mul_le_mul_left K (hsize _)) (Nat.lt_of_lt_of_le (linear_lt_sq K a b) (hout _))⟩

theorem sq_le_pow10 (d : Nat) : d * d ≤ 10 ^ d :=
  calc d * d ≤ 2 ^ d * 2 ^ d := Nat.mul_le_mul (Nat.le_of_lt Nat.lt_two_pow_self) (Nat.le_of_lt Nat.lt_two_pow_self)
    _ = 4 ^ d := (Nat.mul_pow 2 2 d).symm
    _ ≤ 10 ^ d := Nat.pow_le_pow_left (by decide) d

end S2T.Bounds
