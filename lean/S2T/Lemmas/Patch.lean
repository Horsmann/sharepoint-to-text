import S2T.Model.Patch
namespace S2T.Patch
open Pc

def num (S : Pc → Bool) (thr : List Thr) : Nat := thr.countP (S ·.pc)

/-- between an acquire and the matching release -/
@[simp] def inLock : Pc → Bool
  | testIn | save | wrap | incr | relIn | decr | testOut | restore | relOut => true
  | _ => false
/-- counted in `_CHAR_MAP_PATCH_USERS` -/
@[simp] def counted : Pc → Bool
  | relIn | body | acqOut | decr => true
  | _ => false
/-- running under the installed wrapper without being counted: about to count itself in, or just counted out -/
@[simp] def pending : Pc → Bool
  | incr | testOut | restore => true
  | _ => false
/-- happens only while nobody is counted -/
@[simp] def excl : Pc → Bool
  | save | wrap | restore => true
  | _ => false
@[simp] def atWrap : Pc → Bool
  | wrap => true
  | _ => false

theorem num_set : ∀ {thr : List Thr} {t : Nat} (_ : t < thr.length) (y : Thr) (S : Pc → Bool),
    num S (thr.set t y) = num S (thr.eraseIdx t) + (S y.pc).toNat
  | _ :: l, 0, _, y, S => by
    simp only [num, List.set_cons_zero, List.eraseIdx_cons_zero, List.countP_cons]
    cases S y.pc <;> rfl
  | a :: l, t + 1, h, y, S => by
    have := num_set (thr := l) (t := t) (by simpa using h) y S
    simp only [num, List.set_cons_succ, List.eraseIdx_cons_succ, List.countP_cons] at this ⊢
    omega

theorem num_eraseIdx {thr : List Thr} {t : Nat} (h : t < thr.length) (S : Pc → Bool) :
    num S thr = num S (thr.eraseIdx t) + (S thr[t].pc).toNat := by
  rw [← num_set h, List.set_getElem_self]

theorem num_mono {S T : Pc → Bool} (h : ∀ p, S p = true → T p = true) (l : List Thr) : num S l ≤ num T l :=
  List.countP_mono_left (fun _ _ hx => h _ hx)

theorem num_pos {S : Pc → Bool} {thr : List Thr} {x : Thr} (h : x ∈ thr) (hS : S x.pc = true) : num S thr > 0 :=
  List.countP_pos_iff.mpr ⟨x, h, hS⟩

theorem num_eq_zero {S : Pc → Bool} {thr : List Thr} (h : ∀ x ∈ thr, S x.pc = false) : num S thr = 0 :=
  List.countP_eq_zero.mpr fun x hx => by simp [h x hx]

structure Inv (s : St) : Prop where
  /-- mutual exclusion; the user count is the number of threads that have incremented and not yet decremented; the
      wrapper is installed exactly once iff somebody uses it or is about to count itself in / out; nobody uses it
      while a thread saves, wraps or restores.  One conjunction of linear facts, so that `omega` takes it whole
      (`inv_step`); `Inv.mutex` and `Inv.F_le_one` below are the two parts that are also read alone. -/
  count : num inLock s.thr = s.lock.isSome.toNat ∧ s.users = num counted s.thr ∧
          s.F ≤ 1 ∧ (s.F = 1 ↔ s.users > 0 ∨ num pending s.thr > 0) ∧ (num excl s.thr > 0 → s.users = 0)
  saved : s.saved = if s.F = 1 ∨ num atWrap s.thr > 0 then [0] else []
  loc   : ∀ x ∈ s.thr, x.pc = wrap → x.loc = 0
  seen  : ∀ o ∈ s.obs, o.2 = 1

theorem Inv.mutex {s : St} (h : Inv s) : num inLock s.thr = s.lock.isSome.toNat := h.count.1

theorem Inv.F_le_one {s : St} (h : Inv s) : s.F ≤ 1 := h.count.2.2.1

theorem mem_set_loc {thr : List Thr} {t : Nat} {y : Thr}
    (hl : ∀ x ∈ thr, x.pc = wrap → x.loc = 0) (hy : y.pc = wrap → y.loc = 0) :
    ∀ x ∈ thr.set t y, x.pc = wrap → x.loc = 0 := by
  intro x hx
  rcases List.mem_or_eq_of_mem_set hx with h | h
  · exact hl x h
  · subst h; exact hy

-- not called: `inv_step` below writes its script out arm by arm; its `m1`–`m3` are the three `have`s at its head, not these
macro "moves " m:term : tactic => `(tactic| (
  have m1 := $m testIn; have m2 := $m save; have m3 := $m wrap; have m4 := $m incr; have m5 := $m relIn
  have m6 := $m body; have m7 := $m acqOut; have m8 := $m decr; have m9 := $m testOut; have m10 := $m restore
  have m11 := $m relOut
  simp at m1 m2 m3 m4 m5 m6 m7 m8 m9 m10 m11))

/- A step of thread `t` leaves the other threads alone: old and new counts are the counts of the others
   (`s.thr.eraseIdx t`) plus the contribution of `t`'s old resp. new program counter, which `simp` evaluates.
   What is left of `count` is linear arithmetic; a thread inside the locked region knows that the others are outside
   (`m1`, `m2`: `pending` and `excl` lie in the locked region; `m3`: `atWrap` lies in `excl`).  Eleven of the arms are the script of the first one (`probe → acqIn`);
   only `save`, `wrap`, `body` and `restore` need more: what they know of `F`, `loc`, `obs` and `saved`. -/
theorem inv_step {s : St} (h : Inv s) (t : Nat) : Inv (Fixed.step s t) := by
  unfold Fixed.step
  split
  · exact h
  · rename_i x hx
    obtain ⟨ht, hxt⟩ := List.getElem?_eq_some_iff.mp hx
    have lk := Bool.toNat_le s.lock.isSome
    have m1 : num pending (s.thr.eraseIdx t) ≤ num inLock (s.thr.eraseIdx t) := num_mono (fun p => by cases p <;> decide) _
    have m2 : num excl (s.thr.eraseIdx t) ≤ num inLock (s.thr.eraseIdx t) := num_mono (fun p => by cases p <;> decide) _
    have m3 : num atWrap (s.thr.eraseIdx t) ≤ num excl (s.thr.eraseIdx t) := num_mono (fun p => by cases p <;> decide) _
    have notWrap {l : Nat} {p : Pc} (hp : p ≠ wrap) := mem_set_loc (t := t) (y := ⟨p, l⟩) h.loc (fun e => absurd e hp)
    have ⟨count, saved, loc, seen⟩ := h
    simp only [num_eraseIdx ht, hxt] at count saved
    split
    · -- probe → acqIn
      rename_i hp
      simp [hp] at count saved
      refine ⟨?_, ?_, notWrap (by decide), seen⟩ <;> simp [num_set ht]
      · omega
      · exact saved
    · -- acqIn
      rename_i hp
      split
      · rename_i hc
        rw [Option.isNone_iff_eq_none.mp hc] at count
        simp [hp] at count saved
        refine ⟨?_, ?_, notWrap (by decide), seen⟩ <;> simp [num_set ht]
        · omega
        · exact saved
      · exact h
    · -- testIn: `users = 0` or not, as the branch says
      rename_i hp
      split
      · simp [hp] at count saved
        refine ⟨?_, ?_, notWrap (by decide), seen⟩ <;> simp [num_set ht]
        · omega
        · exact saved
      · simp [hp] at count saved
        refine ⟨?_, ?_, notWrap (by decide), seen⟩ <;> simp [num_set ht]
        · omega
        · exact saved
    · -- save → wrap
      rename_i hp
      simp [hp] at count saved
      have hF : s.F = 0 := by omega
      have hw : num atWrap (s.thr.eraseIdx t) = 0 := by omega
      refine ⟨?_, ?_, mem_set_loc loc (fun _ => hF), seen⟩ <;> simp [num_set ht]
      · omega
      · simp [saved, hF, hw]
    · -- wrap → incr
      rename_i hp
      have hl := loc x (hxt ▸ List.getElem_mem ht) hp
      simp [hp] at count saved
      refine ⟨?_, ?_, notWrap (by decide), seen⟩ <;> simp [num_set ht, hl]
      · omega
      · exact saved
    · -- incr → relIn
      rename_i hp
      simp [hp] at count saved
      refine ⟨?_, ?_, notWrap (by decide), seen⟩ <;> simp [num_set ht]
      · omega
      · exact saved
    · -- relIn → body
      rename_i hp
      simp [hp] at count saved
      refine ⟨?_, ?_, notWrap (by decide), seen⟩ <;> simp [num_set ht]
      · omega
      · exact saved
    · -- body → acqOut
      rename_i hp
      simp [hp] at count saved
      refine ⟨?_, ?_, notWrap (by decide), ?_⟩ <;> simp [num_set ht]
      · omega
      · exact saved
      · rintro a b (ho | ⟨_, rfl⟩)
        · exact seen _ ho
        · omega
    · -- acqOut
      rename_i hp
      split
      · rename_i hc
        rw [Option.isNone_iff_eq_none.mp hc] at count
        simp [hp] at count saved
        refine ⟨?_, ?_, notWrap (by decide), seen⟩ <;> simp [num_set ht]
        · omega
        · exact saved
      · exact h
    · -- decr → testOut
      rename_i hp
      simp [hp] at count saved
      refine ⟨?_, ?_, notWrap (by decide), seen⟩ <;> simp [num_set ht]
      · omega
      · exact saved
    · -- testOut
      rename_i hp
      split
      · simp [hp] at count saved
        refine ⟨?_, ?_, notWrap (by decide), seen⟩ <;> simp [num_set ht]
        · omega
        · exact saved
      · simp [hp] at count saved
        refine ⟨?_, ?_, notWrap (by decide), seen⟩ <;> simp [num_set ht]
        · omega
        · exact saved
    · -- restore → relOut
      rename_i hp
      simp [hp] at count saved
      have hF : s.F = 1 := by omega
      have hs : s.saved = [0] := by simpa [hF] using saved
      refine ⟨?_, ?_, notWrap (by decide), seen⟩ <;> simp [num_set ht, hs, restoreAll]
      · omega
      · omega
    · -- relOut → done
      rename_i hp
      simp [hp] at count saved
      refine ⟨?_, ?_, notWrap (by decide), seen⟩ <;> simp [num_set ht]
      · omega
      · exact saved
    · exact h

theorem inv_run {s : St} (h : Inv s) (sched : List Nat) : Inv (Fixed.run s sched) :=
  List.foldlRecOn sched Fixed.step h fun _ hs t _ => inv_step hs t

theorem inv_init (k : Nat) : Inv (init k) := by
  have z : ∀ S, S probe = false → num S (init k).thr = 0 := fun S hS =>
    num_eq_zero fun x hx => by rw [List.eq_of_mem_replicate hx]; exact hS
  refine ⟨?_, ?_, ?_, ?_⟩
  · rw [z inLock rfl, z counted rfl, z pending rfl, z excl rfl]; simp [init]
  · rw [z atWrap rfl]; rfl
  · intro x hx hw
    rw [List.eq_of_mem_replicate hx] at hw
    cases hw
  · intro o ho; cases ho

/-- the sum of the per-pc counts over the locked region, as `patch_mutex` states it -/
theorem cnt_inLock (thr : List Thr) :
    cnt thr testIn + cnt thr save + cnt thr wrap + cnt thr incr + cnt thr relIn + cnt thr decr + cnt thr testOut
      + cnt thr restore + cnt thr relOut = num inLock thr := by
  induction thr with
  | nil => rfl
  | cons a l ih =>
    have e : (if a.pc == testIn then 1 else 0) + (if a.pc == save then 1 else 0) + (if a.pc == wrap then 1 else 0)
        + (if a.pc == incr then 1 else 0) + (if a.pc == relIn then 1 else 0) + (if a.pc == decr then 1 else 0)
        + (if a.pc == testOut then 1 else 0) + (if a.pc == restore then 1 else 0) + (if a.pc == relOut then 1 else 0)
        = if inLock a.pc then 1 else 0 := by cases a.pc <;> rfl
    simp only [cnt, num, List.countP_cons] at ih ⊢
    omega

theorem cnt_allDone {s : St} (h : allDone s = true) (p : Pc) (hp : p ≠ done) : cnt s.thr p = 0 :=
  List.countP_eq_zero.mpr fun a ha => by
    have e : a.pc = done := by simpa using List.all_eq_true.mp h a ha
    simp [e, hp.symm]

theorem step_ne {s : St} {t : Nat} {x : Thr} (hx : s.thr[t]? = some x) (hd : x.pc ≠ done)
    (hl : x.pc = acqIn ∨ x.pc = acqOut → s.lock = none) : Fixed.step s t ≠ s := by
  obtain ⟨ht, hxt⟩ := List.getElem?_eq_some_iff.mp hx
  -- a state in which thread `t` has another program counter is another state
  have mv : ∀ (s' : St) (y : Thr), s'.thr = s.thr.set t y → y.pc ≠ x.pc → s' ≠ s := by
    intro s' y e hy h
    rw [h] at e
    have := congrArg (·[t]?) e
    simp only [hx, List.getElem?_set_self ht] at this
    exact hy (congrArg Thr.pc (Option.some.inj this)).symm
  unfold Fixed.step
  rw [hx]
  dsimp only  -- reduces the `match` on `some x`
  cases hp : x.pc
  case done => exact absurd hp hd
  case acqIn | acqOut =>
    rw [hl (by simp [hp])]
    exact mv _ _ rfl (by rw [hp]; nofun)
  case testIn | testOut =>
    dsimp only  -- lays the `if` of the test bare
    split <;> exact mv _ _ rfl (by rw [hp]; nofun)
  all_goals exact mv _ _ rfl (by rw [hp]; nofun)

end S2T.Patch
