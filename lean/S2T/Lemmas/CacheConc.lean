import S2T.Model.CacheConc
import S2T.Lemmas.Cache
namespace S2T.CacheConc
open S2T.Cache

-- `[DecidableEq K]` is declared once for the lemmas about `find?` and `put`; those about `expected` and `Good` alone do not use it
set_option linter.unusedSectionVars false
variable {K V E : Type} [DecidableEq K]

theorem mem_put {k : K} {v : V} {c : Cache K V} {x : K × V} (h : x ∈ put k v c) : x ∈ c ∨ x = (k, v) := by
  fun_induction put k v c with
  | case1 => exact Or.inr (List.mem_singleton.mp h)
  | case2 v' r => exact (List.mem_cons.mp h).symm.imp_left (List.mem_cons_of_mem _)
  | case3 k' v' r e ih =>
    rcases List.mem_cons.mp h with e | e
    · exact Or.inl (e ▸ List.mem_cons_self)
    · exact (ih e).imp_left (List.mem_cons_of_mem _)

theorem put_consistent (f : K → Except E V) {c : Cache K V} {k : K} {v : V}
    (hc : Consistent f c) (hv : f k = .ok v) : Consistent f (put k v c) := by
  intro kv hkv
  rcases mem_put hkv with h | h
  · exact hc _ h
  · subst h; exact hv

/-- what the invariant says about one thread: its local value is `f key`, and a result it has delivered is
    the expected one (`allowKE`: or a `KeyError`, for the legacy code) -/
structure ThrOk (allowKE : Prop) (f : K → Except E V) (x : Thr K V E) : Prop where
  loc : ∀ v, x.loc = some v → f x.key = .ok v
  res : ∀ r, x.res = some r → r = expected f x.key ∨ (allowKE ∧ r = .keyError)

structure Good (allowKE : Prop) (f : K → Except E V) (s : St K V E) : Prop where
  cache : Consistent f s.cache
  thr : ∀ x ∈ s.thr, ThrOk allowKE f x

theorem expected_ok {f : K → Except E V} {k : K} {v : V} (h : f k = .ok v) : expected f k = .ok v := by
  unfold expected; rw [h]

theorem expected_err {f : K → Except E V} {k : K} {e : E} (h : f k = .error e) : expected f k = .err e := by
  unfold expected; rw [h]

theorem good_set {allowKE : Prop} {f : K → Except E V} {c : Cache K V} {thr : List (Thr K V E)} {t : Nat}
    {x' : Thr K V E} (hc : Consistent f c) (ht : ∀ x ∈ thr, ThrOk allowKE f x) (hx' : ThrOk allowKE f x') :
    Good allowKE f { cache := c, thr := thr.set t x' } := by
  refine ⟨hc, ?_⟩
  intro y hy
  rcases List.mem_or_eq_of_mem_set hy with h | h
  · exact ht y h
  · subst h; exact hx'

theorem good_init (allowKE : Prop) (f : K → Except E V) (c : Cache K V) (hc : Consistent f c) (keys : List K) :
    Good allowKE f (init (E := E) c keys) := by
  refine ⟨hc, ?_⟩
  intro x hx
  simp only [init, List.mem_map] at hx
  obtain ⟨k, _, rfl⟩ := hx
  refine ⟨?_, ?_⟩
  · intro v h; cases h
  · intro r h; cases h

section
variable {allowKE : Prop} {f : K → Except E V} {x : Thr K V E} (h : ThrOk allowKE f x) (p : Pc)
include h

theorem ThrOk.deliver {r : Res V E} (hr : r = expected f x.key ∨ (allowKE ∧ r = .keyError)) :
    ThrOk allowKE f { x with pc := p, res := some r } :=
  ⟨h.loc, fun _ e => by cases e; exact hr⟩

theorem ThrOk.setLoc {v : V} (hv : f x.key = .ok v) : ThrOk allowKE f { x with pc := p, loc := some v } :=
  ⟨fun _ e => by cases e; exact hv, h.res⟩

end

theorem fixed_step_good (cap : Nat) (f : K → Except E V) (s : St K V E) (t : Nat) (h : Good False f s) :
    Good False f (Fixed.step cap f s t) := by
  unfold Fixed.step
  split
  · exact h
  · rename_i x hx
    have hm : x ∈ s.thr := List.mem_of_getElem? hx
    have ok := h.thr x hm
    split
    · -- lookup
      split
      · rename_i v hv
        have hfv := h.cache _ (find?_mem hv)
        exact good_set (touch_consistent f h.cache hv) h.thr ((ok.setLoc .done hfv).deliver _ (Or.inl (expected_ok hfv).symm))
      · exact good_set h.cache h.thr ⟨ok.loc, ok.res⟩
    · -- expand
      split
      · rename_i e he
        exact good_set h.cache h.thr (ok.deliver _ (Or.inl (expected_err he).symm))
      · rename_i v hv
        exact good_set h.cache h.thr (ok.setLoc _ hv)
    · -- store
      split
      · exact h
      · rename_i v hv
        have hfv := ok.loc v hv
        exact good_set (evict_consistent f cap (put_consistent f h.cache hfv)) h.thr (ok.deliver _ (Or.inl (expected_ok hfv).symm))
    · exact h

theorem fixed_run_good (cap : Nat) (f : K → Except E V) (s : St K V E) (h : Good False f s) (sched : List Nat) :
    Good False f (Fixed.run cap f s sched) :=
  List.foldlRecOn sched (Fixed.step cap f) h fun s hs t _ => fixed_step_good cap f s t hs

theorem legacy_step_good (cap : Nat) (f : K → Except E V) (s : St K V E) (t : Nat) (h : Good True f s) :
    Good True f (Legacy.step cap f s t) := by
  unfold Legacy.step
  split
  · exact h
  · rename_i x hx
    have hm : x ∈ s.thr := List.mem_of_getElem? hx
    have ok := h.thr x hm
    split
    · -- lookup
      split
      · rename_i v hv
        have hfv := h.cache _ (find?_mem hv)
        exact good_set h.cache h.thr (ok.setLoc _ hfv)
      · exact good_set h.cache h.thr ⟨ok.loc, ok.res⟩
    · -- touch
      split
      · rename_i v' v hv' hv
        exact good_set (touch_consistent f h.cache hv') h.thr (ok.deliver _ (Or.inl (expected_ok (ok.loc v hv)).symm))
      · exact good_set h.cache h.thr (ok.deliver _ (Or.inr ⟨trivial, rfl⟩))
    · -- expand
      split
      · rename_i e he
        exact good_set h.cache h.thr (ok.deliver _ (Or.inl (expected_err he).symm))
      · rename_i v hv
        exact good_set h.cache h.thr (ok.setLoc _ hv)
    · -- store
      split
      · exact h
      · rename_i v hv
        exact good_set (put_consistent f h.cache (ok.loc v hv)) h.thr ⟨ok.loc, ok.res⟩
    · -- evict
      split
      · exact h
      · rename_i v hv
        exact good_set (evict_consistent f cap h.cache) h.thr (ok.deliver _ (Or.inl (expected_ok (ok.loc v hv)).symm))
    · exact h

theorem legacy_run_good (cap : Nat) (f : K → Except E V) (s : St K V E) (h : Good True f s) (sched : List Nat) :
    Good True f (Legacy.run cap f s sched) :=
  List.foldlRecOn sched (Legacy.step cap f) h fun s hs t _ => legacy_step_good cap f s t hs

end S2T.CacheConc

namespace S2T.CacheConc.Keyed
open S2T.Cache
variable {K : Type _} {Q : Type _} {P : Type _} {G : Type _} {W : Type _} [DecidableEq Q]

theorem get_spec (keyOf : K → Q) (inj : ∀ a b, keyOf a = keyOf b → a = b) (parse : K → P) (feat : K → P → G → W)
    (c : Cache Q P) (k : K) (g : G) (hc : Consistent keyOf parse c) :
    (get keyOf parse feat c k g).1 = feat k (parse k) g ∧ Consistent keyOf parse (get keyOf parse feat c k g).2 := by
  unfold get
  split
  · rename_i p hp
    have := hc _ (find?_mem hp) k rfl
    simp only at this  -- `(keyOf k, p).2` to `p`
    exact ⟨by rw [this], hc⟩
  · refine ⟨rfl, ?_⟩
    intro qp hqp k' hk'
    rcases List.mem_append.mp hqp with h | h
    · exact hc _ h k' hk'
    · simp at h; subst h
      simp only at hk'  -- `(keyOf k, parse k).1` to `keyOf k`
      rw [inj _ _ hk']

theorem run_consistent (keyOf : K → Q) (inj : ∀ a b, keyOf a = keyOf b → a = b) (parse : K → P) (feat : K → P → G → W)
    (c : Cache Q P) (hc : Consistent keyOf parse c) (h : List (K × G)) :
    Consistent keyOf parse (run keyOf parse feat c h) := by
  induction h generalizing c with
  | nil => exact hc
  | cons a r ih =>
    obtain ⟨k, g⟩ := a
    exact ih _ (get_spec keyOf inj parse feat c k g hc).2

theorem history (keyOf : K → Q) (inj : ∀ a b, keyOf a = keyOf b → a = b) (parse : K → P) (feat : K → P → G → W)
    (h : List (K × G)) (k : K) (g : G) :
    (get keyOf parse feat (run keyOf parse feat [] h) k g).1 = feat k (parse k) g :=
  (get_spec keyOf inj parse feat _ k g (run_consistent keyOf inj parse feat [] (fun _ hqp => nomatch hqp) h)).1

/-- the font cache is the keyed cache with the whole input as key (`get id` is `FontFixed.get` by `rfl`) -/
theorem fontFixed_run_eq {K : Type _} [DecidableEq K] (parse : K → P) (feat : K → P → G → W) (c : Cache K P) (h : List (K × G)) :
    FontFixed.run parse feat c h = run id parse feat c h := by
  induction h generalizing c with
  | nil => rfl
  | cons a r ih => exact ih _

omit [DecidableEq Q] in
theorem consistent_id {K : Type _} (parse : K → P) (c : Cache K P) :
    Consistent id parse c ↔ FontFixed.Consistent parse c :=
  ⟨fun h kp hkp => h kp hkp kp.1 rfl, fun h qp hqp k hk => by rw [show k = qp.1 from hk]; exact h qp hqp⟩

theorem _root_.S2T.Cache.fontFixed_spec {K : Type _} [DecidableEq K] (parse : K → P) (feat : K → P → G → W) (c : Cache K P)
    (k : K) (g : G) (hc : FontFixed.Consistent parse c) :
    (FontFixed.get parse feat c k g).1 = feat k (parse k) g ∧ FontFixed.Consistent parse (FontFixed.get parse feat c k g).2 :=
  (get_spec id (fun _ _ e => e) parse feat c k g ((consistent_id parse c).mpr hc)).imp_right (consistent_id parse _).mp

end S2T.CacheConc.Keyed
