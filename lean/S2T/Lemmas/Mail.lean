import S2T.Model.Mail
import S2T.Lemmas.ListBasics
/-! C16: the mbox splitter on a written mailbox, the MIME walk of the body and attachment readers.  The notions the property
    statements use (`WellFormed`, `firstBody`, `leaves` …) are defined here, each where its first lemma is. -/
namespace S2T.Mail
open S2T.Router (Str Tables lookup)

theorem lines_cons_nl (bs : Bytes) : lines (10 :: bs) = [10] :: lines bs := by
  rw [lines]; simp

theorem lines_cons_ne (b : Nat) (bs : Bytes) (hb : b ≠ 10) :
    lines (b :: bs) = consLine b (lines bs) := by
  rw [lines]; simp [hb]

theorem lines_flatten (m : Bytes) : (lines m).flatten = m := by
  induction m with
  | nil => simp [lines]
  | cons b bs ih =>
    by_cases hb : b = 10
    · subst hb; rw [lines_cons_nl]; simp [ih]
    · rw [lines_cons_ne b bs hb]
      cases h : lines bs <;> (rw [h] at ih; simp at ih; simp [consLine, ← ih])

theorem lines_ne_nil (m : Bytes) (h : m ≠ []) : lines m ≠ [] :=
  fun e => h (by rw [← lines_flatten m, e, List.flatten_nil])

theorem lines_single (a r : Bytes) (ha : ∀ b ∈ a, b ≠ 10) :
    lines (a ++ 10 :: r) = (a ++ [10]) :: lines r := by
  induction a with
  | nil => simp [lines_cons_nl]
  | cons b bs ih =>
    have hb : b ≠ 10 := ha b (by simp)
    have ih' := ih (fun x hx => ha x (by simp [hx]))
    show lines (b :: (bs ++ 10 :: r)) = _
    rw [lines_cons_ne _ _ hb, ih']
    simp [consLine]

/-- empty, or ending in `\n` -/
def Term (m : Bytes) : Prop := m = [] ∨ m.getLast? = some 10

instance (m : Bytes) : Decidable (Term m) := by unfold Term; exact inferInstance

theorem Term.tail {b : Nat} {bs : Bytes} (hm : Term (b :: bs)) : Term bs := by
  rcases hm with h | h
  · cases h
  · cases bs with
    | nil => left; rfl
    | cons c cs => right; simpa [List.getLast?_cons_cons] using h

theorem lines_append (m x : Bytes) (hm : Term m) : lines (m ++ x) = lines m ++ lines x := by
  induction m with
  | nil => simp [lines]
  | cons b bs ih =>
    have ih' := ih hm.tail
    show lines (b :: (bs ++ x)) = lines (b :: bs) ++ lines x
    by_cases hb : b = 10
    · subst hb
      simp [lines_cons_nl, ih']
    · have hne : bs ≠ [] := by
        intro hnil; subst hnil
        rcases hm with h | h
        · cases h
        · simp at h; exact hb h
      have hl := lines_ne_nil bs hne
      rw [lines_cons_ne _ _ hb, lines_cons_ne _ _ hb, ih']
      cases hls : lines bs with
      | nil => exact absurd hls hl
      | cons l ls => simp [consLine]

theorem rstripCRLF_eq_self (m : Bytes) (h13 : m.getLast? ≠ some 13) (h10 : m.getLast? ≠ some 10) :
    rstripCRLF m = m :=
  List.rstrip_eq_self fun c hc => by
    have : c ≠ 13 ∧ c ≠ 10 := ⟨fun e => h13 (e ▸ hc), fun e => h10 (e ▸ hc)⟩
    simp [this]

theorem isSepLine_shape (l : Bytes) (h : isSepLine l = true) :
    ∃ a, l = a ++ [10] ∧ ∀ b ∈ a, b ≠ 10 := by
  unfold isSepLine at h
  simp only [Bool.and_eq_true, beq_iff_eq, List.all_eq_true, bne_iff_ne, ne_eq] at h
  obtain ⟨hlast, hall, _⟩ := h
  obtain ⟨ys, rfl⟩ := List.getLast?_eq_some_iff.mp hlast
  refine ⟨ys, rfl, ?_⟩
  simpa using hall

theorem lines_sep (s r : Bytes) (h : isSepLine s = true) : lines (s ++ r) = s :: lines r := by
  obtain ⟨a, rfl, ha⟩ := isSepLine_shape s h
  rw [List.append_assoc]
  exact lines_single a r ha

/-- the matched body is the line without its line end (`\n` or `\r\n`) -/
theorem isSepLine_prefix (l : Bytes) (h : isSepLine l = true) : fromSp <+: l := by
  unfold isSepLine at h
  simp only [Bool.and_eq_true, beq_iff_eq] at h
  obtain ⟨_, _, htake, _⟩ := h
  rw [← htake]
  refine (List.take_prefix _ _).trans ?_
  split
  · exact (List.dropLast_prefix _).trans (List.dropLast_prefix _)
  · exact List.dropLast_prefix _

theorem isSepLine_of_not_from (l : Bytes) (h : (fromSp.isPrefixOf l) = false) : isSepLine l = false :=
  Bool.eq_false_iff.mpr fun hs => by
    rw [List.isPrefixOf_iff_prefix.mpr (isSepLine_prefix l hs)] at h; cases h

def NonSep (m : Bytes) : Prop := ∀ l ∈ lines m, isSepLine l = false

instance (m : Bytes) : Decidable (NonSep m) := by unfold NonSep; exact inferInstance

theorem chunksAux_nonsep (m : Bytes) (hm : NonSep m) (R : List Bytes) (cur : Option Bytes) :
    chunksAux cur (lines m ++ R) = chunksAux (cur.map (· ++ m)) R := by
  have key : ∀ (L : List Bytes) (cur : Option Bytes), (∀ l ∈ L, isSepLine l = false) →
      chunksAux cur (L ++ R) = chunksAux (cur.map (· ++ L.flatten)) R := by
    intro L
    induction L with
    | nil => intro cur _; cases cur <;> simp
    | cons l ls ih =>
      intro cur hL
      have hl := hL l (by simp)
      simp only [List.cons_append, chunksAux, hl, Bool.false_eq_true, ↓reduceIte]
      rw [ih _ (fun x hx => hL x (by simp [hx]))]
      cases cur <;> simp
  rw [key _ _ hm, lines_flatten]

/-- the bytes of an mbox: every message preceded by its separator line -/
def mboxJoin : List (Bytes × Bytes) → Bytes
  | [] => []
  | (s, m) :: r => s ++ (m ++ mboxJoin r)

/-- what a writer guarantees: separator lines match the pattern, no line of a message does, and
    every message but the last ends with a line end (so that the next separator starts a line) -/
def WellFormed : List (Bytes × Bytes) → Prop
  | [] => True
  | (s, m) :: r => isSepLine s = true ∧ NonSep m ∧ (r ≠ [] → Term m) ∧ WellFormed r

theorem chunks_join (ps : List (Bytes × Bytes)) (h : WellFormed ps) (cur : Option Bytes) :
    chunksAux cur (lines (mboxJoin ps)) = cur.toList ++ ps.map (·.2) := by
  induction ps generalizing cur with
  | nil => simp [mboxJoin, lines, chunksAux]
  | cons p r ih =>
    obtain ⟨s, m⟩ := p
    obtain ⟨hs, hm, ht, hr⟩ := h
    simp only [mboxJoin]
    rw [lines_sep s _ hs]
    simp only [chunksAux, hs, ↓reduceIte, List.map_cons]
    congr 1
    cases r with
    | nil =>
      simp only [mboxJoin, List.append_nil, List.map_nil]
      rw [← List.append_nil (lines m), chunksAux_nonsep m hm]; simp [chunksAux]
    | cons q r' =>
      have htm := ht (by simp)
      rw [lines_append m _ htm, chunksAux_nonsep m hm, Option.map_some, List.nil_append, ih hr (some m)]
      simp

/-- the entry is an inline leaf of type `ct` that yields a non-empty body (an entry whose decoded text is empty leaves
    the slot of `bodyStep` as it was, empty, so it does not count) -/
def isBody (ct : Str) (e : Tree × Bool) : Bool :=
  !e.2 && e.1.part.ctype == ct && !e.1.part.payload.isEmpty && !e.1.part.text.isEmpty

/-- text of the first entry that `isBody`, `""` if there is none -/
def firstBody (ct : Str) (L : List (Tree × Bool)) : Str :=
  match L.find? (isBody ct) with
  | some e => e.1.part.text
  | none => []

theorem isBody_text {ct : Str} {e : Tree × Bool} (h : isBody ct e = true) : e.1.part.text ≠ [] := by
  simp only [isBody, Bool.and_eq_true, Bool.not_eq_true', List.isEmpty_eq_false_iff] at h
  exact h.2

theorem firstBody_cons (ct : Str) (e : Tree × Bool) (L : List (Tree × Bool)) :
    firstBody ct (e :: L) = if isBody ct e then e.1.part.text else firstBody ct L := by
  by_cases h : isBody ct e = true
  · simp [firstBody, h]
  · simp [firstBody, h]

theorem firstBody_mem (ct : Str) (L : List (Tree × Bool)) (hne : firstBody ct L ≠ []) :
    ∃ e ∈ L, e.2 = false ∧ e.1.part.ctype = ct ∧ e.1.part.text = firstBody ct L := by
  unfold firstBody at hne ⊢
  cases hf : L.find? (isBody ct) with
  | none => rw [hf] at hne; exact absurd rfl hne
  | some e =>
    have hp := List.find?_some hf
    simp only [isBody, Bool.and_eq_true, Bool.not_eq_true', beq_iff_eq] at hp
    exact ⟨e, List.mem_of_find?_eq_some hf, hp.1.1.1, hp.1.1.2, rfl⟩

theorem plain_ne_html : sTextPlain ≠ sTextHtml := by decide

theorem bodyStep_eq (st : Str × Str) (e : Tree × Bool) :
    bodyStep st e = (if st.1 = [] ∧ isBody sTextPlain e = true then e.1.part.text else st.1,
                     if st.2 = [] ∧ isBody sTextHtml e = true then e.1.part.text else st.2) := by
  obtain ⟨a, b⟩ := st
  obtain ⟨t, att⟩ := e
  have hne := plain_ne_html
  cases att with
  | true => simp [bodyStep, isBody]
  | false =>
    by_cases hp : t.part.ctype = sTextPlain
    · by_cases ha : a = []
      · by_cases hpl : t.part.payload = [] <;> by_cases htx : t.part.text = [] <;>
          simp [bodyStep, isBody, hp, ha, hpl, htx, hne]
      · simp [bodyStep, isBody, hp, ha, hne]
    · by_cases hh : t.part.ctype = sTextHtml
      · by_cases hb : b = []
        · by_cases hpl : t.part.payload = [] <;> by_cases htx : t.part.text = [] <;>
            simp [bodyStep, isBody, hh, hb, hpl, htx, Ne.symm hne]
        · simp [bodyStep, isBody, hh, hb, Ne.symm hne]
      · simp [bodyStep, isBody, hp, hh]

theorem foldl_bodyStep (L : List (Tree × Bool)) (st : Str × Str) :
    L.foldl bodyStep st =
      (if st.1 = [] then firstBody sTextPlain L else st.1,
       if st.2 = [] then firstBody sTextHtml L else st.2) := by
  induction L generalizing st with
  | nil => obtain ⟨a, b⟩ := st; simp [firstBody]
  | cons e L ih =>
    rw [List.foldl_cons, ih, bodyStep_eq, firstBody_cons, firstBody_cons]
    obtain ⟨a, b⟩ := st
    congr 1
    · by_cases h : isBody sTextPlain e = true
      · by_cases ha : a = [] <;> simp [ha, h, isBody_text h]
      · simp [h]
    · by_cases h : isBody sTextHtml e = true
      · by_cases hb : b = [] <;> simp [hb, h, isBody_text h]
      · simp [h]

mutual
/-- all leaves in document order -/
def leaves : Tree → List Tree
  | .leaf p => [.leaf p]
  | .multi _ cs => leavesList cs
def leavesList : List Tree → List Tree
  | [] => []
  | c :: cs => leaves c ++ leavesList cs
end

mutual
/-- no container is itself an attachment (attachments are leaves) -/
def attLeavesOnly : Tree → Bool
  | .leaf _ => true
  | .multi p cs => !isAttachment p && attLeavesOnlyList cs
def attLeavesOnlyList : List Tree → Bool
  | [] => true
  | c :: cs => attLeavesOnly c && attLeavesOnlyList cs
end

mutual
theorem iterParts_leaves : ∀ t, attLeavesOnly t = true →
    iterParts t = (leaves t).map (fun l => (l, isAttachment l.part))
  | .leaf p, _ => by
    simp only [iterParts, leaves, List.map_cons, List.map_nil, Tree.part]
    split <;> simp_all
  | .multi p cs, h => by
    simp only [attLeavesOnly, Bool.and_eq_true, Bool.not_eq_true'] at h
    simp only [iterParts, h.1, Bool.false_eq_true, ↓reduceIte, leaves]
    exact iterPartsList_leaves cs h.2
theorem iterPartsList_leaves : ∀ cs, attLeavesOnlyList cs = true →
    iterPartsList cs = (leavesList cs).map (fun l => (l, isAttachment l.part))
  | [], _ => by simp [iterPartsList, leavesList]
  | c :: cs, h => by
    simp only [attLeavesOnlyList, Bool.and_eq_true] at h
    simp only [iterPartsList, leavesList, List.map_append]
    rw [iterParts_leaves c h.1, iterPartsList_leaves cs h.2]
end

theorem readEml_ok (T : Tables) (m : Mp) (r : EmlResult) (h : readEml T m = .ok r) :
    ∃ f to, m.to.mapM pair2 = .ok to ∧
      r = { from_ := f, to := to, cc := filterAddr m.cc, bcc := filterAddr m.bcc,
            replyTo := filterAddr m.replyTo, subject := m.subject,
            bodyPlain := joinNl m.textPlain, bodyHtml := joinNl m.textHtml,
            attachments := m.attachments.map (mkEmlAttachment T) } := by
  unfold readEml at h
  split at h
  · cases h
  · split at h
    · cases h
    · split at h
      · cases h
      · rename_i hto
        cases h
        exact ⟨_, _, hto, rfl⟩

end S2T.Mail
