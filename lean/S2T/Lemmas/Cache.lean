import S2T.Model.Cache
namespace S2T.Cache

theorem find?_mem {K V} [DecidableEq K] {k : K} {c : Cache K V} {v : V} (h : find? k c = some v) : (k, v) ∈ c := by
  fun_induction find? k c with
  | case1 => cases h
  | case2 v' r => cases h; exact List.mem_cons_self
  | case3 k' v' r e ih => exact List.mem_cons_of_mem _ (ih h)

theorem mem_erase {K V} [DecidableEq K] {k : K} {c : Cache K V} {x : K × V} (h : x ∈ erase k c) : x ∈ c := by
  fun_induction erase k c with
  | case1 => cases h
  | case2 v' r => exact List.mem_cons_of_mem _ h
  | case3 k' v' r e ih =>
    rcases List.mem_cons.mp h with e | e
    · exact e ▸ List.mem_cons_self
    · exact List.mem_cons_of_mem _ (ih e)

theorem touch_consistent {K V E} [DecidableEq K] (f : K → Except E V) {c : Cache K V} {k : K} {v : V}
    (hc : Consistent f c) (hv : find? k c = some v) : Consistent f (erase k c ++ [(k, v)]) := by
  intro kv hkv
  rcases List.mem_append.mp hkv with h | h
  · exact hc _ (mem_erase h)
  · simp at h; subst h; exact hc _ (find?_mem hv)

theorem evict_consistent {K V E} (f : K → Except E V) {c : Cache K V} (cap : Nat)
    (hc : Consistent f c) : Consistent f (if c.length > cap then c.drop 1 else c) := by
  split
  · intro kv hkv; exact hc _ (List.mem_of_mem_drop hkv)
  · exact hc

theorem lruGet_spec {K V E} [DecidableEq K] (cap : Nat) (f : K → Except E V) (c : Cache K V) (k : K)
    (hc : Consistent f c) : (lruGet cap f c k).1 = f k ∧ Consistent f (lruGet cap f c k).2 := by
  unfold lruGet
  split
  · rename_i v hv
    exact ⟨(hc _ (find?_mem hv)).symm, touch_consistent f hc hv⟩
  · split
    · rename_i e he
      exact ⟨he.symm, hc⟩
    · rename_i v hv
      refine ⟨hv.symm, evict_consistent f cap fun kv hkv => ?_⟩
      rcases List.mem_append.mp hkv with h | h
      · exact hc _ h
      · simp at h; subst h; exact hv

theorem lruRun_consistent {K V E} [DecidableEq K] (cap : Nat) (f : K → Except E V) (c : Cache K V)
    (hc : Consistent f c) (h : List K) : Consistent f (lruRun cap f c h) := by
  induction h generalizing c with
  | nil => exact hc
  | cons k r ih => exact ih _ (lruGet_spec cap f c k hc).2

end S2T.Cache
