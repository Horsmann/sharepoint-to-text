import S2T.Lemmas.Omml
import S2T.Lemmas.ListBasics
/-! Brace-depth algebra for C19: `Bal o k k'` = reading `o` at depth `k` never drops below zero
    relative to any surrounding depth and ends at `k'`. -/
namespace S2T.Omml

@[simp] theorem render_append (a b : Out) : render (a ++ b) = render a ++ render b := by simp [render]
@[simp] theorem render_nil : render [] = [] := rfl
@[simp] theorem render_cons (x : TC) (o : Out) : render (x :: o) = x.1 :: render o := rfl
@[simp] theorem render_lit (s : Str) : render (lit s) = s := by
  simp [render, lit, Function.comp_def]
@[simp] theorem render_run (s : Str) : render (run s) = s := by
  simp [render, run, Function.comp_def]

theorem render_radHead (dg : Out) :
    render (radHead dg) = (if dg = [] then s_sqrt else s_sqrtB ++ render dg ++ s_sqrtBmid) := by
  unfold radHead; split <;> simp

theorem render_limit (T : Tables) (o : Str) (x : Out) :
    render (limit T o x) = (if strip T x = [] then [] else o ++ render x ++ ['}']) := by
  unfold limit
  split <;> simp [s_close]

theorem render_funcName (T : Tables) (o : Out) :
    render (funcName T o) = (lookup (render (strip T o)) T.funcs).getD (render o) := by
  unfold funcName
  simp only
  cases h : lookup (render (strip T o)) T.funcs with
  | none => simp
  | some v =>
    simp only [Option.getD_some]
    split
    · next hv => simp [hv]
    · simp

theorem walk_append (a b : Str) (d : Nat) : walk (a ++ b) d = (walk a d).bind (walk b) := by
  induction a generalizing d with
  | nil => simp [walk]
  | cons c r ih =>
    simp only [List.cons_append, walk]
    split
    · exact ih _
    · split
      · cases d with
        | zero => simp
        | succ d' => exact ih _
      · exact ih _

theorem walk_add (s : Str) (d d' e : Nat) (h : walk s d = some d') : walk s (d + e) = some (d' + e) := by
  induction s generalizing d with
  | nil => simp [walk] at *; omega
  | cons c r ih =>
    simp only [walk] at *
    split
    · rename_i hc; simp only [hc, ↓reduceIte] at h
      have := ih _ h; rw [show d + e + 1 = d + 1 + e by omega]; exact this
    · rename_i hc; simp only [hc, ↓reduceIte] at h
      split
      · rename_i hc2; simp only [hc2, ↓reduceIte] at h
        cases d with
        | zero => simp at h
        | succ d0 =>
          simp only at h
          rw [show d0 + 1 + e = (d0 + e) + 1 by omega]
          exact ih _ h
      · rename_i hc2; simp only [hc2, ↓reduceIte] at h
        exact ih _ h

/-- no brace characters -/
def NoBrS (s : Str) : Prop := ∀ c ∈ s, c ≠ '{' ∧ c ≠ '}'

theorem walk_neutral (s : Str) (h : NoBrS s) (d : Nat) : walk s d = some d := by
  induction s with
  | nil => simp [walk]
  | cons c r ih =>
    have hc := h c (by simp)
    simp only [walk, hc.1, hc.2, ↓reduceIte]
    exact ih (fun x hx => h x (by simp [hx]))

theorem braceFree_iff (s : Str) : braceFree s = true ↔ NoBrS s := by
  simp [braceFree, NoBrS, List.all_eq_true]

theorem nobr_of {s : Str} (h : braceFree s = true) : NoBrS s := (braceFree_iff s).mp h

def Bal (o : Out) (k k' : Nat) : Prop := ∀ d, walk (render o) (d + k) = some (d + k')

theorem Bal_nil (k : Nat) : Bal [] k k := by intro d; simp [walk]

theorem Bal_append {a b : Out} {k k1 k2 : Nat} (ha : Bal a k k1) (hb : Bal b k1 k2) :
    Bal (a ++ b) k k2 := by
  intro d
  rw [render_append, walk_append, ha d]
  exact hb d

theorem Bal_shift {o : Out} {k k' : Nat} (h : Bal o k k') (e : Nat) : Bal o (k + e) (k' + e) := by
  intro d
  have := h (d + e)
  rw [show d + (k + e) = d + e + k by omega, show d + (k' + e) = d + e + k' by omega]
  exact this

theorem Bal.walk {o : Out} {k k' : Nat} (h : Bal o k k') : walk (render o) k = some k' := by simpa using h 0

theorem Bal_congr {a b : Out} (e : render a = render b) {k k' : Nat} (h : Bal a k k') : Bal b k k' := fun d => e ▸ h d

theorem Bal_fun {o : Out} {k k1 k2 : Nat} (h1 : Bal o k k1) (h2 : Bal o k k2) : k1 = k2 :=
  Option.some.inj (h1.walk.symm.trans h2.walk)

theorem Bal_neutral {o : Out} (h : NoBrS (render o)) (k : Nat) : Bal o k k := by
  intro d; exact walk_neutral _ h _

theorem Bal_lit {s : Str} (h : NoBrS s) (k : Nat) : Bal (lit s) k k :=
  Bal_neutral (by simpa using h) k

theorem Bal_run {s : Str} (h : NoBrS s) (k : Nat) : Bal (run s) k k :=
  Bal_neutral (by simpa using h) k

theorem Bal_of_walk {o : Out} {i j : Nat} (h : walk (render o) i = some j) (k : Nat) :
    Bal o (k + i) (k + j) := by
  intro d
  rw [show d + (k + i) = i + (d + k) by omega, show d + (k + j) = j + (d + k) by omega]
  exact walk_add _ i j (d + k) h

theorem Bal_lit_of_walk {s : Str} {i j : Nat} (h : walk s i = some j) (k : Nat) :
    Bal (lit s) (k + i) (k + j) := Bal_of_walk (by simpa using h) k

theorem Bal_open (b : Bool) (k : Nat) : Bal [('{', b)] k (k + 1) := by
  intro d; simp [walk]; omega

theorem Bal_close (b : Bool) (k : Nat) : Bal [('}', b)] (k + 1) k := by
  intro d
  show walk ['}'] (d + (k + 1)) = some (d + k)
  simp [walk]

theorem Bal_braced {o : Out} {k k' : Nat} (h : Bal o k k') (b1 b2 : Bool) :
    Bal ([('{', b1)] ++ o ++ [('}', b2)]) k k' :=
  Bal_append (Bal_append (Bal_open b1 k) (Bal_shift h 1)) (Bal_close b2 k')

theorem Bal_cons_neutral {o : Out} {k k' : Nat} (x : TC) (hx : x.1 ≠ '{' ∧ x.1 ≠ '}') (h : Bal o k k') :
    Bal (x :: o) k k' := by
  have : Bal [x] k k := Bal_neutral (by intro c hc; simp at hc; subst hc; exact hx) k
  exact Bal_append this h

def cnt (c : Char) (o : Out) : Nat := (render o).count c

@[simp] theorem cnt_append (c : Char) (a b : Out) : cnt c (a ++ b) = cnt c a + cnt c b := by
  simp [cnt, List.count_append]
@[simp] theorem cnt_nil (c : Char) : cnt c [] = 0 := rfl
theorem cnt_cons (c : Char) (x : TC) (o : Out) : cnt c (x :: o) = cnt c o + (if x.1 = c then 1 else 0) := by
  simp [cnt, List.count_cons]
@[simp] theorem cnt_lit (c : Char) (s : Str) : cnt c (lit s) = s.count c := by simp [cnt]
@[simp] theorem cnt_run (c : Char) (s : Str) : cnt c (run s) = s.count c := by simp [cnt]

theorem walk_count {s : Str} {i j : Nat} (h : walk s i = some j) : s.count '{' + i = s.count '}' + j := by
  induction s generalizing i with
  | nil => simpa [walk] using h
  | cons c r ih =>
    simp only [walk] at h
    split at h
    · rename_i hc; subst hc
      have := ih h; rw [List.count_cons_self, List.count_cons_of_ne (by decide)]; omega
    · split at h
      · rename_i hc; subst hc
        cases i with
        | zero => cases h
        | succ i0 => have := ih h; rw [List.count_cons_self, List.count_cons_of_ne (by decide)]; omega
      · rename_i h1 h2
        have := ih h; rw [List.count_cons_of_ne h1, List.count_cons_of_ne h2]; omega

theorem Bal_count {o : Out} {k k' : Nat} (h : Bal o k k') : cnt '{' o + k = cnt '}' o + k' := walk_count h.walk


/-- the brace and backslash characters are not blanks -/
def SpOk (T : Tables) : Prop :=
  T.spaces.contains 123 = false ∧ T.spaces.contains 125 = false ∧ T.spaces.contains 92 = false

-- `('\\' : Char).toNat` is `92` by evaluation
theorem SpOk.backslash {T : Tables} (h : SpOk T) : T.spaces.contains ('\\' : Char).toNat = false := h.2.2

theorem isSp_ne {T : Tables} (h : SpOk T) {x : TC} (hx : isSp T x = true) : x.1 ≠ '{' ∧ x.1 ≠ '}' := by
  unfold isSp at hx
  refine ⟨?_, ?_⟩ <;> intro he <;> rw [he] at hx
  · have : ('{' : Char).toNat = 123 := by decide
    rw [this, h.1] at hx; cases hx
  · have : ('}' : Char).toNat = 125 := by decide
    rw [this, h.2.1] at hx; cases hx

theorem strip_decomp (T : Tables) (o : Out) :
    ∃ a b, o = a ++ strip T o ++ b ∧ (∀ x ∈ a, isSp T x = true) ∧ (∀ x ∈ b, isSp T x = true) := by
  refine ⟨o.takeWhile (isSp T), (((lstrip T o).reverse).takeWhile (isSp T)).reverse, ?_, ?_, ?_⟩
  · have h1 : o = o.takeWhile (isSp T) ++ lstrip T o := by
      unfold lstrip; exact (List.takeWhile_append_dropWhile).symm
    have h2 : lstrip T o = strip T o ++ (((lstrip T o).reverse).takeWhile (isSp T)).reverse := by
      unfold strip
      rw [← List.reverse_append, List.takeWhile_append_dropWhile, List.reverse_reverse]
    rw [List.append_assoc, ← h2, ← h1]
  · exact List.all_eq_true.1 List.all_takeWhile
  · intro x hx; exact List.all_eq_true.1 List.all_takeWhile x (List.mem_reverse.mp hx)

theorem all_sp_of_strip_nil {T : Tables} {o : Out} (h : strip T o = []) : ∀ x ∈ o, isSp T x = true :=
  List.all_eq_true.mp (List.strip_eq_nil_iff.mp h)

theorem NoBr_of_all_sp {T : Tables} (h : SpOk T) {o : Out} (ho : ∀ x ∈ o, isSp T x = true) :
    NoBrS (render o) := by
  intro c hc
  simp only [render, List.mem_map] at hc
  obtain ⟨x, hx, rfl⟩ := hc
  exact isSp_ne h (ho x hx)

theorem cnt_all_sp {T : Tables} {o : Out} (ho : ∀ x ∈ o, isSp T x = true) {c : Char}
    (hc : T.spaces.contains c.toNat = false) : cnt c o = 0 := by
  simp only [cnt]
  apply List.count_eq_zero.mpr
  intro hm
  simp only [render, List.mem_map] at hm
  obtain ⟨x, hx, rfl⟩ := hm
  exact Bool.false_ne_true (hc.symm.trans (ho x hx))

theorem cnt_strip {T : Tables} (o : Out) {c : Char} (hc : T.spaces.contains c.toNat = false) :
    cnt c (strip T o) = cnt c o := by
  obtain ⟨a, b, ho, ha, hb⟩ := strip_decomp T o
  conv => rhs; rw [ho]
  simp [cnt_all_sp ha hc, cnt_all_sp hb hc]

theorem walk_strip {T : Tables} (h : SpOk T) (o : Out) (d : Nat) :
    walk (render (strip T o)) d = walk (render o) d := by
  obtain ⟨a, b, ho, ha, hb⟩ := strip_decomp T o
  conv => rhs; rw [ho]
  rw [render_append, render_append, walk_append, walk_append, walk_neutral _ (NoBr_of_all_sp h ha)]
  simp only [Option.bind_some]
  cases hw : walk (render (strip T o)) d with
  | none => simp
  | some d' => simp [walk_neutral _ (NoBr_of_all_sp h hb)]

theorem Bal_strip {T : Tables} (h : SpOk T) {o : Out} {k k' : Nat} (hb : Bal o k k') :
    Bal (strip T o) k k' := by
  intro d; rw [walk_strip h]; exact hb d

end S2T.Omml
