import S2T.Lemmas.Py
import S2T.Lemmas.PyPaths
import S2T.Lemmas.PyBytes
import S2T.Py.Sheets
import S2T.Lemmas.ListBasics
/-!
Generic lemmas for the equivalence proofs of the sheet shaping code (`Props/C13_Src.lean`,
`Props/C02_SheetsSrc.lean`).

Loop lemmas are stated for an ARBITRARY body `f` with the hypothesis "`f` agrees with the model's step" (the part
files discharge it with `simp` / `split`), never for the generated term.
A loop whose variables are lists that only grow, by a piece computed from the item, is no fold with a step function of
its own: it is `flatMap` of the pieces after the effects of all items in order (`forIn_mapM_collect`, `forIn_collect`).
-/
namespace S2T.Py.Sheets
open S2T.Py S2T.Tables

/-- a loop whose body first runs the effects `g x`, then updates the state purely — as long as the state is the image
    under `e` of a model state satisfying an invariant `P` that the steps preserve: the effects of all iterations in
    order (`mapM` stops at the first exception, like the loop), then the fold -/
theorem forIn_mapM_fold_inv {α β σ μ : Type} (e : μ → σ) (P : μ → Prop) (g : α → M β) (step : μ → β → μ) (xs : List α)
    (f : α → σ → M (ForInStep σ))
    (hf : ∀ x ∈ xs, ∀ m, P m → f x (e m) = g x >>= fun y => Except.ok (ForInStep.yield (e (step m y))))
    (hP : ∀ x ∈ xs, ∀ m y, P m → g x = Except.ok y → P (step m y)) (m : μ) (hm : P m) :
    forIn xs (e m) f = xs.mapM g >>= fun ys => Except.ok (e (ys.foldl step m)) := by
  induction xs generalizing m with
  | nil => rfl
  | cons x r ih =>
    simp only [List.forIn_cons, hf x (List.mem_cons_self ..) m hm, List.mapM_cons]
    cases hg : g x with
    | error e => rfl
    | ok y =>
      have hm' := hP x (List.mem_cons_self ..) m y hm hg
      simp only [M.ok_bind, bind_assoc, M.pure_def,
        ih (fun x' hx' => hf x' (List.mem_cons_of_mem _ hx')) (fun x' hx' => hP x' (List.mem_cons_of_mem _ hx')) _ hm']
      cases hr : List.mapM g r with
      | error e => rfl
      | ok ys => rfl

theorem forIn_mapM_fold {α β σ μ : Type} (e : μ → σ) (g : α → M β) (step : μ → β → μ) (xs : List α) (f : α → σ → M (ForInStep σ))
    (hf : ∀ x m, f x (e m) = g x >>= fun y => Except.ok (ForInStep.yield (e (step m y)))) (m : μ) :
    forIn xs (e m) f = xs.mapM g >>= fun ys => Except.ok (e (ys.foldl step m)) :=
  forIn_mapM_fold_inv e (fun _ => True) g step xs f (fun x _ m _ => hf x m) (fun _ _ _ _ _ _ => trivial) m trivial

/-- a loop that collects: each iteration runs the effects `g x`, appends a piece of what they returned to each of two
    lists and steps whatever else the loop carries — the effects in order, then the pieces in order.  (A loop that
    carries nothing else has `γ := Unit`.) -/
theorem forIn_mapM_collect {α β σ γ A B : Type} (e : List A × List B × γ → σ) (g : α → M β) (p : β → List A) (q : β → List B)
    (r : γ → β → γ) (xs : List α) (f : α → σ → M (ForInStep σ))
    (hf : ∀ x a b c, f x (e (a, b, c)) = g x >>= fun y => Except.ok (ForInStep.yield (e (a ++ p y, b ++ q y, r c y))))
    (a : List A) (b : List B) (c : γ) :
    forIn xs (e (a, b, c)) f = xs.mapM g >>= fun ys => Except.ok (e (a ++ ys.flatMap p, b ++ ys.flatMap q, ys.foldl r c)) := by
  rw [forIn_mapM_fold e g (fun s y => (s.1 ++ p y, s.2.1 ++ q y, r s.2.2 y)) xs f (fun x m => hf x m.1 m.2.1 m.2.2)]
  refine bind_congr fun ys => ?_
  induction ys generalizing a b c with
  | nil => simp
  | cons y ys ih => simp [ih, List.append_assoc]

/-- the same for a body that cannot raise -/
theorem forIn_collect {α σ γ A B : Type} (e : List A × List B × γ → σ) (p : α → List A) (q : α → List B) (r : γ → α → γ)
    (xs : List α) (f : α → σ → M (ForInStep σ))
    (hf : ∀ x a b c, f x (e (a, b, c)) = Except.ok (ForInStep.yield (e (a ++ p x, b ++ q x, r c x))))
    (a : List A) (b : List B) (c : γ) :
    forIn xs (e (a, b, c)) f = Except.ok (e (a ++ xs.flatMap p, b ++ xs.flatMap q, xs.foldl r c)) := by
  have h : xs.mapM (Except.ok : α → M α) = Except.ok xs := by simpa using mapM_ok id xs Except.ok fun _ _ => rfl
  rw [forIn_mapM_collect e Except.ok p q r xs f hf, h]
  rfl

/-- a loop in any other presentation `e` of its state -/
theorem forIn_conj {α σ τ} (e : σ → τ) (e' : τ → σ) (he : ∀ s, e' (e s) = s) (xs : List α) (s : σ)
    (f : α → σ → M (ForInStep σ)) :
    forIn xs s f = (forIn xs (e s) (fun x t => f x (e' t) >>= fun r => Except.ok (stepMap e r))) >>= fun t => Except.ok (e' t) := by
  induction xs generalizing s with
  | nil => simp [he]
  | cons x r ih =>
    simp only [List.forIn_cons, he, bind_assoc]
    cases hf : f x s with
    | error err => rfl
    | ok st =>
      cases st with
      | done a => simp [he]
      | yield a => simp [ih]

/-- the guarded read `… x[i] … if i < len(x) else …` never raises: it branches on `x[i]?` -/
theorem guarded_getItem {α β} (l : List α) (i : Nat) (k : α → M β) (d : M β) :
    (if decide ((i : Int) < len l) = true then listGetItem l (i : Int) >>= k else d)
      = match l[i]? with | some a => k a | none => d := by
  by_cases hi : i < l.length
  · have h1 : (i : Int) < len l := by simp only [len]; omega
    simp only [h1, decide_true, if_true, listGetItem_natCast _ _ hi, M.ok_bind, List.getElem?_eq_getElem hi]
  · have h1 : ¬ (i : Int) < len l := by simp only [len]; omega
    simp only [h1, decide_false, Bool.false_eq_true, if_false, List.getElem?_eq_none (Nat.le_of_not_lt hi)]

@[simp] theorem truthy_append_singleton {α} (ys : List α) (a : α) : truthy (ys ++ [a]) = true :=
  Py.truthy_append_singleton ys a

/-- `if xs:` on a list known to be non-empty -/
theorem truthy_ne_nil {α} {l : List α} (h : l ≠ []) : truthy l = true := by simp [truthy_list, h]

theorem rangeI_zero (w : Int) : rangeI 0 w = (List.range w.toNat).map (fun (k : Nat) => (k : Int)) := by
  simp [rangeI]

/-- `range(n - 1, -1, -1)`: `n - 1, …, 0` -/
theorem rangeStep_down_all (n : Nat) :
    rangeStep ((n : Int) - 1) (-1) (-1) = (List.range n).reverse.map (fun (k : Nat) => (k : Int)) := by
  unfold rangeStep
  have e : ((((n : Int) - 1 - -1) + -(-1 : Int) - 1) / -(-1 : Int)).toNat = n := by
    have : ((n : Int) - 1 - -1) + -(-1 : Int) - 1 = (n : Int) := by omega
    rw [this]; simp
  simp only [e]
  rw [List.range_eq_range' (n := n), List.reverse_range', ← List.range_eq_range']
  -- left: the two index maps agree on `range n`
  simp
  intro a _; omega

/-! The backwards scan `for i in range(len(row) - 1, -1, -1): if p(row[i]): m = max(m, i + 1); break`. -/

theorem lastIdx_append_singleton {α} (p : α → Bool) (ys : List α) (a : α) :
    Xlsx.lastIdx p (ys ++ [a]) = if p a then ys.length + 1 else Xlsx.lastIdx p ys := by
  induction ys with
  | nil => simp [Xlsx.lastIdx]
  | cons y r ih =>
    simp only [List.cons_append, Xlsx.lastIdx, ih, List.length_cons]
    by_cases hp : p a = true
    · simp [hp]
    · simp [hp]

/-- the scan for ANY state: the loop leaves the start state `s0` alone until it meets the last element satisfying `p`,
    at index `lastIdx p row - 1`, and leaves with `hit s0` of that index -/
theorem forIn_scan {α σ} (p : α → Bool) (row : List α) (hit : σ → Nat → σ) (s0 : σ) (f : Int → σ → M (ForInStep σ))
    (hf : ∀ (i : Nat) (h : i < row.length), f (i : Int) s0 =
      if p row[i] = true then Except.ok (ForInStep.done (hit s0 i)) else Except.ok (ForInStep.yield s0)) :
    forIn (rangeStep (len row - 1) (-1) (-1)) s0 f
      = Except.ok (if Xlsx.lastIdx p row = 0 then s0 else hit s0 (Xlsx.lastIdx p row - 1)) := by
  simp only [len]
  rw [rangeStep_down_all, List.forIn_map]
  induction row using List.rev_ind with
  | nil => simp [Xlsx.lastIdx]
  | snoc ys a ih =>
    simp only [List.length_append, List.length_singleton, List.range_succ, List.reverse_append, List.reverse_singleton,
      List.singleton_append, List.forIn_cons]
    have hlast := hf ys.length (by simp)
    simp only [List.getElem_concat_length] at hlast
    rw [hlast, lastIdx_append_singleton]
    by_cases hp : p a = true
    · simp [hp]
    · simp only [hp, if_false, Bool.false_eq_true, M.ok_bind]
      apply ih
      intro i hi
      have := hf i (by simp; omega)
      rw [List.getElem_append_left hi] at this
      exact this

/-- closes the body obligation of the scans (`hg` of `forIn_scan_table`, `hf` of `forIn_scan_return`) after the indexed read has
    been rewritten: by `rfl`, or — when the source writes `max(i + 1, m)`, a negated test, … — by splitting the test -/
macro "py_scan_leaf" : tactic => `(tactic| first
  | rfl
  | (simp only [M.ok_bind]; split <;> first | rfl | (simp_all [Int.max_comm]; done) | (simp_all; omega)))

/-- the same scan leaving the function: `for i in range(len(rows) - 1, -1, -1): if p(rows[i]): return i + 1`
    (Lean's encoding of an early `return` in a loop without mutable variables: state `(Option result, ())`) -/
theorem forIn_scan_return {α} (p : α → Bool) (rows : List α) (f : Int → Option Int × Unit → M (ForInStep (Option Int × Unit)))
    (hf : ∀ (i : Nat) (h : i < rows.length) (s : Option Int × Unit), f (i : Int) s =
      if p rows[i] = true then Except.ok (ForInStep.done (some ((i : Int) + 1), ())) else Except.ok (ForInStep.yield (none, ()))) :
    forIn (rangeStep (len rows - 1) (-1) (-1)) (none, ()) f =
      Except.ok (if Xlsx.lastIdx p rows = 0 then none else some (Xlsx.lastIdx p rows : Int), ()) := by
  rw [forIn_scan p rows (fun _ i => (some ((i : Int) + 1), ())) (none, ()) f (fun i h => hf i h (none, ()))]
  congr 1
  split
  · rfl
  · congr 2; omega

/-- the scan of every row of a table, `for row in rows: <scan row, keeping the maximum in m>`: the outer body `f` runs the
    scan `g row` and goes on; a row adds `max m (lastIdx p row)` (the count `m` is never negative, so a row without a
    hit leaves it as it is) -/
theorem forIn_scan_table {α} (p : α → Bool) (T : List (List α)) {g : List α → Int → Int → M (ForInStep Int)}
    (f : List α → Int → M (ForInStep Int))
    (hf : ∀ row acc, f row acc =
      forIn (rangeStep (len row - 1) (-1) (-1)) acc (g row) >>= fun m => Except.ok (ForInStep.yield m))
    (hg : ∀ row (i : Nat) (h : i < row.length) (acc : Int), g row (i : Int) acc =
      if p row[i] = true then Except.ok (ForInStep.done (max acc ((i : Int) + 1))) else Except.ok (ForInStep.yield acc)) :
    forIn T 0 f = Except.ok ((T.foldl (fun m row => max m (Xlsx.lastIdx p row)) 0 : Nat) : Int) := by
  have key : ∀ (T : List (List α)) (m : Nat),
      forIn T (m : Int) f = Except.ok ((T.foldl (fun m row => max m (Xlsx.lastIdx p row)) m : Nat) : Int) := by
    intro T
    induction T with
    | nil => intro m; rfl
    | cons r rs ih =>
      intro m
      rw [List.forIn_cons, hf, forIn_scan p r (fun acc i => max acc ((i : Int) + 1)) m _ (fun i h => hg r i h m)]
      simp only [M.ok_bind, List.foldl_cons]
      rw [← ih]
      congr 1
      split <;> omega
  exact key T 0

theorem anyM_ok {α} (p : α → Bool) (l : List α) : List.anyM (fun x => (Except.ok (p x) : M Bool)) l = Except.ok (l.any p) := by
  induction l with
  | nil => rfl
  | cons a r ih =>
    simp only [List.anyM, List.any_cons]
    cases p a <;> simp [ih]

theorem allM_ok {α} (p : α → Bool) (l : List α) : List.allM (fun x => (Except.ok (p x) : M Bool)) l = Except.ok (l.all p) := by
  induction l with
  | nil => rfl
  | cons a r ih =>
    simp only [List.allM, List.all_cons]
    cases p a <;> simp [ih]

theorem filterMapM_ok {α β} (g : α → Option β) (l : List α) (f : α → M (Option β)) (h : ∀ a ∈ l, f a = Except.ok (g a)) :
    filterMapM f l = Except.ok (l.filterMap g) := by
  induction l with
  | nil => rfl
  | cons a r ih =>
    simp only [filterMapM, h a (List.mem_cons_self ..), ih (fun a' ha' => h a' (List.mem_cons_of_mem _ ha')), M.ok_bind,
      M.pure_def, List.filterMap_cons]
    cases g a <;> rfl

/-- `enumerate(xs, k)` is `List.zipIdx`, index first and as an `int` -/
theorem enumFrom_eq_zipIdx {α} (k : Nat) (l : List α) : enumFrom k l = (l.zipIdx k).map (fun vi => ((vi.2 : Int), vi.1)) := by
  induction l generalizing k with
  | nil => rfl
  | cons a r ih => simp [enumFrom, List.zipIdx_cons, ih]

theorem map_enumerate_zipIdx {α β} (F : Int × α → β) (l : List α) :
    (enumerate l).map F = l.zipIdx.map (fun vi => F ((vi.2 : Int), vi.1)) := by
  rw [enumerate, enumFrom_eq_zipIdx, List.map_map]; rfl

theorem mem_enumerate {α} {l : List α} {x : Int × α} (h : x ∈ enumerate l) : ∃ j : Nat, x.1 = (j : Int) ∧ l[j]? = some x.2 := by
  rw [enumerate, enumFrom_eq_zipIdx] at h
  obtain ⟨vi, hvi, rfl⟩ := List.mem_map.mp h
  exact ⟨vi.2, rfl, List.mem_zipIdx_iff_getElem?.mp hvi⟩

theorem listGetItem_cons_zero {α} (a : α) (r : List α) : listGetItem (a :: r) 0 = Except.ok a := by
  simp [listGetItem]

theorem strJoin_eq_join (sep : Py.Str) (l : List Py.Str) : strJoin sep l = S2T.Tok.join sep l := by
  induction l with
  | nil => rfl
  | cons a r ih =>
    cases r with
    | nil => rfl
    | cons b r' => simp only [strJoin, S2T.Tok.join, ih]

theorem bne_nil {α} [BEq α] (l : List α) : (l != []) = !l.isEmpty := by cases l <;> rfl

theorem intStr_natCast (i : Nat) : intStr (i : Int) = (toString i).toList := rfl

/-- `while xs and p(xs[-1]): xs.pop()` -/
theorem whileM_trim {α} (p : α → Bool) (test : List α → M Bool) (body : List α → M (List α))
    (h0 : test [] = Except.ok false) (h1 : ∀ ys a, test (ys ++ [a]) = Except.ok (p a))
    (hb : ∀ ys a, body (ys ++ [a]) = Except.ok ys) (xs : List α) :
    whileM List.length test body xs = Except.ok (xs.reverse.dropWhile p).reverse := by
  induction xs using List.rev_ind with
  | nil => rw [whileM, h0]; rfl
  | snoc ys a ih =>
    rw [whileM, h1]
    by_cases hp : p a = true
    · simp only [hp, hb, List.length_append, List.length_singleton, Nat.lt_add_one, if_true, ih]
      simp [hp]
    · simp only [hp]
      simp [hp]

end S2T.Py.Sheets
