import S2T.Lemmas.OmmlGood
/-! C19 runs: on schema-ordered trees without bracket-only radicals the run-flagged output characters
    are, blanks aside, the converted run texts in document order. -/
namespace S2T.Omml

@[simp] theorem runsOf_append (a b : Out) : runsOf (a ++ b) = runsOf a ++ runsOf b := by simp [runsOf]
@[simp] theorem runsOf_nil : runsOf [] = [] := rfl
@[simp] theorem runsOf_lit (s : Str) : runsOf (lit s) = [] := by
  simp [runsOf, lit, List.filter_map, Function.comp_def]
@[simp] theorem runsOf_run (s : Str) : runsOf (run s) = s := by
  simp [runsOf, run, List.filter_map, Function.comp_def]
theorem runsOf_cons_false (c : Char) (o : Out) : runsOf ((c, false) :: o) = runsOf o := by simp [runsOf]

@[simp] theorem nonWs_append (T : Tables) (a b : Str) : nonWs T (a ++ b) = nonWs T a ++ nonWs T b := by
  simp [nonWs]
@[simp] theorem nonWs_nil (T : Tables) : nonWs T [] = [] := rfl

/-- run characters of an output, blanks dropped -/
def rwo (T : Tables) (o : Out) : Str := nonWs T (runsOf o)
/-- converted run texts, blanks dropped -/
def txs (T : Tables) (rs : List Str) : Str := nonWs T (rs.flatMap (convert T))

@[simp] theorem rwo_append (T : Tables) (a b : Out) : rwo T (a ++ b) = rwo T a ++ rwo T b := by simp [rwo]
@[simp] theorem rwo_nil (T : Tables) : rwo T [] = [] := rfl
@[simp] theorem rwo_lit (T : Tables) (s : Str) : rwo T (lit s) = [] := by simp [rwo]
@[simp] theorem txs_append (T : Tables) (a b : List Str) : txs T (a ++ b) = txs T a ++ txs T b := by
  simp [txs]
@[simp] theorem txs_nil (T : Tables) : txs T [] = [] := rfl

theorem rwo_all_sp {T : Tables} {o : Out} (h : ∀ x ∈ o, isSp T x = true) : rwo T o = [] := by
  simp only [rwo, nonWs, runsOf, List.filter_eq_nil_iff, List.mem_map, List.mem_filter]
  rintro c ⟨x, ⟨hx, _⟩, rfl⟩
  have := h x hx
  simpa [isSp] using this

theorem rwo_strip (T : Tables) (o : Out) : rwo T (strip T o) = rwo T o := by
  obtain ⟨a, b, ho, ha, hb⟩ := strip_decomp T o
  conv => rhs; rw [ho]
  simp [rwo_all_sp ha, rwo_all_sp hb]

/-- started with nothing pending, `f` leaves nothing pending and emits the runs `rs` -/
structure Emits (T : Tables) (f : M) (rs : List Str) : Prop where
  idle : (f []).2 = []
  runs : rwo T (f []).1 = txs T rs

section templates
variable {T : Tables}

theorem emits_ret_nil : Emits T (ret []) [] := ⟨rfl, rfl⟩

theorem emits_text (text : Str) : Emits T (tText T text) [text] := by
  refine ⟨rfl, ?_⟩
  simp [tText, closeLoop, rwo, txs]

/-- what the pieces emit: the runs of the operands, in order -/
inductive EmitsL (T : Tables) : List Piece → List Str → Prop
  | nil : EmitsL T [] []
  | lit (s : Str) {ps rs} : EmitsL T ps rs → EmitsL T (.lit s :: ps) rs
  | kid {f r ps rs} : Emits T f r → EmitsL T ps rs → EmitsL T (.kid f :: ps) (r ++ rs)

theorem emits_interp {ps : List Piece} {rs : List Str} (h : EmitsL T ps rs) : Emits T (interp ps) rs := by
  induction h with
  | nil => exact emits_ret_nil
  | lit s _ ih => exact ⟨ih.idle, by simp [interp, ih.runs]⟩
  | kid hf _ ih => exact ⟨by simp [interp, hf.idle, ih.idle], by simp [interp, hf.idle, hf.runs, ih.runs]⟩

theorem emits_ret_lit (s : Str) : Emits T (ret (lit s)) [] := ⟨rfl, by simp [ret]⟩

theorem emits_mapOut {w : Out → Out} (hw : ∀ x, rwo T (w x) = rwo T x) {f : M} {r : List Str}
    (hf : Emits T f r) : Emits T (mapOut w f) r := ⟨hf.idle, by simp [mapOut, hw, hf.runs]⟩

theorem rwo_radHead (dg : Out) : rwo T (radHead dg) = rwo T dg := by
  unfold radHead; split
  · rename_i h; subst h; simp
  · simp

theorem emits_rad {dg c : M} {rd rc : List Str} (hd : Emits T dg rd) (hc : Emits T c rc)
    (hq : T.opens.contains (render (strip T (c []).1)) = false) : Emits T (tRad T dg c) (rd ++ rc) := by
  have hq' : ¬ render (strip T (c []).1) ∈ T.opens := by simpa using hq
  constructor <;> simp [tRad, hd.idle, hq', hc.idle, rwo_radHead, rwo_strip, hd.runs, hc.runs]

theorem rwo_limit (o : Str) (x : Out) : rwo T (limit T o x) = rwo T x := by
  unfold limit; split
  · rename_i h; rw [rwo_all_sp (all_sp_of_strip_nil h)]; rfl
  · simp

theorem rwo_funcName (h : TOk T) (x : Out) : rwo T (funcName T x) = rwo T x := by
  unfold funcName
  simp only
  cases hl : lookup (render (strip T x)) T.funcs with
  | none => rfl
  | some v =>
    simp only
    have hf := h.funcs _ v (lookup_mem _ _ _ hl)
    split
    · simp only [rwo, runsOf_cons_false]
      exact rwo_strip T x
    · rename_i hne; exact absurd hf.2 hne

theorem emitsL_sep {sep : Str} {α} {ks : List α} {f : α → M} {g : α → List Str}
    (h : ∀ c ∈ ks, Emits T (f c) (g c)) : EmitsL T (sepPieces sep (ks.map f)) (ks.flatMap g) := by
  induction ks with
  | nil => exact .nil
  | cons k ks ih => exact .lit _ (.kid (h k (by simp)) (ih fun c hc => h c (by simp [hc])))

theorem emits_joinM {sep : Str} {α} {ks : List α} {f : α → M} {g : α → List Str}
    (h : ∀ c ∈ ks, Emits T (f c) (g c)) : Emits T (joinM sep (ks.map f)) (ks.flatMap g) := by
  rw [joinM_eq]
  cases ks with
  | nil => exact emits_ret_nil
  | cons k ks => exact emits_interp (.kid (h k (by simp)) (emitsL_sep fun c hc => h c (by simp [hc])))

theorem emits_tDefault {α} {ks : List α} {f : α → M} {g : α → List Str} (h : ∀ c ∈ ks, Emits T (f c) (g c)) :
    Emits T (tDefault (ks.map f)) (ks.flatMap g) := tDefault_eq _ ▸ emits_joinM h

end templates

theorem allRunsL_eq (ks : List Xml) : allRunsL ks = ks.flatMap allRuns := by
  induction ks with
  | nil => simp [allRunsL]
  | cons k ks ih => simp [allRunsL, ih]

theorem shapeOkL_iff (T : Tables) (ks : List Xml) : shapeOkL T ks = true ↔ ∀ c ∈ ks, shapeOk T c = true := by
  induction ks with
  | nil => simp [shapeOkL]
  | cons k ks ih => simp [shapeOkL, ih]

theorem quietL_iff (T : Tables) (ks : List Xml) : quietL T ks = true ↔ ∀ c ∈ ks, quiet T c = true := by
  induction ks with
  | nil => simp [quietL]
  | cons k ks ih => simp [quietL, ih]

theorem shapeOk_kids {T : Tables} {x : Xml} (h : shapeOk T x = true) : ∀ c ∈ x.kids, shapeOk T c = true := by
  cases x with
  | node m n v t ks =>
    simp only [shapeOk, Bool.and_eq_true] at h
    exact (shapeOkL_iff T ks).mp h.1

theorem quiet_kids {T : Tables} {x : Xml} (h : quiet T x = true) : ∀ c ∈ x.kids, quiet T c = true := by
  cases x with
  | node m n v t ks =>
    simp only [quiet, Bool.and_eq_true] at h
    exact (quietL_iff T ks).mp h.1

theorem ite_ne {α} {c : Prop} [Decidable c] {a b x : α} (ha : a ≠ x) (hb : b ≠ x) :
    (if c then a else b) ≠ x := by
  split <;> assumption

theorem kindRest_ne_text (n : Str) (b : Bool) : kindRest n b ≠ .text := by
  unfold kindRest
  repeat' apply ite_ne
  all_goals decide

theorem kindOf_text {T : Tables} (h : TOk T) (n : Str) (b : Bool) : kindOf T n b = .text ↔ n = n_t := by
  constructor
  · intro hk
    unfold kindOf at hk
    split at hk
    · cases hk
    · split at hk
      · assumption
      · exact absurd hk (kindRest_ne_text n b)
  · intro hn; subst hn
    simp only [kindOf, h.skip_t, Bool.false_eq_true, ↓reduceIte]

theorem emits_opndX {T : Tables} (n : Str) {ks : List Xml}
    (hk : ∀ c ∈ ks, Emits T (proc T c) (allRuns c)) : Emits T (opndX T n ks) (opRuns n ks) := by
  unfold opndX opRuns
  cases hf : ks.find? (isTag n) with
  | none => exact emits_ret_nil
  | some c => exact hk c (List.mem_of_find?_eq_some hf)

theorem radContent_eq (T : Tables) (ks : List Xml) : radContent T ks = (opndX T n_e ks []).1 := by
  unfold radContent opndX
  cases ks.find? (isTag n_e) <;> rfl

/-- what `C19_runs` rests on -/
theorem proc_emits {T : Tables} (h : TOk T) :
    ∀ x, shapeOk T x = true → quiet T x = true → Emits T (proc T x) (allRuns x) := by
  apply Xml.ind_grandchildren
  intro m n v t ks ih ih2 hsh hqu
  have hshk := shapeOk_kids hsh
  have hquk := quiet_kids hqu
  simp only [Xml.kids] at hshk hquk
  have hk : ∀ c ∈ ks, Emits T (proc T c) (allRuns c) := fun c hc => ih c hc (hshk c hc) (hquk c hc)
  have op : ∀ n, Emits T (opndX T n ks) (opRuns n ks) := fun n => emits_opndX n hk
  simp only [shapeOk, Bool.and_eq_true, decide_eq_true_eq] at hsh
  simp only [quiet, Bool.and_eq_true, Bool.not_eq_true', Bool.and_eq_false_iff, beq_eq_false_iff_ne] at hqu
  have hrad := hqu.2
  rw [proc_kind]
  -- by `shapeOk` the runs below the children are the runs the template of this kind emits: a `match` on the kind on both sides
  simp only [allRuns, hsh.2]
  unfold expectedRuns
  have hnt := kindOf_text h n (ks.find? (isTag n_mr)).isSome
  -- `at *`, so that `cases kd` also rewrites `hnt` (used by the `text` case) and `hrad` (by the `rad` case)
  generalize kindOf T n (ks.find? (isTag n_mr)).isSome = kd at *
  -- `allRuns` tests `n = n_t` itself, before any kind: decide that first (it fixes the kind `text`, by `hnt`)
  by_cases hn : n = n_t
  · obtain rfl := hnt.mpr hn
    simp only [hn, if_true, List.append_nil]
    exact emits_text t
  simp only [hn, if_false, List.nil_append]
  cases kd <;> dsimp only [procKind]
  case text => exact absurd (hnt.mp rfl) hn
  case skip => exact emits_ret_nil
  case rad =>
    apply emits_rad (op _) (op _)
    rw [← radContent_eq]
    exact hrad.resolve_left (fun hne => hne rfl)
  case frac => simpa [tFrac_eq] using emits_interp (.lit _ (.kid (op _) (.lit _ (.kid (op _) (.lit _ .nil)))))
  case sup => simpa [tSup_eq] using emits_interp (.kid (op _) (.lit _ (.kid (op _) (.lit _ .nil))))
  case sub => simpa [tSub_eq] using emits_interp (.kid (op _) (.lit _ (.kid (op _) (.lit _ .nil))))
  case subsup =>
    simpa [tSubSup_eq] using emits_interp (.kid (op _) (.lit _ (.kid (op _) (.lit _ (.kid (op _) (.lit _ .nil))))))
  case bar => simpa [tBar_eq] using emits_interp (.lit _ (.kid (op _) (.lit _ .nil)))
  case acc => simpa [tAcc_eq] using emits_interp (.kid (emits_ret_lit _) (.lit _ (.kid (op _) (.lit _ .nil))))
  case func =>
    simpa [tFunc_eq] using
      emits_interp (.kid (emits_mapOut (rwo_funcName h) (op _)) (.lit _ (.kid (op _) (.lit _ .nil))))
  case nary =>
    simpa [tNary_eq] using emits_interp (.kid (emits_ret_lit _) (.kid (emits_mapOut (rwo_limit _) (op _))
      (.kid (emits_mapOut (rwo_limit _) (op _)) (.lit _ (.kid (op _) .nil)))))
  case delim =>
    rw [allRunsL_eq]
    simpa [tDelim_eq] using emits_interp (.kid (emits_ret_lit _)
      (.kid (emits_joinM fun c hc => hk c (List.mem_filter.mp hc).1) (.kid (emits_ret_lit _) .nil)))
  case matrix =>
    rw [← List.flatMap_def, tMatrix_eq, List.map_map]
    have := emits_joinM (T := T) (sep := s_rowsep) (ks := ks.filter (isTag n_mr))
      (f := fun r => joinM s_amp ((r.kids.filter (isTag n_e)).map (proc T)))
      (g := fun r => allRunsL (r.kids.filter (isTag n_e))) fun r hr => by
      rw [allRunsL_eq]
      have hr' := (List.mem_filter.mp hr).1
      exact emits_joinM fun c hc =>
        have hc' := (List.mem_filter.mp hc).1
        ih2 r hr' c hc' (shapeOk_kids (hshk r hr') c hc') (quiet_kids (hquk r hr') c hc')
    simpa [Function.comp_def] using emits_interp (.lit _ (.kid this (.lit _ .nil)))
  case other =>
    rw [allRunsL_eq]
    exact emits_tDefault hk

theorem omml_runs {T : Tables} (h : TOk T) (root : Xml) (hs : shapeOkL T root.kids = true)
    (hq : quietL T root.kids = true) :
    nonWs T (runsOf (ommlOut T root)) = nonWs T (sourceText T root) := by
  have hk : ∀ c ∈ root.kids, Emits T (proc T c) (allRuns c) := fun c hc =>
    proc_emits h c ((shapeOkL_iff T _).mp hs c hc) ((quietL_iff T _).mp hq c hc)
  have e := emits_tDefault hk
  show rwo T (ommlOut T root) = txs T (allRunsL root.kids)
  simp [ommlOut_eq, e.idle, e.runs, allRunsL_eq]

end S2T.Omml
