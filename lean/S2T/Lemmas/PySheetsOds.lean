import S2T.Lemmas.PySheets
import S2T.Lemmas.TablesOds
import S2T.Model.C02SheetsOds
/-!
ODS `_extract_sheet`: the specification the translated function is proved equal to (`Props/C13_Src.lean`), stated over
the PARSED rows (what the loops read off the element tree: repeat counts, `_extract_cell_value`'s and
`_extract_annotations`' answers), and the bridges to the hand model `S2T.Tables.Ods` of C13 and to the text model of C02.

The source shapes a grid of pairs `(typed_value, display_text)`; each model sees one projection of it.  Every stage of
the shaping commutes with a projection of the cells when the stage's test agrees before and after on the cells that are
there (`Ods.rstrip_map_of_mem`, `Xlsx.lastIdx_map_of_mem`, `foldl_max_map_of_mem`): for the typed value by definition,
for the display text by `PairsOk`.  The caps `C`, the tag and attribute names are parameters.
-/
namespace S2T.Py.Sheets.OdsSpec
open S2T.Py S2T.Py.Sheets S2T.Tables

/-- one parsed `table:table-cell`: `number-columns-repeated`, `(typed_value, display_text)`, its annotations -/
abbrev PCell := Int × (Val × Py.Str) × List Annot
/-- one parsed `table:table-row`: `number-rows-repeated` and its cells -/
abbrev PRow := Int × List PCell

/-- the effects of one iteration of the cell loop, in source order -/
def parseCell (env : OdsEnv) (repCols : Py.Str) (cell : Node) : M PCell := do
  let rep ← env.intOfStr (elemGetD cell repCols "1".toList)
  let v ← env.extractCellValue cell
  let a ← env.extractAnnotations cell
  pure (rep, v, a)

/-- the effects of one iteration of the row loop, in source order -/
def parseRow (env : OdsEnv) (repRows cellTag repCols : Py.Str) (row : Node) : M PRow := do
  let rep ← env.intOfStr (elemGetD row repRows "1".toList)
  let cells ← (findall cellTag row).mapM (parseCell env repCols)
  pure (rep, cells)

/-- everything `_extract_sheet` reads off the table element before it shapes the sheet; the first exception of
    `int()` / `_extract_cell_value` / `_extract_annotations` in document order is the function's exception -/
def parseRows (env : OdsEnv) (rowTag repRows cellTag repCols : Py.Str) (table : Node) : M (List PRow) :=
  (findall rowTag table).mapM (parseRow env repRows cellTag repCols)

/-! The first pass (`raw_rows`, `all_annotations`) works on `(typed_value, display_text)` pairs.  A name ending in `2` is
the stage of the shaping on these pairs; the models of C13 and C02 have the stage on one component. -/

/-- what one cell adds to `row_values` -/
def cellPiece2 (C : Ods.Caps) (c : PCell) : List (Val × Py.Str) :=
  if c.2.1.1 == Val.none && decide (c.1 > (C.cell : Int)) then [(Val.none, [])] else List.replicate c.1.toNat c.2.1

/-- `row_values` -/
def rowVals2 (C : Ods.Caps) (cells : List PCell) : List (Val × Py.Str) := cells.flatMap (cellPiece2 C)

/-- what one row adds to `raw_rows` -/
def rowPiece2 (C : Ods.Caps) (r : PRow) : List (List (Val × Py.Str)) :=
  if decide (r.1 > (C.row : Int)) && (rowVals2 C r.2).all (fun v => v.1 == Val.none) then [rowVals2 C r.2]
  else List.replicate r.1.toNat (rowVals2 C r.2)

/-- `raw_rows` after the first pass -/
def rawOf (C : Ods.Caps) (rows : List PRow) : List (List (Val × Py.Str)) := rows.flatMap (rowPiece2 C)
/-- `all_annotations` -/
def annOf (rows : List PRow) : List Annot := rows.flatMap (fun r => r.2.flatMap (·.2.2))

def emptyRow2 (row : List (Val × Py.Str)) : Bool := row.all (fun v => v.1 == Val.none)
/-- `while raw_rows and all(v[0] is None for v in raw_rows[-1]): raw_rows.pop()` -/
def trim2 (raw : List (List (Val × Py.Str))) : List (List (Val × Py.Str)) := (raw.reverse.dropWhile emptyRow2).reverse
/-- `last_data_col` -/
def lastCol2 (raw : List (List (Val × Py.Str))) : Nat :=
  raw.foldl (fun m row => max m (Xlsx.lastIdx (fun v => v.1 != Val.none) row)) 0
/-- column `i` of `row_data` -/
def valAt (row : List (Val × Py.Str)) (i : Nat) : Val := match row[i]? with | some v => v.1 | none => Val.none
/-- what column `i` adds to `row_texts` -/
def textAt (row : List (Val × Py.Str)) (i : Nat) : Option Py.Str :=
  match row[i]? with | some v => if v.2.isEmpty then none else some v.2 | none => none
/-- `row_data` -/
def padData (w : Nat) (row : List (Val × Py.Str)) : List Val := (List.range w).map (valAt row)
/-- `row_texts` -/
def rowTexts (w : Nat) (row : List (Val × Py.Str)) : List Py.Str := (List.range w).filterMap (textAt row)
/-- the text line of a row, if it has text -/
def lineOf (w : Nat) (row : List (Val × Py.Str)) : Option Py.Str :=
  if (rowTexts w row).isEmpty then none else some (strJoin "\t".toList (rowTexts w row))
/-- `text_lines` -/
def textLines (w : Nat) (raw : List (List (Val × Py.Str))) : List Py.Str := raw.filterMap (lineOf w)

/-- the inner padding loop `for i in range(max_cols)`, whatever the shape of the body -/
theorem pad_inner {σ : Type} (e : List Val × List Py.Str × Unit → σ) (row : List (Val × Py.Str)) (w : Int) (f : Int → σ → M (ForInStep σ))
    (hf : ∀ (i : Nat) a b, f (i : Int) (e (a, b, ())) =
      Except.ok (ForInStep.yield (e (a ++ [valAt row i], b ++ (textAt row i).toList, ())))) :
    forIn (rangeI 0 w) (e ([], [], ())) f = Except.ok (e (padData w.toNat row, rowTexts w.toNat row, ())) := by
  rw [rangeI_zero, List.forIn_map, forIn_collect e _ _ (fun _ _ => ()) _ _ fun i a b _ => hf i a b, List.flatMap_toList,
    ← List.map_eq_flatMap]
  rfl

/-- the outer padding loop, whatever the shape of the body -/
theorem pad_outer {σ : Type} (e : List (List Val) × List Py.Str × Unit → σ) (w : Nat) (T : List (List (Val × Py.Str)))
    (f : List (Val × Py.Str) → σ → M (ForInStep σ))
    (hf : ∀ row a b, f row (e (a, b, ())) = Except.ok (ForInStep.yield (e (a ++ [padData w row], b ++ (lineOf w row).toList, ())))) :
    forIn T (e ([], [], ())) f = Except.ok (e (T.map (padData w), textLines w T, ())) := by
  rw [forIn_collect e _ _ (fun _ _ => ()) T f fun row a b _ => hf row a b, List.flatMap_toList, ← List.map_eq_flatMap]
  rfl

/-- `sheet.data` -/
def dataOf (C : Ods.Caps) (rows : List PRow) : List (List Val) :=
  (trim2 (rawOf C rows)).map (padData (lastCol2 (trim2 (rawOf C rows))))
/-- `sheet.text` -/
def textOf (C : Ods.Caps) (rows : List PRow) : Py.Str :=
  strJoin "\n".toList (textLines (lastCol2 (trim2 (rawOf C rows))) (trim2 (rawOf C rows)))

/-- the hand model's view of a parsed cell: `[x] * n` is empty for `n ≤ 0`, so the count enters as `n.toNat` -/
def toRCell (c : PCell) : Ods.RCell := (c.1.toNat, c.2.1.1)
def toRRow (r : PRow) : Ods.RRow := (r.1.toNat, r.2.map toRCell)
def toRRows (rows : List PRow) : List Ods.RRow := rows.map toRRow

theorem cellPiece2_fst (C : Ods.Caps) (c : PCell) : (cellPiece2 C c).map (·.1) = Ods.cellPiece C (toRCell c) := by
  unfold cellPiece2 Ods.cellPiece toRCell
  have e : decide (c.1 > (C.cell : Int)) = decide (c.1.toNat > C.cell) := by
    apply decide_eq_decide.mpr; omega
  rw [e]
  split <;> simp

theorem rowVals2_fst (C : Ods.Caps) (cells : List PCell) : (rowVals2 C cells).map (·.1) = Ods.rowValues C (cells.map toRCell) := by
  unfold rowVals2 Ods.rowValues
  induction cells with
  | nil => rfl
  | cons c r ih => simp [List.flatMap_cons, cellPiece2_fst, ih]

theorem emptyRow2_eq (row : List (Val × Py.Str)) : emptyRow2 row = (row.map (·.1)).all (· == Val.none) := by
  simp [emptyRow2, List.all_map, Function.comp_def]

theorem rowPiece2_fst (C : Ods.Caps) (r : PRow) : (rowPiece2 C r).map (·.map (·.1)) = Ods.rowPiece C (toRRow r) := by
  unfold rowPiece2 Ods.rowPiece toRRow
  have e : decide (r.1 > (C.row : Int)) = decide (r.1.toNat > C.row) := by
    apply decide_eq_decide.mpr; omega
  have e2 := emptyRow2_eq (rowVals2 C r.2)
  unfold emptyRow2 at e2
  simp only [e, e2, rowVals2_fst]
  split <;> simp [rowVals2_fst]

theorem rawOf_fst (C : Ods.Caps) (rows : List PRow) : (rawOf C rows).map (·.map (·.1)) = Ods.rawRows C (toRRows rows) := by
  unfold rawOf Ods.rawRows toRRows
  induction rows with
  | nil => rfl
  | cons r rs ih => simp [List.flatMap_cons, rowPiece2_fst, ih]

theorem trim2_fst (raw : List (List (Val × Py.Str))) : (trim2 raw).map (·.map (·.1)) = Ods.trimRows (raw.map (·.map (·.1))) :=
  (Ods.rstrip_map_of_mem _ _ _ raw fun row _ => (emptyRow2_eq row).symm).symm

theorem lastCol2_eq (raw : List (List (Val × Py.Str))) : lastCol2 raw = Ods.lastDataCol (raw.map (·.map (·.1))) :=
  (List.foldl_max_map_of_mem _ _ _ raw (fun row _ => Xlsx.lastIdx_map_of_mem (·.1) (· != Val.none) _ row fun _ _ => rfl) 0).symm

theorem padData_eq (w : Nat) (row : List (Val × Py.Str)) : padData w row = Ods.padRow w (row.map (·.1)) := by
  unfold padData Ods.padRow valAt
  apply List.map_congr_left
  intro i _
  rw [List.getElem?_map]
  cases row[i]? <;> rfl

/-- **the data side of the specification IS the hand model `Ods.sheetData`** of the parsed rows -/
theorem dataOf_eq (C : Ods.Caps) (rows : List PRow) : dataOf C rows = Ods.sheetData C (toRRows rows) := by
  unfold Ods.sheetData dataOf
  simp only [← rawOf_fst, ← trim2_fst, List.map_map, lastCol2_eq]
  apply List.map_congr_left
  intro row _
  simp [padData_eq]

/-! The C02 text model (`S2T.C02.Sheets.Ods.textOfRows`) works on the display texts alone and reads "no data" as "empty display text"; the source tests the typed
value.  The two agree when `_extract_cell_value` answers `None` exactly with an empty display text (`PairsOk`: true of
the current `_extract_cell_value`, whose every `return` is `(x, value)` with a non-empty `value` or `(None, "")`). -/

/-- typed value `None` ⇔ display text empty, for every cell of the raw rows -/
def PairsOk (raw : List (List (Val × Py.Str))) : Prop := ∀ row ∈ raw, ∀ v ∈ row, (v.1 = Val.none ↔ v.2 = [])

/-- the display texts of the raw rows -/
def dispRows (raw : List (List (Val × Py.Str))) : List (List Py.Str) := raw.map (·.map (·.2))

theorem emptyRow2_disp (row : List (Val × Py.Str)) (h : ∀ v ∈ row, (v.1 = Val.none ↔ v.2 = [])) :
    emptyRow2 row = S2T.C02.Sheets.Ods.rowEmpty (row.map (·.2)) := by
  unfold emptyRow2 S2T.C02.Sheets.Ods.rowEmpty
  induction row with
  | nil => rfl
  | cons v r ih =>
    have hv := h v (List.mem_cons_self ..)
    have ih' := ih (fun u hu => h u (List.mem_cons_of_mem _ hu))
    simp only [List.all_cons, List.map_cons, ih']
    congr 1
    by_cases h1 : v.1 = Val.none <;> simp_all

theorem mem_of_mem_trim2 (raw : List (List (Val × Py.Str))) : ∀ row ∈ trim2 raw, row ∈ raw := by
  intro row hrow
  unfold trim2 at hrow
  rw [List.mem_reverse] at hrow
  exact List.mem_reverse.mp ((List.dropWhile_sublist _).mem hrow)

theorem trim2_disp (raw : List (List (Val × Py.Str))) (h : PairsOk raw) :
    dispRows (trim2 raw) = S2T.C02.Sheets.Ods.trimRows (dispRows raw) :=
  (Ods.rstrip_map_of_mem _ _ _ raw fun row hrow => (emptyRow2_disp row (h row hrow)).symm).symm

theorem lastData_disp (row : List (Val × Py.Str)) (h : ∀ v ∈ row, (v.1 = Val.none ↔ v.2 = [])) :
    Xlsx.lastIdx (fun v => v.1 != Val.none) row = S2T.C02.Sheets.Ods.lastData (row.map (·.2)) := by
  rw [S2T.C02.Sheets.Ods.lastData, S2T.Tok.rstrip, List.length_reverse, Ods.rstrip_length]
  exact (Xlsx.lastIdx_map_of_mem _ _ _ row fun v hv => by
    have := h v hv
    by_cases h1 : v.1 = Val.none <;> simp_all).symm

theorem lastCol2_disp (T : List (List (Val × Py.Str))) (h : PairsOk T) :
    lastCol2 T = S2T.C02.Sheets.Ods.maxCols (dispRows T) :=
  (List.foldl_max_map_of_mem _ _ _ T (fun row hr => (lastData_disp row (h row hr)).symm) 0).symm

theorem filterMap_range_getElem? {α β} (f : α → Option β) (row : List α) (w : Nat) :
    (List.range w).filterMap (fun i => match row[i]? with | some v => f v | none => none) = (row.take w).filterMap f := by
  induction w with
  | zero => simp
  | succ w ih =>
    rw [List.range_succ, List.filterMap_append, ih]
    rcases Nat.lt_or_ge w row.length with hw | hw
    · rw [List.take_succ_eq_append_getElem hw, List.filterMap_append]
      simp [List.filterMap_cons, List.getElem?_eq_getElem hw]
    · rw [List.take_of_length_le hw, List.take_of_length_le (by omega)]
      simp [List.getElem?_eq_none hw]

theorem rowTexts_disp (w : Nat) (row : List (Val × Py.Str)) :
    rowTexts w row = ((row.map (·.2)).take w).filter (fun v => decide (v ≠ [])) := by
  have e : rowTexts w row = (row.take w).filterMap (fun v => if v.2.isEmpty then none else some v.2) := by
    rw [← filterMap_range_getElem?, rowTexts]
    congr 1
    funext i
    unfold textAt
    cases row[i]? <;> rfl
  rw [e, ← List.map_take]
  induction row.take w with
  | nil => rfl
  | cons v r ih =>
    rw [List.filterMap_cons, List.map_cons, List.filter_cons, ih]
    by_cases hv : v.2 = [] <;> simp [hv]

/-- **the text side of the specification IS the C02 text model** of the display rows (separators `"\t"` / `"\n"`) -/
theorem text_eq (T : S2T.C02.Sheets.OdsT) (hc : T.cellSep = "\t".toList) (hl : T.lineSep = "\n".toList)
    (raw : List (List (Val × Py.Str))) (h : PairsOk raw) :
    strJoin "\n".toList (textLines (lastCol2 (trim2 raw)) (trim2 raw)) = S2T.C02.Sheets.Ods.textOfRows T (dispRows raw) := by
  have ht : PairsOk (trim2 raw) := fun row hrow => h row (mem_of_mem_trim2 raw row hrow)
  unfold S2T.C02.Sheets.Ods.textOfRows
  simp only [← trim2_disp raw h, ← lastCol2_disp _ ht, strJoin_eq_join, hl]
  congr 1
  unfold textLines dispRows
  rw [List.filterMap_map]
  apply List.filterMap_congr
  intro row _
  simp only [Function.comp, S2T.C02.Sheets.Ods.rowLine, lineOf, rowTexts_disp, strJoin_eq_join, hc]
  simp

theorem textOf_eq (T : S2T.C02.Sheets.OdsT) (hc : T.cellSep = "\t".toList) (hl : T.lineSep = "\n".toList) (C : Ods.Caps)
    (rows : List PRow) (h : PairsOk (rawOf C rows)) :
    textOf C rows = S2T.C02.Sheets.Ods.textOfRows T (dispRows (rawOf C rows)) :=
  text_eq T hc hl _ h

/-- every `(typed_value, display_text)` of the parsed rows is an answer of `_extract_cell_value` -/
theorem parseRows_values (env : OdsEnv) (rowTag repRows cellTag repCols : Py.Str) (table : Node) (rows : List PRow)
    (h : parseRows env rowTag repRows cellTag repCols table = Except.ok rows) :
    ∀ r ∈ rows, ∀ c ∈ r.2, ∃ cell, env.extractCellValue cell = Except.ok c.2.1 := by
  intro r hr c hc
  obtain ⟨row, _, hrow⟩ := mapM_ok_mem h r hr
  simp only [parseRow, bind_eq_ok, M.pure_def, Except.ok.injEq] at hrow
  obtain ⟨rep, _, cells, hcells, rfl⟩ := hrow
  obtain ⟨cell, _, hcell⟩ := mapM_ok_mem hcells c hc
  simp only [parseCell, bind_eq_ok, M.pure_def, Except.ok.injEq] at hcell
  obtain ⟨k, _, v, hv, a, _, rfl⟩ := hcell
  exact ⟨cell, hv⟩

/-- if every parsed value pairs `None` with the empty text, so does every cell of the raw rows (the collapsed runs are
    `(None, "")`) -/
theorem pairsOk_rawOf (C : Ods.Caps) (rows : List PRow) (h : ∀ r ∈ rows, ∀ c ∈ r.2, (c.2.1.1 = Val.none ↔ c.2.1.2 = [])) :
    PairsOk (rawOf C rows) := by
  have hvals : ∀ r ∈ rows, ∀ v ∈ rowVals2 C r.2, (v.1 = Val.none ↔ v.2 = []) := by
    intro r hr v hv
    simp only [rowVals2, List.mem_flatMap] at hv
    obtain ⟨c, hc, hvc⟩ := hv
    unfold cellPiece2 at hvc
    split at hvc
    · simp only [List.mem_singleton] at hvc; subst hvc; simp
    · rw [List.mem_replicate] at hvc; rw [hvc.2]; exact h r hr c hc
  intro row hrow v hv
  simp only [rawOf, List.mem_flatMap] at hrow
  obtain ⟨r, hr, hrr⟩ := hrow
  unfold rowPiece2 at hrr
  split at hrr
  · simp only [List.mem_singleton] at hrr; subst hrr; exact hvals r hr v hv
  · rw [List.mem_replicate] at hrr; rw [hrr.2] at hv; exact hvals r hr v hv

end S2T.Py.Sheets.OdsSpec
