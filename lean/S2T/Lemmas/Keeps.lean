/-!
`Keeps I f' f`: two step functions that agree wherever an invariant holds, the second of which preserves it.  Closed
under composition and `foldl`, so a run of many steps is compared step by step (C09: extraction under two environments;
C20: the AES block functions of the model against FIPS-197).
-/
namespace S2T

def Keeps {σ : Type} (I : σ → Prop) (f' f : σ → σ) : Prop := ∀ s, I s → f' s = f s ∧ I (f s)

/-- first `f`, then `g` (the order of a pipeline, not of `∘`) -/
theorem Keeps.comp {σ : Type} {I : σ → Prop} {f' f g' g : σ → σ} (hf : Keeps I f' f) (hg : Keeps I g' g) :
    Keeps I (fun s => g' (f' s)) (fun s => g (f s)) := fun s h => by
  obtain ⟨e, h1⟩ := hf s h
  simpa only [e] using hg _ h1

theorem Keeps.foldl {σ α : Type} {I : σ → Prop} {g' g : σ → α → σ} (l : List α)
    (h : ∀ a ∈ l, Keeps I (g' · a) (g · a)) : Keeps I (l.foldl g' ·) (l.foldl g ·) := by
  induction l with
  | nil => exact fun _ hs => ⟨rfl, hs⟩
  | cons a l ih =>
    -- `(a :: l).foldl g s` is `l.foldl g (g s a)` by definition: the step at `a`, then the fold over `l`
    exact (h a List.mem_cons_self).comp (ih fun b hb => h b (List.mem_cons_of_mem _ hb))

theorem Keeps.eq {σ : Type} {I : σ → Prop} {f' f : σ → σ} (h : Keeps I f' f) {s : σ} (hs : I s) : f' s = f s :=
  (h s hs).1

theorem Keeps.inv {σ : Type} {I : σ → Prop} {f' f : σ → σ} (h : Keeps I f' f) {s : σ} (hs : I s) : I (f s) :=
  (h s hs).2

theorem Keeps.left {σ : Type} {I : σ → Prop} {f' f : σ → σ} (h : Keeps I f' f) {s : σ} (hs : I s) : I (f' s) :=
  h.eq hs ▸ h.inv hs

end S2T
