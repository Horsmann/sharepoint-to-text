import S2T.Lemmas.OmmlBal
/-! The templates of `process_element` as data, so that the balance invariant (`Lemmas/OmmlGood.lean`) and run preservation
    (`Lemmas/OmmlRuns.lean`) are each proved once, over piece lists, and not per template. -/
namespace S2T.Omml
variable {T : Tables}

/-- a piece of a template: literal text, or a processed operand. Every `if tag == …` block is a list of pieces, but for
    `m:t` and `m:rad` (which tests its operand's output and may push a closer). Text that depends on a table or an attribute
    (`accentCmd`, `naryOp`, the delimiters) is an operand `ret (lit …)`, so that the literal skeleton `skel` of every template
    is a closed string and its walk is decided by `rfl` (`good_interp`). -/
inductive Piece where
  | lit (s : Str)
  | kid (f : M)

def interp : List Piece → M
  | [] => ret []
  | .lit s :: r => fun st => let y := interp r st; (lit s ++ y.1, y.2)
  | .kid f :: r => fun st => let x := f st; let y := interp r x.2; (x.1 ++ y.1, y.2)

def skel : List Piece → Str
  | [] => []
  | .lit s :: r => s ++ skel r
  | .kid _ :: r => skel r

def mapOut (w : Out → Out) (f : M) : M := fun s => (w (f s).1, (f s).2)

/-- `sep.join(process_element(e) for e in es)` -/
def joinM (sep : Str) (es : List M) : M := fun s => let r := seqAll es s; (joinWith (lit sep) r.1, r.2)

theorem tFrac_eq (a b : M) : tFrac a b = interp [.lit s_frac, .kid a, .lit s_mid, .kid b, .lit s_close] := by
  funext s; simp [tFrac, interp, ret]
theorem tSup_eq (a b : M) : tSup a b = interp [.kid a, .lit s_supO, .kid b, .lit s_close] := by
  funext s; simp [tSup, interp, ret]
theorem tSub_eq (a b : M) : tSub a b = interp [.kid a, .lit s_subO, .kid b, .lit s_close] := by
  funext s; simp [tSub, interp, ret]
theorem tSubSup_eq (a b c : M) :
    tSubSup a b c = interp [.kid a, .lit s_subO, .kid b, .lit s_subsup, .kid c, .lit s_close] := by
  funext s; simp [tSubSup, interp, ret]
theorem tBar_eq (c : M) : tBar c = interp [.lit s_overline, .kid c, .lit s_close] := by
  funext s; simp [tBar, interp, ret]
theorem tAcc_eq (a : Str) (c : M) :
    tAcc T a c = interp [.kid (ret (lit (accentCmd T a))), .lit s_open, .kid c, .lit s_close] := by
  funext s; simp [tAcc, interp, ret]
theorem tFunc_eq (a c : M) :
    tFunc T a c = interp [.kid (mapOut (funcName T) a), .lit s_open, .kid c, .lit s_close] := by
  funext s; simp [tFunc, interp, ret, mapOut]
theorem tNary_eq (op : Str) (a b c : M) :
    tNary T op a b c = interp [.kid (ret (lit (naryOp T op))), .kid (mapOut (limit T s_subO) a),
      .kid (mapOut (limit T s_supO) b), .lit s_space, .kid c] := by
  funext s; simp [tNary, interp, ret, mapOut]
theorem tDelim_eq (l r : Str) (es : List M) :
    tDelim l r es = interp [.kid (ret (lit l)), .kid (joinM s_comma es), .kid (ret (lit r))] := by
  funext s; simp [tDelim, interp, ret, joinM]
theorem rowM_eq : rowM = joinM s_amp := rfl
theorem tMatrix_eq (rows : List (List M)) :
    tMatrix rows = interp [.lit s_begin, .kid (joinM s_rowsep (rows.map (joinM s_amp))), .lit s_end] := by
  funext s; simp [tMatrix, interp, ret, joinM, rowM_eq]

/-- `sep.join` over processed operands is a template too: the operands with `sep` before each (`sepPieces`), after the
    first (`joinPieces`) -/
def sepPieces (sep : Str) : List M → List Piece
  | [] => []
  | f :: fs => .lit sep :: .kid f :: sepPieces sep fs

def joinPieces (sep : Str) : List M → List Piece
  | [] => []
  | f :: fs => .kid f :: sepPieces sep fs

theorem joinTail_cons (sep y : Out) (r : List Out) : joinTail sep (y :: r) = sep ++ y ++ joinTail sep r := by
  simp [joinTail]

theorem interp_sepPieces (sep : Str) (fs : List M) (s : Stack) :
    interp (sepPieces sep fs) s = (joinTail (lit sep) (seqAll fs s).1, (seqAll fs s).2) := by
  induction fs generalizing s with
  | nil => rfl
  | cons f fs ih => simp [sepPieces, interp, seqAll, ih, joinTail_cons]

theorem joinM_eq (sep : Str) (es : List M) : joinM sep es = interp (joinPieces sep es) := by
  funext s
  cases es with
  | nil => rfl
  | cons e r => simp [joinM, joinPieces, interp, seqAll, joinWith, interp_sepPieces]

theorem flatten_eq_joinWith (r : List Out) : r.flatten = joinWith [] r := by
  cases r with
  | nil => rfl
  | cons y r => simp [joinWith, joinTail]

theorem tDefault_eq (ks : List M) : tDefault ks = joinM [] ks := by
  funext s; simp [tDefault, joinM, flatten_eq_joinWith, lit]

end S2T.Omml
