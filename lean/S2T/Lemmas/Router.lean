import S2T.Model.Router
import S2T.Lemmas.ListBasics
namespace S2T.Router

/-! `lookup` is `List.lookup` spelt with `if k = k'`; the two lemmas below are `List.mem_of_lookup_eq_some` and
    `List.exists_lookup_of_mem` (Lemmas/ListBasics) with its converse, proved along the model's own recursion. -/

theorem lookup_mem {β} (k : Str) (l : List (Str × β)) (v : β) (h : lookup k l = some v) :
    (k, v) ∈ l := by
  fun_induction lookup k l with
  | case1 => cases h
  | case2 v' r => cases h; exact List.mem_cons_self
  | case3 k' v' r hk ih => exact List.mem_cons_of_mem _ (ih h)

theorem lookup_isSome_iff {β} (k : Str) (l : List (Str × β)) :
    (lookup k l).isSome = true ↔ ∃ v, (k, v) ∈ l := by
  refine ⟨fun h => ?_, ?_⟩
  · obtain ⟨v, hv⟩ := Option.isSome_iff_exists.mp h
    exact ⟨v, lookup_mem k l v hv⟩
  · rintro ⟨v, hm⟩
    fun_induction lookup k l with
    | case1 => cases hm
    | case2 => rfl
    | case3 k' v' r hk ih => exact ih ((List.mem_cons.mp hm).resolve_left fun e => hk (by cases e; rfl))

theorem compoundMatch_eq_find (c : List (Str × Str)) (pl : Str) :
    compoundMatch c pl = (c.find? (fun x => x.1.isSuffixOf pl)).map (·.2) := by
  induction c with
  | nil => rfl
  | cons x xs ih =>
    obtain ⟨e, t⟩ := x
    simp only [compoundMatch, List.find?_cons]
    cases h : e.isSuffixOf pl <;> simp [ih]

theorem compoundMatch_some_mem (c : List (Str × Str)) (pl t : Str)
    (h : compoundMatch c pl = some t) : ∃ e, (e, t) ∈ c ∧ e.isSuffixOf pl = true := by
  rw [compoundMatch_eq_find, Option.map_eq_some_iff] at h
  obtain ⟨⟨e, _⟩, hf, rfl⟩ := h
  exact ⟨e, List.mem_of_find?_eq_some hf, List.find?_some (p := fun x : Str × Str => x.1.isSuffixOf pl) hf⟩

theorem compoundMatch_none (c : List (Str × Str)) (pl : Str)
    (h : compoundMatch c pl = none) : ∀ e t, (e, t) ∈ c → e.isSuffixOf pl = false := by
  rw [compoundMatch_eq_find, Option.map_eq_none_iff, List.find?_eq_none] at h
  exact fun e t hm => Bool.eq_false_iff.mpr (h (e, t) hm)

/-- Of two suffixes of one list the shorter is a suffix of the longer; `c` cannot be a proper
    suffix of `d :: a`, since it starts with `d` and `a` has none. -/
theorem suffix_of_head_not_mem {α} {d : α} {a c p : List α} (hc : c <:+ p) (ha : d :: a <:+ p)
    (hd : c.head? = some d) (hnd : d ∉ a) : d :: a <:+ c := by
  rcases List.suffix_or_suffix_of_suffix hc ha with hca | hac
  · rcases List.suffix_cons_iff.mp hca with rfl | hca'
    · exact List.suffix_refl _
    · exact absurd (hca'.subset (List.mem_of_mem_head? (Option.mem_def.mpr hd))) hnd
  · exact hac

/-- when `b` has a dot, the last one and what follows it are the end of `b` -/
theorem lastDot_suffix {b : Str} (h : (b.reverse.takeWhile (· ≠ '.')).length ≠ b.length) :
    '.' :: (b.reverse.takeWhile (· ≠ '.')).reverse <:+ b := by
  have hsplit := List.takeWhile_append_dropWhile (p := (· ≠ '.')) (l := b.reverse)
  cases hdw : b.reverse.dropWhile (· ≠ '.') with
  | nil => rw [hdw, List.append_nil] at hsplit; rw [hsplit, List.length_reverse] at h; exact absurd rfl h
  | cons d ds =>
    have hd : d = '.' := by simpa using List.not_of_head?_dropWhile (congrArg List.head? hdw)
    have := congrArg List.reverse hsplit
    rw [hdw, hd, List.reverse_reverse, List.reverse_append, List.reverse_cons, List.append_assoc] at this
    exact ⟨ds.reverse, this⟩

theorem baseName_suffix (p : Str) : baseName p <:+ p := by
  unfold baseName
  have := List.takeWhile_prefix (fun c => decide (c ≠ '/')) (l := p.reverse)
  have h2 := List.reverse_suffix.mpr this
  simpa using h2

theorem splitextExt_suffix (p : Str) : (splitextExt p) <:+ p := by
  unfold splitextExt
  simp only
  split
  · exact List.nil_suffix
  · split
    · rename_i hlen _
      exact (lastDot_suffix hlen).trans (baseName_suffix p)
    · exact List.nil_suffix

theorem splitextExt_nil_or_dot (p : Str) : splitextExt p = [] ∨ ∃ ext, splitextExt p = '.' :: ext := by
  unfold splitextExt
  simp only
  split
  · exact Or.inl rfl
  · split
    · exact Or.inr ⟨_, rfl⟩
    · exact Or.inl rfl

/-- `splitext` read off a basename `b ++ '.' :: a` whose last dot is the one shown and whose part
    before it is not all dots. -/
theorem splitextExt_of_baseName {p b a : Str} (hb : baseName p = b ++ '.' :: a) (ha : '.' ∉ a)
    (hbd : b.any (· ≠ '.') = true) : splitextExt p = '.' :: a := by
  unfold splitextExt
  simp only [hb, List.takeWhile_ne_reverse_append '.' b a ha, List.length_reverse,
    List.length_append, List.length_cons, List.reverse_reverse]
  -- what is left is the body of `splitextExt` on `b ++ '.' :: a`: `if |a| = |b| + (|a| + 1) then [] else if the first
  -- `|b| + (|a| + 1) - |a| - 1` characters of it have a non-dot then '.' :: a else []`; the lengths differ, the
  -- count is `|b|`, and those characters are `b`
  rw [if_neg (Nat.ne_of_lt (Nat.lt_add_left _ (Nat.lt_succ_self _))), Nat.sub_sub,
    Nat.add_sub_cancel, List.take_left' rfl, if_pos hbd]

theorem getExtractor_of_type {T : Tables} {pl t : Str} (mime) (h : fileTypeFromExt T pl = some t)
    (ht : t.isEmpty = false) : getExtractor T pl mime = getExtractorByType T t := by
  simp only [getExtractor, h, ht, Bool.false_eq_true, if_false]

theorem getExtractor_of_no_type {T : Tables} {pl : Str} (mime)
    (h : ∀ t, fileTypeFromExt T pl = some t → t.isEmpty = true) :
    getExtractor T pl mime = getExtractor.mimeBranch T mime := by
  unfold getExtractor
  cases hf : fileTypeFromExt T pl with
  | none => rfl
  | some t => simp only [h t hf, if_true]

end S2T.Router
