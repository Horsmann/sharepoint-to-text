import S2T.Lemmas.TablesRtfPart
/-! `cellText` of a written cell = the text of the cell. -/
namespace S2T.Tables.Rtf
open S2T.HtmlSkip (Str)
open S2T.Tables

/-- what the theorems need of the generated `SPECIAL_CHARS`: `par ↦ "\n"` comes first and no keyword is (or starts
    with) one of the control words `\trowd \cellx \pard \intbl` of a written row -/
def specialsOk (P : Params) : Bool :=
  match P.specials with
  | kc :: rest => kc.1 == "par".toList && kc.2 == ['\n'] && rest.all (fun kc => inertKw kc.1)
  | [] => false

def NoBrace (s : Str) : Prop := ∀ c ∈ s, c ≠ '{'

theorem removeIgnorable_noBrace (s : Str) (h : NoBrace s) : removeIgnorable 0 s = s := by
  induction s with
  | nil => rfl
  | cons c s ih =>
    have hc : (c == '{') = false := by simpa using h c List.mem_cons_self
    simp only [removeIgnorable, hc, Bool.false_and, Bool.false_eq_true, if_false]
    rw [ih (fun x hx => h x (List.mem_cons_of_mem _ hx))]

theorem noBrace_append {a b : Str} (ha : NoBrace a) (hb : NoBrace b) : NoBrace (a ++ b) :=
  List.forall_mem_append.mpr ⟨ha, hb⟩

theorem noBrace_of_all (s : Str) (h : s.all (fun c => c != '{') = true) : NoBrace s := ne_of_all s h

theorem noBrace_digits (k : Nat) : NoBrace (toDec k) := toDec_ne_of_not_digit k (by decide)

theorem noBrace_escUnit (u : Nat) : NoBrace (escUnit u) := by
  unfold escUnit
  split
  · exact noBrace_append (a := ['\\', 'u']) (noBrace_of_all _ (by decide))
      (noBrace_append (noBrace_digits _) (noBrace_of_all _ (by decide)))
  · exact noBrace_append (a := ['\\', 'u', '-']) (noBrace_of_all _ (by decide))
      (noBrace_append (noBrace_digits _) (noBrace_of_all _ (by decide)))

theorem appends_noBrace : Appends NoBrace := ⟨fun _ hc => (nomatch hc), noBrace_append⟩

theorem noBrace_esc (p : Str) (h : p.all textChar = true) : NoBrace (esc p) := by
  refine appends_noBrace.flatMap escChar p (fun c hc => ?_)
  have ht := List.all_eq_true.mp h c hc
  rcases escChar_textChar ht with e | e
  · rw [e]; intro x hx; simp at hx; subst hx; exact (textChar_parts ht).noOpen
  · rw [e]; exact noBrace_escUnit _

theorem noBrace_cellxW (k : Nat) : NoBrace (cellxW k) :=
  noBrace_append (a := ['\\']) (noBrace_of_all _ (by decide))
    (noBrace_append (noBrace_of_all "cellx".toList (by decide)) (noBrace_digits _))

theorem noBrace_lead {L L' : Str} (hL : LeadOf L L') : NoBrace L :=
  appends_noBrace.lead (noBrace_of_all _ (by decide)) noBrace_cellxW (noBrace_of_all _ (by decide)) hL

theorem noBs_join_nl (ps : List Str) (h : ps.all plainPara = true) : NoBs (joinWith ['\n'] ps) := by
  cases ps with
  | nil => intro c hc; cases hc
  | cons p r => exact clean_noBs (joined_of_plain (p :: r) h (by simp)).isClean

theorem pass_lead_eq (m) (hm : Anch (hits m)) (hi : RowInert (hits m)) {L L' : Str} (hL : LeadOf L L') {X Y : Str}
    (h : subst m 0 X = Y) : subst m 0 (L ++ sCellStart ++ X) = L ++ sCellStart ++ Y := by
  rw [subst_silent m (silent_lead hm hi hL), h]

/-- the fold over `SPECIAL_CHARS` on the piece in front of a `\cell`: the first keyword is `par` and turns every `\par ` into a line
    end; every other keyword is inert on what stands in front of the text and meets no backslash in the text any more -/
theorem specials_part (P : Params) (hP : specialsOk P = true) (c : RCell) (hc : plainCell c = true)
    {L L' : Str} (hL : LeadOf L L') :
    specials P (L ++ sCellStart ++ joinWith sPar c) = L ++ sCellStart ++ joinWith ['\n'] c := by
  unfold specials
  unfold specialsOk at hP
  split at hP
  · rename_i kc rest hsp
    simp only [Bool.and_eq_true, beq_iff_eq] at hP
    obtain ⟨⟨hk, hch⟩, hrest⟩ := hP
    -- the string literals become character lists first: decoding them is what makes a bare `decide` slow
    rw [hsp, List.foldl_cons, hk, hch, pass_lead_eq _ (anch_specialM _ _)
      (inert_specialM _ _ (by decide_chars inertKw names4)) hL (par_join c hc)]
    exact List.foldl_id _ _ _ fun kc' hkc' => pass_lead_eq _ (anch_specialM _ _)
      (inert_specialM _ _ (List.all_eq_true.mp hrest kc' hkc')) hL (subst_noBs_id _ (anch_specialM _ _) _ (noBs_join_nl c hc))
  · exact absurd hP (by decide)

theorem cellText_part (P : Params) (hP : specialsOk P = true) (c : RCell) (hc : plainCell c = true)
    {L L' : Str} (hL : LeadOf L L') :
    cellText P (L ++ sCellStart ++ joinWith sPar (c.map esc)) = cellSpec c := by
  have htc : ∀ p ∈ c, p.all textChar = true := fun p hp => plainPara_textChar (List.all_eq_true.mp hc p hp)
  have h0 := removeIgnorable_noBrace _ (noBrace_append (noBrace_append (noBrace_lead hL) (noBrace_of_all sCellStart (by decide)))
    (appends_noBrace.join (noBrace_of_all sPar (by decide)) _
      (List.forall_mem_map.mpr fun q hq => noBrace_esc q (htc q hq))))
  have h1 := pass_lead_eq uniM anch_uniM inert_uniM hL (uniEsc_join c htc)
  have h2 := pass_lead_eq hexEscM anch_hexEscM inert_hexEscM hL (hexEsc_join c (fun p hp => textChar_noBs (htc p hp)))
  have hN := noBs_join_nl c hc
  have h3 := specials_part P hP c hc hL
  have h4 := ctl_lead hL (joinWith ['\n'] c) hN
  -- `h1`, `h2` speak of `subst uniM 0`, `subst hexEscM 0` (the shape `pass_lead_eq` takes): the two names are opened to meet them
  unfold cellText stripSimple uniEsc hexEsc
  rw [h0, h1, h2, h3, h4]
  cases c with
  | nil =>
    cases hL with
    | first n => decide
    | later => decide
  | cons p r =>
    have J := joined_of_plain (p :: r) hc (by simp)
    have hl : L' = [] ∨ L' = [' '] := by cases hL <;> simp
    exact tail_passes _ J L' hl

end S2T.Tables.Rtf
