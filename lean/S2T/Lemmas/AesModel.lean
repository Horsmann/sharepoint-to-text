import S2T.Lemmas.AesSpec
/-!
The model of `_pypdf_aes_fallback.py` (S2T/Model/Aes.lean) computes the FIPS-197 / SP 800-38A functions,
for every table set `T` with `TablesOk T` (that the tables generated from the source are such a set is `C20_tables`,
Props/C20_Tables.lean).
-/
namespace S2T.AesL
open S2T.Aes (IsBytes Tables Exc)
open S2T.Spec

/-- table `t` has 256 entries and `t[x] = f x` for every byte x -/
def TabOk (t : List Nat) (f : Nat → Nat) : Prop := t.length = 256 ∧ ∀ x, x < 256 → t.getD x 0 = f x

/-- `TabOk` of a table that is `(List.range 256).map g`: a generated table is then compared with that list by list
    equality, one walk, and no `List.getD` lookup is evaluated. -/
theorem tabOk_map_range {g f : Nat → Nat} (h : ∀ x, x < 256 → g x = f x) : TabOk ((List.range 256).map g) f :=
  ⟨by simp, fun x hx => by simp [List.getD_eq_getElem?_getD, hx, h x hx]⟩

/-- `_RCON` has the 15 entries 0, x⁰, x¹, …, x¹³ -/
def RconOk (t : List Nat) : Prop := t.length = 15 ∧ ∀ i, i < 15 → t.getD i 0 = Fips197.rcon i

instance (t : List Nat) : Decidable (RconOk t) := by unfold RconOk; infer_instance

/-- every table of the module is the FIPS-197 function it stands for -/
structure TablesOk (T : Tables) : Prop where
  sbox : TabOk T.sbox Fips197.sbox
  invSbox : TabOk T.invSbox Fips197.invSbox
  mul2 : TabOk T.mul2 (fun a => Fips197.gmul a 2)
  mul3 : TabOk T.mul3 (fun a => Fips197.gmul a 3)
  mul9 : TabOk T.mul9 (fun a => Fips197.gmul a 9)
  mul11 : TabOk T.mul11 (fun a => Fips197.gmul a 11)
  mul13 : TabOk T.mul13 (fun a => Fips197.gmul a 13)
  mul14 : TabOk T.mul14 (fun a => Fips197.gmul a 14)
  rcon : RconOk T.rcon

section
variable {T : Tables}

/-- the loop `for i in range(len(s)): s[i] = g(i, s[i])`, started after a prefix that is already done -/
theorem foldl_set_mapIdx (g : Nat → Nat → Nat) (s : List Nat) : ∀ pre : List Nat,
    (List.range' pre.length s.length).foldl (fun st i => st.set i (g i (st.getD i 0))) (pre ++ s)
      = pre ++ s.mapIdx (fun j => g (pre.length + j)) := by
  induction s with
  | nil => intro pre; rfl
  | cons a t ih =>
    intro pre
    have step : (pre ++ a :: t).set pre.length (g pre.length ((pre ++ a :: t).getD pre.length 0))
        = (pre ++ [g pre.length a]) ++ t := by simp
    rw [List.length_cons, List.range'_succ, List.foldl_cons, step]
    have := ih (pre ++ [g pre.length a])
    rw [List.length_append, List.length_singleton] at this
    rw [this, List.mapIdx_cons, List.append_assoc]
    -- left: the index shift `pre.length + 1 + j = pre.length + (j + 1)` under `mapIdx`
    simp only [List.singleton_append, Nat.add_zero, Nat.add_assoc, Nat.add_comm 1]

theorem foldl_set_range (g : Nat → Nat → Nat) (s : List Nat) :
    (List.range s.length).foldl (fun st i => st.set i (g i (st.getD i 0))) s = s.mapIdx g := by
  simpa [List.range_eq_range'] using foldl_set_mapIdx g s []

theorem mapIdx_const (f : Nat → Nat) (s : List Nat) : s.mapIdx (fun _ => f) = s.map f := by
  induction s with
  | nil => rfl
  | cons a t ih => rw [List.mapIdx_cons, ih, List.map_cons]

theorem mapIdx_getD (h : Nat → Nat → Nat) (s : List Nat) : ∀ k : List Nat, s.length ≤ k.length →
    s.mapIdx (fun i x => h x (k.getD i 0)) = List.zipWith h s k := by
  induction s with
  | nil => intro k _; rfl
  | cons a t ih =>
    intro k hk
    match k, hk with
    | b :: u, hk =>
      rw [List.mapIdx_cons, List.zipWith_cons_cons, ← ih u (Nat.le_of_succ_le_succ hk)]
      rfl

/-- the loop `for i in range(16): s[i] = t[s[i]]` with a table `t` of the byte function `f` -/
theorem foldl_set_table {t : List Nat} {f : Nat → Nat} (ht : TabOk t f) {s : List Nat} (hs : Block s) :
    (List.range 16).foldl (fun st i => st.set i (t.getD (st.getD i 0) 0)) s = s.map f := by
  have e := foldl_set_range (fun _ b => t.getD b 0) s
  rw [hs.1, mapIdx_const] at e
  exact e.trans (List.map_congr_left fun a ha => ht.2 a (hs.2 a ha))

/-! model = specification on 16-byte blocks, which the specification's function keeps (`Keeps Block`: the form in which
the block functions chain them) -/
theorem subBytes_keeps (hT : TablesOk T) : Keeps Block (Aes.subBytes T) Fips197.subBytes :=
  fun _ hs => ⟨foldl_set_table hT.sbox hs, subBytes_block hs⟩

theorem invSubBytes_keeps (hT : TablesOk T) : Keeps Block (Aes.invSubBytes T) Fips197.invSubBytes :=
  fun _ hs => ⟨foldl_set_table hT.invSbox hs, invSubBytes_block hs⟩

theorem addRoundKey_eq {s k : List Nat} (h : s.length = 16) (hk : k.length = 16) :
    Aes.addRoundKey s k = Fips197.addRoundKey s k := by
  have e := foldl_set_range (fun i b => b ^^^ k.getD i 0) s
  rw [h, mapIdx_getD _ s k (by omega)] at e
  exact e

theorem rotateRow_length (inv : Bool) (s : List Nat) (row : Nat) : (Aes.rotateRow inv s row).length = s.length := by
  simp [Aes.rotateRow, List.range_succ]

-- by `simp`: `rfl` makes the elaborator unfold the three row rotations on 16 symbolic entries
theorem shiftRows_eq {s : List Nat} (h : s.length = 16) : Aes.shiftRows s = Fips197.shiftRows s := by
  obtain ⟨a0, a1, a2, a3, a4, a5, a6, a7, a8, a9, a10, a11, a12, a13, a14, a15, rfl⟩ := list16 s h
  simp [Aes.shiftRows, Aes.rotateRow, Fips197.shiftRows, List.range, List.range.loop]

theorem invShiftRows_eq {s : List Nat} (h : s.length = 16) : Aes.invShiftRows s = Fips197.invShiftRows s := by
  obtain ⟨a0, a1, a2, a3, a4, a5, a6, a7, a8, a9, a10, a11, a12, a13, a14, a15, rfl⟩ := list16 s h
  simp [Aes.invShiftRows, Aes.rotateRow, Fips197.invShiftRows, List.range, List.range.loop]

/-- `for idx in range(16): out[offset + idx] = dec[idx] ^ prev[idx]` -/
theorem xor16_eq {s k : List Nat} (h : s.length = 16) (hk : k.length = 16) :
    (List.range 16).map (fun idx => s.getD idx 0 ^^^ k.getD idx 0) = Fips197.xorWords s k := by
  obtain ⟨a0, a1, a2, a3, a4, a5, a6, a7, a8, a9, a10, a11, a12, a13, a14, a15, rfl⟩ := list16 s h
  obtain ⟨b0, b1, b2, b3, b4, b5, b6, b7, b8, b9, b10, b11, b12, b13, b14, b15, rfl⟩ := list16 k hk
  rfl

/-- one column as `_mix_columns` computes it -/
def mcolT (T : Tables) (a0 a1 a2 a3 : Nat) : List Nat :=
  [T.mul2.getD a0 0 ^^^ T.mul3.getD a1 0 ^^^ a2 ^^^ a3, a0 ^^^ T.mul2.getD a1 0 ^^^ T.mul3.getD a2 0 ^^^ a3,
   a0 ^^^ a1 ^^^ T.mul2.getD a2 0 ^^^ T.mul3.getD a3 0, T.mul3.getD a0 0 ^^^ a1 ^^^ a2 ^^^ T.mul2.getD a3 0]

/-- one column as `_inv_mix_columns` computes it -/
def imcolT (T : Tables) (a0 a1 a2 a3 : Nat) : List Nat :=
  [T.mul14.getD a0 0 ^^^ T.mul11.getD a1 0 ^^^ T.mul13.getD a2 0 ^^^ T.mul9.getD a3 0,
   T.mul9.getD a0 0 ^^^ T.mul14.getD a1 0 ^^^ T.mul11.getD a2 0 ^^^ T.mul13.getD a3 0,
   T.mul13.getD a0 0 ^^^ T.mul9.getD a1 0 ^^^ T.mul14.getD a2 0 ^^^ T.mul11.getD a3 0,
   T.mul11.getD a0 0 ^^^ T.mul13.getD a1 0 ^^^ T.mul9.getD a2 0 ^^^ T.mul14.getD a3 0]

theorem mcolT_eq (hT : TablesOk T) {a b c d : Nat} (ha : a < 256) (hb : b < 256) (hc : c < 256) (hd : d < 256) :
    mcolT T a b c d = mcol a b c d := by
  simp only [mcolT, mcol, hT.mul2.2, hT.mul3.2, ha, hb, hc, hd]

theorem imcolT_eq (hT : TablesOk T) {a b c d : Nat} (ha : a < 256) (hb : b < 256) (hc : c < 256) (hd : d < 256) :
    imcolT T a b c d = imcol a b c d := by
  simp only [imcolT, imcol, hT.mul9.2, hT.mul11.2, hT.mul13.2, hT.mul14.2, ha, hb, hc, hd]

/-- one iteration of the column loop of `_mix_columns` / `_inv_mix_columns`: the entries of column `col` are
    replaced by the entries of `g` of their old values -/
def setCol (g : Nat → Nat → Nat → Nat → List Nat) (st : List Nat) (col : Nat) : List Nat :=
  let i := 4 * col
  let r := g (st.getD i 0) (st.getD (i + 1) 0) (st.getD (i + 2) 0) (st.getD (i + 3) 0)
  (((st.set i (r.getD 0 0)).set (i + 1) (r.getD 1 0)).set (i + 2) (r.getD 2 0)).set (i + 3) (r.getD 3 0)

theorem setCol_append {g : Nat → Nat → Nat → Nat → List Nat} (pre t : List Nat) {a b c d col : Nat}
    (hg : (g a b c d).length = 4) (h : pre.length = 4 * col) :
    setCol g (pre ++ a :: b :: c :: d :: t) col = (pre ++ g a b c d) ++ t := by
  obtain ⟨x0, x1, x2, x3, e⟩ := list4 _ hg
  simp [setCol, ← h, e]

theorem foldl_setCol {g : Nat → Nat → Nat → Nat → List Nat} (hg : ∀ a b c d, (g a b c d).length = 4) {n : Nat}
    {s : List Nat} (hl : s.length = 4 * n) : ∀ (pre : List Nat) (c : Nat), pre.length = 4 * c →
      (List.range' c n).foldl (setCol g) (pre ++ s) = pre ++ mapCols g s := by
  refine cols_induction (P := fun n s => ∀ (pre : List Nat) (c : Nat), pre.length = 4 * c →
    (List.range' c n).foldl (setCol g) (pre ++ s) = pre ++ mapCols g s) ?_ ?_ n s hl
  · intro pre c _; rfl
  · intro n a b c d t ih pre col hpre
    rw [List.range'_succ, List.foldl_cons, setCol_append _ _ (hg ..) hpre,
      ih _ (col + 1) (by rw [List.length_append, hpre, hg]; rfl), mapCols, List.append_assoc]

-- the body of `_mix_columns` is `setCol (mcolT T)` by unfolding: `(mcolT T a b c d).getD k 0` reduces to its k-th entry
theorem mixColumnsT_cols (T : Tables) {s : List Nat} (hl : s.length = 16) :
    Aes.mixColumns T s = mapCols (mcolT T) s :=
  foldl_setCol (g := mcolT T) (fun _ _ _ _ => rfl) (n := 4) hl [] 0 rfl

theorem invMixColumnsT_cols (T : Tables) {s : List Nat} (hl : s.length = 16) :
    Aes.invMixColumns T s = mapCols (imcolT T) s :=
  foldl_setCol (g := imcolT T) (fun _ _ _ _ => rfl) (n := 4) hl [] 0 rfl

theorem mixColumns_keeps (hT : TablesOk T) : Keeps Block (Aes.mixColumns T) Fips197.mixColumns := fun s hs => by
  refine ⟨?_, mixColumns_block hs⟩
  rw [mixColumnsT_cols T hs.1, mixColumns_cols hs]
  exact mapCols_congr (n := 4) (fun _ _ _ _ => mcolT_eq hT) hs.1 hs.2

theorem invMixColumns_keeps (hT : TablesOk T) : Keeps Block (Aes.invMixColumns T) Fips197.invMixColumns := fun s hs => by
  refine ⟨?_, invMixColumns_block hs⟩
  rw [invMixColumnsT_cols T hs.1, invMixColumns_cols hs.1]
  exact mapCols_congr (n := 4) (fun _ _ _ _ => imcolT_eq hT) hs.1 hs.2

theorem shiftRows_keeps : Keeps Block Aes.shiftRows Fips197.shiftRows :=
  fun _ hs => ⟨shiftRows_eq hs.1, shiftRows_block hs⟩
theorem invShiftRows_keeps : Keeps Block Aes.invShiftRows Fips197.invShiftRows :=
  fun _ hs => ⟨invShiftRows_eq hs.1, invShiftRows_block hs⟩
theorem addRoundKey_keeps {k : List Nat} (hk : Block k) : Keeps Block (Aes.addRoundKey · k) (Fips197.addRoundKey · k) :=
  fun _ hs => ⟨addRoundKey_eq hs.1 hk.1, addRoundKey_block hs hk⟩

theorem rotWord_eq (w : List Nat) : Aes.rotWord w = Fips197.rotWord w := rfl

end

theorem xtime_eq_gmul : ∀ a, a < 256 → Aes.xtime a = Fips197.gmul a 2 := by decide +kernel

theorem xtime_hom : XorHom Aes.xtime := by
  have h : ∀ a, Aes.xtime a = Fips197.gmul (a &&& 0xFF) 2 := fun a => by
    rw [← xtime_eq_gmul _ (Nat.and_lt_two_pow (n := 8) a (by decide))]
    simp only [Aes.xtime, Nat.and_assoc, Nat.and_self]
  intro x y
  rw [h, h, h, Nat.and_xor_distrib_right, gmul_xor]

theorem gfMulLoop_xor : ∀ (fuel r r' a a' b : Nat),
    Aes.gfMulLoop fuel (r ^^^ r') (a ^^^ a') b = Aes.gfMulLoop fuel r a b ^^^ Aes.gfMulLoop fuel r' a' b
  | 0, _, _, _, _, _ => rfl
  | fuel + 1, r, r', a, a', b => by
    simp only [Aes.gfMulLoop]
    split
    · rfl
    · rw [xtime_hom a a']
      split
      · rw [← gfMulLoop_xor fuel]; congr 1; ac_rfl
      · exact gfMulLoop_xor fuel ..

theorem gfMul_hom (m : Nat) : XorHom fun a => Aes.gfMul a m := fun x y => by
  show Aes.gfMulLoop 8 0 ((x ^^^ y) &&& 0xFF) _ &&& 0xFF = _
  -- the accumulator `0` written `0 ^^^ 0`, the form `gfMulLoop_xor` splits
  rw [Nat.and_xor_distrib_right, ← Nat.xor_self 0, gfMulLoop_xor, Nat.and_xor_distrib_right]
  rfl

-- `_gf_mul` is additive in the first factor, like the field multiplication, so eight bytes decide
theorem gfMul_eq_gmul {m : Nat} (h : ∀ i, i < 8 → Aes.gfMul (2 ^ i) m = Fips197.gmul (2 ^ i) m) :
    ∀ a, a < 256 → Aes.gfMul a m = Fips197.gmul a m :=
  fun _ => XorHom.ext8 (gfMul_hom m) (gmul_hom m) h

theorem buildMulTable_ok {m : Nat} (h : ∀ i, i < 8 → Aes.gfMul (2 ^ i) m = Fips197.gmul (2 ^ i) m) :
    TabOk (Aes.buildMulTable m) (fun a => Fips197.gmul a m) :=
  tabOk_map_range (gfMul_eq_gmul h)

end S2T.AesL
