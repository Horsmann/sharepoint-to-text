import S2T.Model.AesThreads
/-! lemmas for `S2T.AesThreads`: a thread with private state computes, under every schedule, what it computes alone;
    on a shared cell it does so when it is not interrupted, and when it is, it runs the rest of its program on whatever
    the others left in the cell (`srun_sequential`, `srun_preempted`) -/
namespace S2T.AesThreadsL
open S2T.Aes S2T.AesThreads

theorem step_alone {σ : Type} (t : Thread σ) : t.step.alone = t.alone := by
  unfold Thread.step Thread.alone
  cases h : t.todo <;> simp [h]

theorem sched1_alone {σ : Type} : ∀ (ts : List (Thread σ)) (i : Nat),
    (sched1 ts i).map Thread.alone = ts.map Thread.alone
  | [], _ => rfl
  | t :: ts, 0 => by simp [sched1, step_alone]
  | t :: ts, i + 1 => by simp [sched1, sched1_alone ts i]

/-- at every moment, what a thread will compute from where it stands is what it computes alone: nothing another thread
    does changes it -/
theorem run_alone {σ : Type} (sched : List Nat) : ∀ (ts : List (Thread σ)),
    (run ts sched).map Thread.alone = ts.map Thread.alone := by
  induction sched with
  | nil => intro ts; rfl
  | cons i r ih => intro ts; simp only [run, List.foldl_cons] at ih ⊢; rw [ih, sched1_alone]

theorem run_length {σ : Type} (sched : List Nat) : ∀ (ts : List (Thread σ)), (run ts sched).length = ts.length := by
  intro ts
  have := congrArg List.length (run_alone sched ts)
  rwa [List.length_map, List.length_map] at this

theorem finished_alone {σ : Type} : ∀ (ts : List (Thread σ)), finished ts = true → ts.map Thread.alone = ts.map (·.st)
  | [], _ => rfl
  | t :: ts, h => by
    simp only [finished, List.all_cons, Bool.and_eq_true, List.isEmpty_iff] at h
    have := finished_alone ts (by simpa [finished] using h.2)
    simp [Thread.alone, h.1, this]

theorem run_private {σ : Type} (ts : List (Thread σ)) (sched : List Nat) (h : finished (run ts sched) = true) :
    (run ts sched).map (·.st) = ts.map Thread.alone := by
  rw [← finished_alone _ h, run_alone]

theorem foldl_flatMap {α σ : Type} (g : α → List (σ → σ)) : ∀ (l : List α) (s : σ),
    (l.flatMap g).foldl (fun s f => f s) s = l.foldl (fun s a => (g a).foldl (fun s f => f s) s) s
  | [], _ => rfl
  | a :: l, s => by simp [List.flatMap_cons, List.foldl_append, foldl_flatMap g l]

-- the program is the `let`s of `encryptBlock` in order; its `flatMap` over the rounds folds to the model's `foldl` (`foldl_flatMap`)
theorem encProgram_alone (T : Tables) {b : List Nat} (rks : List (List Nat)) (hb : b.length = 16) :
    encryptBlock T b rks = .ok (Thread.alone ⟨encProgram T rks, b⟩) := by
  simp [encryptBlock, hb, Thread.alone, encProgram, List.foldl_append, foldl_flatMap]

theorem decProgram_alone (T : Tables) {b : List Nat} (rks : List (List Nat)) (hb : b.length = 16) :
    decryptBlock T b rks = .ok (Thread.alone ⟨decProgram T rks, b⟩) := by
  simp [decryptBlock, hb, Thread.alone, decProgram, List.foldl_append, foldl_flatMap]

theorem srun_append (ts : List SThread) (c : List Nat) (s₁ s₂ : List Nat) :
    srun ts c (s₁ ++ s₂) = srun (srun ts c s₁).1 (srun ts c s₁).2 s₂ := by
  simp only [srun, List.foldl_append]

/-- `n` steps of one thread on the cell -/
def stepsOn : Nat → SThread × List Nat → SThread × List Nat
  | 0, p => p
  | n + 1, p => stepsOn n (p.1.step p.2)

theorem srun_replicate_zero (ts : List SThread) : ∀ (n : Nat) (t : SThread) (c : List Nat),
    srun (t :: ts) c (List.replicate n 0) = ((stepsOn n (t, c)).1 :: ts, (stepsOn n (t, c)).2)
  | 0, _, _ => rfl
  | n + 1, t, c => by
    rw [List.replicate_succ, srun, List.foldl_cons]
    exact srun_replicate_zero ts n (t.step c).1 (t.step c).2

theorem srun_replicate_succ (t : SThread) (i : Nat) : ∀ (n : Nat) (ts : List SThread) (c : List Nat),
    srun (t :: ts) c (List.replicate n (i + 1))
      = (t :: (srun ts c (List.replicate n i)).1, (srun ts c (List.replicate n i)).2)
  | 0, _, _ => rfl
  | n + 1, ts, c => by
    rw [List.replicate_succ, List.replicate_succ, srun, srun, List.foldl_cons, List.foldl_cons]
    exact srun_replicate_succ t i n (ssched1 (ts, c) i).1 (ssched1 (ts, c) i).2

theorem stepsOn_loaded (inp : List Nat) : ∀ (todo : List (List Nat → List Nat)) (c : List Nat),
    stepsOn (todo.length + 1) ({ input := inp, loaded := true, todo := todo }, c)
      = ({ input := inp, loaded := true, todo := [], out := some (todo.foldl (fun s f => f s) c) },
         todo.foldl (fun s f => f s) c)
  | [], _ => rfl
  | f :: r, c => stepsOn_loaded inp r (f c)

theorem stepsOn_fresh (inp : List Nat) (todo : List (List Nat → List Nat)) (c : List Nat) :
    stepsOn (todo.length + 2) ({ input := inp, todo := todo }, c)
      = ({ input := inp, loaded := true, todo := [], out := some (todo.foldl (fun s f => f s) inp) },
         todo.foldl (fun s f => f s) inp) :=
  stepsOn_loaded inp todo inp

/-- two threads on one cell, one after the other: each returns what it computes alone -/
theorem srun_sequential (a b : List Nat) (p q : List (List Nat → List Nat)) (c : List Nat) :
    (srun [{ input := a, todo := p }, { input := b, todo := q }] c
        (List.replicate (p.length + 2) 0 ++ List.replicate (q.length + 2) 1)).1.map (·.out)
      = [some (Thread.alone ⟨p, a⟩), some (Thread.alone ⟨q, b⟩)] := by
  rw [srun_append, srun_replicate_zero, srun_replicate_succ, srun_replicate_zero, stepsOn_fresh, stepsOn_fresh]
  rfl

theorem stepsOn_partial (inp : List Nat) : ∀ (k : Nat) (todo : List (List Nat → List Nat)) (c : List Nat),
    k ≤ todo.length → stepsOn k ({ input := inp, loaded := true, todo := todo }, c)
      = ({ input := inp, loaded := true, todo := todo.drop k }, (todo.take k).foldl (fun s f => f s) c)
  | 0, _, _, _ => rfl
  | k + 1, f :: r, c, h => stepsOn_partial inp k r (f c) (Nat.le_of_succ_le_succ h)

/-- two threads on one cell, the first preempted after `k` steps of its program until the second has run a whole
    block: the second returns what it computes alone, the first the REST of its program applied to that -/
theorem srun_preempted (a b : List Nat) (p q : List (List Nat → List Nat)) (c : List Nat) {k : Nat} (hk : k ≤ p.length) :
    (srun [{ input := a, todo := p }, { input := b, todo := q }] c
        (List.replicate (k + 1) 0 ++ List.replicate (q.length + 2) 1 ++ List.replicate ((p.drop k).length + 1) 0)).1.map
        (·.out)
      = [some ((p.drop k).foldl (fun s f => f s) (Thread.alone ⟨q, b⟩)), some (Thread.alone ⟨q, b⟩)] := by
  have e : stepsOn (k + 1) ({ input := a, todo := p }, c)
      = ({ input := a, loaded := true, todo := p.drop k }, (p.take k).foldl (fun s f => f s) a) :=
    stepsOn_partial a k p a hk
  simp only [srun_append, srun_replicate_zero, srun_replicate_succ, e, stepsOn_fresh, stepsOn_loaded]
  rfl

theorem encProgram_length (T : Tables) (rks : List (List Nat)) :
    (encProgram T rks).length = 4 * (rks.length - 1 - 1) + 4 := by
  simp only [encProgram, List.length_cons, List.length_append, List.length_flatMap, List.length_nil, List.map_const',
    List.sum_replicate_nat, List.length_range']
  omega

end S2T.AesThreadsL
