import S2T.Lemmas.PyLoop
import S2T.Lemmas.ListBasics
import S2T.Py.Bytes
/-!
The index, slice, range and bytes primitives of `S2T/Py/Bytes.lean` as conditional rewrite rules for the body obligation
of a loop lemma (`Lemmas/PyLoop`): the side conditions (`i < l.length`, …) are discharged by `omega` over the hypotheses
in scope or handed to the rule as an argument.
-/
namespace S2T.Py

theorem normIndex_natCast {n i : Nat} (h : i < n) : normIndex n (i : Int) = some i := by
  simp [normIndex, h]

theorem normIndex_nonneg_ge {n : Nat} {z : Int} (h0 : 0 ≤ z) (h : ¬ z.toNat < n) : normIndex n z = none := by
  simp [normIndex, h0, h]

/-- `l[i]` inside the list.  The model reads with `getD`, whose default `d` the left side does not determine; the two
    instances below fix it, so that `simp` can rewrite with them. -/
theorem getItem_getD {α} (l : List α) (d : α) {i : Nat} (h : i < l.length) :
    getItem l (i : Int) = Except.ok (l.getD i d) := by
  simp [getItem, normIndex_natCast h, List.getD, List.getElem?_eq_getElem h]

theorem getItem_natCast (l : List Nat) {i : Nat} (h : i < l.length) : getItem l (i : Int) = Except.ok (l.getD i 0) :=
  getItem_getD l 0 h

theorem getItem_list_natCast {α} (l : List (List α)) {i : Nat} (h : i < l.length) :
    getItem l (i : Int) = Except.ok (l.getD i []) :=
  getItem_getD l [] h

theorem getItem_ge {α} (l : List α) {z : Int} (h0 : 0 ≤ z) (h : ¬ z.toNat < l.length) :
    getItem l z = Except.error indexError := by
  simp [getItem, normIndex_nonneg_ge h0 h]

theorem setItem_natCast {α} (l : List α) {i : Nat} (v : α) (h : i < l.length) :
    setItem l (i : Int) v = Except.ok (l.set i v) := by
  simp [setItem, normIndex_natCast h]

theorem setItem_ge {α} (l : List α) {z : Int} (v : α) (h0 : 0 ≤ z) (h : ¬ z.toNat < l.length) :
    setItem l z v = Except.error indexError := by
  simp [setItem, normIndex_nonneg_ge h0 h]

theorem clampIndex_natCast (n a : Nat) : clampIndex n (a : Int) = min a n := by
  simp [clampIndex, show ¬ ((a : Int) < 0) by omega]

theorem clampIndex_neg (n : Nat) {p : Nat} (hp : 0 < p) : clampIndex n (-(p : Int)) = n - p := by
  rw [clampIndex, if_pos (by omega)]; omega

/-- past the end there is nothing to take -/
theorem drop_min_take {α} (l : List α) (a b : Nat) :
    (l.drop (min a l.length)).take (min b l.length - min a l.length) = (l.drop a).take (b - a) := by
  by_cases ha : a ≤ l.length
  · rw [Nat.min_eq_left ha]
    by_cases hb : b ≤ l.length
    · rw [Nat.min_eq_left hb]
    · rw [Nat.min_eq_right (by omega), List.take_of_length_le (by simp), List.take_of_length_le (by simp; omega)]
  · rw [List.drop_of_length_le (by omega : l.length ≤ min a l.length), List.drop_of_length_le (by omega), List.take_nil,
      List.take_nil]

theorem slice_nat {α} (l : List α) (a b : Nat) :
    slice l (some (a : Int)) (some (b : Int)) = (l.drop a).take (b - a) := by
  simp only [slice, sliceLo, sliceHi, clampIndex_natCast, drop_min_take]

theorem slice_from_nat {α} (l : List α) (a : Nat) : slice l (some (a : Int)) none = l.drop a := by
  have := drop_min_take l a l.length
  rw [Nat.min_self] at this
  simp only [slice, sliceLo, sliceHi, clampIndex_natCast]
  rw [this, List.take_of_length_le (by simp)]

theorem slice_to_nat {α} (l : List α) (b : Nat) : slice l none (some (b : Int)) = l.take b := by
  simp [slice, sliceLo, sliceHi, clampIndex_natCast]

@[simp] theorem slice_all {α} (l : List α) : slice l none none = l := by
  simp [slice, sliceLo, sliceHi]

/-- `l[-p:]` for `0 < p` -/
theorem slice_from_neg {α} (l : List α) {p : Nat} (hp : 0 < p) :
    slice l (some (-(p : Int))) none = l.drop (l.length - p) := by
  simp only [slice, sliceLo, sliceHi, clampIndex_neg _ hp]
  rw [List.take_of_length_le (by simp)]

/-- `l[:-p]` for `0 < p` -/
theorem slice_to_neg {α} (l : List α) {p : Nat} (hp : 0 < p) :
    slice l none (some (-(p : Int))) = l.take (l.length - p) := by
  simp only [slice, sliceLo, sliceHi, clampIndex_neg _ hp, List.drop_zero, Nat.sub_zero]

/-- the four-element list is `(List.range 4).map …` by evaluation of `range` and `map` -/
theorem take4_drop (l : List Nat) (i : Nat) (h : i + 4 ≤ l.length) :
    (l.drop i).take 4 = [l.getD i 0, l.getD (i + 1) 0, l.getD (i + 2) 0, l.getD (i + 3) 0] :=
  List.take_drop_eq_map_getD l i 4 0 h

theorem rangeN_zero (n : Nat) : rangeN 0 n = List.range n := by simp [rangeN, List.range_eq_range']

theorem rangeI_natCast (a b : Nat) : rangeI (a : Int) (b : Int) = (List.range' a (b - a)).map (fun (k : Nat) => (k : Int)) := by
  simp only [rangeI, Int.toNat_sub, List.range'_eq_map_range, List.map_map]
  apply List.map_congr_left
  intro k _
  simp

/-- `range(n, 0, -1)` = n, n-1, …, 1.  The stop is written `((0 : Nat) : Int)`, as the translator writes an int literal. -/
theorem rangeStep_down (z : Int) :
    rangeStep z ((0 : Nat) : Int) (-1) = ((List.range' 1 z.toNat).reverse).map (fun (k : Nat) => (k : Int)) := by
  show rangeStep z 0 (-1) = _
  -- the count `(a - b + -s - 1) / -s` of the definition's downward branch, at `a = z`, `b = 0`, `s = -1`, is `z`
  have e : ((z - 0 + - -1 - 1) / - -1).toNat = z.toNat := by rw [show z - 0 + - -1 - 1 = z by omega]; simp
  simp only [rangeStep, show ¬ ((0 : Int) < -1) by omega, show ((-1 : Int) < 0) by omega, if_false, if_true, e]
  apply List.ext_getElem
  · simp
  · intro n h1 h2
    simp at h1
    simp [List.getElem_reverse, List.getElem_range']
    omega

theorem mem_rangeN {a b i : Nat} : i ∈ rangeN a b ↔ a ≤ i ∧ i < b := by
  simp only [rangeN, List.mem_range'_1]; omega

theorem foldl_append_flatten {α} (ws : List (List α)) (kb : List α) : ws.foldl (· ++ ·) kb = kb ++ ws.flatten := by
  induction ws generalizing kb with
  | nil => simp
  | cons w t ih => simp [ih, List.append_assoc]

/-- the lambda is spelled with projections, as the translation of `[x ^ y for x, y in zip(a, b)]` emits it -/
theorem map_zip_xor (a b : List Nat) :
    (List.zip a b).map (fun x => x.fst ^^^ x.snd) = List.zipWith (· ^^^ ·) a b := by
  induction a generalizing b with
  | nil => simp
  | cons x t ih => cases b with
    | nil => simp
    | cons y u => simp [ih]

theorem natMod_pos (a : Nat) {b : Nat} (h : 0 < b) : natMod a b = Except.ok (a % b) := by
  simp [natMod, Nat.ne_of_gt h]
theorem natFloorDiv_pos (a : Nat) {b : Nat} (h : 0 < b) : natFloorDiv a b = Except.ok (a / b) := by
  simp [natFloorDiv, Nat.ne_of_gt h]
theorem natMod_zero (a : Nat) : natMod a 0 = Except.error zeroDivisionError := by simp [natMod]

theorem bytesOfList_ok {l : List Nat} (h : ∀ b ∈ l, b < 256) : bytesOfList l = Except.ok l := by
  simp only [bytesOfList]
  rw [if_pos]
  · rfl
  · simpa using h

theorem bytesOfList_bad {l : List Nat} (h : ¬ ∀ b ∈ l, b < 256) : bytesOfList l = Except.error valueError := by
  simp only [bytesOfList]
  rw [if_neg]
  · rfl
  · simpa using h

end S2T.Py
