import S2T.Lemmas.AesKatVec
import S2T.Lemmas.AesSpec
/-! Known-answer validation of the specification `S2T.Spec.Fips197`.  SP 800-38A F.1.5/F.1.6 (ECB-AES256): the
    encryption is evaluated by the kernel, the decryption follows because `ecbDecrypt` inverts `ecbEncrypt` -/
namespace S2T.AesL.Kat
open S2T.Spec.Fips197

/-- SP 800-38A F.1.5 ECB-AES256.Encrypt -/
theorem ecb256_encrypt : ecbEncrypt key256 pt = ecb256 := by decide +kernel
/-- SP 800-38A F.1.6 ECB-AES256.Decrypt -/
theorem ecb256_decrypt : ecbDecrypt key256 ecb256 = pt := by
  rw [← ecb256_encrypt]
  exact ecbDecrypt_ecbEncrypt (by decide) (by decide)

end S2T.AesL.Kat
