/-!
Closed-world checks over generated tables of strings (`l.all r.contains` and variants).

Comparing two string literals in the kernel encodes both to UTF-8 first (see `Lemmas/Chars.lean`).  The lemmas below move
such a check to the images of the tables under an injective map; for strings the map is `String.toList`, whose value on
a literal is its character list by the rewrite `String.toList_ofList` (under `simp -index`, as in `decide_chars`).
-/
namespace S2T.StrTable

theorem contains_map {α β} [BEq α] [LawfulBEq α] [BEq β] [LawfulBEq β] {f : α → β}
    (hf : ∀ a b, f a = f b → a = b) (r : List α) (a : α) : (r.map f).contains (f a) = r.contains a := by
  induction r with
  | nil => rfl
  | cons b r ih =>
    rw [List.map_cons, List.contains_cons, List.contains_cons, ih]
    congr 1
    exact Bool.eq_iff_iff.mpr ⟨fun h => by rw [hf a b (eq_of_beq h)]; exact beq_self_eq_true b,
      fun h => by rw [eq_of_beq h]; exact beq_self_eq_true _⟩

theorem all_contains_map {α β} [BEq α] [LawfulBEq α] [BEq β] [LawfulBEq β] {f : α → β}
    (hf : ∀ a b, f a = f b → a = b) (l r : List α) : l.all r.contains = (l.map f).all (r.map f).contains := by
  rw [List.all_map]
  congr 1
  funext a
  exact (contains_map hf r a).symm

theorem any_beq {α γ} [BEq α] [LawfulBEq α] (r : List γ) (g : γ → α) (e : α) :
    r.any (fun x => g x == e) = (r.map g).contains e := by
  induction r with
  | nil => rfl
  | cons b r ih => rw [List.any_cons, List.map_cons, List.contains_cons, ih, Bool.beq_comm]

theorem prodMap_inj {α β α' β'} {f : α → α'} {g : β → β'} (hf : ∀ a b, f a = f b → a = b)
    (hg : ∀ a b, g a = g b → a = b) (x y : α × β) (h : Prod.map f g x = Prod.map f g y) : x = y :=
  Prod.ext (hf _ _ (congrArg Prod.fst h)) (hg _ _ (congrArg Prod.snd h))

abbrev chars3 : String × String × String → List Char × List Char × List Char :=
  Prod.map String.toList (Prod.map String.toList String.toList)
abbrev chars4 : String × String × String × String → List Char × List Char × List Char × List Char :=
  Prod.map String.toList chars3

theorem toList_inj (a b : String) (h : a.toList = b.toList) : a = b := String.toList_injective h
theorem chars3_inj : ∀ a b, chars3 a = chars3 b → a = b := prodMap_inj toList_inj (prodMap_inj toList_inj toList_inj)
theorem chars4_inj : ∀ a b, chars4 a = chars4 b → a = b := prodMap_inj toList_inj chars3_inj

end S2T.StrTable
