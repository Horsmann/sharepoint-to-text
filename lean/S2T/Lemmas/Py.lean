import S2T.Py.Prelude
/-!
What the source ties `translated function = hand model` (`Props/Cxx_Src.lean`) rewrite with: the `Except` plumbing of the
translated monad (by `rfl`, and as propositional rules where `rfl` is a trap), what a run that returned says of a `do` block
or a `mapM`, truthiness, conditions the source spells differently, and `x / y`.  The proof scheme of those files is DESIGN.md §2.6.
-/
namespace S2T.Py

@[simp] theorem M.pure_def {α} (a : α) : (pure a : M α) = Except.ok a := rfl
@[simp] theorem M.throw_def {α} (e : Exc) : (throw e : M α) = Except.error e := rfl
@[simp] theorem M.ok_bind {α β} (a : α) (f : α → M β) : (Except.ok a : M α) >>= f = f a := rfl
@[simp] theorem M.error_bind {α β} (e : Exc) (f : α → M β) : (Except.error e : M α) >>= f = Except.error e := rfl
@[simp] theorem M.tryCatch_ok {α} (a : α) (h : Exc → M α) : tryCatch (Except.ok a : M α) h = Except.ok a := rfl
@[simp] theorem M.tryCatch_error {α} (e : Exc) (h : Exc → M α) : tryCatch (Except.error e : M α) h = h e := rfl
@[simp] theorem M.map_ok {α β} (f : α → β) (a : α) : f <$> (Except.ok a : M α) = Except.ok (f a) := rfl
@[simp] theorem M.map_error {α β} (f : α → β) (e : Exc) : f <$> (Except.error e : M α) = Except.error e := rfl

/- `M.ok_bind` & co. above are `rfl` lemmas: `simp` applies them without a proof step and the kernel
re-checks the definitional equality afterwards — which can make it unfold the continuation (a comparison with a
large numeral such as `k < 1000000` on a variable is then evaluated in unary).  These versions leave a proof step. -/
theorem M.ok_bind' {α β} (a : α) (f : α → M β) : (Except.ok a : M α) >>= f = f a := by
  simp only [bind, Except.bind]
theorem M.error_bind' {α β} (e : Exc) (f : α → M β) : (Except.error e : M α) >>= f = Except.error e := by
  simp only [bind, Except.bind]
theorem M.tryCatch_ok' {α} (a : α) (h : Exc → M α) : tryCatch (Except.ok a : M α) h = Except.ok a := by
  simp only [tryCatch, tryCatchThe, MonadExceptOf.tryCatch, Except.tryCatch]
theorem M.tryCatch_error' {α} (e : Exc) (h : Exc → M α) : tryCatch (Except.error e : M α) h = h e := by
  simp only [tryCatch, tryCatchThe, MonadExceptOf.tryCatch, Except.tryCatch]

/-- Python's `a and b` / `a or b` on tests: both arms return, the value is the `if` -/
theorem M.ite_ok {α} (c : Prop) [Decidable c] (a b : α) :
    (if c then (Except.ok a : M α) else Except.ok b) = Except.ok (if c then a else b) :=
  (apply_ite Except.ok c a b).symm

@[simp] theorem unwrap_some {α} (a : α) : unwrap (some a) = Except.ok a := rfl
@[simp] theorem unwrap_none {α} : (unwrap (none : Option α)) = Except.error noneUsedAsValue := rfl

@[simp] theorem truthy_bool (b : Bool) : truthy b = b := rfl
@[simp] theorem truthy_int (n : Int) : truthy n = (n != 0) := rfl
@[simp] theorem truthy_list {α} (l : List α) : truthy l = !l.isEmpty := rfl
@[simp] theorem truthy_none {α} [Truthy α] : truthy (none : Option α) = false := rfl
@[simp] theorem truthy_some {α} [Truthy α] (a : α) : truthy (some a) = truthy a := rfl

theorem truthy_append_singleton {α} (xs : List α) (a : α) : truthy (xs ++ [a]) = true := by
  simp [truthy_list]

@[simp] theorem orV_int_zero (n : Int) : orV n 0 = n := by
  unfold orV; split <;> simp_all

/-- equality of two runs is decidable (core has no such instance for `Except`): the `…_outside` witnesses of
    `Props/C20_Src` and the examples of `Props/C02_SheetsSrc` evaluate a translated function and compare -/
instance {α} [DecidableEq α] : DecidableEq (M α)
  | .ok a, .ok b => if h : a = b then isTrue (by rw [h]) else isFalse (by intro h'; cases h'; exact h rfl)
  | .error a, .error b => if h : a = b then isTrue (by rw [h]) else isFalse (by intro h'; cases h'; exact h rfl)
  | .ok _, .error _ => isFalse (by intro h; cases h)
  | .error _, .ok _ => isFalse (by intro h; cases h)

theorem bind_eq_ok {α β} {m : M α} {f : α → M β} {b : β} :
    m >>= f = Except.ok b ↔ ∃ a, m = Except.ok a ∧ f a = Except.ok b := by
  cases m with
  | error e => exact ⟨fun h => (nomatch h), fun ⟨_, h, _⟩ => (nomatch h)⟩
  | ok a => exact ⟨fun h => ⟨a, rfl, h⟩, fun ⟨_, h, hf⟩ => by cases h; exact hf⟩

theorem mapM_eq_ok {α β} {g : α → M β} {l : List α} {ys : List β} :
    l.mapM g = Except.ok ys ↔ l.map g = ys.map Except.ok := by
  induction l generalizing ys with
  | nil => cases ys <;> simp
  | cons a r ih =>
    simp only [List.mapM_cons, bind_eq_ok, M.pure_def, Except.ok.injEq, List.map_cons]
    constructor
    · rintro ⟨b, hb, bs, hbs, rfl⟩
      simp [hb, ih.mp hbs]
    · intro h
      cases ys with
      | nil => simp at h
      | cons y ys =>
        simp only [List.map_cons, List.cons.injEq] at h
        exact ⟨y, h.1, ys, ih.mpr h.2, rfl⟩

/-- `[e for x in l]` with an element expression that may raise, when it does not -/
theorem mapM_ok {α β} (g : α → β) (l : List α) (f : α → M β) (h : ∀ a ∈ l, f a = Except.ok (g a)) :
    l.mapM f = Except.ok (l.map g) :=
  mapM_eq_ok.mpr (by rw [List.map_map]; exact List.map_congr_left h)

theorem mapM_ok_mem {α β} {g : α → M β} {l : List α} {ys : List β} (h : l.mapM g = Except.ok ys) :
    ∀ y ∈ ys, ∃ x ∈ l, g x = Except.ok y := fun _ hy =>
  List.mem_map.mp (mapM_eq_ok.mp h ▸ List.mem_map_of_mem hy)

theorem mapM_length {α β} {g : α → M β} {l : List α} {ys : List β} (h : l.mapM g = Except.ok ys) :
    ys.length = l.length := by
  simpa using (congrArg List.length (mapM_eq_ok.mp h)).symm

theorem bind_congr_ok {α β} {m : M α} {f g : α → M β} (h : ∀ a, m = Except.ok a → f a = g a) : m >>= f = m >>= g := by
  cases hm : m with
  | error e => rfl
  | ok a => exact h a hm

theorem mapM_then_map {α β γ} (g : α → M β) (h : β → γ) (l : List α) :
    l.mapM (fun x => g x >>= fun y => Except.ok (h y)) = l.mapM g >>= fun ys => Except.ok (ys.map h) := by
  induction l with
  | nil => rfl
  | cons a r ih =>
    simp only [List.mapM_cons, ih, bind_assoc, M.pure_def]
    cases g a with
    | error e => rfl
    | ok b =>
      simp only [M.ok_bind]
      cases List.mapM g r with
      | error e => rfl
      | ok bs => rfl

theorem mapM_range_eq {α β} (l : List α) (F : α → M β) (G : Nat → M β) (k : Nat)
    (h : ∀ i (hi : i < l.length), G (k + i) = F l[i]) : (List.range' k l.length).mapM G = l.mapM F := by
  induction l generalizing k with
  | nil => rfl
  | cons a r ih =>
    simp only [List.length_cons, List.range'_succ, List.mapM_cons]
    have h0 := h 0 (by simp)
    simp only [Nat.add_zero, List.getElem_cons_zero] at h0
    rw [h0, ih (k + 1) (fun i hi => by
      have := h (i + 1) (by simp; omega)
      simpa [Nat.add_assoc, Nat.add_comm 1 i] using this)]

theorem mapM_mapM_lengths {α β} {g : α → M β} {rows : List (List α)} {disp : List (List β)}
    (h : rows.mapM (·.mapM g) = Except.ok disp) : disp.map List.length = rows.map List.length := by
  replace h := mapM_eq_ok.mp h
  induction rows generalizing disp with
  | nil => cases disp <;> simp_all
  | cons r rs ih =>
    cases disp with
    | nil => simp at h
    | cons d ds =>
      simp only [List.map_cons, List.cons.injEq] at h
      simp [mapM_length h.1, ih h.2]

theorem mapError_ok {ε ε' α} (f : ε → ε') (a : α) : (Except.ok a : Except ε α).mapError f = .ok a := rfl
theorem mapError_error {ε ε' α} (f : ε → ε') (e : ε) : (Except.error e : Except ε α).mapError f = .error (f e) := rfl

/-- `if not b: x else: y` is read as `if b: y else: x`, the way the models are written -/
theorem ite_not_true {α} (b : Bool) (x y : α) : (if (!b) = true then x else y) = if b = true then y else x := by
  cases b <;> rfl

/-- `if x:` on an optional value -/
theorem truthy_option {α} [Truthy α] {o : Option α} (h : truthy o = true) : ∃ x, o = some x ∧ truthy x = true := by
  cases o with
  | none => cases h
  | some x => exact ⟨x, rfl, h⟩

/-- `s.startswith(c)` for a one-character `c`: stated for `isPrefixOf`, which `startswith s [c]` is by unfolding and which is
    what an item of `s.startswith((c, …))` (`startswithAny`) shows -/
theorem startswith_singleton (s : Str) (c : Char) : List.isPrefixOf [c] s = (s.head? == some c) := by
  rcases s with _ | ⟨x, r⟩
  · rfl
  · simp [List.isPrefixOf, BEq.comm (a := c)]

theorem endswith_singleton (s : Str) (c : Char) : endswith s [c] = decide (s.getLast? = some c) := by
  rw [endswith, List.isSuffixOf, List.reverse_singleton, startswith_singleton, List.head?_reverse]
  exact Bool.beq_eq_decide_eq _ _

/-- `isabs(p) or p.startswith(("\\", "/"))` looks at the first character only -/
theorem isabs_or_startswith (rel : Str) :
    (isabs rel || startswithAny rel ["\\".toList, "/".toList]) = (rel.head? == some '/' || rel.head? == some '\\') := by
  simp only [isabs, S2T.Archive.isAbs, startswithAny, List.any_cons, List.any_nil, Bool.or_false,
    show "\\".toList = ['\\'] from rfl, show "/".toList = ['/'] from rfl, startswith_singleton]
  cases rel.head? == some '/' <;> cases rel.head? == some '\\' <;> rfl

/-- `2^1023`: a bound on numerators that lies below the overflow bound of `truediv` (`fmax_le`) -/
def fmax : Nat := 2 ^ 1023

theorem fmax_le : fmax ≤ floatOverflowBound := by
  unfold fmax floatOverflowBound
  have e : (2:Nat) ^ 1024 = 2 ^ 1023 * 2 := Nat.pow_succ 2 1023
  have l : (2:Nat) ^ 970 ≤ 2 ^ 1023 := Nat.pow_le_pow_right (by decide) (by decide)
  -- `omega` must not see the powers as numerals of a thousand bits: to it they are three unknowns tied by `e` and `l`
  generalize (2:Nat) ^ 1024 = A at *
  generalize (2:Nat) ^ 1023 = B at *
  generalize (2:Nat) ^ 970 = C at *
  omega

theorem not_overflows (x y : Int) (hy : 0 < y) (hx0 : 0 ≤ x) (hx : x < (fmax : Int)) : ¬ TruedivOverflows x y := by
  unfold TruedivOverflows
  have hy' : 1 ≤ y.natAbs := by omega
  have : x.natAbs < fmax := by omega
  have := Nat.mul_le_mul_right floatOverflowBound hy'
  have := fmax_le
  omega

/-- `let v ← a / b; k v` as a chain of `if`s (so that `split` sees the two ways it raises) -/
theorem truediv_bind {β} (x y : Int) (k : FloatV → M β) :
    (truediv x y >>= k) = if y = 0 then Except.error zeroDivisionError
      else if TruedivOverflows x y then Except.error overflowError else k ⟨x, y⟩ := by
  unfold truediv
  split
  · rfl
  · split <;> rfl

end S2T.Py
