import S2T.Lemmas.PySheets
import S2T.Model.C02SheetsXlsx
/-!
XLSX `_format_sheet_as_text`: source-independent facts for `Props/C02_SheetsSrc.lean` — the column-width loop (`widen`)
and its relation to the hand model's `S2T.Rtf.colWidth`, the column count, a padded row.
-/
namespace S2T.Py.Sheets.XlsxSpec
open S2T.Py S2T.Py.Sheets S2T.Tables

/-- one pass of `for i, val in enumerate(formatted_row): if len(val) > col_widths[i]: col_widths[i] = len(val)` -/
def widen : List Int → List Py.Str → List Int
  | w :: ws, v :: vs => max w (len v) :: widen ws vs
  | ws, [] => ws
  | [], _ :: _ => []

theorem widen_length (ws : List Int) (vs : List Py.Str) : (widen ws vs).length = ws.length := by
  induction ws generalizing vs with
  | nil => cases vs <;> rfl
  | cons w ws ih => cases vs <;> simp [widen, ih]

theorem widen_getElem? (ws : List Int) (vs : List Py.Str) (i : Nat) :
    (widen ws vs)[i]? = (ws[i]?).map (fun w => match vs[i]? with | some v => max w (len v) | none => w) := by
  induction ws generalizing vs i with
  | nil => cases vs <;> simp [widen]
  | cons w ws ih =>
    cases vs with
    | nil => simp [widen]
    | cons v vs =>
      cases i with
      | zero => simp [widen]
      | succ i => simp [widen, ih]

/-- the width loop for ANY body that agrees with the model's step at the indices of the row -/
theorem forIn_widen (fr : List Py.Str) (f : Int × Py.Str → List Int → M (ForInStep (List Int)))
    (hf : ∀ (i : Nat) (v : Py.Str) (cw : List Int) (hi : i < cw.length), f ((i : Int), v) cw =
      Except.ok (ForInStep.yield (if len v > cw[i] then cw.set i (len v) else cw)))
    (cw : List Int) (h : fr.length ≤ cw.length) :
    forIn (enumerate fr) cw f = Except.ok (widen cw fr) := by
  -- `pre`: the widths of the `k` columns the loop has passed and touches no more
  have key : ∀ (fr : List Py.Str) (k : Nat) (pre ws : List Int), pre.length = k → fr.length ≤ ws.length →
      forIn (enumFrom k fr) (pre ++ ws) f = Except.ok (pre ++ widen ws fr) := by
    intro fr
    induction fr with
    | nil => intro k pre ws _ _; cases ws <;> rfl
    | cons v vs ih =>
      intro k pre ws hk hlen
      cases ws with
      | nil => simp at hlen
      | cons w ws =>
        have hi : k < (pre ++ w :: ws).length := by simp; omega
        have hget : (pre ++ w :: ws)[k] = w := by
          rw [List.getElem_append_right (by omega)]; simp [hk]
        simp only [enumFrom, List.forIn_cons, hf k v _ hi, hget, M.ok_bind]
        have hset : (pre ++ w :: ws).set k (len v) = pre ++ len v :: ws := by
          rw [List.set_append_right _ _ (by omega)]; simp [hk]
        have hstep : (if len v > w then (pre ++ w :: ws).set k (len v) else pre ++ w :: ws) = (pre ++ [max w (len v)]) ++ ws := by
          split
          · rw [hset]; simp; omega
          · simp; omega
        rw [hstep, ih (k + 1) (pre ++ [max w (len v)]) ws (by simp [hk]) (by simpa using hlen)]
        simp [widen]
  simpa [enumerate] using key fr 0 [] cw rfl h

theorem foldl_widen_getElem? (frs : List (List Py.Str)) (cw : List Int) (i : Nat) :
    (frs.foldl widen cw)[i]? =
      (cw[i]?).map (fun w => frs.foldl (fun m r => match r[i]? with | some v => max m (len v) | none => m) w) := by
  induction frs generalizing cw with
  | nil => simp
  | cons r rs ih =>
    rw [List.foldl_cons, ih, widen_getElem?]
    cases cw[i]? <;> simp

theorem foldl_natCast {α} (F : Int → α → Int) (G : Nat → α → Nat) (h : ∀ (m : Nat) a, F (m : Int) a = ((G m a : Nat) : Int))
    (l : List α) (m : Nat) : l.foldl F (m : Int) = ((l.foldl G m : Nat) : Int) := by
  induction l generalizing m with
  | nil => rfl
  | cons a r ih => rw [List.foldl_cons, List.foldl_cons, h, ih]

/-- `col_widths[i]` at the end is `colWidth` of the formatted rows -/
theorem widths_getElem (frs : List (List Py.Str)) (n i : Nat) (hi : i < n) :
    (frs.foldl widen (List.replicate n (0 : Int)))[i]? = some ((S2T.Rtf.colWidth frs i : Nat) : Int) := by
  rw [foldl_widen_getElem?, List.getElem?_replicate]
  simp only [hi, if_true, Option.map_some]
  exact congrArg some (foldl_natCast _ _ (fun m r => by cases r[i]? <;> simp [len]; omega) frs 0)

open S2T.C02.Sheets.Xlsx (padRow)

/-- `max(len(row) for row in all_rows)` as the hand model computes it -/
def numCols {α} (rows : List (List α)) : Nat := rows.foldl (fun m r => max m r.length) 0

theorem maxOf_lens (rows : VGrid) (h : rows ≠ []) : maxOf (rows.map fun r => len r) = Except.ok ((numCols rows : Nat) : Int) := by
  cases rows with
  | nil => exact absurd rfl h
  | cons r rs =>
    simp only [List.map_cons, maxOf, M.pure_def, numCols, List.foldl_cons, List.foldl_map]
    exact congrArg Except.ok (foldl_natCast _ _ (fun m r => by simp [len]; omega) rs (max 0 r.length))

theorem le_numCols {α : Type} (rows : List (List α)) (r : List α) (h : r ∈ rows) : r.length ≤ numCols rows :=
  List.le_foldl_max_of_mem List.length rows 0 r h

/-- one formatted row: the cells of the row, then `_format_value_for_display(None)` for the missing columns -/
theorem fmt_row_eq (env : XlsxEnv) (hnone : env.formatValue Val.none = Except.ok []) (n : Nat) (row : List Val)
    (hle : row.length ≤ n) (G : Int → M Py.Str)
    (hG : ∀ i : Nat, G (i : Int) = env.formatValue (row[i]?.getD Val.none)) :
    (rangeI 0 (n : Int)).mapM G = row.mapM env.formatValue >>= fun d => Except.ok (padRow n d) := by
  rw [rangeI_zero, List.mapM_map, Int.toNat_natCast]
  have hsplit : List.range n = List.range' 0 row.length ++ List.range' (0 + row.length) (n - row.length) := by
    rw [List.range_eq_range', List.range'_append_1]; congr 1; omega
  rw [hsplit, List.mapM_append]
  simp only [Function.comp_def, Nat.zero_add]
  rw [mapM_range_eq row env.formatValue (fun k => G (k : Int)) 0 (fun i hi => by simp [hG, hi])]
  refine bind_congr_ok (fun d hd => ?_)
  have hlen := mapM_length hd
  rw [mapM_ok (fun _ => ([] : Py.Str)) _ _ (fun i hi => by
    rw [List.mem_range'_1] at hi
    rw [hG, List.getElem?_eq_none hi.1]
    exact hnone)]
  simp [padRow, hlen, List.map_const']

theorem foldl_widen_pairs (ys : List (List Py.Str)) (cw : List Int) (acc : List (List Py.Str)) :
    ys.foldl (fun s fr => (widen s.1 fr, s.2 ++ [fr])) (cw, acc) = (ys.foldl widen cw, acc ++ ys) := by
  induction ys generalizing cw acc with
  | nil => simp
  | cons y r ih => simp [ih, List.append_assoc]

theorem numCols_of_lengths {α β} (a : List (List α)) (b : List (List β)) (h : a.map List.length = b.map List.length) :
    numCols a = numCols b := by
  have e1 : numCols a = (a.map List.length).foldl max 0 := by simp [numCols, List.foldl_map]
  have e2 : numCols b = (b.map List.length).foldl max 0 := by simp [numCols, List.foldl_map]
  rw [e1, e2, h]

end S2T.Py.Sheets.XlsxSpec
