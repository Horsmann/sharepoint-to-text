import S2T.Model.Amplify
import S2T.Lemmas.Limits
import S2T.Lemmas.ListBasics
/-! The value of a decimal numeral `10…0` and the characters a `text:s` element yields. -/
namespace S2T.Amplify
open S2T.Limits (digits)

theorem foldl_digits_zeros (acc d : Nat) :
    (List.replicate d 0).foldl (fun acc x => acc * 10 + x) acc = acc * 10 ^ d := by
  induction d generalizing acc with
  | zero => simp
  | succ k ih => rw [List.replicate_succ, List.foldl_cons, ih, Nat.pow_succ, Nat.add_zero, Nat.mul_assoc, Nat.mul_comm 10]

theorem digitsVal_pow10 (d : Nat) : digitsVal (pow10Digits d) = 10 ^ d := by
  simp [digitsVal, pow10Digits, foldl_digits_zeros]

theorem space_out_length (ds : List Nat) : (Inline.space ds).out.length = digitsVal ds := by
  simp only [Inline.out, spaceRun]
  split
  · rw [List.length_replicate, Int.toNat_natCast]
  · rw [List.length_nil]; omega

theorem foldl_max_ge (l : List Nat) (a : Nat) : a ≤ l.foldl max a :=
  List.le_foldl_max id l a

end S2T.Amplify
