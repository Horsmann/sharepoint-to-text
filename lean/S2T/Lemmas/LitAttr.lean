import Lean.Meta.Tactic.Simp.RegisterCommand
/-- Constants that hide string literals (tag names, the renderers that use them).  Before a kernel evaluation,
`simp -index only [lit, String.toList_ofList]` unfolds them and turns every `"…".toList` into a list of characters;
why that is done, and why `-index`, is said in Lemmas/Chars. -/
register_simp_attr lit
