import S2T.Lemmas.SharePoint
import S2T.Lemmas.SharePointQuote
import S2T.Lemmas.Bounds
/-! What a list of start folders denotes in a library (C18, core Lean only; no transport): the listing below the folder a
path addresses, in client order (`clientAt`) and in document order (`specAt`, by recursion on the path `subAt`); each is
a sub-listing of the complete listing, and independent paths (`Indep`) select no entry more often than it is there. -/
namespace S2T.SP

/-- the string `raw` of `folder_paths` denotes the components `cs` (the lemmas' name for what `Folders.Start.Ok` says
    of a start folder) -/
structure Denotes (raw : Str) (cs : List Str) : Prop where
  valid : ValidComps cs
  strip : stripSlash raw = joinPath cs
  root : cs = [] → raw = []

/-- what the client returns for the start folder `cs` (own files first, then sub-folders), before filtering -/
def clientAt (cs : List Str) (L : Lib) : List FileMeta :=
  match folderAt cs L with
  | some (_, k) => clientListing (joinPath cs) k
  | none => []

/-- SPEC: the files below the folder addressed by `cs`, in document order, with their parent paths -/
def specAt (cs : List Str) (L : Lib) : List FileMeta :=
  match folderAt cs L with
  | some (_, k) => specListing (joinPath cs) k
  | none => []

theorem clientAt_perm (cs : List Str) (L : Lib) : (clientAt cs L).Perm (specAt cs L) := by
  unfold clientAt specAt
  cases folderAt cs L with
  | none => exact List.Perm.refl _
  | some x => exact clientListing_perm x.2 _

theorem clientAt_flatMap_perm (keep : FileMeta → Bool) (L : Lib) (css : List (List Str)) :
    (css.flatMap fun cs => (clientAt cs L).filter keep).Perm ((css.flatMap fun cs => specAt cs L).filter keep) := by
  induction css with
  | nil => exact List.Perm.refl _
  | cons a r ih =>
    simp only [List.flatMap_cons, List.filter_append]
    exact List.Perm.append ((clientAt_perm a L).filter keep) ih

/-- the same listing by recursion on the path (the parent path is built as `_walk_drive_items` builds it) -/
def subAt : List Str → Str → Lib → List FileMeta
  | [], p, K => specListing p K
  | c :: cs, p, K =>
    match firstNamed (fun nm => nm == c) K with
    | some (.folder _ k) => subAt cs (childPath p c) k
    | _ => []

theorem childPath_assoc (p c J : Str) (hc : c ≠ []) : childPath (childPath p c) J = childPath p (c ++ '/' :: J) := by
  cases p with
  | nil =>
    cases c with
    | nil => exact absurd rfl hc
    | cons _ _ => rfl
  | cons x y => simp [childPath]

theorem subAt_nodeAt (cs : List Str) (K : Lib) (i p : Str) (hne : cs ≠ []) (hv : ValidComps cs) :
    subAt cs p K = match nodeAt (fun c nm => nm == c) cs (.folder i K) with
      | some (.folder _ k) => specListing (childPath p (joinPath cs)) k
      | _ => [] := by
  -- the cases are the equations of `subAt`: empty path, first component names a folder, names a file or nothing
  fun_induction subAt cs p K generalizing i with
  | case1 p K => exact absurd rfl hne
  | case2 c cs p K id k hf ih =>
    simp only [nodeAt, hf]
    cases cs with
    | nil => rfl
    | cons d r' =>
      rw [joinPath_cons_cons, ← childPath_assoc p c _ (hv c (by simp)).1]
      exact ih id (by simp) hv.tail
  | case3 c cs p K hf =>
    simp only [nodeAt]
    cases hf' : firstNamed (fun nm => nm == c) K with
    | none => rfl
    | some nd =>
      cases nd with
      | file f => cases cs <;> rfl
      | folder id k => exact absurd hf' (hf id k)

theorem specAt_eq_subAt (cs : List Str) (hv : ValidComps cs) (L : Lib) : specAt cs L = subAt cs [] L := by
  cases cs with
  | nil => rfl
  | cons c r =>
    rw [subAt_nodeAt (c :: r) L [] [] (by simp) hv]
    unfold specAt folderAt
    cases nodeAt (fun c nm => nm == c) (c :: r) (.folder [] L) with
    | none => rfl
    | some nd => cases nd <;> rfl

theorem firstNamed_sublist (c p : Str) (K : Lib) (id : Str) (k : Lib)
    (h : firstNamed (fun nm => nm == c) K = some (.folder id k)) :
    (specListing (childPath p c) k).Sublist (specListing p K) := by
  fun_induction firstNamed (fun nm => nm == c) K with
  | case1 => cases h
  | case2 f r hp => cases h
  | case3 f r hp ih => exact (ih h).cons _
  | case4 r ih => exact ih h
  | case5 n id' k' r hp =>
    cases h
    have : n = c := by simpa using hp
    subst this
    exact List.sublist_append_left _ _
  | case6 n id' k' r hp ih => exact (ih h).trans (List.sublist_append_right _ _)

theorem subAt_sublist (cs : List Str) (p : Str) (K : Lib) : (subAt cs p K).Sublist (specListing p K) := by
  fun_induction subAt cs p K with
  | case1 p K => exact List.Sublist.refl _
  | case2 c cs p K id k hf ih => exact ih.trans (firstNamed_sublist c p K id k hf)
  | case3 => exact List.nil_sublist _

theorem subAt_prefix_sublist (a d : List Str) (p : Str) (K : Lib) : (subAt (a ++ d) p K).Sublist (subAt a p K) := by
  fun_induction subAt a p K with
  | case1 p K => exact subAt_sublist d p K
  | case2 c cs p K id k hf ih => simpa only [List.cons_append, subAt, hf] using ih
  | case3 c cs p K hf =>
    simp only [List.cons_append, subAt]
    exact List.Sublist.refl _

/-- no listed folder is an ancestor-or-equal of another one (component-wise prefix) -/
def Indep (css : List (List Str)) : Prop := css.Pairwise (fun a b => ¬ a <+: b ∧ ¬ b <+: a)

theorem indep_nil_mem {css : List (List Str)} (h : Indep css) (hm : [] ∈ css) : css = [[]] := by
  cases css with
  | nil => cases hm
  | cons a rest =>
    unfold Indep at h
    rw [List.pairwise_cons] at h
    cases a with
    | nil =>
      cases rest with
      | nil => rfl
      | cons b _ => exact absurd List.nil_prefix (h.1 b (by simp)).1
    | cons x y =>
      rcases List.mem_cons.mp hm with h' | h'
      · cases h'
      · exact absurd List.nil_prefix (h.1 [] h').2

/-- the paths that lead through the child named `n`, without that first component -/
def tailsOf (n : Str) (css : List (List Str)) : List (List Str) :=
  css.filterMap (fun cs => match cs with | c :: t => if n == c then some t else none | [] => none)

/-- the non-empty paths whose first component is another name -/
def othersOf (n : Str) (css : List (List Str)) : List (List Str) :=
  css.filter (fun cs => match cs with | c :: _ => !(n == c) | [] => false)

theorem indep_tailsOf (n : Str) {css : List (List Str)} (h : Indep css) : Indep (tailsOf n css) := by
  unfold Indep tailsOf at *
  refine List.Pairwise.filterMap _ ?_ h
  intro a a' hr b hb b' hb'
  cases a with
  | nil => simp at hb
  | cons c t =>
    cases a' with
    | nil => simp at hb'
    | cons c' t' =>
      simp only at hb hb'
      by_cases h1 : (n == c) = true
      · by_cases h2 : (n == c') = true
        · simp only [h1, h2, if_true, Option.some.injEq] at hb hb'
          subst hb; subst hb'
          have e1 : n = c := by simpa using h1
          have e2 : n = c' := by simpa using h2
          subst e1; subst e2
          exact ⟨fun hp => hr.1 (List.cons_prefix_cons.mpr ⟨rfl, hp⟩), fun hp => hr.2 (List.cons_prefix_cons.mpr ⟨rfl, hp⟩)⟩
        · simp [h2] at hb'
      · simp [h1] at hb

theorem indep_othersOf (n : Str) {css : List (List Str)} (h : Indep css) : Indep (othersOf n css) :=
  List.Pairwise.filter _ h

theorem sum_count_subAt_folder (x : FileMeta) (n id : Str) (k r : Lib) (p : Str) : ∀ css : List (List Str), [] ∉ css →
    (css.map (fun cs => (subAt cs p (.folder n id k r)).count x)).sum =
      ((tailsOf n css).map (fun t => (subAt t (childPath p n) k).count x)).sum +
      ((othersOf n css).map (fun cs => (subAt cs p r).count x)).sum := by
  intro css
  induction css with
  | nil => intro _; rfl
  | cons cs rest ih =>
    intro hnil
    have ih' := ih (fun h => hnil (List.mem_cons_of_mem _ h))
    cases cs with
    | nil => exact absurd (List.mem_cons_self) hnil
    | cons c t =>
      by_cases hn : (n == c) = true
      · have e : n = c := by simpa using hn
        subst e
        have h1 : subAt (n :: t) p (.folder n id k r) = subAt t (childPath p n) k := by
          simp [subAt, firstNamed]
        simp only [List.map_cons, List.sum_cons, h1, ih', tailsOf, othersOf, List.filterMap_cons, List.filter_cons,
          beq_self_eq_true, if_true, Bool.not_true, Bool.false_eq_true, if_false]
        omega
      · have h1 : subAt (c :: t) p (.folder n id k r) = subAt (c :: t) p r := by
          simp [subAt, firstNamed, hn]
        simp only [List.map_cons, List.sum_cons, h1, ih', tailsOf, othersOf, List.filterMap_cons, List.filter_cons,
          hn, Bool.false_eq_true, if_false, Bool.not_false, if_true]
        omega

/-- By recursion on the library.  A path `[]` among independent ones stands alone and selects the whole listing.  Otherwise a
    file or `other` node at the head only takes away from what the paths select in the rest, and at a folder `n` the paths
    split by their first component (`sum_count_subAt_folder`): those through `n` select, shortened, in its kids
    (`tailsOf`), the others in the rest (`othersOf`), both families are independent again, and the listing is kids' ++ rest's. -/
theorem count_subAt_le (x : FileMeta) (K : Lib) (p : Str) (css : List (List Str)) (hi : Indep css) :
    (css.map (fun cs => (subAt cs p K).count x)).sum ≤ (specListing p K).count x := by
  by_cases hm : [] ∈ css
  · rw [indep_nil_mem hi hm]; simp [subAt]
  · match K with
    | .nil =>
      refine Nat.le_of_eq (List.sum_eq_zero_iff_forall_eq_nat.mpr fun m hm => ?_)
      obtain ⟨cs, _, rfl⟩ := List.mem_map.mp hm
      cases cs <;> rfl
    | .file f r =>
      refine Nat.le_trans (Bounds.sum_map_le _ (fun cs => (subAt cs p r).count x) css ?_)
        (Nat.le_trans (count_subAt_le x r p css hi) ?_)
      · intro cs hcs
        cases cs with
        | nil => exact absurd hcs hm
        | cons c t =>
          by_cases hfc : (f.name == c) = true
          · simp [subAt, firstNamed, hfc]
          · simp [subAt, firstNamed, hfc]
      · simp only [specListing]
        exact List.Sublist.count_le _ (List.sublist_cons_self _ _)
    | .other r =>
      refine Nat.le_trans (Bounds.sum_map_le _ (fun cs => (subAt cs p r).count x) css ?_) (count_subAt_le x r p css hi)
      intro cs hcs
      cases cs with
      | nil => exact absurd hcs hm
      | cons c t => exact Nat.le_refl _
    | .folder n id k r =>
      rw [sum_count_subAt_folder x n id k r p css hm]
      have h1 := count_subAt_le x k (childPath p n) (tailsOf n css) (indep_tailsOf n hi)
      have h2 := count_subAt_le x r p (othersOf n css) (indep_othersOf n hi)
      simp only [specListing, List.count_append]
      omega

theorem count_starts_le (x : FileMeta) (L : Lib) (css : List (List Str)) (hv : ∀ cs ∈ css, ValidComps cs)
    (hi : Indep css) : (css.flatMap (fun cs => specAt cs L)).count x ≤ (specListing [] L).count x := by
  rw [List.count_flatMap]
  have : css.map (List.count x ∘ fun cs => specAt cs L) = css.map (fun cs => (subAt cs [] L).count x) := by
    apply List.map_congr_left
    intro cs hcs
    simp only [Function.comp, specAt_eq_subAt cs (hv cs hcs)]
  rw [this]
  exact count_subAt_le x L [] css hi

theorem firstNamed_congr {p q : Str → Bool} (h : ∀ x, p x = q x) : ∀ L : Lib, firstNamed p L = firstNamed q L := by
  intro L
  induction L with
  | nil => rfl
  | file f r ih => simp [firstNamed, h, ih]
  | other r ih => simp [firstNamed, ih]
  | folder n id k r _ ih => simp [firstNamed, h, ih]

theorem nodeAt_quote (cs : List Str) (nd : Node) :
    nodeAt (fun seg nm => quote nm == seg) (cs.map quote) nd = nodeAt (fun c nm => nm == c) cs nd := by
  -- the cases are the equations of `nodeAt`: no segment left, at a file, child not found, child found
  fun_induction nodeAt (fun c nm => nm == c) cs nd with
  | case1 nd => rfl
  | case2 c cs f => rfl
  | case3 c cs i k hf =>
    simp only [List.map_cons, nodeAt, firstNamed_congr (q := fun nm => nm == c) (fun x => quote_beq x c) k, hf]
  | case4 c cs i k nd hf ih =>
    simp only [List.map_cons, nodeAt, firstNamed_congr (q := fun nm => nm == c) (fun x => quote_beq x c) k, hf, ih]

/-- the answer of the healthy server for the item found (or not) at a path -/
def byPathAnswer : Option Node → Outcome
  | some nd => .resp 200 (.obj (match nd with
      | .folder id _ => { id := some id, hasFolder := true }
      | .file f => { id := some f.id }))
  | none => .httpError 404

theorem serveByPath_spec (L : Lib) (cs : List Str) (hne : cs ≠ []) (hv : ValidComps cs) :
    serveByPath L (quote (joinPath cs)) = byPathAnswer (nodeAt (fun c nm => nm == c) cs (.folder [] L)) := by
  unfold serveByPath
  rw [quote_joinPath, splitSlash_joinPath _ (validComps_map_quote hv)]
  cases cs with
  | nil => exact absurd rfl hne
  | cons c r =>
    simp only [List.map_cons]
    rw [show quote c :: r.map quote = (c :: r).map quote from rfl, nodeAt_quote]
    cases nodeAt (fun c nm => nm == c) (c :: r) (.folder [] L) with
    | none => rfl
    | some nd => cases nd <;> rfl

theorem resolves_firstNamed (L : Lib) (p : Str → Bool) (K : Lib) (id : Str) (k : Lib)
    (hr : resolves L K = true) (h : firstNamed p K = some (.folder id k)) :
    findFolder id L = some k ∧ resolves L k = true ∧ k.size < K.size := by
  -- the cases are the equations of `firstNamed`: nil, file (named / not), other, folder (named / not); where the search
  -- goes on in the rest `r`, only the third part changes: `hsz : k.size < r.size` bounds it by the larger library
  fun_induction firstNamed p K with
  | case1 => cases h
  | case2 f r hp => cases h
  | case3 f r hp ih => exact (ih hr h).imp_right (.imp_right fun hsz => by simp only [Lib.size]; omega)
  | case4 r ih => exact (ih hr h).imp_right (.imp_right fun hsz => by simp only [Lib.size]; omega)
  | case5 n id' k' r hp =>
    cases h
    obtain ⟨_, hfind, hk, _⟩ := resolves_folder.mp hr
    exact ⟨hfind, hk, by simp only [Lib.size]; omega⟩
  | case6 n id' k' r hp ih =>
    obtain ⟨_, _, _, hrr⟩ := resolves_folder.mp hr
    exact (ih hrr h).imp_right (.imp_right fun hsz => by simp only [Lib.size]; omega)

/-- stated for a node variable with `nd = .folder i K` as a hypothesis, because `fun_induction nodeAt` wants the function's
    arguments to be variables; the caller starts at the root, `[] L rfl` -/
theorem resolves_nodeAt (L : Lib) (eq : Str → Str → Bool) (cs : List Str) (nd : Node) (id : Str) (k : Lib)
    (hne : cs ≠ []) (h : nodeAt eq cs nd = some (.folder id k)) : ∀ i K, nd = .folder i K → resolves L K = true →
    findFolder id L = some k ∧ resolves L k = true ∧ k.size < K.size := by
  fun_induction nodeAt eq cs nd with
  | case1 nd => exact absurd rfl hne
  | case2 c cs f => cases h
  | case3 c cs i K hf => cases h
  | case4 c cs i K nd' hf ih =>
    intro _ _ e hr
    cases e
    cases nd' with
    | file f => cases cs <;> cases h
    | folder id1 k1 =>
      obtain ⟨hfind1, hres1, hsz1⟩ := resolves_firstNamed L (eq c) K id1 k1 hr hf
      cases cs with
      | nil => cases h; exact ⟨hfind1, hres1, hsz1⟩
      | cons d r' =>
        obtain ⟨hfind, hres, hsz⟩ := ih (by simp) h id1 k1 rfl hres1
        exact ⟨hfind, hres, by omega⟩

end S2T.SP
