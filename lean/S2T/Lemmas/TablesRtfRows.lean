import S2T.Lemmas.TablesRtfCellText
/-! Where `\trowd`, `\row`, `\cell` match in written text; the cells of a written row. -/
namespace S2T.Tables.Rtf
open S2T.HtmlSkip (Str)
open S2T.Tables

theorem anch_kwAt (P : Params) (kw : Str) : Anch (kwAt P kw) := by
  intro c r h
  unfold kwAt
  split
  · rename_i heq; cases heq; exact absurd rfl h
  · rfl

theorem kwAt_other (P : Params) (kw r : Str) (h : kw.isPrefixOf r = false) : kwAt P kw ('\\' :: r) = false := by
  simp [kwAt, h]

/-- what may stand behind a `\\kw` so that `\\kw\b` matches there: nothing, or a character that `\w` does not
    match — a line end, a space, a brace, the backslash of the next control word (`\row\trowd`: rows written
    directly one after the other) -/
def StartsNW (P : Params) (s : Str) : Prop := ∀ c t, s = c :: t → isWord P c = false

theorem startsNW_cons (P : Params) {c : Char} (t : Str) (h : isWord P c = false) : StartsNW P (c :: t) := by
  intro c' t' e; cases e; exact h

theorem isWord_bs (P : Params) : isWord P '\\' = false := by simp [isWord, isAsciiAlpha, isDigit]
theorem isWord_sp (P : Params) : isWord P ' ' = false := by simp [isWord, isAsciiAlpha, isDigit]
theorem isWord_lbrace (P : Params) : isWord P '{' = false := by simp [isWord, isAsciiAlpha, isDigit]
theorem isWord_rbrace (P : Params) : isWord P '}' = false := by simp [isWord, isAsciiAlpha, isDigit]

theorem startsNW_bs (P : Params) (t : Str) : StartsNW P ('\\' :: t) := startsNW_cons P t (isWord_bs P)

theorem startsNW_append (P : Params) (a b : Str) (ha : StartsNW P a) (hb : a = [] → StartsNW P b) : StartsNW P (a ++ b) := by
  cases a with
  | nil => simpa using hb rfl
  | cons c t => intro c' t' h; cases h; exact ha c t rfl

theorem kwAt_hit (P : Params) (kw b : Str) (hb : StartsNW P b) : kwAt P kw ('\\' :: (kw ++ b)) = true := by
  simp only [kwAt, List.drop_left, Bool.and_eq_true]
  refine ⟨List.isPrefixOf_iff_prefix.mpr (List.prefix_append kw b), ?_⟩
  cases b with
  | nil => rfl
  | cons c t => simpa using hb c t rfl

/-- `kw` differs from `r` at a position inside `r` -/
def mismatch : Str → Str → Bool
  | k :: kw, x :: r => k != x || mismatch kw r
  | _, _ => false

/-- no backslash of `a` is followed, inside `a`, by `kw`: a finite check that makes `\\kw\b` silent on a literal -/
def noKw (kw : Str) : Str → Bool
  | [] => true
  | c :: r => (c != '\\' || mismatch kw r) && noKw kw r

theorem isPrefixOf_of_mismatch : ∀ (kw r b : Str), mismatch kw r = true → kw.isPrefixOf (r ++ b) = false
  | k :: kw, x :: r, b, h => by
    simp only [mismatch, Bool.or_eq_true, bne_iff_ne] at h
    simp only [List.cons_append, List.isPrefixOf, Bool.and_eq_false_iff, beq_eq_false_iff_ne]
    exact h.imp id (isPrefixOf_of_mismatch kw r b)
  | [], _, _, h => by simp [mismatch] at h
  | _ :: _, [], _, h => by simp [mismatch] at h

theorem silent_noKw (P : Params) {kw : Str} : ∀ {a : Str}, noKw kw a = true → Silent (kwAt P kw) a
  | [], _, _ => trivial
  | c :: r, h, b => by
    simp only [noKw, Bool.and_eq_true, Bool.or_eq_true, bne_iff_ne] at h
    refine ⟨?_, silent_noKw P h.2 b⟩
    by_cases hc : c = '\\'
    · subst hc
      exact kwAt_other P kw _ (isPrefixOf_of_mismatch kw r b (h.1.resolve_left (fun h => h rfl)))
    · exact anch_kwAt P kw c _ hc

/-- the three keywords the table extraction looks for -/
def IsKw (kw : Str) : Prop := kw = sCell ∨ kw = sTrowd ∨ kw = sRow

theorem IsKw.cell : IsKw sCell := Or.inl rfl
theorem IsKw.trowd : IsKw sTrowd := Or.inr (Or.inl rfl)
theorem IsKw.row : IsKw sRow := Or.inr (Or.inr rfl)

theorem silent_lit (P : Params) {kw : Str} (hk : IsKw kw) {a : Str}
    (h : noKw sCell a = true ∧ noKw sTrowd a = true ∧ noKw sRow a = true) : Silent (kwAt P kw) a := by
  rcases hk with rfl | rfl | rfl
  · exact silent_noKw P h.1
  · exact silent_noKw P h.2.1
  · exact silent_noKw P h.2.2

theorem noBs_escUnit_tail (u : Nat) : ∃ w, escUnit u = '\\' :: 'u' :: w ∧ NoBs w := by
  unfold escUnit
  split
  · exact ⟨_, rfl, noBs_append (noBs_digits _) (noBs_of_all _ (by decide))⟩
  · exact ⟨_, rfl, noBs_append (a := ['-']) (noBs_of_all _ (by decide)) (noBs_append (noBs_digits _) (noBs_of_all _ (by decide)))⟩

theorem silent_esc (P : Params) {kw : Str} (hk : IsKw kw) (p : Str) (hp : p.all textChar = true) :
    Silent (kwAt P kw) (esc p) := by
  refine (appends_silent _).flatMap escChar p (fun c hc => ?_)
  have ht := List.all_eq_true.mp hp c hc
  rcases escChar_textChar ht with e | e
  · rw [e]; exact silent_noBs (anch_kwAt P kw) (by intro x hx; simp at hx; subst hx; exact (textChar_parts ht).noBs)
  · obtain ⟨w, hw, hnb⟩ := noBs_escUnit_tail c.toNat
    rw [e, hw]
    refine silent_word (anch_kwAt P kw) (w := ['u']) ?_ (noBs_of_all _ (by decide)) hnb
    rcases hk with rfl | rfl | rfl <;> exact fun u => kwAt_other P _ _ rfl

/-- `\cellxN`: `\cell` is followed by a word character, the other two keywords start with another letter -/
theorem silent_cellxW (P : Params) {kw : Str} (hk : IsKw kw) (k : Nat) : Silent (kwAt P kw) (cellxW k) := by
  refine silent_word (anch_kwAt P kw) (fun u => ?_) (noBs_of_all "cellx".toList (by decide)) (noBs_digits k)
  rcases hk with rfl | rfl | rfl
  · -- the word as characters, not as a literal (see Lemmas/Chars)
    show kwAt P sCell ('\\' :: 'c' :: 'e' :: 'l' :: 'l' :: 'x' :: u) = false
    simp [kwAt, sCell, List.isPrefixOf, isWord, isAsciiAlpha]
  · exact kwAt_other P _ _ rfl
  · exact kwAt_other P _ _ rfl

/-- the body of a written cell (between `\pard\intbl ` and `\cell `) -/
def bodyRtf (c : RCell) : Str := joinWith sPar (c.map esc)

theorem cellRtf_eq (c : RCell) : cellRtf c = sCellStart ++ bodyRtf c ++ sCellEnd := rfl

theorem silent_cellFront (P : Params) {kw : Str} (hk : IsKw kw) (c : RCell) (hc : plainCell c = true) :
    Silent (kwAt P kw) (sCellStart ++ bodyRtf c) :=
  (appends_silent _).append (silent_lit P hk (by decide))
    ((appends_silent _).join (silent_lit P hk (by decide)) _
      (List.forall_mem_map.mpr fun p hp => silent_esc P hk p (plainPara_textChar (List.all_eq_true.mp hc p hp))))

theorem splitKw_skip (P : Params) (kw a b cur : Str) (k : Nat) :
    splitKw P kw (a.length + k) cur (a ++ b) = splitKw P kw k cur b := by
  induction a with
  | nil => simp
  | cons c a ih =>
    have : (c :: a).length + k = (a.length + k) + 1 := by simp; omega
    rw [this]; simp only [List.cons_append, splitKw]; exact ih

theorem splitKw_silent (P : Params) (kw a b cur : Str) (h : Silent (kwAt P kw) a) :
    splitKw P kw 0 cur (a ++ b) = splitKw P kw 0 (a.reverse ++ cur) b := by
  replace h := h b
  induction a generalizing cur with
  | nil => rfl
  | cons c a ih =>
    obtain ⟨h1, h2⟩ := AllSuffix.cons.mp h
    simp only [List.cons_append] at h1 ⊢
    simp only [splitKw, h1, Bool.false_eq_true, if_false]
    rw [ih _ h2]; simp

theorem splitKw_hit (P : Params) (kw b cur : Str) (hb : StartsNW P b) :
    splitKw P kw 0 cur ('\\' :: (kw ++ b)) = cur.reverse :: splitKw P kw 0 [] b := by
  simp only [splitKw, kwAt_hit P kw b hb, if_true]
  have := splitKw_skip P kw kw b [] 0
  simpa using this

/-- one written cell: the piece in front of its `\cell` is closed, the next starts with the space behind `\cell` -/
theorem split_cell (P : Params) (c : RCell) (hc : plainCell c = true) (cur X : Str) :
    splitKw P sCell 0 cur (cellRtf c ++ X) =
      (cur.reverse ++ (sCellStart ++ bodyRtf c)) :: splitKw P sCell 0 [' '] X := by
  have e : cellRtf c ++ X = (sCellStart ++ bodyRtf c) ++ ('\\' :: (sCell ++ (' ' :: X))) := by
    simp only [cellRtf_eq, List.append_assoc]; rfl
  rw [e, splitKw_silent P sCell _ _ _ (silent_cellFront P .cell c hc), splitKw_hit P sCell _ _ (startsNW_cons P _ (isWord_sp P))]
  simp only [splitKw, anch_kwAt P sCell ' ' _ (by decide), Bool.false_eq_true, if_false, List.reverse_append,
    List.reverse_reverse]

theorem split_cells (P : Params) : ∀ (cs : List RCell) (tail : Str), (∀ c ∈ cs, plainCell c = true) →
    Silent (kwAt P sCell) tail →
    splitKw P sCell 0 [' '] (cs.flatMap cellRtf ++ tail) =
      cs.map (fun c => [' '] ++ sCellStart ++ bodyRtf c) ++ [[' '] ++ tail]
  | [], tail, _, ht => by
    have := splitKw_silent P sCell tail [] [' '] ht
    simp only [List.append_nil] at this
    simp only [List.flatMap_nil, List.nil_append, List.map_nil, this, splitKw]
    simp
  | c :: cs, tail, h, ht => by
    rw [List.flatMap_cons, List.append_assoc, split_cell P c (h c List.mem_cons_self),
      split_cells P cs tail (fun x hx => h x (List.mem_cons_of_mem _ hx)) ht]
    simp

theorem silent_lead0 (P : Params) (n : Nat) : Silent (kwAt P sCell) (lead0 (n + 1)) :=
  (appends_silent _).lead (silent_noKw P (by decide)) (silent_cellxW P .cell)
    (silent_noBs (anch_kwAt P _) (noBs_of_all _ (by decide))) (LeadOf.first n)

theorem sCellEnd_eq (X : Str) : sCellEnd ++ X = '\\' :: (sCell ++ (' ' :: X)) := rfl

theorem rowRtf_cons (c : RCell) (cs : List RCell) :
    rowRtf (c :: cs) = lead0 (cs.length + 1) ++ (cellRtf c ++ (cs.flatMap cellRtf ++ "\\row".toList)) := by
  unfold rowRtf lead0
  simp only [List.flatMap_cons, List.length_cons, List.append_assoc]

theorem split_row (P : Params) (c : RCell) (cs : List RCell) (hr : ∀ x ∈ c :: cs, plainCell x = true) :
    splitKw P sCell 0 [] (rowRtf (c :: cs)) =
      (lead0 (cs.length + 1) ++ sCellStart ++ bodyRtf c) ::
        (cs.map (fun x => [' '] ++ sCellStart ++ bodyRtf x) ++ [[' '] ++ "\\row".toList]) := by
  rw [rowRtf_cons, splitKw_silent P sCell _ _ _ (silent_lead0 P _), split_cell P c (hr c List.mem_cons_self),
    split_cells P cs _ (fun x hx => hr x (List.mem_cons_of_mem _ hx)) (silent_noKw P (by decide))]
  simp only [List.reverse_reverse, List.append_nil, List.append_assoc]

theorem extractCells_row (P : Params) (hP : specialsOk P = true) (r : RRow) (hne : r ≠ [])
    (hr : ∀ c ∈ r, plainCell c = true) : extractCells P (rowRtf r) = r.map cellSpec := by
  cases r with
  | nil => exact absurd rfl hne
  | cons c cs =>
    have ht : ∀ x ∈ cs, cellText P ([' '] ++ sCellStart ++ bodyRtf x) = cellSpec x :=
      fun x hx => cellText_part P hP x (hr x (List.mem_cons_of_mem _ hx)) LeadOf.later
    -- `Function.comp_def` so that `ht` applies as it is written: unifying it with `(cellText P ∘ _) x` would evaluate `cellText`
    rw [extractCells, split_row P c cs hr, ← List.cons_append, List.dropLast_concat, List.map_cons, List.map_map,
      Function.comp_def, List.map_congr_left ht, bodyRtf,
      cellText_part P hP c (hr c List.mem_cons_self) (LeadOf.first cs.length), List.map_cons]

theorem findStarts_silent (P : Params) (kw a b : Str) (i : Nat) (h : Silent (kwAt P kw) a) :
    findStarts P kw i (a ++ b) = findStarts P kw (i + a.length) b := by
  replace h := h b
  induction a generalizing i with
  | nil => rfl
  | cons c a ih =>
    obtain ⟨h1, h2⟩ := AllSuffix.cons.mp h
    simp only [List.cons_append] at h1 ⊢
    simp only [findStarts, h1, Bool.false_eq_true, if_false]
    rw [ih _ h2]
    congr 1
    simp; omega

theorem findStarts_silent_nil (P : Params) (kw a : Str) (i : Nat) (h : Silent (kwAt P kw) a) : findStarts P kw i a = [] := by
  have := findStarts_silent P kw a [] i h
  simpa [findStarts] using this

theorem findStarts_once (P : Params) (kw a c b : Str) (i : Nat) (hk : NoBs kw) (ha : Silent (kwAt P kw) a)
    (hc : Silent (kwAt P kw) c) (hb : StartsNW P (c ++ b)) :
    findStarts P kw i (a ++ '\\' :: (kw ++ c) ++ b) =
      (i + a.length) :: findStarts P kw (i + (a ++ '\\' :: (kw ++ c)).length) b := by
  have hat := kwAt_hit P kw (c ++ b) hb
  rw [List.append_assoc, findStarts_silent P kw a _ i ha, List.cons_append, List.append_assoc]
  simp only [findStarts, hat, if_true]
  rw [findStarts_silent P kw kw _ _ (silent_noBs (anch_kwAt P kw) hk), findStarts_silent P kw c b _ hc]
  congr 2
  simp only [List.length_append, List.length_cons]; omega

end S2T.Tables.Rtf
