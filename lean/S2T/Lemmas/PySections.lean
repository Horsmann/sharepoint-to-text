import S2T.Lemmas.PyUnits
/-!
The heading-section loop that `OdtContent.iterate_units` and `DocContent.iterate_units` share, variable for variable
(`units`, `heading_stack`, `current_heading_level`, `current_heading_path`, `current_lines`, `current_tables`,
`unit_index`, `any_headings`, `pending_tables`), against the model's machine `Sec`: the relation `SecRel` between the nine
variables and a state of the machine, and one lemma for each thing the translated text does to them, naming the move of
the model it is (`secStep` on a body / table / heading event, `secFlush`, the end of `secRun`).  The element type of the
table lists and the views of the units (`v` of the translated unit class, `vd` of the model's `DUnit`) are parameters.
-/
namespace S2T.Py.Units
open S2T.Py S2T.Units

/-- what a `flush_current` closure leaves in `units` and `unit_index` (it always empties `current_lines` and
`current_tables`); `mk text number tables` is the unit it appends -/
def flushed {U τ : Type} (T : Tables) (mk : Str → Int → List τ → U) (units : List U) (lines : List Str)
    (tables : List τ) (idx : Int) : List U × Int :=
  let text := strip T (joinNl (lines.filter (· ≠ [])))
  if text = [] ∧ tables.isEmpty then (units, idx) else (units ++ [mk text idx tables], idx + 1)

structure SecRel {U τ : Type} (v : U → UView) (vd : DUnit → UView) (units : List U) (hs : List (Int × Str))
    (lvl : Option Int) (path lines : List Str) (tabs : List τ) (idx : Int) (any : Bool) (pend : List τ) (s : Sec) : Prop where
  units : units.map v = s.units.map vd
  idx : idx = (s.units.length : Int) + 1
  stack : hs = s.stackRev.reverse
  level : lvl = s.level
  path : path = s.path
  lines : lines = s.lines
  tabs : tabs.length = s.curTables
  any : any = s.any
  pend : pend.length = s.pending

namespace SecRel
variable {U τ : Type} {v : U → UView} {vd : DUnit → UView} {units : List U} {hs : List (Int × Str)} {lvl : Option Int}
  {path lines : List Str} {tabs : List τ} {idx : Int} {any : Bool} {pend : List τ} {s : Sec}
  (T : Tables) (mkPath : List Str → List Str)

theorem init : SecRel v vd [] [] none [] [] ([] : List τ) 1 false [] {} := ⟨rfl, rfl, rfl, rfl, rfl, rfl, rfl, rfl, rfl⟩

/-- `current_lines.append(text)` is the model's body event -/
theorem body (h : SecRel v vd units hs lvl path lines tabs idx any pend s) (t : Str) :
    SecRel v vd units hs lvl path (listAppend lines t) tabs idx any pend (secStep T mkPath s (.body t)) :=
  { h with lines := by rw [h.lines]; rfl }

/-- `pending_tables.append(x)` is the model's table event -/
theorem table (h : SecRel v vd units hs lvl path lines tabs idx any pend s) (x : τ) :
    SecRel v vd units hs lvl path lines tabs idx any (listAppend pend x) (secStep T mkPath s .table) :=
  { h with pend := by simp [listAppend, secStep, h.pend] }

section flush
/- `mk text number tables` is the unit `flush_current` appends; it is viewed like the unit the model's `secFlush` appends -/
variable (mk : Str → Int → List τ → U)
    (hmk : ∀ text (n : Nat) tabs ls k, v (mk text n tabs) =
      vd { number := n, text := text, path := mkPath path, level := lvl, lines := ls, nTables := k })
include hmk

/-- `flush_current` is the model's `secFlush` -/
theorem flush (h : SecRel v vd units hs lvl path lines tabs idx any pend s) :
    SecRel v vd (flushed T mk units lines tabs idx).1 hs lvl path [] ([] : List τ) (flushed T mk units lines tabs idx).2 any
      pend (secFlush T mkPath s) := by
  have ht : tabs.isEmpty = true ↔ s.curTables = 0 := by rw [← h.tabs]; cases tabs <;> simp
  unfold flushed secFlush
  simp only [ht, h.lines]
  split
  · exact { h with lines := rfl, tabs := rfl }
  · exact { h with lines := rfl, tabs := rfl, idx := by simp [h.idx]
                   units := by simpa [h.units, h.idx, h.path, h.level] using hmk _ (s.units.length + 1) _ _ _ }

/-- the heading branch — flush, pop the stack down to the new level, push, take over the pending tables — is the
model's heading event; `w` is the translated `while` loop -/
theorem heading (h : SecRel v vd units hs lvl path lines tabs idx any pend s)
    (w : Int → List (Int × Str) → List (Int × Str)) (hw : ∀ lv r, w lv r.reverse = (popStack lv r).reverse)
    (lv : Int) (t : Str) :
    SecRel v vd (flushed T mk units lines tabs idx).1 (listAppend (w lv hs) (lv, t)) (some lv)
      (List.map (fun (_, t) => t) (List.filter (fun (_, t) => truthy t) (listAppend (w lv hs) (lv, t))))
      [] pend (flushed T mk units lines tabs idx).2 true [] (secStep T mkPath s (.heading lv t)) := by
  have hf := flush T mkPath (s := { s with any := true }) (any := true)
    mk hmk { h with any := rfl }
  simp only [secStep]
  generalize secFlush T mkPath { s with any := true } = s1 at hf ⊢
  exact { hf with
    stack := by simp [hf.stack, listAppend, hw]
    level := rfl
    -- the comprehension `[t for _, t in heading_stack if t]` over the bottom-first stack is `pathOf` of the top-first one
    path := by cases t <;> simp [hf.stack, listAppend, hw, pathOf, List.filter_map, Function.comp_def, isEmpty_eq_decide]
    tabs := by simp [← hf.tabs, hf.pend]
    pend := rfl }

/-- after the loop the pending tables join the section, and the last flush gives the units of the model's `secRun` -/
theorem finish (h : SecRel v vd units hs lvl path lines tabs idx any pend s)
    (evs : List Ev) (he : evs.foldl (secStep T mkPath) {} = s) :
    (flushed T mk units lines (tabs ++ pend) idx).1.map v = (secRun T mkPath evs).units.map vd
      ∧ any = (secRun T mkPath evs).any := by
  have hf := flush T mkPath (s := { s with curTables := s.curTables + s.pending, pending := 0 }) (tabs := tabs ++ pend)
    (pend := []) mk hmk { h with tabs := by simp [h.tabs, h.pend], pend := rfl }
  simp only [secRun, he]
  exact ⟨hf.units, hf.any⟩

end flush
end SecRel
end S2T.Py.Units
