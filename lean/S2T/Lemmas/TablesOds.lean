import S2T.Lemmas.TablesSheet
/-! C13: ODS sheet shaping — every source cell at its place after repeat expansion, trimming, padding. -/
namespace S2T.Tables.Ods
open S2T.HtmlSkip (Str)

/-- value at column j of a row (cells beyond the row are empty) -/
def getV (row : List Val) (j : Nat) : Val := (row[j]?).getD Val.none
/-- value at (i, j) of a grid (cells beyond the grid are empty) -/
def cellAt (G : VGrid) (i j : Nat) : Val := match G[i]? with | some row => getV row j | none => Val.none

/-- the plain expansion of a run-length encoded row / sheet: what the source sheet *is* -/
def expandRow (cells : List RCell) : List Val := cells.flatMap (fun c => List.replicate c.1 c.2)
def expand (rows : List RRow) : VGrid := rows.flatMap (fun r => List.replicate r.1 (expandRow r.2))

def RowEq (a b : List Val) : Prop := ∀ j, getV a j = getV b j
def GridEq (A B : VGrid) : Prop := ∀ i j, cellAt A i j = cellAt B i j

theorem replicate_add' {α : Type} (m n : Nat) (a : α) : List.replicate (m + n) a = List.replicate m a ++ List.replicate n a :=
  List.replicate_append_replicate.symm

theorem cellAt_replicate_append (n : Nat) (a : List Val) (X : VGrid) (i j : Nat) :
    cellAt (List.replicate n a ++ X) i j = if i < n then getV a j else cellAt X (i - n) j := by
  unfold cellAt
  rw [List.getElem?_append, List.length_replicate, List.getElem?_replicate]
  by_cases h : i < n <;> simp only [h, if_true, if_false]

theorem gridEq_trans {A B C : VGrid} (h1 : GridEq A B) (h2 : GridEq B C) : GridEq A C :=
  fun i j => (h1 i j).trans (h2 i j)

/-- a row without data (`all(v is None for v in row)`, which the model spells out) -/
def allNone (l : List Val) : Bool := l.all (· == Val.none)

theorem allNone_getV {row : List Val} (h : allNone row = true) (j : Nat) : getV row j = Val.none := by
  unfold getV
  cases hj : row[j]? with
  | none => rfl
  | some v =>
    have := List.all_eq_true.mp h v (List.mem_of_getElem? hj)
    simpa using this

open Xlsx (lastIdx padTake)

/-- a cell holds a value -/
def isData (v : Val) : Bool := v != Val.none

/-- `(l.reverse.dropWhile q).reverse` is the loop `while l and q(l[-1]): l.pop()` -/
theorem reverse_dropWhile_eq_take {α : Type} (q : α → Bool) (l : List α) :
    (l.reverse.dropWhile q).reverse = l.take (lastIdx (fun a => !q a) l) := by
  induction l with
  | nil => rfl
  | cons x r ih =>
    rw [List.reverse_cons, List.dropWhile_append, lastIdx]
    by_cases h : (r.reverse.dropWhile q).isEmpty = true
    · have hr : lastIdx (fun a => !q a) r = 0 := by
        rw [List.isEmpty_iff] at h
        rw [h] at ih
        have := congrArg List.length ih
        simp only [List.reverse_nil, List.length_nil, List.length_take] at this
        have hle := Xlsx.lastIdx_le (fun a => !q a) r
        omega
      simp only [h, if_true, hr, Nat.lt_irrefl, if_false]
      cases hq : q x <;> simp [hq]
    · have hpos : lastIdx (fun a => !q a) r > 0 := by
        rcases Nat.eq_zero_or_pos (lastIdx (fun a => !q a) r) with h0 | h0
        · rw [h0, List.take_zero] at ih
          simp at ih
          simp [ih] at h
        · exact h0
      simp only [h, Bool.false_eq_true, if_false, hpos, if_true, List.reverse_append, List.reverse_cons, List.reverse_nil,
        List.nil_append, List.singleton_append, List.take_succ_cons, ih]

theorem rstrip_length {α : Type} (q : α → Bool) (l : List α) : (l.reverse.dropWhile q).length = lastIdx (fun a => !q a) l := by
  have := congrArg List.length (reverse_dropWhile_eq_take q l)
  have hle := Xlsx.lastIdx_le (fun a => !q a) l
  simp only [List.length_reverse, List.length_take] at this
  omega

theorem rstrip_map_of_mem {α β : Type} (f : α → β) (p : β → Bool) (q : α → Bool) (l : List α) (h : ∀ a ∈ l, p (f a) = q a) :
    ((l.map f).reverse.dropWhile p).reverse = (l.reverse.dropWhile q).reverse.map f := by
  rw [← List.map_reverse, List.dropWhile_map, ← List.map_reverse]
  exact congrArg (fun x => x.reverse.map f) (List.dropWhile_congr _ _ _ fun a ha => h a (List.mem_reverse.mp ha))

theorem padRow_eq_padTake (w : Nat) (row : List Val) : padRow w row = padTake w row := by
  apply List.ext_getElem?
  intro i
  by_cases h : i < w
  · rw [Xlsx.padTake_get w row i h]
    simp only [padRow, List.getElem?_map, List.getElem?_range h, Option.map_some]
    cases row[i]? <;> rfl
  · rw [List.getElem?_eq_none (by simp [padRow]; omega), List.getElem?_eq_none (by rw [Xlsx.padTake_length]; omega)]

theorem allNone_eq_not_any (row : List Val) : allNone row = !row.any isData := by
  induction row with
  | nil => rfl
  | cons v r ih => simp only [allNone, List.all_cons, List.any_cons, Bool.not_or] at ih ⊢; rw [ih]; cases v <;> rfl

/-- trimming and padding of `raw_rows` -/
def sheetOf (raw : VGrid) : VGrid := (trimRows raw).map (padRow (lastDataCol (trimRows raw)))

theorem sheetData_eq_sheetOf (C : Caps) (rows : List RRow) : sheetData C rows = sheetOf (rawRows C rows) := rfl

/-- `_extract_sheet` cuts and fills `raw_rows` as `_read_sheet_data` does, with "is not None" for "holds data" -/
theorem sheetOf_eq_crop (raw : VGrid) : sheetOf raw = crop isData raw := by
  unfold sheetOf crop trimRows lastDataCol
  rw [reverse_dropWhile_eq_take]
  -- `trimRows` spells `allNone` out
  simp only [show ∀ row : List Val, row.all (· == Val.none) = allNone row from fun _ => rfl, allNone_eq_not_any, Bool.not_not,
    funext (padRow_eq_padTake _)]
  rfl

theorem cellAt_eq (G : VGrid) (i j : Nat) : cellAt G i j = (G[i]?.bind (fun row => row[j]?)).getD Val.none := by
  unfold cellAt getV
  cases G[i]? <;> rfl

/-- trimming and padding change no cell: every cell of `raw_rows` keeps its place, and what is cut off is empty -/
theorem sheetOf_cells (raw : VGrid) : GridEq (sheetOf raw) raw := by
  intro i j
  rw [sheetOf_eq_crop, cellAt_eq, cellAt_eq]
  by_cases h : i < dataRows isData raw ∧ j < dataCols isData (raw.take (dataRows isData raw))
  · rw [crop_cell _ raw i j h.1 h.2]; rfl
  · have h1 : (raw[i]?.bind (fun row => row[j]?)).getD Val.none = Val.none := by
      cases hr : raw[i]? with
      | none => rfl
      | some row =>
        cases hv : row[j]? with
        | none => rw [Option.bind_some, hv]; rfl
        | some v =>
          apply Classical.byContradiction
          intro hne
          exact h (data_inside _ raw i j row v hr hv (by simpa [hv, isData] using hne))
    rw [h1]
    cases hr : (crop isData raw)[i]? with
    | none => rfl
    | some row =>
      have hi := (List.getElem?_eq_some_iff.mp hr).1
      rw [crop_length] at hi
      have hl := crop_rect _ raw row (List.mem_of_getElem? hr)
      rw [Option.bind_some, List.getElem?_eq_none (by omega)]
      rfl

theorem sheetOf_rect (raw : VGrid) : ∃ w, ∀ row ∈ sheetOf raw, row.length = w := by
  rw [sheetOf_eq_crop]; exact ⟨_, crop_rect _ raw⟩

theorem sheetOf_last_row (raw : VGrid) (row : List Val) (h : (sheetOf raw).getLast? = some row) :
    allNone row = false := by
  rw [sheetOf_eq_crop] at h
  rw [allNone_eq_not_any, crop_lastRow _ raw row h]; rfl

theorem sheetOf_last_col (raw : VGrid) (w : Nat) (hw : w > 0) (hall : ∀ row ∈ sheetOf raw, row.length = w)
    (hne : sheetOf raw ≠ []) : ∃ row ∈ sheetOf raw, getV row (w - 1) ≠ Val.none := by
  rw [sheetOf_eq_crop] at hall hne ⊢
  have hw' : dataCols isData (raw.take (dataRows isData raw)) = w := by
    cases hc : crop isData raw with
    | nil => exact absurd hc hne
    | cons r rs => rw [← crop_rect _ raw r (by simp [hc]), hall r (by simp [hc])]
  obtain ⟨row, hrow, v, hv, hd⟩ := crop_lastCol _ raw (by rw [hw']; exact hw)
  refine ⟨row, hrow, ?_⟩
  rw [hw'] at hv
  unfold getV
  rw [hv]
  simpa [isData] using hd

/-- no collapsed run of empty cells has a value behind it in its row -/
def noGapRow (C : Caps) : List RCell → Bool
  | [] => true
  | c :: r => (if c.2 == Val.none && c.1 > C.cell then allNone (expandRow r) else true) && noGapRow C r

/-- … and no collapsed run of empty rows has a row with data below it (a row element repeated 0 times
    contributes nothing, whatever its cells) -/
def noGapRows (C : Caps) : List RRow → Bool
  | [] => true
  | r :: rs => (r.1 == 0 || noGapRow C r.2)
      && (if r.1 > C.row && allNone (rowValues C r.2) then (expand rs).all allNone else true)
      && noGapRows C rs

/-- `noGapRow` at a cell, with the collapsing test in the form the case splits have it -/
theorem noGapRow_cons (C : Caps) (c : RCell) (r : List RCell) : noGapRow C (c :: r) = true ↔
    ((c.2 == Val.none && c.1 > C.cell) = true → allNone (expandRow r) = true) ∧ noGapRow C r = true := by
  rw [noGapRow, Bool.and_eq_true]
  by_cases hc : (c.2 == Val.none && c.1 > C.cell) = true <;> simp [hc]

theorem noGapRows_cons (C : Caps) (r : RRow) (rs : List RRow) : noGapRows C (r :: rs) = true ↔
    (r.1 = 0 ∨ noGapRow C r.2 = true) ∧
    ((r.1 > C.row && allNone (rowValues C r.2)) = true → (expand rs).all allNone = true) ∧ noGapRows C rs = true := by
  rw [noGapRows, Bool.and_eq_true, Bool.and_eq_true, and_assoc, Bool.or_eq_true, beq_iff_eq]
  by_cases hc : (r.1 > C.row && allNone (rowValues C r.2)) = true <;> simp [hc]

theorem rowValues_cons (C : Caps) (c : RCell) (r : List RCell) : rowValues C (c :: r) = cellPiece C c ++ rowValues C r := by
  simp [rowValues]

theorem expandRow_cons (c : RCell) (r : List RCell) : expandRow (c :: r) = List.replicate c.1 c.2 ++ expandRow r := by
  simp [expandRow]

theorem expand_cons (r : RRow) (rs : List RRow) : expand (r :: rs) = List.replicate r.1 (expandRow r.2) ++ expand rs := by
  simp [expand]

theorem rawRows_cons (C : Caps) (r : RRow) (rs : List RRow) : rawRows C (r :: rs) = rowPiece C r ++ rawRows C rs := by
  simp [rawRows]

theorem allNone_append (a b : List Val) : allNone (a ++ b) = (allNone a && allNone b) := by simp [allNone]
theorem allNone_replicate_none (n : Nat) : allNone (List.replicate n Val.none) = true := by simp [allNone]

theorem allNone_cellPiece (C : Caps) (c : RCell) : allNone (cellPiece C c) = allNone (List.replicate c.1 c.2) := by
  unfold cellPiece
  split
  · rename_i h
    simp only [Bool.and_eq_true, beq_iff_eq] at h
    rw [h.1, allNone_replicate_none]; simp [allNone]
  · rfl

theorem allNone_rowValues (C : Caps) (cells : List RCell) : allNone (rowValues C cells) = allNone (expandRow cells) := by
  induction cells with
  | nil => rfl
  | cons c r ih =>
    rw [rowValues_cons, expandRow_cons, allNone_append, allNone_append, allNone_cellPiece, ih]

theorem rowEq_of_allNone {a b : List Val} (ha : allNone a = true) (hb : allNone b = true) : RowEq a b :=
  fun j => (allNone_getV ha j).trans (allNone_getV hb j).symm

theorem rowEq_append_left (p : List Val) {a b : List Val} (h : RowEq a b) : RowEq (p ++ a) (p ++ b) := by
  intro j
  unfold getV
  rw [List.getElem?_append, List.getElem?_append]
  split
  · rfl
  · exact h (j - p.length)

theorem getV_append_none (acc : List Val) (p : Nat) (j : Nat) :
    getV (acc ++ List.replicate p Val.none) j = getV acc j :=
  -- `acc` read as `acc ++ []`, so that both sides are `acc ++ _`
  (List.append_nil acc ▸ rowEq_append_left acc (rowEq_of_allNone (allNone_replicate_none p) rfl)) j

theorem rowValues_rowEq (C : Caps) (cells : List RCell) (h : noGapRow C cells = true) :
    RowEq (rowValues C cells) (expandRow cells) := by
  induction cells with
  | nil => intro j; rfl
  | cons c r ih =>
    rw [noGapRow_cons] at h
    by_cases hc : (c.2 == Val.none && c.1 > C.cell) = true
    · have hr := h.1 hc
      have hv : c.2 = Val.none := by simp only [Bool.and_eq_true, beq_iff_eq] at hc; exact hc.1
      have hall : allNone (expandRow (c :: r)) = true := by
        rw [expandRow_cons, allNone_append, hr, hv, allNone_replicate_none]; rfl
      exact rowEq_of_allNone ((allNone_rowValues C _).trans hall) hall
    · have e : cellPiece C c = List.replicate c.1 c.2 := by unfold cellPiece; rw [if_neg hc]
      rw [rowValues_cons, expandRow_cons, e]
      exact rowEq_append_left _ (ih h.2)

theorem cellAt_allNone {G : VGrid} (h : G.all allNone = true) (i j : Nat) : cellAt G i j = Val.none := by
  unfold cellAt
  cases hr : G[i]? with
  | none => rfl
  | some row => exact allNone_getV (List.all_eq_true.mp h row (List.mem_of_getElem? hr)) j

theorem gridEq_app (n : Nat) {a b : List Val} (h : RowEq a b) {X Y : VGrid} (hxy : GridEq X Y) :
    GridEq (List.replicate n a ++ X) (List.replicate n b ++ Y) := by
  intro i j
  rw [cellAt_replicate_append, cellAt_replicate_append, h j, hxy]

theorem gridEq_mid (X Y : VGrid) (n : Nat) {a b : List Val} (h : RowEq a b) :
    GridEq (X ++ List.replicate n a ++ Y) (X ++ List.replicate n b ++ Y) := by
  induction X with
  | nil => exact gridEq_app n h fun _ _ => rfl
  | cons x X ih => exact gridEq_app 1 (fun _ => rfl) ih

/-- `rowPiece` with its test spelt `allNone` -/
theorem rowPiece_eq (C : Caps) (r : RRow) : rowPiece C r =
    if (r.1 > C.row && allNone (rowValues C r.2)) = true then [rowValues C r.2] else List.replicate r.1 (rowValues C r.2) := rfl

/-! A sheet whose rows are read as cells (empty or not) is a row, `raw_rows` of it the collected row: what is known of
`rowValues` about empty cells and extents holds of `rawRows` about rows without data. -/

/-- a row read as one cell: empty when it holds no value -/
def rowFlag (row : List Val) : Val := if allNone row then Val.none else Val.bool true
/-- a row element read as a cell element -/
def asCell (r : RRow) : RCell := (r.1, rowFlag (expandRow r.2))

theorem rowFlag_none (row : List Val) : (rowFlag row == Val.none) = allNone row := by
  unfold rowFlag; cases allNone row <;> rfl

theorem allNone_flags (G : VGrid) : allNone (G.map rowFlag) = G.all allNone :=
  List.all_map.trans (congrArg (fun p => G.all p) (funext rowFlag_none))

theorem rowPiece_flags (C : Caps) (r : RRow) : (rowPiece C r).map rowFlag = cellPiece ⟨C.row, C.row⟩ (asCell r) := by
  have e : rowFlag (rowValues C r.2) = rowFlag (expandRow r.2) := by unfold rowFlag; rw [allNone_rowValues]
  rw [rowPiece_eq, cellPiece, asCell, ← e, rowFlag_none, Bool.and_comm]
  split
  · rename_i h
    -- the collapsed row holds no data (first half of `h`), so its flag is the `Val.none` that `cellPiece` puts
    rw [List.map_singleton, ← beq_iff_eq.mp ((rowFlag_none _).trans (Bool.and_eq_true _ _ ▸ h).1)]
  · exact List.map_replicate

theorem rawRows_flags (C : Caps) (rows : List RRow) :
    (rawRows C rows).map rowFlag = rowValues ⟨C.row, C.row⟩ (rows.map asCell) := by
  simp only [rawRows, rowValues, List.map_flatMap, List.flatMap_map, rowPiece_flags]

theorem expand_flags (rows : List RRow) : (expand rows).map rowFlag = expandRow (rows.map asCell) := by
  simp only [expand, expandRow, List.map_flatMap, List.flatMap_map, List.map_replicate, asCell]

theorem rawRows_allNone (C : Caps) (rows : List RRow) (h : (expand rows).all allNone = true) :
    (rawRows C rows).all allNone = true := by
  rwa [← allNone_flags, rawRows_flags, allNone_rowValues, ← expand_flags, allNone_flags]

theorem rawRows_gridEq (C : Caps) (rows : List RRow) (h : noGapRows C rows = true) : GridEq (rawRows C rows) (expand rows) := by
  induction rows with
  | nil => intro i j; rfl
  | cons r rs ih =>
    obtain ⟨h1, h2, h3⟩ := (noGapRows_cons C r rs).mp h
    rw [rawRows_cons, expand_cons]
    by_cases hc : (r.1 > C.row && allNone (rowValues C r.2)) = true
    · have hbelow := h2 hc
      have hrv : allNone (rowValues C r.2) = true := by simp only [Bool.and_eq_true] at hc; exact hc.2
      intro i j
      rw [cellAt_allNone, cellAt_allNone]
      · rw [List.all_append, hbelow, Bool.and_true, List.all_replicate]
        split
        · rfl
        · rw [← allNone_rowValues C]; exact hrv
      · rw [List.all_append, rawRows_allNone C rs hbelow, Bool.and_true]
        rw [rowPiece_eq, if_pos hc]
        simpa using hrv
    · rw [rowPiece_eq, if_neg hc]
      by_cases h0 : r.1 = 0
      · rw [h0]; exact ih h3
      · exact gridEq_app r.1 (rowValues_rowEq C r.2 (h1.resolve_left h0)) (ih h3)

/-- ODS: when no collapsed run of empty cells / rows has data behind it, every cell of the returned
    table is the source cell at the same position, and beyond the returned table the source is empty -/
theorem sheetData_cells (C : Caps) (rows : List RRow) (h : noGapRows C rows = true) :
    GridEq (sheetData C rows) (expand rows) :=
  gridEq_trans (sheetOf_cells _) (rawRows_gridEq C rows h)

end S2T.Tables.Ods
