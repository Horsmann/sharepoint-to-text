import S2T.Spec.OoxmlDoc
import S2T.Lemmas.OoxmlWords
/-! C02 (part "ooxml"): the reference linearisation is self-delimiting at block level, and each of its characters is a
boundary blank or comes from a visible leaf. -/
namespace S2T.C02.Ooxml

/-- what the theorems need of `str.isspace` -/
structure WsOk (ws : Char → Bool) : Prop where
  sp : ws ' ' = true
  nl : ws '\n' = true
  tab : ws '\t' = true
  vt : ws '\x0b' = true

variable {ws : Char → Bool}

theorem linIs_append (F : Fmt) (a b : List Inline) : linIs F ws (a ++ b) = linIs F ws a ++ linIs F ws b := by
  induction a with
  | nil => rfl
  | cons x r ih => simp [linIs, ih]

mutual
theorem delim_B (F : Fmt) (hw : WsOk ws) : ∀ b : Block, Delim ws (linB F ws b)
  | .para _ _ | .heading _ _ => by simp only [linB]; exact Delim.wrap _ _ _ hw.sp hw.sp
  | .list items => by simp only [linB]; exact delim_Cells F hw items
  | .table rows => by simp only [linB]; exact delim_Rows F hw rows
  | .ctl bs => by simp only [linB]; exact delim_Bs F hw bs
theorem delim_Bs (F : Fmt) (hw : WsOk ws) : ∀ bs : List Block, Delim ws (linBs F ws bs)
  | [] => by simp only [linBs]; exact Delim.nil
  | b :: r => by simp only [linBs]; exact (delim_B F hw b).append (delim_Bs F hw r)
theorem delim_Cells (F : Fmt) (hw : WsOk ws) : ∀ cs : List (List Block), Delim ws (linCells F ws cs)
  | [] => by simp only [linCells]; exact Delim.nil
  | c :: r => by simp only [linCells]; exact (delim_Bs F hw c).append (delim_Cells F hw r)
theorem delim_Rows (F : Fmt) (hw : WsOk ws) : ∀ rows : List (List (List Block)), Delim ws (linRows F ws rows)
  | [] => by simp only [linRows]; exact Delim.nil
  | c :: r => by simp only [linRows]; exact (delim_Cells F hw c).append (delim_Rows F hw r)
end

/-- `c` is a blank or a character of one of the leaves `ls`; tracked deletions and reference marks are not among the
    leaves (`leavesI`), so their text occurs nowhere -/
def FromLeaves (ls : List Str) (c : Char) : Prop := c = ' ' ∨ ∃ l ∈ ls, c ∈ l

theorem FromLeaves.mono {a b : List Str} {c : Char} (h : FromLeaves a c) (hab : ∀ l ∈ a, l ∈ b) : FromLeaves b c := by
  rcases h with h | ⟨l, hl, hc⟩
  · exact Or.inl h
  · exact Or.inr ⟨l, hab l hl, hc⟩

theorem FromLeaves.append {a b : List Str} {x y : Str} {c : Char} (hx : c ∈ x → FromLeaves a c)
    (hy : c ∈ y → FromLeaves b c) (h : c ∈ x ++ y) : FromLeaves (a ++ b) c := by
  rcases List.mem_append.1 h with h | h
  · exact (hx h).mono (by intro l hl; simp [hl])
  · exact (hy h).mono (by intro l hl; simp [hl])

theorem FromLeaves.wrap {a : List Str} {x : Str} {c : Char} (hx : c ∈ x → FromLeaves a c)
    (h : c ∈ ' ' :: x ++ [' ']) : FromLeaves a c := by
  simp only [List.mem_cons, List.mem_append, List.not_mem_nil, or_false] at h
  rcases h with (h | h) | h
  · exact Or.inl h
  · exact hx h
  · exact Or.inl h

mutual
theorem lin_chars_I (F : Fmt) : ∀ (x : Inline) (c : Char), c ∈ linI F ws x → FromLeaves (leavesI x) c
  | .text s, c, h => by simp only [linI] at h; exact Or.inr ⟨s, by simp [leavesI], h⟩
  | .tab, c, h => by simp only [linI] at h; exact Or.inl (by simpa using h)
  | .br, c, h => by simp only [linI] at h; exact Or.inl (by simpa using h)
  | .link _ xs, c, h => by simp only [linI] at h; simpa [leavesI] using lin_chars_Is F xs c h
  | .ins xs, c, h => by simp only [linI] at h; simpa [leavesI] using lin_chars_Is F xs c h
  | .del _, c, h => by simp [linI] at h
  | .ctl xs, c, h => by simp only [linI] at h; simpa [leavesI] using lin_chars_Is F xs c h
  | .mark _, c, h => by simp [linI] at h
  | .box bs, c, h => by
    simp only [linI] at h
    simp only [leavesI]
    split at h
    · exact FromLeaves.wrap (lin_chars_Bs F bs c) h
    · split at h
      · exact lin_chars_Bs F bs c h
      · simp at h
theorem lin_chars_Is (F : Fmt) : ∀ (xs : List Inline) (c : Char), c ∈ linIs F ws xs → FromLeaves (leavesIs xs) c
  | [], c, h => by simp [linIs] at h
  | x :: r, c, h => by
    simp only [linIs] at h
    exact FromLeaves.append (lin_chars_I F x c) (lin_chars_Is F r c) h
theorem lin_chars_B (F : Fmt) : ∀ (b : Block) (c : Char), c ∈ linB F ws b → FromLeaves (leavesB b) c
  | .para _ xs, c, h => by simp only [linB] at h; exact FromLeaves.wrap (lin_chars_Is F xs c) h
  | .heading _ xs, c, h => by simp only [linB] at h; exact FromLeaves.wrap (lin_chars_Is F xs c) h
  | .list items, c, h => by simp only [linB] at h; simpa [leavesB] using lin_chars_Cells F items c h
  | .table rows, c, h => by simp only [linB] at h; simpa [leavesB] using lin_chars_Rows F rows c h
  | .ctl bs, c, h => by simp only [linB] at h; simpa [leavesB] using lin_chars_Bs F bs c h
theorem lin_chars_Bs (F : Fmt) : ∀ (bs : List Block) (c : Char), c ∈ linBs F ws bs → FromLeaves (leavesBs bs) c
  | [], c, h => by simp [linBs] at h
  | b :: r, c, h => by
    simp only [linBs] at h
    exact FromLeaves.append (lin_chars_B F b c) (lin_chars_Bs F r c) h
theorem lin_chars_Cells (F : Fmt) : ∀ (cs : List (List Block)) (c : Char), c ∈ linCells F ws cs → FromLeaves (leavesCells cs) c
  | [], c, h => by simp [linCells] at h
  | b :: r, c, h => by
    simp only [linCells] at h
    exact FromLeaves.append (lin_chars_Bs F b c) (lin_chars_Cells F r c) h
theorem lin_chars_Rows (F : Fmt) : ∀ (rows : List (List (List Block))) (c : Char), c ∈ linRows F ws rows → FromLeaves (leavesRows rows) c
  | [], c, h => by simp [linRows] at h
  | b :: r, c, h => by
    simp only [linRows] at h
    exact FromLeaves.append (lin_chars_Cells F b c) (lin_chars_Rows F r c) h
end

end S2T.C02.Ooxml
