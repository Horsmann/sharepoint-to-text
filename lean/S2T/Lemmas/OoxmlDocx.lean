import S2T.Model.OoxmlDocx
import S2T.Spec.OoxmlDoc
import S2T.Lemmas.OoxmlLin
/-! C02 (part "ooxml"): the DOCX walk on rendered documents.  Inline content is compared with the reference text by `Eqv`.
At block level the walk returns a LIST of texts, which `get_full_text` joins by "\n": the theorems compare
`flatMap (words ws)` of that list with the words of the reference and need `Delim` of the reference side only (the HTML
walker returns one string, so Lemmas/OoxmlHtml carries `Delim` of the output as well). -/
namespace S2T.C02.Ooxml.Docx
open S2T.C02.Ooxml

variable {ws : Char → Bool}

theorem blockTexts_append (a b : List Xml) : blockTexts ws (a ++ b) = blockTexts ws a ++ blockTexts ws b := by
  induction a with
  | nil => simp [blockTexts]
  | cons x a ih => cases x with | node t a1 tx k => simp [blockTexts, ih]

/-- every text `_extract_block_texts` / `_extract_table_text` returns from the elements `xs` has a word in it, one field
    for each of the six walks -/
structure NonBlank (ws : Char → Bool) (xs : List Xml) : Prop where
  blocks : ∀ t ∈ blockTexts ws xs, nonblank ws t = true
  sdtBlocks : ∀ t ∈ sdtBlocks ws xs, nonblank ws t = true
  rows : ∀ t ∈ tableRows ws xs, nonblank ws t = true
  sdtRows : ∀ t ∈ sdtRows ws xs, nonblank ws t = true
  cells : ∀ t ∈ rowCells ws xs, nonblank ws t = true
  sdtCells : ∀ t ∈ sdtCells ws xs, nonblank ws t = true

/- the six walks call each other, so the six facts are proved in one recursion over the element list (a `mutual` block of
   six theorems over `List Xml` alone is not compiled structurally); `k` speaks of the children, `s` of the siblings.  The
   bullets follow the `match` arms of the walks; only two have content, `w:p` (a text is kept only if it is nonblank) and
   `w:tc` (a cell joins nonblank texts), every other bullet hands `t` to `k` or `s` -/
theorem nb_all (hw : WsOk ws) : ∀ xs : List Xml, NonBlank ws xs
  | [] => by constructor <;> simp [blockTexts, Docx.sdtBlocks, tableRows, Docx.sdtRows, rowCells, Docx.sdtCells]
  | .node tag a tx kids :: r => by
    have k := nb_all hw kids
    have s := nb_all hw r
    refine ⟨?_, ?_, ?_, ?_, ?_, ?_⟩
    · intro t ht
      simp only [blockTexts, List.mem_append] at ht
      rcases ht with ht | ht
      · split at ht
        · exact k.sdtBlocks t ht
        · exact k.blocks t ht
        · split at ht                           -- `w:p`
          · simp at ht; subst ht; assumption
          · simp at ht
        · exact k.rows t ht
        · simp at ht
      · exact s.blocks t ht
    · intro t ht
      simp only [sdtBlocks] at ht
      split at ht
      · exact k.blocks t ht
      · exact s.sdtBlocks t ht
    · intro t ht
      simp only [tableRows, List.mem_append] at ht
      rcases ht with ht | ht
      · split at ht
        · exact k.sdtRows t ht
        · exact k.rows t ht
        · exact k.cells t ht
        · simp at ht
      · exact s.rows t ht
    · intro t ht
      simp only [sdtRows] at ht
      split at ht
      · exact k.rows t ht
      · exact s.sdtRows t ht
    · intro t ht
      simp only [rowCells, List.mem_append] at ht
      rcases ht with ht | ht
      · split at ht
        · exact k.sdtCells t ht
        · exact k.cells t ht
        · split at ht
          · simp at ht
          · rename_i hne                        -- `w:tc`
            simp at ht; subst ht
            exact join_nonblank _ (.single hw.sp) (by simp) _ (by simpa using hne) k.blocks
        · simp at ht
      · exact s.cells t ht
    · intro t ht
      simp only [sdtCells] at ht
      split at ht
      · exact k.cells t ht
      · exact s.sdtCells t ht

theorem nbB (hw : WsOk ws) : ∀ xs : List Xml, (∀ t ∈ blockTexts ws xs, nonblank ws t = true) :=
  fun xs => (nb_all hw xs).blocks
theorem nbSB (hw : WsOk ws) : ∀ xs : List Xml, (∀ t ∈ sdtBlocks ws xs, nonblank ws t = true) :=
  fun xs => (nb_all hw xs).sdtBlocks
theorem nbR (hw : WsOk ws) : ∀ xs : List Xml, (∀ t ∈ tableRows ws xs, nonblank ws t = true) :=
  fun xs => (nb_all hw xs).rows
theorem nbSR (hw : WsOk ws) : ∀ xs : List Xml, (∀ t ∈ sdtRows ws xs, nonblank ws t = true) :=
  fun xs => (nb_all hw xs).sdtRows
theorem nbC (hw : WsOk ws) : ∀ xs : List Xml, (∀ t ∈ rowCells ws xs, nonblank ws t = true) :=
  fun xs => (nb_all hw xs).cells
theorem nbSC (hw : WsOk ws) : ∀ xs : List Xml, (∀ t ∈ sdtCells ws xs, nonblank ws t = true) :=
  fun xs => (nb_all hw xs).sdtCells

theorem flatMap_words_eq_nil_of_nil (ts : List Str) (h : ts = []) : ts.flatMap (words ws) = [] := by subst h; rfl

/-- the text-box part of `_process_text_element` against the reference linearisation -/
theorem box_eqv (hw : WsOk ws) (ts : List Str) (L : Str) (hd : Delim ws L)
    (hall : ∀ t ∈ ts, nonblank ws t = true) (h : ts.flatMap (words ws) = words ws L) :
    Eqv ws (concat (if ts.isEmpty then [] else [['\n'] ++ join ['\n'] ts ++ ['\n']]))
      (if nonblank ws L then L else []) := by
  by_cases hts : ts = []
  · subst hts
    have : nonblank ws L = false := (nonblank_false_iff L).2 ((words_eq_nil_iff L).1 h.symm)
    simp [this, concat]
    exact Eqv.refl _
  · have hne := flatMap_words_ne_nil ts hts hall
    have hL : nonblank ws L = true := by rw [nonblank_iff, ← h]; exact hne
    have e : ts.isEmpty = false := by cases ts <;> simp_all
    simp only [e, hL, if_true, concat, List.append_nil, Bool.false_eq_true, if_false, List.cons_append, List.nil_append]
    exact (Delim.wrap '\n' '\n' _ hw.nl hw.nl).eqv hd (by simp) (by rintro rfl; simp [nonblank] at hL)
      (by rw [words_wrap hw.nl hw.nl, words_join_char hw.nl, h])

mutual
theorem docx_I (hw : WsOk ws) : ∀ x : Inline, Eqv ws (concat (processEl ws (renderI x))) (linI fmtDocx ws x)
  | .text s => by
    simp only [renderI, el, leaf, processEl, runKids, linI, o]
    -- an empty `w:t` appends no part, and its leaf is `[]`
    split <;> simp_all [concat] <;> exact Eqv.refl _
  | .tab => by
    simp only [renderI, el, processEl, runKids, linI, concat, List.append_nil]
    exact Eqv.char hw.tab hw.sp
  | .br => by
    simp only [renderI, el, processEl, runKids, linI, concat, List.append_nil]
    exact Eqv.char hw.nl hw.sp
  | .link _ xs => by
    simp only [renderI, processEl, linI, o]
    exact docx_Is hw xs
  | .ins xs => by
    simp only [renderI, el, processEl, linI, o]
    exact docx_Is hw xs
  | .del s => by
    simp only [renderI, el, leaf, processEl, processEls, runKids, linI, o, concat, List.append_nil]
    exact Eqv.refl _
  | .ctl xs => by
    simp only [renderI, el, processEl, processEls, linI, o, List.append_nil, List.nil_append]
    exact docx_Is hw xs
  | .mark _ => by
    simp only [renderI, el, processEl, runKids, linI, o, concat, List.append_nil]
    exact Eqv.refl _
  | .box bs => by
    simp only [renderI, boxRun, el, processEl, processEls, runKids, choiceKids, linI, o, List.append_nil,
      if_true]
    exact box_eqv hw _ _ (delim_Bs fmtDocx hw bs) (nbB hw _) (docx_Bs hw bs)
theorem docx_Is (hw : WsOk ws) : ∀ xs : List Inline, Eqv ws (concat (processEls ws (renderIs xs))) (linIs fmtDocx ws xs)
  | [] => by simp only [renderIs, processEls, concat, linIs]; exact Eqv.refl _
  | x :: r => by
    simp only [renderIs, processEls, concat_append, linIs]
    exact Eqv.append (docx_I hw x) (docx_Is hw r)
theorem docx_B (hw : WsOk ws) : ∀ b : Block, (blockTexts ws (renderB b)).flatMap (words ws) = words ws (linB fmtDocx ws b)
  | .para _ xs | .heading _ xs => by
    have h := (docx_Is hw xs).toWords
    simp only [renderB, el, blockTexts, processEls, processEl, prop, o, List.append_nil, List.nil_append, linB]
    rw [words_wrap hw.sp hw.sp, ← h,
      ← words_strip (ws := ws) (· == '\n') (by intro c hc; simp at hc; subst hc; exact hw.nl),
      flatMap_words_nonblank]
  | .list items => by
    simp only [renderB, linB]
    exact docx_Items hw items
  | .table rows => by
    simp only [renderB, el, blockTexts, tableRows, o, List.append_nil, List.nil_append, linB]
    exact docx_Rows hw rows
  | .ctl bs => by
    simp only [renderB, el, blockTexts, sdtBlocks, o, List.append_nil, linB, reduceCtorEq, if_false, if_true]
    exact docx_Bs hw bs
theorem docx_Bs (hw : WsOk ws) : ∀ bs : List Block, (blockTexts ws (renderBs bs)).flatMap (words ws) = words ws (linBs fmtDocx ws bs)
  | [] => by simp [renderBs, blockTexts, linBs, words_nil]
  | b :: r => by
    simp only [renderBs, blockTexts_append, List.flatMap_append, linBs]
    rw [docx_B hw b, docx_Bs hw r, (delim_B fmtDocx hw b).words_right]
theorem docx_Items (hw : WsOk ws) : ∀ its : List (List Block),
    (blockTexts ws (renderItems its)).flatMap (words ws) = words ws (linCells fmtDocx ws its)
  | [] => by simp [renderItems, blockTexts, linCells, words_nil]
  | it :: r => by
    simp only [renderItems, blockTexts_append, List.flatMap_append, linCells]
    rw [docx_Bs hw it, docx_Items hw r, (delim_Bs fmtDocx hw it).words_right]
theorem docx_Cells (hw : WsOk ws) : ∀ cs : List (List Block),
    (rowCells ws (renderCells cs)).flatMap (words ws) = words ws (linCells fmtDocx ws cs)
  | [] => by simp [renderCells, rowCells, linCells, words_nil]
  | c :: r => by
    simp only [renderCells, el, rowCells, blockTexts, o, List.nil_append, List.flatMap_append, linCells]
    rw [docx_Cells hw r, (delim_Bs fmtDocx hw c).words_right, ← docx_Bs hw c]
    congr 1
    by_cases he : (blockTexts ws (renderBs c)).isEmpty = true
    · have : blockTexts ws (renderBs c) = [] := by simpa using he
      simp [this]
    · simp [he, words_join_char hw.sp]
theorem docx_Rows (hw : WsOk ws) : ∀ rows : List (List (List Block)),
    (tableRows ws (renderRows rows)).flatMap (words ws) = words ws (linRows fmtDocx ws rows)
  | [] => by simp [renderRows, tableRows, linRows, words_nil]
  | row :: r => by
    simp only [renderRows, el, tableRows, rowCells, o, List.nil_append, List.flatMap_append, linRows]
    rw [docx_Rows hw r, docx_Cells hw row, (delim_Cells fmtDocx hw row).words_right]
end

theorem docx_words (hw : WsOk ws) (d : Doc) : words ws (fullText ws (renderBody d)) = bodyWords fmtDocx ws d := by
  simp only [fullText, renderBody, blockTexts_append, bodyWords]
  rw [words_join_char hw.nl, List.flatMap_append, docx_Bs hw d.body]
  simp [el, blockTexts, o]

end S2T.C02.Ooxml.Docx
