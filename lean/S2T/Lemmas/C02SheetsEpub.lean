import S2T.Spec.C02SheetsDoc
import S2T.Model.OoxmlHtml
import S2T.Lemmas.OoxmlWords
import S2T.Lemmas.ListBasics
import S2T.Lemmas.HtmlSkip
/-! EPUB chapter text: the event machine of `_XhtmlTextExtractor` (C17's model, `S2T.HtmlSkip`) and the clean-up of
`get_text` (the 'ooxml' part's model, `S2T.C02.Ooxml.Html.Epub.getText`) on rendered chapters (C02, part 'sheets').
The skip gate is C17's (`run_item`, here `run_open`): every event of a chapter is an item of `S2T.HtmlSkip.Doc`, so
what is proved here is what the EPUB handlers do with the calls that get through. -/
namespace S2T.C02.Sheets.Epub
open S2T.HtmlSkip S2T.C02.Sheets.EpubDoc
open S2T.C02.Ooxml (words concat AllWs Eqv concat_append)

abbrev ES := S2T.HtmlSkip.Epub.State
abbrev Str := List Char

def D (B : List Str) : Down ES := S2T.HtmlSkip.Epub.down B
def nl : Str := ['\n']
def nlIf (b : Bool) : List Str := if b then [nl] else []

/-- the parser is not inside a removed element, a table or the title -/
structure Open (st : St ES) : Prop where
  depth : st.skipDepth = 0
  tag : st.skipTag = none
  noTable : st.down.inTable = false
  noCell : st.down.inCell = false
  noTitle : st.down.inTitle = false

/-- `text_parts` extended by `P` (`in_block`, which nothing reads, set to `ib`) -/
def addParts (st : St ES) (P : List Str) (ib : Bool) : St ES :=
  { st with down := { st.down with textParts := st.down.textParts ++ P, inBlock := ib } }

theorem addParts_open {st : St ES} (h : Open st) (P : List Str) (ib : Bool) : Open (addParts st P ib) :=
  ⟨h.depth, h.tag, h.noTable, h.noCell, h.noTitle⟩

theorem addParts_addParts (st : St ES) (P Q : List Str) (a b : Bool) :
    addParts (addParts st P a) Q b = addParts st (P ++ Q) b := by
  simp [addParts, List.append_assoc]

theorem addParts_nil (st : St ES) : addParts st [] st.down.inBlock = st := by
  simp [addParts]

/-- what the theorems need from REMOVE_TAGS / _VOID_TAGS / BLOCK_TAGS -/
structure EpubOk (T : Tables) (B : List Str) : Prop where
  inl : ∀ t ∈ inlineTags, T.remove.contains t = false ∧ B.contains t = false
  blk : ∀ t ∈ blockTags, T.remove.contains t = false ∧ B.contains t = true
  br : T.remove.contains sBr = false
  title : T.remove.contains sTitle = false
  removeNe : T.remove ≠ []

/-- none of the names the EPUB handlers test for outside a table -/
structure Quiet (tag : Str) : Prop where
  title : tag ≠ "title".toList
  table : tag ≠ "table".toList
  br : tag ≠ "br".toList

theorem inlineTag_mem (t : Nat) : inlineTag t ∈ inlineTags := List.getD_mem (Nat.mod_lt t (by decide))

theorem blockTag_mem (t : Nat) : blockTag t ∈ blockTags := List.getD_mem (Nat.mod_lt t (by decide))

theorem quiet_of_mem {t : Str} (h : t ∈ inlineTags ++ blockTags) : Quiet t := by
  have : ∀ t ∈ inlineTags ++ blockTags, t ≠ "title".toList ∧ t ≠ "table".toList ∧ t ≠ "br".toList := by
    -- the tag names as lists of characters first (see Lemmas/Chars)
    simp -index only [inlineTags, blockTags, List.map, String.toList_ofList]; decide
  exact ⟨(this t h).1, (this t h).2.1, (this t h).2.2⟩

theorem removeTag_mem {T : Tables} (h : T.remove ≠ []) (t : Nat) : T.remove.contains (removeTag T.remove t) = true := by
  have hl : 0 < T.remove.length := List.length_pos_iff.mpr h
  have : t % T.remove.length < T.remove.length := Nat.mod_lt _ hl
  simp only [removeTag, List.contains_iff_mem]
  exact List.getD_mem this

theorem start_quiet (B : List Str) (s : ES) (tag : Str) (a : Attrs) (hq : Quiet tag) (hn : s.inTable = false) :
    S2T.HtmlSkip.Epub.start B s tag a
      = if B.contains tag then { s with textParts := s.textParts ++ [nl], inBlock := true } else s := by
  simp only [S2T.HtmlSkip.Epub.start, hq.title, hq.table, hq.br, hn, if_false, Bool.false_eq_true, nl]

theorem end_quiet (B : List Str) (s : ES) (tag : Str) (hq : Quiet tag) (hn : s.inTable = false) :
    S2T.HtmlSkip.Epub.end_ B s tag
      = if B.contains tag then { s with textParts := s.textParts ++ [nl], inBlock := false } else s := by
  simp only [S2T.HtmlSkip.Epub.end_, hq.title, hq.table, hn, if_false, Bool.false_eq_true, nl]

section
variable {T : Tables} {B : List Str}

/- `S2T.HtmlSkip.run_cons` / `run_nil` at the EPUB handlers, with `T` and `D B` implicit so that `simp only [run_cons]` can be
   written without arguments (`S2T.HtmlSkip.run_append` is used as it is) -/
theorem run_cons (st : St ES) (e : Ev) (r : List Ev) : run T (D B) st (e :: r) = run T (D B) (step T (D B) st e) r := rfl

theorem run_nil (st : St ES) : run T (D B) st [] = st := rfl

/-- on an open state C17's skip gate (`run_item`) hands an admissible item's visible calls to the EPUB handlers -/
theorem run_open (i : Item) (hi : ItemOk T i = true) {st : St ES} (ho : Open st) :
    run T (D B) st i.events = { st with down := (D B).feed st.down i.downEvents } :=
  run_item T (D B) i hi st ⟨ho.depth, ho.tag⟩

theorem feed_open (s : ES) (t : Str) (a : Attrs) : (D B).feed s (Item.open_ t a).downEvents = S2T.HtmlSkip.Epub.start B s t a := rfl
theorem feed_close (s : ES) (t : Str) : (D B).feed s (Item.close t).downEvents = S2T.HtmlSkip.Epub.end_ B s t := rfl
theorem feed_text (s : ES) (x : Str) : (D B).feed s (Item.text x).downEvents = S2T.HtmlSkip.Epub.data s x := rfl

theorem step_start_quiet {st : St ES} (ho : Open st) (tag : Str) (hr : T.remove.contains tag = false) (hq : Quiet tag) :
    step T (D B) st (.start tag []) = if B.contains tag then addParts st [nl] true else st := by
  refine (run_open (T := T) (.open_ tag []) (by simpa [ItemOk] using hr) ho).trans ?_
  rw [feed_open, start_quiet B st.down tag [] hq ho.noTable]
  split <;> rfl

theorem step_end_quiet {st : St ES} (ho : Open st) (tag : Str) (hq : Quiet tag) :
    step T (D B) st (.end_ tag) = if B.contains tag then addParts st [nl] false else st := by
  refine (run_open (T := T) (.close tag) rfl ho).trans ?_
  rw [feed_close, end_quiet B st.down tag hq ho.noTable]
  split <;> rfl

theorem step_data {st : St ES} (ho : Open st) (s : Str) :
    step T (D B) st (.data s) = addParts st [s] st.down.inBlock := by
  refine (run_open (T := T) (.text s) rfl ho).trans ?_
  rw [feed_text]
  simp [S2T.HtmlSkip.Epub.data, ho.noTitle, ho.noCell, addParts]

/-- the parts `<br/>` contributes (one newline, plus two when `br` is a block tag) -/
def brParts (B : List Str) : List Str := nlIf (B.contains sBr) ++ [nl] ++ nlIf (B.contains sBr)

theorem step_br {st : St ES} (ho : Open st) (hr : T.remove.contains sBr = false) :
    ∃ ib, step T (D B) st (.startend sBr []) = addParts st (brParts B) ib := by
  rw [show step T (D B) st (.startend sBr []) = _ from run_open (.selfclosed sBr []) (by simpa [ItemOk] using hr) ho]
  -- as a block tag `br` sets `in_block` and clears it again
  refine ⟨if sBr ∈ B then false else st.down.inBlock, ?_⟩
  -- the `simp` unfolds `sBr` to its characters, so `hb` has to speak of them too
  by_cases hb : sBr ∈ B <;> rw [show sBr = ['b', 'r'] from rfl] at hb <;>
    simp [Item.downEvents, Down.feed, Down.step, D, S2T.HtmlSkip.Epub.down, S2T.HtmlSkip.Epub.start,
      S2T.HtmlSkip.Epub.end_, ho.noTable, hb, sBr, addParts, brParts, nlIf, nl]

/-- hidden content is content of one removed element in C17's sense: no end tag in it closes the element -/
theorem bal_hidden (tag : Str) (hne : ∀ t, inlineTag t ≠ tag) (hid : List Hid) (k : Nat) :
    bal tag k (hid.flatMap (evHid tag)) = some k := by
  induction hid with
  | nil => rfl
  | cons h r ih => cases h <;> simp [evHid, bal, hne, ih]

theorem run_removed (h : EpubOk T B) (t : Nat) (hid : List Hid) {st : St ES} (ho : Open st) :
    run T (D B) st (evInl T (.removed t hid)) = st := by
  have hrm := removeTag_mem h.removeNe t
  have hne : ∀ u, inlineTag u ≠ removeTag T.remove t := by
    intro u hc
    have := (h.inl _ (inlineTag_mem u)).1
    rw [hc, hrm] at this
    exact absurd this (by decide)
  simp only [evInl]
  -- the events are those of C17's item for a removed void tag, or for a removed element with junk `hid.flatMap (evHid tag)`
  split
  · exact run_open (.removedEmpty _ [] false) (by simp_all [ItemOk]) ho
  · exact run_open (.removed _ [] _) (by simp_all [ItemOk, JunkOk, bal_hidden]) ho

mutual
def partsInl (B : List Str) : EInl → List Str
  | .text s => [s]
  | .el _ kids => partsInls B kids
  | .removed _ _ => []
  | .br => brParts B
def partsInls (B : List Str) : List EInl → List Str
  | [] => []
  | i :: r => partsInl B i ++ partsInls B r
end

mutual
theorem run_inl (h : EpubOk T B) (i : EInl) (st : St ES) (ho : Open st) :
    ∃ ib, run T (D B) st (evInl T i) = addParts st (partsInl B i) ib := by
  cases i with
  | text s => exact ⟨st.down.inBlock, by simp [evInl, run_cons, run_nil, step_data ho, partsInl]⟩
  | el t kids =>
    have hm := inlineTag_mem t
    have hq : Quiet (inlineTag t) := quiet_of_mem (by simp [hm])
    obtain ⟨hr, hb⟩ := h.inl _ hm
    obtain ⟨ib, hk⟩ := run_inls h kids st ho
    refine ⟨ib, ?_⟩
    simp only [evInl, run_cons, run_append, run_nil, step_start_quiet ho _ hr hq, hb, Bool.false_eq_true, if_false, hk,
      step_end_quiet (addParts_open ho _ _) _ hq, partsInl]
  | removed t hid => exact ⟨_, (run_removed h t hid ho).trans (addParts_nil st).symm⟩
  | br =>
    obtain ⟨ib, hb⟩ := step_br (T := T) (B := B) ho h.br
    exact ⟨ib, by simp [evInl, run_cons, run_nil, hb, partsInl]⟩
theorem run_inls (h : EpubOk T B) (is : List EInl) (st : St ES) (ho : Open st) :
    ∃ ib, run T (D B) st (evInls T is) = addParts st (partsInls B is) ib := by
  cases is with
  | nil => exact ⟨_, (addParts_nil st).symm⟩
  | cons i r =>
    obtain ⟨ib1, h1⟩ := run_inl h i st ho
    obtain ⟨ib2, h2⟩ := run_inls h r (addParts st (partsInl B i) ib1) (addParts_open ho _ _)
    exact ⟨ib2, by simp only [evInls, run_append, h1, h2, addParts_addParts, partsInls]⟩
end

def partsBlk (B : List Str) (b : EBlk) : List Str := [nl] ++ partsInls B b.kids ++ [nl]

theorem run_blk (h : EpubOk T B) (b : EBlk) (st : St ES) (ho : Open st) :
    run T (D B) st (evBlk T b) = addParts st (partsBlk B b) false := by
  have hm := blockTag_mem b.tag
  have hq : Quiet (blockTag b.tag) := quiet_of_mem (by simp [hm])
  obtain ⟨hr, hb⟩ := h.blk _ hm
  obtain ⟨ib, hk⟩ := run_inls h b.kids (addParts st [nl] true) (addParts_open ho _ _)
  have ho2 := addParts_open (addParts_open ho [nl] true) (partsInls B b.kids) ib
  simp only [evBlk, run_cons, run_append, run_nil]
  rw [step_start_quiet ho _ hr hq]
  simp only [hb, if_true]
  rw [hk, step_end_quiet ho2 _ hq]
  simp only [hb, if_true, addParts_addParts, partsBlk, List.append_assoc]

theorem run_blks (h : EpubOk T B) (bs : List EBlk) (st : St ES) (ho : Open st) :
    ∃ ib, run T (D B) st (bs.flatMap (evBlk T)) = addParts st (bs.flatMap (partsBlk B)) ib := by
  induction bs generalizing st with
  | nil => exact ⟨_, (addParts_nil st).symm⟩
  | cons b r ih =>
    obtain ⟨ib, hr⟩ := ih (addParts st (partsBlk B b) false) (addParts_open ho _ _)
    exact ⟨ib, by simp only [List.flatMap_cons, run_append, run_blk h b st ho, hr, addParts_addParts]⟩

/-- `text_parts` after feeding a whole chapter document: the title is not among them -/
theorem run_chapter (h : EpubOk T B) (c : Chapter) :
    (run T (D B) (init S2T.HtmlSkip.Epub.initState) (chapterEvs T c)).down.textParts = c.blocks.flatMap (partsBlk B) := by
  have e0 : run T (D B) (init S2T.HtmlSkip.Epub.initState) [.start sTitle [], .data c.title, .end_ sTitle]
      = { (init S2T.HtmlSkip.Epub.initState : St ES) with
          down := { S2T.HtmlSkip.Epub.initState with title := c.title } } := by
    refine (run_doc T (D B) [.open_ sTitle [], .text c.title, .close sTitle] _ (by simpa [DocOk, ItemOk] using h.title)
      ⟨rfl, rfl⟩).trans ?_
    simp [init, downEvents, Item.downEvents, Down.feed, Down.step, D, S2T.HtmlSkip.Epub.down,
      S2T.HtmlSkip.Epub.start, S2T.HtmlSkip.Epub.end_, S2T.HtmlSkip.Epub.data, sTitle, S2T.HtmlSkip.Epub.initState]
  have ho : Open ({ (init S2T.HtmlSkip.Epub.initState : St ES) with
      down := { S2T.HtmlSkip.Epub.initState with title := c.title } }) :=
    ⟨rfl, rfl, rfl, rfl, rfl⟩
  obtain ⟨ib, hb⟩ := run_blks h c.blocks _ ho
  simp only [chapterEvs, run_append, e0, hb]
  simp [addParts, S2T.HtmlSkip.Epub.initState]

end

open S2T.C02.Ooxml in
/-- `re.sub(r"[ \t]+", " ", s)` is the run collapser of Lemmas/OoxmlWords at "blank or tab" -/
theorem collapseBlanks_eq (b : Bool) (s : Str) :
    Html.Epub.collapseBlanks b s = collapseAux (fun c => c = ' ' || c = '\t') b s := by
  induction s generalizing b with
  | nil => rfl
  | cons c s ih => simp [Html.Epub.collapseBlanks, collapseAux, ih]

open S2T.C02.Ooxml in
/-- the clean-up of `get_text` (newline runs squeezed, blank runs collapsed, lines stripped, text stripped) only
    rewrites whitespace -/
theorem getText_words {ws : Char → Bool} (hsp : ws ' ' = true) (htab : ws '\t' = true) (hnl : ws '\n' = true)
    (parts : List Str) : words ws (Html.Epub.getText ws parts) = words ws (concat parts) := by
  unfold Html.Epub.getText
  rw [words_strip ws (fun _ h => h), words_strip_lines hnl]
  have := (collapseAux_eqv (ws := ws) (fun c => c = ' ' || c = '\t')
    (by intro c hc; simp at hc; rcases hc with rfl | rfl <;> assumption) (squeezeNl (concat parts)) hsp).1.toWords
  rw [collapseBlanks_eq, this, words_squeezeNl hnl]

theorem allWs_nl {ws : Char → Bool} (hnl : ws '\n' = true) : AllWs ws nl := .single hnl

mutual
theorem parts_eqv {ws : Char → Bool} (hnl : ws '\n' = true) (B : List Str) (i : EInl) :
    Eqv ws (concat (partsInl B i)) (vis i) := by
  cases i with
  | text s => simp [partsInl, concat, vis]; exact Eqv.refl _
  | el t kids => simp only [partsInl, vis]; exact parts_eqvL hnl B kids
  | removed t hid => simp [partsInl, concat, vis]; exact Eqv.refl _
  | br =>
    simp only [partsInl, vis]
    have hall : AllWs ws (concat (brParts B)) := by
      intro c hc
      have : c = '\n' := by
        by_cases hb : sBr ∈ B <;> simp [brParts, nlIf, hb, concat, nl] at hc <;> exact hc
      rw [this]; exact hnl
    have hne : concat (brParts B) ≠ [] := by
      by_cases hb : sBr ∈ B <;> simp [brParts, nlIf, hb, concat, nl]
    exact Eqv.seps hne (by simp) hall (.single hnl)
theorem parts_eqvL {ws : Char → Bool} (hnl : ws '\n' = true) (B : List Str) (is : List EInl) :
    Eqv ws (concat (partsInls B is)) (visL is) := by
  cases is with
  | nil => simp [partsInls, concat, visL]; exact Eqv.refl _
  | cons i r =>
    simp only [partsInls, visL, concat_append]
    exact Eqv.append (parts_eqv hnl B i) (parts_eqvL hnl B r)
end

/-- the words of a chapter: block by block, the words of the visible inline text -/
def chapterWords (ws : Char → Bool) (c : Chapter) : List Str := c.blocks.flatMap (fun b => words ws (visL b.kids))

open S2T.C02.Ooxml in
theorem words_blocks {ws : Char → Bool} (hnl : ws '\n' = true) (B : List Str) (bs : List EBlk) :
    words ws (concat (bs.flatMap (partsBlk B))) = bs.flatMap (fun b => words ws (visL b.kids)) := by
  induction bs with
  | nil => simp [concat, words_nil]
  | cons b r ih =>
    simp only [List.flatMap_cons, concat_append, partsBlk]
    have e1 : concat [nl] = ['\n'] := by simp [concat, nl]
    rw [e1]
    have e : ['\n'] ++ concat (partsInls B b.kids) ++ ['\n'] ++ concat (List.flatMap (partsBlk B) r)
        = '\n' :: (concat (partsInls B b.kids) ++ '\n' :: concat (List.flatMap (partsBlk B) r)) := by
      simp [List.append_assoc]
    rw [e, ← List.cons_append, words_concat_wrapped _ _ hnl hnl, ih, (parts_eqvL hnl B b.kids).toWords]

end S2T.C02.Sheets.Epub
