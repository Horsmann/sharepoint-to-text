import S2T.Spec.OoxmlDeck
import S2T.Lemmas.OoxmlLin
/-! C02 (part "ooxml"): the paragraph walk is proved on rendered text bodies, the assembly of slide and deck text for any
shapes, rendered or not. -/
namespace S2T.C02.Ooxml.Pptx
open S2T.C02.Ooxml

variable {ws : Char → Bool}

theorem iterP_append (a b : List Xml) : iterP (a ++ b) = iterP a ++ iterP b := by
  induction a with
  | nil => simp [iterP]
  | cons x a ih => simp [iterP, ih]

theorem iterP_runs (rs : List Run) : iterP (rs.map renderRun) = [] := by
  induction rs with
  | nil => simp [iterP]
  | cons r rs ih => cases r <;> simp [renderRun, el, leaf, iterP, iterPNode, ih, o]

theorem iterP_para (rs : List Run) : iterPNode (renderPara rs) = [renderPara rs] := by
  simp [renderPara, el, iterPNode, iterP, iterP_append, iterP_runs, o]

theorem iterP_paras (ps : List (List Run)) : iterP (ps.map renderPara) = ps.map renderPara := by
  induction ps with
  | nil => simp [iterP]
  | cons p ps ih => simp [iterP, iterP_para, ih]

theorem paraParts_append (a b : List Xml) : paraParts (a ++ b) = paraParts a ++ paraParts b := by
  induction a with
  | nil => simp [paraParts]
  | cons x a ih => cases x with | node t a1 tx k => simp [paraParts, ih]

/-- the parts `_extract_text_from_paragraphs` reads off rendered runs against the reference text: an `a:br` is a
    vertical tab in the one and a blank in the other -/
theorem paraParts_runs (hw : WsOk ws) (rs : List Run) :
    Eqv ws (concat (paraParts (rs.map renderRun))) (linRuns rs) := by
  induction rs with
  | nil => exact Eqv.refl _
  | cons r rs ih =>
    simp only [linRuns, List.map_cons, concat] at ih ⊢
    cases r <;> simp only [renderRun, el, leaf, paraParts, firstT, concat, linRun, o, List.singleton_append,
      reduceCtorEq, if_false, if_true]
    · exact Eqv.append (Eqv.refl _) ih
    · exact Eqv.append (Eqv.char hw.vt hw.sp) ih
    · exact Eqv.append (Eqv.refl _) ih

theorem para_text (hw : WsOk ws) (rs : List Run) : Eqv ws (concat (paraParts (renderPara rs).kids)) (linRuns rs) := by
  have e : (renderPara rs).kids
      = [el (o "a:pPr") []] ++ (List.map renderRun rs ++ [el (o "a:endParaRPr") []]) := rfl
  rw [e, paraParts_append, paraParts_append, concat_append, concat_append]
  simpa [el, paraParts, concat, o] using paraParts_runs hw rs

theorem words_linParas (hw : WsOk ws) (ps : List (List Run)) :
    words ws (linParas ps) = ps.flatMap (fun p => words ws (linRuns p)) := by
  induction ps with
  | nil => simp [linParas, concat, words_nil]
  | cons p ps ih =>
    simp only [linParas, List.map_cons, concat, List.cons_append, List.append_assoc, List.nil_append] at ih ⊢
    rw [← List.cons_append, words_concat_wrapped _ _ hw.sp hw.sp, ih, List.flatMap_cons]

theorem parasText_words (hw : WsOk ws) (tag : String) (ps : List (List Run)) :
    words ws (parasText (renderTxBody tag ps)) = words ws (linParas ps) := by
  have h1 : iterP [renderTxBody tag ps] = ps.map renderPara := by
    simp [renderTxBody, el, iterP, iterPNode, iterP_paras, o]
  rw [parasText, h1, words_join_char hw.nl, words_linParas hw, List.map_map, List.flatMap_map]
  congr 1
  funext p
  exact (para_text hw p).toWords

theorem shapeText_skipped (C : Consts) (pos : Option (Int × Int)) {t : Str} (idx : Str) (body : Option Xml)
    (h1 : t ∉ C.titleTypes) (h2 : t ∈ C.footerTypes ∨ t ∈ C.skipTypes) :
    shapeText C ws { pos := pos, ph := some (t, idx), content := .text body } = none := by
  cases body with
  | none => rfl
  | some b => rcases h2 with h2 | h2 <;> simp [shapeText, h1, h2]

theorem baseText_words (hw : WsOk ws) (C : Consts) (shapes : List Shape) :
    words ws (baseText C ws shapes) =
      (ordered C shapes).flatMap (fun s => (shapeText C ws s).elim [] (words ws)) := by
  rw [baseText, words_join_char hw.nl, List.flatMap_filterMap]

theorem fullText_words (hw : WsOk ws) (C : Consts) (slides : List (List Shape)) :
    words ws (fullText C ws slides) = slides.flatMap (fun s => words ws (baseText C ws s)) := by
  rw [fullText, words_strip_ws, words_join_char hw.nl, List.flatMap_map]
  congr 1
  funext s
  exact words_strip_ws _

end S2T.C02.Ooxml.Pptx
