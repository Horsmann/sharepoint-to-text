import S2T.Model.Units
import S2T.Lemmas.ListBasics
/-! Lemmas on Model/Units: C03 rests on them and, for the surrogate repair, C04 through Lemmas/Iface. -/
namespace S2T.Units

/-- strictly increasing and all ≥ 1: "numbers are strictly increasing and never repeat", 1-based -/
def StrictPos (l : List Nat) : Prop := l.Pairwise (· < ·) ∧ ∀ n ∈ l, 0 < n

theorem strictPos_range' (k n : Nat) (hk : 0 < k) : StrictPos (List.range' k n) := by
  refine ⟨List.pairwise_lt_range' 1, ?_⟩
  intro m hm
  have := (List.mem_range'_1.mp hm).1
  omega

theorem enumUnits_eq_zipIdx {α} (f : Nat → α → DUnit) (k : Nat) (l : List α) :
    enumUnits f k l = (l.zipIdx k).map fun p => f p.2 p.1 := by
  induction l generalizing k with
  | nil => rfl
  | cons x r ih => simp [enumUnits, ih]

theorem enumUnits_length {α} (f : Nat → α → DUnit) (k : Nat) (l : List α) : (enumUnits f k l).length = l.length := by
  simp [enumUnits_eq_zipIdx]

theorem enumUnits_numbers {α} (f : Nat → α → DUnit) (hf : ∀ k x, (f k x).number = k) (k : Nat) (l : List α) :
    (enumUnits f k l).map (·.number) = List.range' k l.length := by
  simp [enumUnits_eq_zipIdx, Function.comp_def, hf, List.zipIdx_map_snd]

theorem strictPos_of_eq_range' {l : List Nat} {n : Nat} (h : l = List.range' 1 n) : StrictPos l :=
  h ▸ strictPos_range' 1 n (by omega)

theorem enumUnits_numbered {α} (f : Nat → α → DUnit) (hf : ∀ k x, (f k x).number = k) (l : List α) :
    (enumUnits f 1 l).map (·.number) = List.range' 1 l.length ∧ StrictPos ((enumUnits f 1 l).map (·.number)) :=
  have h := enumUnits_numbers f hf 1 l
  ⟨h, strictPos_of_eq_range' h⟩

theorem enumUnits_get {α} (f : Nat → α → DUnit) (k : Nat) (l : List α) (i : Nat) (h : i < l.length) :
    (enumUnits f k l)[i]? = some (f (k + i) l[i]) := by
  simp [enumUnits_eq_zipIdx, h]

theorem rtfUnits_numbers (T : Tables) (r : Rtf) :
    (rtfUnits T r).map (·.number) = List.range' 1 (rtfUnits T r).length := by
  unfold rtfUnits
  split
  · rw [enumUnits_length]; exact enumUnits_numbers _ (fun _ _ => rfl) 1 _
  · split
    · rfl
    · simp only; split <;> rfl

theorem epubSpine_eq (k : Nat) (items : List (Option Str)) :
    epubSpine k items = (items.zipIdx k).filterMap fun p => p.1.map fun t => { number := p.2, text := t } := by
  induction items generalizing k with
  | nil => rfl
  | cons it r ih => cases it <;> simp [epubSpine, ih]

theorem epubSpine_spec (k : Nat) (items : List (Option Str)) :
    (∀ c ∈ epubSpine k items, k ≤ c.number ∧ c.number < k + items.length ∧ items[c.number - k]? = some (some c.text))
    ∧ ((epubSpine k items).map (·.number)).Pairwise (· < ·) := by
  rw [epubSpine_eq]
  refine ⟨?_, ?_⟩
  · intro c hc
    obtain ⟨⟨o, i⟩, hp, he⟩ := List.mem_filterMap.mp hc
    obtain ⟨t, rfl, rfl⟩ := Option.map_eq_some_iff.mp he
    obtain ⟨h1, h2, h3⟩ := List.mem_zipIdx hp
    refine ⟨h1, h2, ?_⟩
    show items[i - k]? = some (some t)
    rw [List.getElem?_eq_getElem (by omega), ← h3]
  · -- positions increase along `zipIdx`, and the loop only drops items
    have hz : (items.zipIdx k).Pairwise fun p q => p.2 < q.2 := by
      rw [← List.pairwise_map (f := Prod.snd) (R := (· < ·)), List.zipIdx_map_snd]
      exact List.pairwise_lt_range' 1
    rw [List.map_filterMap]
    refine hz.filterMap _ fun p q hpq b hb b' hb' => ?_
    cases hp : p.1 <;> cases hq : q.1 <;> simp_all

theorem epubSpine_length (k : Nat) (items : List (Option Str)) :
    (epubSpine k items).length = (items.filter Option.isSome).length := by
  induction items generalizing k with
  | nil => rfl
  | cons it r ih => cases it <;> simp [epubSpine, ih]

theorem strip_eq_nil_iff (T : Tables) (s : Str) : strip T s = [] ↔ blank T s = true :=
  List.strip_eq_nil_iff

theorem strip_ne_nil_iff (T : Tables) (s : Str) : strip T s ≠ [] ↔ blank T s = false := by
  rw [Ne, strip_eq_nil_iff]; simp

theorem blank_strip_of_ne (T : Tables) (s : Str) (h : strip T s ≠ []) : blank T (strip T s) = false :=
  (strip_ne_nil_iff T _).mp fun e => h ((List.strip_strip (p := isWs T) (l := s)).symm.trans e)

theorem joinNl_singleton (l : Str) : joinNl [l] = l := List.append_nil l

theorem joinNl_cons_cons (l m : Str) (r : List Str) : joinNl (l :: m :: r) = l ++ '\n' :: joinNl (m :: r) := rfl

theorem joinNl_cons_blank (T : Tables) (l : Str) (ls : List Str) (h : blank T l = false) : blank T (joinNl (l :: ls)) = false := by
  cases ls with
  | nil => rwa [joinNl_singleton]
  | cons m r =>
    rw [joinNl_cons_cons, blank, List.all_append, ← blank, h]
    rfl

/-- body pieces of an event list, in order -/
def evBodies : List Ev → List Str
  | [] => []
  | .body t :: r => t :: evBodies r
  | _ :: r => evBodies r

/-- what the machine may assume of its input: body texts are not blank (they are `strip` results) -/
def EvOk (T : Tables) : Ev → Prop
  | .body t => blank T t = false
  | _ => True

def Ev.isHeading : Ev → Bool
  | .heading _ _ => true
  | _ => false

def textOfLines (T : Tables) (lines : List Str) : Str := strip T (joinNl (lines.filter (· ≠ [])))

/-- what both heading machines (`Sec` of DOC / ODT, `DocxSt` of DOCX) keep of the units emitted so far and the lines of
the open section: the units are numbered 1, 2, …, each has the text `txt` assembles from its lines, and no pending line is
blank.  The machines differ only in when they emit. -/
structure Emitted (T : Tables) (txt : List Str → Str) (units : List DUnit) (lines : List Str) : Prop where
  good : ∀ l ∈ lines, blank T l = false
  nums : units.map (·.number) = List.range' 1 units.length
  texts : ∀ u ∈ units, u.text = txt u.lines

theorem nums_concat {α} (num : α → Nat) (us : List α) (u : α) (h : us.map num = List.range' 1 us.length)
    (hu : num u = us.length + 1) : (us ++ [u]).map num = List.range' 1 (us ++ [u]).length := by
  rw [List.map_append, h, List.length_append, List.length_singleton, List.range'_1_concat, List.map_singleton, hu,
    Nat.add_comm 1]

namespace Emitted
variable {T : Tables} {txt : List Str → Str} {units : List DUnit} {lines : List Str}

theorem nil : Emitted T txt [] [] := ⟨by simp, rfl, by simp⟩

theorem clear (h : Emitted T txt units lines) : Emitted T txt units [] := ⟨by simp, h.nums, h.texts⟩

theorem push (h : Emitted T txt units lines) {l : Str} (hl : blank T l = false) : Emitted T txt units (lines ++ [l]) :=
  ⟨fun x hx => (List.mem_append.mp hx).elim (h.good x) fun e => List.mem_singleton.mp e ▸ hl, h.nums, h.texts⟩

theorem emit (h : Emitted T txt units lines) {u : DUnit} (hn : u.number = units.length + 1) (ht : u.text = txt u.lines) :
    Emitted T txt (units ++ [u]) [] :=
  ⟨by simp, nums_concat _ _ _ h.nums hn, List.forall_mem_append.mpr ⟨h.texts, by simpa using ht⟩⟩

/-- a section text that comes out empty means there is no pending line, whatever filter `p` that lets non-blank lines
pass is applied before joining (`line != ""`; for DOCX `line.strip() != ""`): the text would begin with a non-blank line -/
theorem lines_nil (h : Emitted T txt units lines) (p : Str → Bool) (hp : ∀ l, blank T l = false → p l = true)
    (hc : strip T (joinNl (lines.filter p)) = []) : lines = [] := by
  rw [List.filter_eq_self.mpr fun l hm => hp l (h.good l hm), strip_eq_nil_iff] at hc
  cases lines with
  | nil => rfl
  | cons l ls => rw [joinNl_cons_blank T l ls (h.good l List.mem_cons_self)] at hc; cases hc

end Emitted

abbrev SecInv (T : Tables) (s : Sec) : Prop := Emitted T (textOfLines T) s.units s.lines

def secCov (s : Sec) : List Str := s.units.flatMap (·.lines) ++ s.lines

theorem secFlush_lines (T : Tables) (mk : List Str → List Str) (s : Sec) : (secFlush T mk s).lines = [] := by
  unfold secFlush; simp only; split <;> rfl

theorem secFlush_spec (T : Tables) (mk : List Str → List Str) (s : Sec) (h : SecInv T s) :
    SecInv T (secFlush T mk s) ∧ secCov (secFlush T mk s) = secCov s := by
  unfold secFlush
  simp only
  split
  · rename_i hc
    have hl : s.lines = [] := h.lines_nil _ (fun l hb => by cases l <;> simp_all [blank]) hc.1
    exact ⟨h.clear, by simp [secCov, hl]⟩
  · exact ⟨h.emit rfl rfl, by simp [secCov, List.flatMap_append]⟩

theorem secStep_spec (T : Tables) (mk : List Str → List Str) (s : Sec) (e : Ev) (h : SecInv T s) (he : EvOk T e) :
    SecInv T (secStep T mk s e) ∧ secCov (secStep T mk s e) = secCov s ++ evBodies [e] := by
  cases e with
  | table => exact ⟨h, (List.append_nil _).symm⟩
  | body t => exact ⟨h.push he, (List.append_assoc _ _ _).symm⟩
  | heading lv t =>
    obtain ⟨hi, hc⟩ := secFlush_spec T mk { s with any := true } h
    -- `secCov` is unfolded first: asked whether the two states agree, the unifier would evaluate the flush
    simp only [secStep, secCov] at hc ⊢
    exact ⟨hi, hc.trans (List.append_nil _).symm⟩

theorem evBodies_append (a b : List Ev) : evBodies (a ++ b) = evBodies a ++ evBodies b := by
  induction a with
  | nil => rfl
  | cons e r ih => cases e <;> simp [evBodies, ih]

theorem secFold_spec (T : Tables) (mk : List Str → List Str) (evs : List Ev) (s : Sec) (h : SecInv T s)
    (he : ∀ e ∈ evs, EvOk T e) :
    SecInv T (evs.foldl (secStep T mk) s) ∧ secCov (evs.foldl (secStep T mk) s) = secCov s ++ evBodies evs := by
  induction evs generalizing s with
  | nil => simp [evBodies, h]
  | cons e r ih =>
    obtain ⟨h1, c1⟩ := secStep_spec T mk s e h (he e List.mem_cons_self)
    obtain ⟨h2, c2⟩ := ih (secStep T mk s e) h1 (fun x hx => he x (List.mem_cons_of_mem _ hx))
    refine ⟨h2, ?_⟩
    simp only [List.foldl_cons]
    rw [c2, c1, List.append_assoc]
    congr 1
    exact (evBodies_append [e] r).symm

theorem secFlush_any (T : Tables) (mk : List Str → List Str) (s : Sec) : (secFlush T mk s).any = s.any := by
  unfold secFlush; simp only; split <;> rfl

theorem secStep_any (T : Tables) (mk : List Str → List Str) (s : Sec) (e : Ev) :
    (secStep T mk s e).any = (s.any || e.isHeading) := by
  cases e <;> simp [secStep, Ev.isHeading, secFlush_any]

theorem secFold_any (T : Tables) (mk : List Str → List Str) (evs : List Ev) (s : Sec) :
    (evs.foldl (secStep T mk) s).any = (s.any || evs.any Ev.isHeading) := by
  induction evs generalizing s with
  | nil => simp
  | cons e r ih => simp [ih, secStep_any, Bool.or_assoc]

theorem secRun_any (T : Tables) (mk : List Str → List Str) (evs : List Ev) :
    (secRun T mk evs).any = evs.any Ev.isHeading := by
  unfold secRun
  simp only [secFlush_any]
  rw [secFold_any]; rfl

theorem secRun_spec (T : Tables) (mk : List Str → List Str) (evs : List Ev) (he : ∀ e ∈ evs, EvOk T e) :
    Emitted T (textOfLines T) (secRun T mk evs).units [] ∧ (secRun T mk evs).units.flatMap (·.lines) = evBodies evs := by
  obtain ⟨h1, c1⟩ := secFold_spec T mk evs {} .nil he
  unfold secRun
  simp only
  generalize List.foldl (secStep T mk) {} evs = s at *
  obtain ⟨hi, hc⟩ := secFlush_spec T mk { s with curTables := s.curTables + s.pending, pending := 0 } h1
  refine ⟨secFlush_lines T mk _ ▸ hi, ?_⟩
  have : secCov (secFlush T mk { s with curTables := s.curTables + s.pending, pending := 0 }) = evBodies evs := by
    rw [hc]; simpa [secCov] using c1
  simpa [secCov, secFlush_lines] using this

/-- `base_heading_path`: the document title, if any -/
def baseOf (o : Odt) : List Str := if o.title ≠ [] then [o.title] else []

theorem odtUnits_unfold (T : Tables) (o : Odt) (hp : o.paragraphs ≠ []) :
    odtUnits T o =
      (if !(secRun T (odtMkPath (baseOf o)) (odtEvents T o.paragraphs false o.nTables)).any then odtSingle o
       else (secRun T (odtMkPath (baseOf o)) (odtEvents T o.paragraphs false o.nTables)).units) := by
  unfold odtUnits baseOf
  rw [if_neg hp]

theorem docUnits_unfold (T : Tables) (d : Doc) (hl : (splitlines T d.mainText).map (rstrip T) ≠ []) :
    docUnits T d =
      (if !(secRun T id (docEvents T ((splitlines T d.mainText).map (rstrip T)) d.tables)).any then
         [{ number := 1, text := strip T d.mainText, nTables := d.tables.length }]
       else (secRun T id (docEvents T ((splitlines T d.mainText).map (rstrip T)) d.tables)).units) := by
  unfold docUnits
  rw [if_neg hl]

theorem docLine_ok (T : Tables) (line : Str) : ∀ e ∈ docLine T line, EvOk T e := by
  unfold docLine
  split <;> simp [EvOk]
  -- what `simp` leaves is the body line: a non-empty `strip` result
  exact blank_strip_of_ne T _

theorem docEvents_ok (T : Tables) (lines : List Str) (tables : List (List Str)) : ∀ e ∈ docEvents T lines tables, EvOk T e := by
  fun_induction docEvents T lines tables <;>
    simp only [List.mem_cons, List.mem_append, or_imp, forall_and, forall_eq, EvOk, true_and, List.not_mem_nil, false_imp_iff,
      implies_true] <;>
    first | assumption | exact ⟨docLine_ok T _, ‹_›⟩

theorem odtEvents_ok (T : Tables) (ps : List OdtPara) (inT : Bool) (k : Nat) : ∀ e ∈ odtEvents T ps inT k, EvOk T e := by
  fun_induction odtEvents T ps inT k <;>
    simp only [List.mem_cons, forall_eq_or_imp, EvOk, true_and, List.not_mem_nil, false_imp_iff, implies_true] <;>
    try assumption
  exact ⟨blank_strip_of_ne T _ ‹_›, ‹_›⟩

/-- body pieces of a DOCX paragraph list: stripped texts of the non-heading, non-blank paragraphs -/
def docxBodies (T : Tables) : List DocxPara → List Str
  | [] => []
  | p :: r => (if p.level = none ∧ strip T p.text ≠ [] then [strip T p.text] else []) ++ docxBodies T r

/-- `heading_stack` after paragraph `p` -/
def nextStack (T : Tables) (st : List (Int × Str)) (p : DocxPara) : List (Int × Str) :=
  match p.level with
  | some lv => (lv, strip T p.text) :: popStack lv st
  | none => st

/-- the body piece of `p` if the heading path is non-empty when `p` occurs -/
def docxKept1 (T : Tables) (st : List (Int × Str)) (p : DocxPara) : List Str :=
  if p.level = none ∧ pathOf st ≠ [] ∧ strip T p.text ≠ [] then [strip T p.text] else []

/-- the body piece of `p` if the heading path is empty when `p` occurs (before the first heading, or under
blank headings only) -/
def docxLost1 (T : Tables) (st : List (Int × Str)) (p : DocxPara) : List Str :=
  if p.level = none ∧ pathOf st = [] ∧ strip T p.text ≠ [] then [strip T p.text] else []

/-- body pieces that occur under a non-empty heading path, in order (`st` = heading stack so far) -/
def docxKept (T : Tables) : List (Int × Str) → List DocxPara → List Str
  | _, [] => []
  | st, p :: r => docxKept1 T st p ++ docxKept T (nextStack T st p) r

/-- body pieces that occur while the heading path is empty, in order -/
def docxLost (T : Tables) : List (Int × Str) → List DocxPara → List Str
  | _, [] => []
  | st, p :: r => docxLost1 T st p ++ docxLost T (nextStack T st p) r

theorem docxKept_eq_bodies (T : Tables) (ps : List DocxPara) (st : List (Int × Str)) (h : docxLost T st ps = []) :
    docxKept T st ps = docxBodies T ps := by
  induction ps generalizing st with
  | nil => rfl
  | cons p r ih =>
    simp only [docxLost, List.append_eq_nil_iff] at h
    simp only [docxKept, docxBodies, ih _ h.2]
    congr 1
    have h1 := h.1
    unfold docxLost1 at h1
    unfold docxKept1
    -- the three tests differ in the clause on the path only
    by_cases hp : pathOf st = [] <;> simp_all

/-- DOCX's text assembly: it drops the lines whose `strip()` is empty, where `textOfLines` (DOC / ODT) drops the empty ones -/
def textOfLines' (T : Tables) (lines : List Str) : Str := strip T (joinNl (lines.filter (fun l => strip T l ≠ [])))

structure DocxInv (T : Tables) (s : DocxSt) : Prop where
  em : Emitted T (textOfLines' T) s.units s.lines
  pathEq : s.path = pathOf s.stackRev

/-- what is, or will be, in a unit: pending lines count only while the heading path is non-empty -/
def docxCov (s : DocxSt) : List Str := s.units.flatMap (·.lines) ++ (if s.path = [] then [] else s.lines)

theorem docxCov_of_lines_nil (s : DocxSt) (h : s.lines = []) : docxCov s = s.units.flatMap (·.lines) := by
  simp [docxCov, h]

theorem docxFlush_cases (T : Tables) (nx : Option Int) (s : DocxSt) :
    (docxFlush T nx s = s ∧ (s.path = [] ∨ (textOfLines' T s.lines = [] ∧ deeper nx s.level = true)))
    ∨ (s.path ≠ [] ∧ docxFlush T nx s = { s with units := s.units ++ [
        { number := s.units.length + 1, text := textOfLines' T s.lines, path := s.path, level := s.level, lines := s.lines,
          nImages := s.accImages, nTables := s.accTables }] }) := by
  unfold docxFlush
  split
  · rename_i hp; exact Or.inl ⟨rfl, Or.inl hp⟩
  · rename_i hp
    simp only
    split
    · rename_i hc; exact Or.inl ⟨rfl, Or.inr ⟨hc.1.1, hc.2⟩⟩
    · exact Or.inr ⟨hp, rfl⟩

theorem docxFlush_stackRev (T : Tables) (nx : Option Int) (s : DocxSt) : (docxFlush T nx s).stackRev = s.stackRev := by
  rcases docxFlush_cases T nx s with ⟨he, _⟩ | ⟨_, he⟩ <;> rw [he]

theorem docxFlush_level (T : Tables) (nx : Option Int) (s : DocxSt) : (docxFlush T nx s).level = s.level := by
  rcases docxFlush_cases T nx s with ⟨he, _⟩ | ⟨_, he⟩ <;> rw [he]

theorem docxFlush_path (T : Tables) (nx : Option Int) (s : DocxSt) : (docxFlush T nx s).path = s.path := by
  rcases docxFlush_cases T nx s with ⟨he, _⟩ | ⟨_, he⟩ <;> rw [he]

theorem docxFlush_any (T : Tables) (nx : Option Int) (s : DocxSt) : (docxFlush T nx s).any = s.any := by
  rcases docxFlush_cases T nx s with ⟨he, _⟩ | ⟨_, he⟩ <;> rw [he]

theorem docxFlush_spec (T : Tables) (nx : Option Int) (s : DocxSt) (h : Emitted T (textOfLines' T) s.units s.lines) :
    Emitted T (textOfLines' T) (docxFlush T nx s).units [] ∧ (docxFlush T nx s).units.flatMap (·.lines) = docxCov s := by
  rcases docxFlush_cases T nx s with ⟨he, hp | ⟨ht, _⟩⟩ | ⟨hp, he⟩ <;> rw [he]
  · exact ⟨h.clear, by simp [docxCov, hp]⟩
  · exact ⟨h.clear, by simp [docxCov, h.lines_nil _ (fun l hb => by simpa using (strip_ne_nil_iff T l).mpr hb) ht]⟩
  · exact ⟨h.emit rfl rfl, by simp [docxCov, List.flatMap_append, hp]⟩

theorem docxStep_spec (T : Tables) (s : DocxSt) (p : DocxPara) (rest : List DocxPara) (h : DocxInv T s) :
    DocxInv T (docxStep T s p rest) ∧ docxCov (docxStep T s p rest) = docxCov s ++ docxKept1 T s.stackRev p
    ∧ (docxStep T s p rest).any = (s.any || p.level.isSome)
    ∧ (docxStep T s p rest).stackRev = nextStack T s.stackRev p := by
  unfold docxStep
  cases hlv : p.level with
  | some lv =>
    simp only
    obtain ⟨he, hc⟩ := docxFlush_spec T (some lv) { s with any := true } h.em
    refine ⟨⟨he, rfl⟩, ?_, by simp [docxFlush_any], by simp [nextStack, hlv, docxFlush_stackRev]⟩
    simp [docxCov, docxKept1, hlv, hc]
  | none =>
    simp only
    have h0 : Emitted T (textOfLines' T) (docxBump s p).units (docxBump s p).lines := h.em
    have hany : (docxBump s p).any = s.any := rfl
    have hpath : (docxBump s p).path = s.path := rfl
    have hstack : (docxBump s p).stackRev = s.stackRev := rfl
    have hcov : docxCov (docxBump s p) = docxCov s := rfl
    split
    · rename_i hc
      obtain ⟨he, hcv⟩ := docxFlush_spec T none _ h0
      refine ⟨⟨he, by simp [docxFlush_path, docxFlush_stackRev, hpath, hstack, h.pathEq]⟩, ?_, by simp [docxFlush_any, hany],
        by simp [nextStack, hlv, docxFlush_stackRev, hstack]⟩
      rw [docxCov_of_lines_nil _ rfl, hcv, hcov]
      -- the fourth clause of the test: a page-break paragraph that is flushed has no text
      simp [docxKept1, hlv, hc.2.2.2.1]
    · split
      · rename_i ht
        refine ⟨⟨h0.push (blank_strip_of_ne T _ ht), h.pathEq⟩, ?_, by simp [hany], by simp [nextStack, hlv, hstack]⟩
        rw [← hcov]
        simp only [docxCov, docxKept1, hlv, ← h.pathEq, hpath, ht, ne_eq, not_false_eq_true, and_true, true_and]
        by_cases hp : s.path = [] <;> simp [hp]
      · rename_i ht
        refine ⟨⟨h0, h.pathEq⟩, ?_, by simp [hany], by simp [nextStack, hlv, hstack]⟩
        simp [hcov, docxKept1, hlv, ht]

theorem docxBodies_cons (T : Tables) (p : DocxPara) (r : List DocxPara) :
    docxBodies T (p :: r) = docxBodies T [p] ++ docxBodies T r := by
  simp [docxBodies]

theorem docxLoop_spec (T : Tables) (ps : List DocxPara) (s : DocxSt) (h : DocxInv T s) :
    DocxInv T (docxLoop T s ps) ∧ docxCov (docxLoop T s ps) = docxCov s ++ docxKept T s.stackRev ps
    ∧ (docxLoop T s ps).any = (s.any || ps.any (·.level.isSome)) := by
  induction ps generalizing s with
  | nil => simp [docxLoop, docxKept, h]
  | cons p r ih =>
    obtain ⟨h1, c1, a1, st1⟩ := docxStep_spec T s p r h
    obtain ⟨h2, c2, a2⟩ := ih (docxStep T s p r) h1
    refine ⟨h2, ?_, ?_⟩
    · simp only [docxLoop, docxKept]
      rw [c2, c1, st1, List.append_assoc]
    · simp only [docxLoop]
      rw [a2, a1]; simp [Bool.or_assoc]

theorem docxInv_init (T : Tables) : DocxInv T {} := ⟨.nil, rfl⟩

theorem docxLoop_any (T : Tables) (ps : List DocxPara) : (docxLoop T {} ps).any = ps.any (·.level.isSome) :=
  (docxLoop_spec T ps {} (docxInv_init T)).2.2

theorem docxUnits_of_heading (T : Tables) (d : Docx) (hh : d.paragraphs.any (·.level.isSome) = true) :
    docxUnits T d = (docxFlush T none (docxLoop T {} d.paragraphs)).units := by
  have hne : d.paragraphs ≠ [] := by intro hc; rw [hc] at hh; simp at hh
  simp only [docxUnits, hne, ne_eq, not_false_eq_true, if_true, docxFlush_any, docxLoop_any, hh]

/-- stripped non-blank texts of the heading paragraphs -/
def docxHeads (T : Tables) : List DocxPara → List Str
  | [] => []
  | p :: r => (if p.level.isSome ∧ strip T p.text ≠ [] then [strip T p.text] else []) ++ docxHeads T r

theorem pathOf_cons (x : Int × Str) (st : List (Int × Str)) :
    pathOf (x :: st) = pathOf st ++ (if x.2 ≠ [] then [x.2] else []) := by
  unfold pathOf
  simp only [List.reverse_cons, List.map_append, List.filter_append, List.map_cons, List.map_nil]
  congr 1
  by_cases h : x.2 = [] <;> simp [h]

theorem popStack_of_top_lt (lv c : Int) (t : Str) (r : List (Int × Str)) (h : lv > c) :
    popStack lv ((c, t) :: r) = (c, t) :: r := by
  unfold popStack
  have : ¬ c ≥ lv := by omega
  simp [this]

/-- a flush keeps a heading text reachable: afterwards it is in the path of a unit, or nothing was emitted because a
deeper heading follows, and it is still in the current path -/
theorem docxFlush_cov (T : Tables) (nx : Option Int) (s : DocxSt) (x : Str) (h : x ∈ s.path ∨ ∃ u ∈ s.units, x ∈ u.path) :
    (∃ u ∈ (docxFlush T nx s).units, x ∈ u.path) ∨ (docxFlush T nx s = s ∧ x ∈ s.path ∧ deeper nx s.level = true) := by
  rcases docxFlush_cases T nx s with ⟨he, hcase⟩ | ⟨_, he⟩
  · rcases h with hp | hu
    · rcases hcase with hnil | ⟨_, hdeep⟩
      · rw [hnil] at hp; cases hp
      · exact Or.inr ⟨he, hp, hdeep⟩
    · exact Or.inl (he.symm ▸ hu)
  · rw [he]
    rcases h with hp | ⟨w, hw, hxw⟩
    · exact Or.inl ⟨_, List.mem_append_right _ (List.mem_singleton.mpr rfl), hp⟩
    · exact Or.inl ⟨w, by simp [hw], hxw⟩

structure HInv (s : DocxSt) (seen : List Str) : Prop where
  top : (s.stackRev.head?).map (·.1) = s.level
  cov : ∀ h ∈ seen, h ∈ s.path ∨ ∃ u ∈ s.units, h ∈ u.path

theorem docxStep_heads (T : Tables) (s : DocxSt) (p : DocxPara) (rest : List DocxPara) (seen : List Str)
    (hpath : s.path = pathOf s.stackRev) (h : HInv s seen) :
    HInv (docxStep T s p rest) (seen ++ docxHeads T [p]) := by
  unfold docxStep
  cases hlv : p.level with
  | some lv =>
    simp only
    -- the new heading, if it has text, ends the new path
    have hnew : ∀ x ∈ docxHeads T [p], ∀ st, x ∈ pathOf ((lv, strip T p.text) :: st) := by
      intro x hx st
      simp only [docxHeads, hlv, Option.isSome_some, true_and, List.append_nil] at hx
      rw [pathOf_cons]
      exact List.mem_append_right _ hx
    refine ⟨rfl, fun x hx => ?_⟩
    rcases List.mem_append.mp hx with hx | hx
    · rcases docxFlush_cov T (some lv) { s with any := true } x (h.cov x hx) with hu | ⟨he, hp, hdeep⟩
      · exact Or.inr hu
      · -- nothing emitted, a deeper heading: the old stack top stays below the new heading
        rw [he]
        left
        simp only at hp hdeep ⊢
        have htop := h.top
        cases hst : s.stackRev with
        | nil => rw [hst] at htop; simp at htop; rw [← htop] at hdeep; simp [deeper] at hdeep
        | cons a r =>
          rw [hst] at htop; simp at htop
          rw [← htop] at hdeep
          simp only [deeper, decide_eq_true_eq] at hdeep
          obtain ⟨c, t⟩ := a
          rw [popStack_of_top_lt lv c t r hdeep, pathOf_cons]
          apply List.mem_append_left
          rw [← hst, ← hpath]; exact hp
    · exact Or.inl (hnew x hx _)
  | none =>
    simp only
    have hseen : seen ++ docxHeads T [p] = seen := by simp [docxHeads, hlv]
    rw [hseen]
    have h0 : HInv (docxBump s p) seen := ⟨h.top, h.cov⟩
    generalize docxBump s p = s0 at *
    split
    · refine ⟨by simpa only [docxFlush_stackRev, docxFlush_level] using h0.top, fun x hx => ?_⟩
      rcases docxFlush_cov T none s0 x (h0.cov x hx) with hu | ⟨_, _, hd⟩
      · exact Or.inr hu
      · simp [deeper] at hd
    · split
      · exact ⟨h0.top, h0.cov⟩
      · exact h0

theorem docxHeads_cons (T : Tables) (p : DocxPara) (r : List DocxPara) : docxHeads T (p :: r) = docxHeads T [p] ++ docxHeads T r := by
  simp [docxHeads]

theorem docxLoop_heads (T : Tables) (ps : List DocxPara) (s : DocxSt) (seen : List Str) (hd : DocxInv T s) (h : HInv s seen) :
    HInv (docxLoop T s ps) (seen ++ docxHeads T ps) := by
  induction ps generalizing s seen with
  | nil => simpa [docxLoop, docxHeads] using h
  | cons p r ih =>
    have := ih _ _ (docxStep_spec T s p r hd).1 (docxStep_heads T s p r seen hd.pathEq h)
    simp only [docxLoop]
    rw [docxHeads_cons, ← List.append_assoc]
    exact this

theorem docxHeads_any (T : Tables) (ps : List DocxPara) (x : Str) (hx : x ∈ docxHeads T ps) :
    ps.any (·.level.isSome) = true := by
  induction ps with
  | nil => simp [docxHeads] at hx
  | cons p r ih => by_cases hl : p.level.isSome = true <;> simp_all [docxHeads]

theorem hinv_init : HInv {} [] := ⟨rfl, by simp⟩

theorem slideOrder_eq_filterMap (rels : List Rel) (ids : List (Option Str)) :
    slideOrder rels ids = ids.filterMap (sldResolve rels) :=
  rfl  -- the function `slideOrder` maps is `sldResolve` written out

/-- the buffer ends in a high surrogate (its low half, if any, would be in the next page's buffer) -/
def endsHigh : List Nat → Bool
  | [] => false
  | [c] => isHighSur c
  | _ :: r => endsHigh r

/-- number of `\page` / `\sbkpage` events -/
def rtfBreaks : List RtfEv → Nat
  | [] => 0
  | .brk :: r => rtfBreaks r + 1
  | .ch _ :: r => rtfBreaks r

theorem isSur_of_high {c : Nat} (h : isHighSur c = true) : isSur c = true := by
  simp only [isHighSur, isSur, Bool.and_eq_true, decide_eq_true_eq] at *
  omega

theorem not_high_of_low {c : Nat} (h : isLowSur c = true) : isHighSur c = false := by
  simp only [isHighSur, isLowSur, Bool.and_eq_true, decide_eq_true_eq, Bool.and_eq_false_iff, decide_eq_false_iff_not] at *
  omega

theorem endsHigh_cons_cons (a b : Nat) (r : List Nat) : endsHigh (a :: b :: r) = endsHigh (b :: r) := by
  simp [endsHigh]

theorem combineSur_cons_of_not_high (c : Nat) (r : List Nat) (h : isHighSur c = false) :
    combineSur (c :: r) = (if isSur c then 0xFFFD else c) :: combineSur r := by
  cases r with
  | nil => by_cases hs : isSur c = true <;> simp [combineSur, hs]
  | cons l r => simp [combineSur, h]

theorem combineSur_pair (h l : Nat) (r : List Nat) (hp : (isHighSur h && isLowSur l) = true) :
    combineSur (h :: l :: r) = (0x10000 + (h - 0xD800) * 0x400 + (l - 0xDC00)) :: combineSur r := by
  simp [combineSur, hp]

theorem combineSur_nonpair (h l : Nat) (r : List Nat) (hp : ¬(isHighSur h && isLowSur l) = true) :
    combineSur (h :: l :: r) = (if isSur h then 0xFFFD else h) :: combineSur (l :: r) := by
  simp [combineSur, hp]

/-- cutting a buffer where it does not end in a high surrogate commutes with combining the pairs -/
theorem combineSur_append (a b : List Nat) (h : endsHigh a = false) :
    combineSur (a ++ b) = combineSur a ++ combineSur b := by
  induction a using combineSur.induct with
  | case1 => simp [combineSur]
  | case2 c _ | case3 c _ =>
    have hc : isHighSur c = false := by simpa [endsHigh] using h
    rw [List.singleton_append, combineSur_cons_of_not_high c b hc, combineSur_cons_of_not_high c [] hc]
    simp [combineSur]
  | case4 hi lo r hp ih =>
    have hr : endsHigh r = false := by
      cases r with
      | nil => rfl
      | cons x xs => rw [endsHigh_cons_cons, endsHigh_cons_cons] at h; exact h
    simp only [List.cons_append, combineSur_pair _ _ _ hp, ih hr]
  | case5 hi lo r hp ih =>
    have hr : endsHigh (lo :: r) = false := by rw [endsHigh_cons_cons] at h; exact h
    have := ih hr
    simp only [List.cons_append] at this ⊢
    simp only [combineSur_nonpair _ _ _ hp, this, List.cons_append]

theorem combineSur_flatten (ps : List (List Nat)) (h : ∀ p ∈ ps, endsHigh p = false) :
    (ps.map combineSur).flatten = combineSur ps.flatten := by
  induction ps with
  | nil => simp [combineSur]
  | cons p r ih =>
    simp only [List.map_cons, List.flatten_cons]
    rw [combineSur_append p _ (h p (by simp)), ih (fun q hq => h q (by simp [hq]))]

/-- where a code point of the combined text comes from: it is a non-surrogate of the input, the replacement character, or
what a high / low pair encodes, a character beyond U+FFFF -/
theorem mem_combineSur {l : List Nat} {x : Nat} (hx : x ∈ combineSur l) :
    (x ∈ l ∧ isSur x = false) ∨ x = 0xFFFD ∨ (0x10000 ≤ x ∧ x < 0x110000) := by
  induction l using combineSur.induct with
  | case1 => simp [combineSur] at hx
  | case2 c hs => right; left; simpa [combineSur, hs] using hx
  | case3 c hs =>
    simp [combineSur, hs] at hx
    exact Or.inl ⟨by simp [hx], by simpa [hx] using hs⟩
  | case4 hi lo r hp ih =>
    rw [combineSur_pair hi lo r hp, List.mem_cons] at hx
    rcases hx with hx | hx
    · simp only [isHighSur, isLowSur, Bool.and_eq_true, decide_eq_true_eq] at hp
      right; right; omega
    · exact (ih hx).imp_left fun h => ⟨by simp [h.1], h.2⟩
  | case5 hi lo r hp ih =>
    rw [combineSur_nonpair hi lo r hp, List.mem_cons] at hx
    rcases hx with rfl | hx
    · by_cases hs : isSur hi = true
      · right; left; simp [hs]
      · left; simp [hs]
    · exact (ih hx).imp_left fun h => ⟨List.mem_cons_of_mem _ h.1, h.2⟩

theorem combineSur_no_sur (l : List Nat) : ∀ x ∈ combineSur l, isSur x = false := by
  intro x hx
  rcases mem_combineSur hx with h | rfl | h
  · exact h.2
  · rfl
  · simp only [isSur, Bool.and_eq_false_iff, decide_eq_false_iff_not]; omega

theorem combineSur_lt (l : List Nat) (h : ∀ c ∈ l, c < 0x110000) : ∀ x ∈ combineSur l, x < 0x110000 := by
  intro x hx
  rcases mem_combineSur hx with hl | rfl | hp
  · exact h x hl.1
  · omega
  · exact hp.2

/-- the early return of `_combine_surrogates` on text without surrogates is not a special case -/
theorem combineSur_id (l : List Nat) (h : ∀ x ∈ l, isSur x = false) : combineSur l = l := by
  induction l with
  | nil => rfl
  | cons c r ih =>
    have hc : isSur c = false := h c (by simp)
    have hh : isHighSur c = false :=
      Bool.eq_false_iff.mpr fun hq => Bool.false_ne_true (hc.symm.trans (isSur_of_high hq))
    rw [combineSur_cons_of_not_high c r hh, ih (fun x hx => h x (by simp [hx]))]
    simp [hc]

/-- with an explicit break (two or more pieces) every piece becomes a page, blank or not -/
theorem rtfFlushPages_of_two_le (T : Tables) {pieces : List Str} (h : 2 ≤ pieces.length) :
    rtfFlushPages T pieces = pieces.map (rtfPageText T) := by
  match pieces, h with
  | p :: q :: r, _ => rfl

theorem rtfPiecesAux_flatten (evs : List RtfEv) (cur : List Nat) :
    (rtfPiecesAux evs cur).flatten = cur.reverse ++ rtfChars evs := by
  induction evs generalizing cur with
  | nil => simp [rtfPiecesAux, rtfChars]
  | cons e r ih =>
    cases e <;> simp [rtfPiecesAux, rtfChars, ih]

theorem rtfPiecesAux_length (evs : List RtfEv) (cur : List Nat) :
    (rtfPiecesAux evs cur).length = rtfBreaks evs + 1 := by
  induction evs generalizing cur with
  | nil => simp [rtfPiecesAux, rtfBreaks]
  | cons e r ih =>
    cases e <;> simp [rtfPiecesAux, rtfBreaks, ih]

end S2T.Units
