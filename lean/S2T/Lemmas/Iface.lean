import S2T.Model.Iface
import S2T.Lemmas.Units
import S2T.Lemmas.ListBasics
namespace S2T.Iface

theorem maxLen_ge {α : Type} (t : List (List α)) : ∀ r ∈ t, r.length ≤ maxLen t := by
  induction t with
  | nil => intro r h; cases h
  | cons x xs ih =>
    simp only [maxLen]
    exact List.forall_mem_cons.mpr ⟨Nat.le_max_left _ _, fun r h => Nat.le_trans (ih r h) (Nat.le_max_right _ _)⟩

theorem maxLen_attained {α : Type} (t : List (List α)) (h : t ≠ []) : ∃ r ∈ t, r.length = maxLen t := by
  induction t with
  | nil => exact absurd rfl h
  | cons x xs ih =>
    simp only [maxLen]
    by_cases hx : xs = []
    · subst hx; exact ⟨x, List.mem_cons_self, by simp [maxLen]⟩
    · obtain ⟨r, hr, hl⟩ := ih hx
      by_cases hc : maxLen xs ≤ x.length
      · exact ⟨x, List.mem_cons_self, by rw [Nat.max_eq_left hc]⟩
      · refine ⟨r, List.mem_cons_of_mem _ hr, ?_⟩
        rw [hl, Nat.max_eq_right (by omega)]

theorem maxLen_rect {α : Type} (t : List (List α)) (c : Nat) (h : ∀ r ∈ t, r.length = c) (hne : t ≠ []) :
    maxLen t = c := by
  obtain ⟨r, hr, hl⟩ := maxLen_attained t hne
  rw [← hl]; exact h r hr

theorem enumerateFrom_eq_zipIdx {α : Type} (xs : List α) :
    ∀ start, enumerateFrom start xs = (xs.zipIdx start).map fun p => (p.2, p.1) := by
  induction xs with
  | nil => intro s; rfl
  | cons x xs ih => intro s; simp [enumerateFrom, ih]

theorem enumerateFrom_ge {α : Type} (xs : List α) (start : Nat) : ∀ p ∈ enumerateFrom start xs, start ≤ p.1 := by
  simp only [enumerateFrom_eq_zipIdx, List.mem_map, forall_exists_index, and_imp]
  rintro _ q hq rfl
  exact List.le_snd_of_mem_zipIdx hq

theorem counterLoop_eq_range' {α : Type} (keep : α → Bool) (xs : List α) :
    ∀ c, counterLoop keep c xs = List.range' (c + 1) (xs.filter keep).length := by
  induction xs with
  | nil => intro c; rfl
  | cons x xs ih => intro c; by_cases h : keep x = true <;> simp [counterLoop, h, ih, List.range'_succ]

theorem counterLoop_gt {α : Type} (keep : α → Bool) (xs : List α) (c : Nat) : ∀ n ∈ counterLoop keep c xs, c < n := by
  intro n hn
  rw [counterLoop_eq_range'] at hn
  exact (List.mem_range'_1.mp hn).1

theorem getPageForPosition_ge (position : Nat) (bps : List Nat) : ∀ page, page ≤ getPageForPosition position bps page := by
  induction bps with
  | nil => intro p; exact Nat.le_refl _
  | cons b bs ih =>
    intro p
    simp only [getPageForPosition]
    split
    · exact Nat.le_trans (Nat.le_succ p) (ih (p + 1))
    · exact Nat.le_refl _

theorem scalar_lt {c : Nat} (h : scalar c = true) : c < 0x110000 := by
  simp [scalar] at h; exact h.1

theorem scalar_of_not_surrogate {c : Nat} (h1 : c < 0x110000) (h2 : isSurrogate c = false) : scalar c = true := by
  simp [scalar, h1, h2]

/-- `_combine_surrogates` is modelled twice (in `S2T/Model/Iface.lean` for the text interface, in `S2T/Model/Units.lean` for the
RTF pages): the two are the same function, so its lemmas are proved once, for `Units.combineSur`.  The range tests of the two
models (`isSurrogate / isHigh / isLow`, `isSur / isHighSur / isLowSur`) unfold to the same comparisons, which is why `rfl` closes
the pair case; on one element the models differ only in where the `if` stands (`[if … ]` here, `if … then [·] else [·]` there) -/
theorem combineSurrogates_eq_combineSur : ∀ l : CPs, combineSurrogates l = S2T.Units.combineSur l
  | [] => rfl
  | [c] => apply_ite (fun x => [x]) (isSurrogate c = true) 0xFFFD c
  | c :: d :: rest => by
    rw [combineSurrogates, S2T.Units.combineSur, combineSurrogates_eq_combineSur rest, combineSurrogates_eq_combineSur (d :: rest)]
    rfl

theorem uParamToUnit_lt (n : Int) : uParamToUnit n < 65536 := by
  unfold uParamToUnit
  have h1 : 0 ≤ n % 65536 := Int.emod_nonneg n (by decide)
  have h2 : n % 65536 < 65536 := Int.emod_lt_of_pos n (by decide)
  omega

theorem wellFormed_cons (c : Nat) (cs : CPs) : wellFormed (c :: cs) = true ↔ scalar c = true ∧ wellFormed cs = true := by
  simp [wellFormed]

theorem wellFormed_append (a b : CPs) : wellFormed (a ++ b) = (wellFormed a && wellFormed b) := by
  simp [wellFormed, List.all_append]

theorem matchDigits_unit {dig : DigitVal} {neg : Bool} {cs : CPs} {u k : Nat}
    (h : matchDigits dig neg cs = some (u, k)) : u < 65536 := by
  unfold matchDigits at h
  split at h
  · cases h
  · simp only [Option.some.injEq, Prod.mk.injEq] at h
    rw [← h.1]; exact uParamToUnit_lt _

theorem matchUParam_unit {dig : DigitVal} {cs : CPs} {u k : Nat}
    (h : matchUParam dig cs = some (u, k)) : u < 65536 := by
  unfold matchUParam at h
  split at h
  · simp only [Option.map_eq_some_iff, Prod.mk.injEq] at h
    obtain ⟨⟨u', k'⟩, hm, hu, _⟩ := h
    have := matchDigits_unit hm
    simp only at hu; omega
  · exact matchDigits_unit h

/-- every element of the `\uN` pass output is an input element or a 16-bit unit -/
theorem subUnicodeAux_bound (dig : DigitVal) (B : Nat) (hB : 65536 ≤ B) :
    ∀ (skip : Nat) (cs : CPs), (∀ c ∈ cs, c < B) → ∀ c ∈ subUnicodeAux dig skip cs, c < B := by
  intro skip cs
  -- every recursive call is on the tail of the input
  have tl : ∀ {x : Nat} {cs : CPs}, (∀ c ∈ x :: cs, c < B) → ∀ c ∈ cs, c < B := fun h => (List.forall_mem_cons.mp h).2
  fun_induction subUnicodeAux dig skip cs with
  | case1 => intro _ c h; cases h
  | case2 skip x cs ih => exact fun h => ih (tl h)
  | case3 rest u k hm ih => exact fun h => List.forall_mem_cons.mpr ⟨by have := matchUParam_unit hm; omega, ih (tl h)⟩
  | case4 rest hm ih => exact fun h => List.forall_mem_cons.mpr ⟨h 92 (by simp), ih (tl h)⟩
  | case5 x cs hne ih => exact fun h => List.forall_mem_cons.mpr ⟨h x (by simp), ih (tl h)⟩

theorem subUnicode_bound (dig : DigitVal) (B : Nat) (hB : 65536 ≤ B) (cs : CPs) (h : ∀ c ∈ cs, c < B) :
    ∀ c ∈ subUnicode dig cs, c < B := subUnicodeAux_bound dig B hB 0 cs h

theorem hexVal_le {a : Nat} (h : isHexDigit a = true) : hexVal a ≤ 15 := by
  simp only [isHexDigit, Bool.or_eq_true, Bool.and_eq_true, decide_eq_true_eq] at h
  unfold hexVal
  split
  · omega
  · split <;> omega

/-- `subHex` keeps well-formedness: it only inserts code points below 256 -/
theorem subHexAux_wellFormed (skip : Nat) (cs : CPs) : wellFormed cs = true → wellFormed (subHexAux skip cs) = true := by
  have cons : ∀ {c : Nat} {cs r : CPs}, (wellFormed cs = true → wellFormed r = true) →
      wellFormed (c :: cs) = true → wellFormed (c :: r) = true := fun ih h =>
    (wellFormed_cons _ _).mpr ⟨((wellFormed_cons _ _).mp h).1, ih ((wellFormed_cons _ _).mp h).2⟩
  fun_induction subHexAux skip cs with
  | case1 => exact id
  | case2 skip x cs ih => exact fun h => ih ((wellFormed_cons _ _).mp h).2
  | case3 a b rest hab ih =>
    refine fun h => (wellFormed_cons _ _).mpr ⟨?_, ih ((wellFormed_cons _ _).mp h).2⟩
    simp only [Bool.and_eq_true] at hab
    have ha := hexVal_le hab.1
    have hb := hexVal_le hab.2
    simp only [scalar, isSurrogate, Bool.and_eq_true, decide_eq_true_eq, Bool.not_eq_true', Bool.and_eq_false_iff,
      decide_eq_false_iff_not]
    omega
  | case4 a b rest hab ih => exact cons ih
  | case5 c cs hne ih => exact cons ih

theorem subHex_wellFormed (cs : CPs) (h : wellFormed cs = true) : wellFormed (subHex cs) = true :=
  subHexAux_wellFormed 0 cs h

theorem splitSlash_eq (s : Str) : splitSlash s = s.splitOn '/' :=
  List.eq_splitOn '/' _ rfl (fun x r p ps h => by rw [splitSlash, h]) s

theorem splitSlash_ne_nil (s : Str) : splitSlash s ≠ [] := splitSlash_eq s ▸ List.splitOn_ne_nil '/' s

/-- name of a relative part: last component that is neither empty nor `.` -/
def relName (rel : Str) : Str := (((splitSlash rel).filter fun x => x ≠ [] && x ≠ ['.']).getLast?).getD []

theorem relName_last (pre m : Str) (h1 : '/' ∉ m) (h2 : m ≠ []) (h3 : m ≠ ['.']) :
    relName (pre ++ '/' :: m) = m := by
  unfold relName
  rw [splitSlash_eq, List.splitOn_append_cons_self, List.splitOn_eq_singleton h1, List.filter_append]
  have : ([m].filter fun x => x ≠ [] && x ≠ ['.']) = [m] := by simp [h2, h3]
  rw [this]; simp

theorem relName_single (m : Str) (h1 : '/' ∉ m) (h2 : m ≠ []) (h3 : m ≠ ['.']) : relName m = m := by
  unfold relName
  rw [splitSlash_eq, List.splitOn_eq_singleton h1]
  simp [h2, h3]

theorem relName_no_slash (s : Str) : '/' ∉ relName s := by
  unfold relName
  generalize hl : ((splitSlash s).filter fun x => x ≠ [] && x ≠ ['.']) = l
  cases hg : l.getLast? with
  | none => simp
  | some x =>
    simp only [Option.getD_some]
    have hx : x ∈ l := List.mem_of_getLast? hg
    rw [← hl] at hx
    exact List.not_mem_of_mem_splitOn x (splitSlash_eq s ▸ (List.mem_filter.mp hx).1)

/-- `splitroot` only takes leading slashes away; they give empty components, which `PurePosixPath` drops anyway -/
theorem filter_splitRoot (s : Str) :
    ((splitSlash (splitRoot s).2).filter fun x => x ≠ [] && x ≠ ['.']) = (splitSlash s).filter fun x => x ≠ [] && x ≠ ['.'] := by
  unfold splitRoot
  split <;> simp [splitSlash]

theorem name_eq_relName (s : Str) : (parsePath s).name = relName s := by
  simp only [parsePath, PurePath.name, relName, filter_splitRoot]

theorem rfindDot_none (cs : Str) (h : rfindDot cs = none) : '.' ∉ cs := by
  fun_induction rfindDot cs with
  | case1 => exact List.not_mem_nil
  | case2 | case3 => cases h
  | case4 c cs hn hc ih => exact fun hm => (List.mem_cons.mp hm).elim (fun e => hc e.symm) (ih hn)

theorem rfindDot_spec (name : Str) (i : Nat) (h : rfindDot name = some i) :
    i < name.length ∧ (name.drop i).head? = some '.' ∧ '.' ∉ (name.drop i).tail := by
  fun_induction rfindDot name generalizing i with
  | case1 | case4 => cases h
  | case2 c cs j hj ih =>
    cases h
    have := ih j hj
    exact ⟨Nat.succ_lt_succ this.1, this.2⟩
  | case3 cs hn => cases h; exact ⟨Nat.zero_lt_succ _, rfl, rfindDot_none cs hn⟩

end S2T.Iface
