import S2T.Lemmas.LitAttr
import S2T.Lemmas.OdfNames
import S2T.Spec.C02SheetsDoc
/-! The `lit` set for the ODF names and the renderers of the C02 'sheets' documents.  `List.map` and `List.append` are in
it because the tag tables are written `["…", …].map String.toList` and the renderers append attribute lists: only after
these are unfolded does every literal stand directly under `String.toList`.  The list is kept by hand: a definition of
Spec/C02SheetsDoc or Lemmas/OdfNames whose body hides a string literal and that a closed fact of Props/C02_Sheets reaches
must be in it, or the kernel decodes that literal (Lemmas/Chars says what that costs).  `Ods.stdKinds` is defined after this
file and is handed to `simp` by name where it occurs; `vkindName` is not in the set, the closed
facts that reach it evaluate its six names in the kernel. -/
namespace S2T.C02.Sheets
open S2T.OdfDoc

attribute [lit] q_eq nsOffice nsText nsTable nsDraw nsXlink nsSvg nsPres tS tTab tLb aC tP tSpan tA tNote tNoteCit tNoteBody
  tAnnot tCreator tBookmark stdFmt leaf rInl rInls
  titleStyles bodyStyles otherStyles styleOf gkindTag rPara rTB rTBs rCellP rTCell rTRow rFrameBody rFrame rShape rNotes
  rSlide renderOdp vkindAttr rOCell rORow rOSheet renderOds
  EpubDoc.inlineTags EpubDoc.blockTags EpubDoc.sBr EpubDoc.sTitle List.map List.append

end S2T.C02.Sheets
