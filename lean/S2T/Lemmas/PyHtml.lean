import S2T.Lemmas.Py
import S2T.Lemmas.PyPaths
import S2T.Py.Html
import S2T.Lemmas.C02OdfTok
/-!
Lemmas for the equivalence proofs of `Props/C17_Src.lean` (translated handler methods of `_HtmlTreeBuilder` and
`_XhtmlTextExtractor` = transitions of `S2T/Model/HtmlSkip.lean`).  Core Lean only; every declaration is in `S2T.Py.Html`.

Two ideas carry the heap of node objects.  Children are allocated after their parents and siblings in order, so the tree below an address is read without
fuel (`readNode`) and a finished subtree occupies an interval of addresses (`Within`, `Chain`): a heap that agrees with the old
one on that interval reads the same subtree (the `.frame` lemmas), which is what every handler's update comes down to.  And each
heap operation a handler performs has one lemma (`InvAt.grow` … `InvAt.init`: the invariant is kept, and `absTree` of the new
object is the model's operation on `absTree` of the old one) in which the new object is described by equations on its fields,
closed by `rfl` at the call, never by the shape of the generated code.
-/
namespace S2T.Py.Html
open S2T.Py S2T.HtmlSkip

theorem strJoin_eq_joinWith (sep : Str) (l : List Str) : strJoin sep l = Epub.joinWith sep l := by
  induction l with
  | nil => rfl
  | cons s t ih =>
    cases t with
    | nil => rfl
    | cons t1 t2 => simp only [strJoin, Epub.joinWith, ih]

/-- `split()` one character at a time is `Tok.tokens`: `acc` holds the finished pieces, `cur` the begun one -/
theorem go_eq_toks (s cur : Str) (acc : List Str) :
    Epub.pySplit.go s cur acc
      = acc.reverse ++ Tok.glue (cur.reverse ++ (Tok.toks Epub.isPySpace s).1, (Tok.toks Epub.isPySpace s).2) := by
  induction s generalizing cur acc with
  | nil => cases cur <;> simp [Epub.pySplit.go, Tok.toks, Tok.glue]
  | cons c r ih =>
    by_cases hc : Epub.isPySpace c = true
    · have e : Tok.toks Epub.isPySpace (c :: r) = ([], Tok.glue (Tok.toks Epub.isPySpace r)) := by
        simp only [Tok.toks, hc, if_true, Tok.glue]
      simp only [Epub.pySplit.go, hc, if_true, ih, e, List.reverse_nil, List.nil_append]
      -- what is left holds of any value of the tokenised rest
      generalize Tok.glue (Tok.toks Epub.isPySpace r) = g
      cases cur <;> simp [Tok.glue]
    · simp [Epub.pySplit.go, Tok.toks, Tok.glue, hc, ih]

theorem pySplit_eq_tokens (s : Str) : Epub.pySplit s = Tok.tokens Epub.isPySpace s := by
  simp [Epub.pySplit, go_eq_toks, Tok.tokens]

theorem pySplit_strip (s : Str) : Epub.pySplit (strStrip s) = Epub.pySplit s := by
  rw [pySplit_eq_tokens, pySplit_eq_tokens]; exact Tok.tokens_strip s

def Word (w : Str) : Prop := w ≠ [] ∧ ∀ c ∈ w, Epub.isPySpace c = false

theorem pySplit_words (s : Str) : ∀ w ∈ Epub.pySplit s, Word w := by
  rw [pySplit_eq_tokens]; exact Tok.token_ok s

theorem joinWith_last (sep : Str) (ws : List Str) (hne : ws ≠ []) (hw : ∀ w ∈ ws, Word w) :
    ∃ pre c, Epub.joinWith sep ws = pre ++ [c] ∧ Epub.isPySpace c = false := by
  induction ws with
  | nil => exact absurd rfl hne
  | cons w r ih =>
    cases r with
    | nil =>
      have ⟨h1, h2⟩ := hw w (by simp)
      refine ⟨w.dropLast, w.getLast h1, ?_, h2 _ (List.getLast_mem h1)⟩
      simp [Epub.joinWith, List.dropLast_concat_getLast]
    | cons w2 r2 =>
      obtain ⟨pre, c, e, hc⟩ := ih (by simp) (fun x hx => hw x (List.mem_cons_of_mem _ hx))
      exact ⟨w ++ sep ++ pre, c, by simp [Epub.joinWith, e], hc⟩

theorem strStrip_joinWith (sep : Str) (ws : List Str) (hw : ∀ w ∈ ws, Word w) :
    strStrip (Epub.joinWith sep ws) = Epub.joinWith sep ws := by
  cases ws with
  | nil => rfl
  | cons w r =>
    obtain ⟨pre, c, e, hc⟩ := joinWith_last sep (w :: r) (by simp) hw
    have ⟨h1, h2⟩ := hw w (by simp)
    obtain ⟨a, w', rfl⟩ := List.exists_cons_of_ne_nil h1
    have ha : Epub.isPySpace a = false := h2 a (by simp)
    have hl : (Epub.joinWith sep ((a :: w') :: r)).dropWhile Epub.isPySpace = Epub.joinWith sep ((a :: w') :: r) := by
      cases r <;> simp [Epub.joinWith, ha]
    unfold strStrip
    rw [hl, e]
    simp [hc]

theorem cellText_eq (cell : List Str) :
    strStrip (strJoin [' '] (strSplitWs (strStrip (strJoin [' '] cell)))) = Epub.cellText cell := by
  simp only [strSplitWs, pySplit_strip, strJoin_eq_joinWith, Epub.cellText]
  exact strStrip_joinWith _ _ (pySplit_words _)

theorem mapM_unwrap_filter (f : Str × Option Str → M (Str × Str)) (g : Str × Option Str → Bool)
    (hf : ∀ k v, f (k, some v) = Except.ok (k, v)) (hg : ∀ k v, g (k, v) = v.isSome) (a : Attrs) :
    List.mapM f (a.filter g) = Except.ok (a.filterMap fun kv => kv.2.map (fun v => (kv.1, v))) := by
  induction a with
  | nil => rfl
  | cons kv r ih =>
    obtain ⟨k, v⟩ := kv
    cases v with
    | none => simp [hg, ih]
    | some v => simp [hg, hf, ih, List.mapM_cons]

theorem dictOfPairs_filterMap (a : Attrs) :
    dictOfPairs (a.filterMap fun kv => kv.2.map (fun v => (kv.1, v))) = Tree.attrsDict a := by
  rw [dictOfPairs, Tree.attrsDict, List.foldl_filterMap]
  congr; funext d kv; cases kv.2 <;> rfl

/-- `{k: v for k, v in attrs if v is not None}`, whatever the shape of the two lambdas, is the model's `attrsDict` -/
theorem dictComp_attrs {β} (f : Str × Option Str → M (Str × Str)) (g : Str × Option Str → Bool)
    (hf : ∀ k v, f (k, some v) = Except.ok (k, v)) (hg : ∀ k v, g (k, v) = v.isSome) (a : Attrs)
    (k : List (Str × Str) → M β) :
    (List.mapM f (a.filter g) >>= fun l => k (dictOfPairs l)) = k (Tree.attrsDict a) := by
  rw [mapM_unwrap_filter f g hf hg, M.ok_bind, dictOfPairs_filterMap]

/-! `self.stack[-1]`, `self.stack.pop()`, `len(self.stack)`: the top of the stack is the LAST element, `s.stack = rs.reverse ++ [t]` -/

@[simp] theorem len_snoc_gt_one {α} (l : List α) (t : α) : (len (l ++ [t]) > 1) = (l ≠ []) := by
  cases l <;> simp [len] <;> omega

@[simp] theorem deref_of_some {α} {h : Heap α} {r : Nat} {o : α} (hr : h[r]? = some o) : deref h r = Except.ok o := by
  simp [deref, hr]

theorem getElem?_append_of_some {α} {h : List α} {r : Nat} {o : α} (hr : h[r]? = some o) (l : List α) :
    (h ++ l)[r]? = some o := by
  rw [List.getElem?_append_left (List.getElem?_eq_some_iff.1 hr).1]; exact hr

@[simp] theorem alloc_fst {α} (h : Heap α) (o : α) : (alloc h o).1 = h.length := rfl
@[simp] theorem alloc_snd {α} (h : Heap α) (o : α) : (alloc h o).2 = h ++ [o] := rfl
@[simp] theorem store_def {α} (h : Heap α) (r : Nat) (o : α) : store h r o = h.set r o := rfl

/-- what a dangling / ill-ordered reference is read as (never reached under `Inv`) -/
def noNode : Tree.Node := .mk [] [] [] [] []

/-- the tree below the object at address `r`.  Children are allocated after their parent, so addresses grow
    downwards; a child whose address is not larger is read as `noNode` (this is what makes the function total
    without fuel). -/
def readNode (h : Heap NodeObj) (r : Nat) : Tree.Node :=
  match _hr : h[r]? with
  | none => noNode
  | some o => .mk o.tag o.attrs o.text (o.children.map fun c => if r < c then readNode h c else noNode) o.tail
termination_by h.length - r
decreasing_by
  obtain ⟨hlt, _⟩ := List.getElem?_eq_some_iff.1 _hr
  omega

theorem readNode_eq {h : Heap NodeObj} {r : Nat} {o : NodeObj} (hr : h[r]? = some o) :
    readNode h r = .mk o.tag o.attrs o.text (o.children.map fun c => if r < c then readNode h c else noNode) o.tail := by
  rw [readNode]
  split
  · rename_i h0; rw [hr] at h0; cases h0
  · rename_i o' h0; rw [hr] at h0; cases h0; rfl

/-- the subtree at `r` is well formed (every child has a larger address than its parent and is allocated) and lies
    below the address `hi` -/
inductive Within (h : Heap NodeObj) (hi : Nat) : Nat → Prop
  | mk (r : Nat) (o : NodeObj) (hr : h[r]? = some o) (hlt : r < hi) (hgt : ∀ c ∈ o.children, r < c)
      (hch : ∀ c ∈ o.children, Within h hi c) : Within h hi r

theorem Within.lt {h : Heap NodeObj} {hi r} (w : Within h hi r) : r < hi := by cases w; assumption

theorem Within.mono {h : Heap NodeObj} {hi hi' r} (w : Within h hi r) (hle : hi ≤ hi') : Within h hi' r := by
  induction w with
  | mk r o hr hlt hgt _ ih => exact .mk r o hr (by omega) hgt ih

theorem Within.frame {h : Heap NodeObj} {hi r} (w : Within h hi r) :
    ∀ h' : Heap NodeObj, (∀ a, r ≤ a → a < hi → h'[a]? = h[a]?) → Within h' hi r ∧ readNode h' r = readNode h r := by
  induction w with
  | mk r o hr hlt hgt _ ih =>
    intro h' agree
    have e : h'[r]? = some o := by rw [agree r (Nat.le_refl r) hlt]; exact hr
    have ihc : ∀ c ∈ o.children, Within h' hi c ∧ readNode h' c = readNode h c := fun c hc =>
      ih c hc h' (fun a ha hb => agree a (by have := hgt c hc; omega) hb)
    refine ⟨.mk r o e hlt hgt (fun c hc => (ihc c hc).1), ?_⟩
    rw [readNode_eq e, readNode_eq hr]
    congr 1
    apply List.map_congr_left
    intro c hc
    rw [(ihc c hc).2]

/-- finished children `ks` of an open element, oldest first: each subtree lies below its successor, the last below `hi` -/
def Chain (h : Heap NodeObj) (hi : Nat) : List Nat → Prop
  | [] => True
  | k :: rest => Within h (rest.headD hi) k ∧ Chain h hi rest

theorem Chain.within_all {h : Heap NodeObj} {hi} : ∀ {ks}, Chain h hi ks → ∀ k ∈ ks, Within h hi k
  | [], _, _, hk => by cases hk
  | k :: rest, ⟨w, c⟩, x, hx => by
    have ih := Chain.within_all c
    rcases List.mem_cons.1 hx with rfl | hx
    · cases rest with
      | nil => exact w
      | cons k' r' => exact w.mono (Nat.le_of_lt (ih k' (by simp)).lt)
    · exact ih x hx

theorem Chain.headD_le {h : Heap NodeObj} {hi} {ks : List Nat} (c : Chain h hi ks) : ks.headD hi ≤ hi := by
  cases ks with
  | nil => exact Nat.le_refl _
  | cons k r => exact Nat.le_of_lt (c.within_all k (by simp)).lt

theorem Chain.frame {h : Heap NodeObj} {hi lo} (h' : Heap NodeObj) (agree : ∀ a, lo ≤ a → a < hi → h'[a]? = h[a]?) :
    ∀ {ks}, Chain h hi ks → (∀ k ∈ ks, lo ≤ k) → Chain h' hi ks ∧ ∀ k ∈ ks, readNode h' k = readNode h k
  | [], _, _ => ⟨trivial, fun _ hk => nomatch hk⟩
  | k :: rest, ⟨w, c⟩, hlo => by
    have ih := Chain.frame h' agree c (fun x hx => hlo x (List.mem_cons_of_mem _ hx))
    have hk := hlo k (by simp)
    have hb := c.headD_le
    have f := w.frame h' (fun a ha hb' => agree a (by omega) (by omega))
    exact ⟨⟨f.1, ih.1⟩, List.forall_mem_cons.2 ⟨f.2, ih.2⟩⟩

theorem Chain.snoc {h : Heap NodeObj} {hi x} : ∀ {ks}, Chain h hi (ks ++ [x]) ↔ Chain h x ks ∧ Within h hi x
  | [] => by simp [Chain]
  | k :: rest => by
    have ih := @Chain.snoc h hi x rest
    cases rest with
    | nil => simp [Chain]
    | cons k' r' => simp only [List.cons_append, Chain, List.headD_cons] at ih ⊢; rw [ih]; simp [and_assoc]

theorem Chain.mono {h : Heap NodeObj} {hi hi'} (hle : hi ≤ hi') : ∀ {ks}, Chain h hi ks → Chain h hi' ks
  | [], _ => trivial
  | k :: rest, ⟨w, c⟩ => by
    refine ⟨?_, Chain.mono hle c⟩
    cases rest with
    | nil => exact w.mono hle
    | cons k' r' => exact w


/-- finished children of an open element as the model holds them (newest first): all children but the one
    still being worked on (`open_`: the next element of the stack / `last_closed`), which is always the last one -/
def kidsOf (h : Heap NodeObj) (cs : List Nat) (open_ : Option Nat) : List Tree.Node :=
  ((if open_.isSome then cs.dropLast else cs).map (readNode h)).reverse

@[simp] theorem kidsOf_some (h : Heap NodeObj) (ks : List Nat) (l l' : Nat) :
    kidsOf h (ks ++ [l]) (some l') = (ks.map (readNode h)).reverse := by simp [kidsOf]
@[simp] theorem kidsOf_none (h : Heap NodeObj) (ks : List Nat) :
    kidsOf h ks none = (ks.map (readNode h)).reverse := by simp [kidsOf]

/-- an element of `self.stack` as a frame of the model -/
def frameOf (h : Heap NodeObj) (r : Nat) (open_ : Option Nat) : Tree.Frame :=
  match h[r]? with
  | some o => { tag := o.tag, attrs := o.attrs, text := o.text, kids := kidsOf h o.children open_ }
  | none => { tag := [], attrs := [], text := [], kids := [] }

theorem frameOf_eq {h : Heap NodeObj} {r : Nat} {o : NodeObj} (hr : h[r]? = some o) (open_ : Option Nat) :
    frameOf h r open_ = { tag := o.tag, attrs := o.attrs, text := o.text, kids := kidsOf h o.children open_ } := by
  simp [frameOf, hr]

/-- the elements below `above` on the stack (top first) -/
def restFrames (h : Heap NodeObj) : Nat → List Nat → List Tree.Frame
  | _, [] => []
  | above, r :: rs => frameOf h r (some above) :: restFrames h r rs

/-- ABSTRACTION of the tree-building fields (`heap`, `stack`, `last_closed`) -/
def absTree (s : TreeBuilder) : Tree.State :=
  match s.stack.reverse with
  | [] => Tree.initState      -- `self.stack` is never empty (`Inv`)
  | t :: rs => { top := frameOf s.heap t s.lastClosed, rest := restFrames s.heap t rs,
                 last := s.lastClosed.map (readNode s.heap) }

/-- ABSTRACTION of a `_HtmlTreeBuilder` object: the gate's two fields + the tree state -/
def absT (s : TreeBuilder) : St Tree.State :=
  { skipDepth := s.skipDepth, skipTag := s.skipTag, down := absTree s }

@[simp] theorem absT_skipDepth (s : TreeBuilder) : (absT s).skipDepth = s.skipDepth := rfl
@[simp] theorem absT_skipTag (s : TreeBuilder) : (absT s).skipTag = s.skipTag := rfl
@[simp] theorem absT_down (s : TreeBuilder) : (absT s).down = absTree s := rfl

/-- the object at `r` is an open element: its children are the finished ones `ks` (each closed below its successor)
    followed by `open_` (if any); its `tail` is still empty -/
def OpenAt (h : Heap NodeObj) (r : Nat) (ks : List Nat) (open_ : Option Nat) (o : NodeObj) : Prop :=
  h[r]? = some o ∧ o.children = ks ++ open_.toList ∧ (∀ c ∈ o.children, r < c) ∧ o.tail = []

/-- top of the stack: finished children, then `last_closed` (if any), all closed below the end of the heap -/
def TopOk (h : Heap NodeObj) (t : Nat) (lc : Option Nat) : Prop :=
  ∃ o ks, OpenAt h t ks lc o ∧ Chain h h.length (ks ++ lc.toList)

/-- the elements below: finished children closed below the open child, which is the next element of the stack -/
def StackOk (h : Heap NodeObj) : Nat → List Nat → Prop
  | _, [] => True
  | above, r :: rs => (∃ o ks, OpenAt h r ks (some above) o ∧ Chain h above ks) ∧ StackOk h r rs

/-- INVARIANT of `_HtmlTreeBuilder` (with the stack spelled out: `t` on top of `rs`, top first): the stack is not
    empty; every element of it is the last child of the one below; `last_closed` is `None` or the last child of the
    top; finished subtrees are closed (allocated, children after parents, siblings in allocation order, nothing of a
    later sibling inside); the bottom of the stack is `self.root`.  Garbage in the heap (the node `handle_starttag` allocates before it looks at the gate)
    is unconstrained. -/
def InvAt (s : TreeBuilder) (t : Nat) (rs : List Nat) : Prop :=
  s.stack = rs.reverse ++ [t] ∧ TopOk s.heap t s.lastClosed ∧ StackOk s.heap t rs ∧ (t :: rs).getLast? = some s.root

def Inv (s : TreeBuilder) : Prop := ∃ t rs, InvAt s t rs

section parts
variable {h : Heap NodeObj} {r : Nat} {ks : List Nat} {open_ : Option Nat} {o : NodeObj} {s : TreeBuilder} {t : Nat} {rs : List Nat}

theorem OpenAt.alloc (hO : OpenAt h r ks open_ o) : h[r]? = some o := hO.1
theorem OpenAt.children (hO : OpenAt h r ks open_ o) : o.children = ks ++ open_.toList := hO.2.1
theorem OpenAt.gt (hO : OpenAt h r ks open_ o) : ∀ c ∈ o.children, r < c := hO.2.2.1
theorem OpenAt.tail (hO : OpenAt h r ks open_ o) : o.tail = [] := hO.2.2.2

theorem OpenAt.of_alloc {h' : Heap NodeObj} (hO : OpenAt h r ks open_ o) (e : h'[r]? = some o) : OpenAt h' r ks open_ o :=
  ⟨e, hO.2⟩

theorem InvAt.stack (hI : InvAt s t rs) : s.stack = rs.reverse ++ [t] := hI.1
theorem InvAt.top (hI : InvAt s t rs) : TopOk s.heap t s.lastClosed := hI.2.1
theorem InvAt.below (hI : InvAt s t rs) : StackOk s.heap t rs := hI.2.2.1
theorem InvAt.root (hI : InvAt s t rs) : (t :: rs).getLast? = some s.root := hI.2.2.2

end parts

theorem absTree_of_stack {s : TreeBuilder} {t rs} (hs : s.stack = rs.reverse ++ [t]) :
    absTree s = { top := frameOf s.heap t s.lastClosed, rest := restFrames s.heap t rs,
                  last := s.lastClosed.map (readNode s.heap) } := by
  simp [absTree, hs]

theorem kidsOf_congr {h h' : Heap NodeObj} {cs : List Nat} (e : ∀ c ∈ cs, readNode h' c = readNode h c) (open_ : Option Nat) :
    kidsOf h' cs open_ = kidsOf h cs open_ := by
  unfold kidsOf
  refine congrArg _ (List.map_congr_left fun c hc => e c ?_)
  split at hc
  · exact List.dropLast_subset _ hc
  · exact hc

theorem StackOk.lt {h : Heap NodeObj} {above r rs} (w : StackOk h above (r :: rs)) : r < above := by
  obtain ⟨⟨o, ks, hO, _⟩, _⟩ := w
  exact hO.gt above (by simp [hO.children])

theorem StackOk.frame {h : Heap NodeObj} (h' : Heap NodeObj) :
    ∀ {rs above}, StackOk h above rs → (∀ a, a < above → h'[a]? = h[a]?) →
      StackOk h' above rs ∧ restFrames h' above rs = restFrames h above rs
  | [], _, _, _ => ⟨trivial, rfl⟩
  | r :: rs, above, w, agree => by
    have hlt := w.lt
    obtain ⟨⟨o, ks, hO, hch⟩, wr⟩ := w
    have ih := StackOk.frame h' wr (fun a ha => agree a (by omega))
    have f := Chain.frame (lo := 0) h' (fun a _ hb => agree a hb) hch (fun _ _ => Nat.zero_le _)
    have e : h'[r]? = some o := by rw [agree r hlt]; exact hO.alloc
    refine ⟨⟨⟨o, ks, hO.of_alloc e, f.1⟩, ih.1⟩, ?_⟩
    simp [restFrames, frameOf_eq e, frameOf_eq hO.alloc, ih.2, hO.children, List.map_congr_left f.2]

/-- the frame of an open element with the child being worked on put back -/
theorem OpenAt.flush_eq {h : Heap NodeObj} {r ks} {open_ : Option Nat} {o : NodeObj} (hO : OpenAt h r ks open_ o) :
    Tree.flush (frameOf h r open_) (open_.map (readNode h))
      = { tag := o.tag, attrs := o.attrs, text := o.text, kids := ((ks ++ open_.toList).map (readNode h)).reverse } := by
  cases open_ <;> simp [Tree.flush, frameOf_eq hO.alloc, hO.children]

theorem OpenAt.read {h : Heap NodeObj} {r ks} {open_ : Option Nat} {o : NodeObj} (hO : OpenAt h r ks open_ o) :
    readNode h r = .mk o.tag o.attrs o.text ((ks ++ open_.toList).map (readNode h)) [] := by
  rw [readNode_eq hO.alloc, hO.tail, ← hO.children]
  congr 1
  exact List.map_congr_left fun c hcm => by simp [hO.gt c hcm]

theorem InvAt.last_alloc {s : TreeBuilder} {t rs} (hI : InvAt s t rs) {l} (hl : s.lastClosed = some l) :
    ∃ ol, s.heap[l]? = some ol := by
  obtain ⟨o, ks, _, hch⟩ := hI.top
  cases hch.within_all l (by simp [hl]) with
  | mk _ ol hr => exact ⟨ol, hr⟩

theorem InvAt.top_alloc {s : TreeBuilder} {t rs} (hI : InvAt s t rs) : ∃ o, s.heap[t]? = some o := by
  obtain ⟨o, _, hO, _⟩ := hI.top
  exact ⟨o, hO.alloc⟩

theorem InvAt.frame {s s' : TreeBuilder} {t rs} (hI : InvAt s t rs) (hs : s'.stack = s.stack) (hr : s'.root = s.root)
    (agree : ∀ a, a < t → s'.heap[a]? = s.heap[a]?) (htop : TopOk s'.heap t s'.lastClosed) :
    InvAt s' t rs ∧ absTree s' = { top := frameOf s'.heap t s'.lastClosed, rest := (absTree s).rest,
                                   last := s'.lastClosed.map (readNode s'.heap) } := by
  have g := StackOk.frame s'.heap hI.below agree
  refine ⟨⟨hs.trans hI.stack, htop, g.1, hr ▸ hI.root⟩, ?_⟩
  rw [absTree_of_stack (hs.trans hI.stack), absTree_of_stack hI.stack, g.2]

/-- only the gate's fields change, with or without allocations nobody refers to (the node `handle_starttag`
    makes before it looks at the gate): the old heap is a prefix of the new one -/
theorem InvAt.grow {s s' : TreeBuilder} {t rs} (hI : InvAt s t rs) (hh : s.heap <+: s'.heap)
    (hs : s'.stack = s.stack) (hl : s'.lastClosed = s.lastClosed) (hr : s'.root = s.root) :
    InvAt s' t rs ∧ absTree s' = absTree s := by
  obtain ⟨o, ks, hO, hch⟩ := hI.top
  obtain ⟨g, hg'⟩ := hh
  have agree : ∀ a, a < s.heap.length → s'.heap[a]? = s.heap[a]? := fun a ha => by
    rw [← hg', List.getElem?_append_left ha]
  have e : s'.heap[t]? = some o := by rw [agree t (List.getElem?_eq_some_iff.1 hO.alloc).1]; exact hO.alloc
  have f := Chain.frame (lo := 0) s'.heap (fun a _ hb => agree a hb) hch (fun _ _ => Nat.zero_le _)
  have hlen : s.heap.length ≤ s'.heap.length := by simp [← hg']
  obtain ⟨hinv, habs⟩ := hI.frame hs hr (fun a ha => agree a (by have := (List.getElem?_eq_some_iff.1 hO.alloc).1; omega))
    ⟨o, ks, by rw [hl]; exact hO.of_alloc e, by rw [hl]; exact f.1.mono hlen⟩
  refine ⟨hinv, ?_⟩
  have hlast : s.lastClosed.map (readNode s'.heap) = s.lastClosed.map (readNode s.heap) := by
    cases hlc : s.lastClosed with
    | none => rfl
    | some l => rw [Option.map_some, Option.map_some, f.2 l (by simp [hlc])]
  rw [habs, absTree_of_stack hI.stack, hl, frameOf_eq e, frameOf_eq hO.alloc, kidsOf_congr (hO.children ▸ f.2), hlast]

/-- `self.last_closed["tail"] += d` -/
theorem InvAt.data_last {s s' : TreeBuilder} {t rs l} {ol : NodeObj} {d : Str} (hI : InvAt s t rs)
    (hlc : s.lastClosed = some l) (hol : s.heap[l]? = some ol)
    (hh : s'.heap = s.heap.set l { ol with tail := ol.tail ++ d }) (hs : s'.stack = s.stack)
    (hl : s'.lastClosed = s.lastClosed) (hr : s'.root = s.root) :
    InvAt s' t rs ∧ absTree s' = Tree.data (absTree s) d := by
  obtain ⟨o, ks, hO, hch⟩ := hI.top
  rw [hlc] at hO hch
  obtain ⟨hck, wl⟩ := Chain.snoc.1 hch
  have htl' : t < l := hO.gt l (by simp [hO.children])
  have agree : ∀ a, a ≠ l → s'.heap[a]? = s.heap[a]? := fun a ha => by
    rw [hh, List.getElem?_set_ne (Ne.symm ha)]
  have e : s'.heap[t]? = some o := by rw [agree t (by omega)]; exact hO.alloc
  have f := Chain.frame (lo := 0) s'.heap (fun a _ hb => agree a (by omega)) hck (fun _ _ => Nat.zero_le _)
  have hlen : s'.heap.length = s.heap.length := by simp [hh]
  cases wl with
  | mk _ ol' hol' hlt hgt' hch' =>
    cases hol.symm.trans hol'
    have el : s'.heap[l]? = some { ol with tail := ol.tail ++ d } := by
      rw [hh, List.getElem?_set_self hlt]
    have kids : ∀ c ∈ ol.children, Within s'.heap s.heap.length c ∧ readNode s'.heap c = readNode s.heap c :=
      fun c hcm => (hch' c hcm).frame s'.heap (fun a ha _ => agree a (by have := hgt' c hcm; omega))
    have wl' : Within s'.heap s.heap.length l := .mk l _ el hlt hgt' (fun c hcm => (kids c hcm).1)
    have rl : readNode s'.heap l = match readNode s.heap l with
        | .mk tg a tx ch tl => .mk tg a tx ch (tl ++ d) := by
      rw [readNode_eq el, readNode_eq hol]
      -- the `match` on a node that is written out
      simp only
      congr 1
      exact List.map_congr_left fun c hcm => by rw [(kids c hcm).2]
    obtain ⟨hinv, habs⟩ := hI.frame hs hr (fun a ha => agree a (by omega))
      ⟨o, ks, by rw [hl, hlc]; exact hO.of_alloc e, by rw [hl, hlc, hlen]; exact Chain.snoc.2 ⟨f.1, wl'⟩⟩
    refine ⟨hinv, ?_⟩
    rw [habs, absTree_of_stack hI.stack, hl, hlc]
    simp only [Tree.data, Option.map_some, frameOf_eq e, frameOf_eq hO.alloc, hO.children, Option.toList_some, kidsOf_some,
      List.map_congr_left f.2, rl]
    cases readNode s.heap l
    rfl

/-- `self.stack[-1]["text"] += d` when `last_closed` is `None` -/
theorem InvAt.data_top {s s' : TreeBuilder} {t rs} {o : NodeObj} {d : Str} (hI : InvAt s t rs)
    (hlc : s.lastClosed = none) (ho : s.heap[t]? = some o)
    (hh : s'.heap = s.heap.set t { o with text := o.text ++ d }) (hs : s'.stack = s.stack)
    (hl : s'.lastClosed = s.lastClosed) (hr : s'.root = s.root) :
    InvAt s' t rs ∧ absTree s' = Tree.data (absTree s) d := by
  obtain ⟨o', ks, hO, hch⟩ := hI.top
  cases ho.symm.trans hO.alloc
  rw [hlc] at hO hch
  have hc : o.children = ks := by simpa using hO.children
  simp only [Option.toList_none, List.append_nil] at hch
  have htlt : t < s.heap.length := (List.getElem?_eq_some_iff.1 ho).1
  have agree : ∀ a, a ≠ t → s'.heap[a]? = s.heap[a]? := fun a ha => by
    rw [hh, List.getElem?_set_ne (Ne.symm ha)]
  have e : s'.heap[t]? = some { o with text := o.text ++ d } := by rw [hh, List.getElem?_set_self htlt]
  have f := Chain.frame (lo := t + 1) s'.heap (fun a ha _ => agree a (by omega)) hch
    (fun k hk => hO.gt k (by rw [hc]; exact hk))
  have hlen : s'.heap.length = s.heap.length := by simp [hh]
  obtain ⟨hinv, habs⟩ := hI.frame hs hr (fun a ha => agree a (by omega))
    ⟨_, ks, ⟨e, by rw [hl, hlc]; simpa using hc, hO.gt, hO.tail⟩, by rw [hl, hlc, hlen]; simpa using f.1⟩
  refine ⟨hinv, ?_⟩
  rw [habs, absTree_of_stack hI.stack, hl, hlc]
  simp [Tree.data, frameOf_eq e, frameOf_eq ho, hc, List.map_congr_left f.2]


theorem InvAt.top_tag {s : TreeBuilder} {t rs} {o : NodeObj} (hI : InvAt s t rs) (ho : s.heap[t]? = some o) :
    (absTree s).top.tag = o.tag := by
  rw [absTree_of_stack hI.stack, frameOf_eq ho]

/-- `len(self.stack) > 1` fails: the model's `rest` is empty -/
theorem InvAt.end_nil {s : TreeBuilder} {t} (hI : InvAt s t []) (tag : Str) : Tree.end_ (absTree s) tag = absTree s := by
  rw [absTree_of_stack hI.stack]; simp [Tree.end_, restFrames]

theorem InvAt.end_ne {s : TreeBuilder} {t rs} {o : NodeObj} (hI : InvAt s t rs) (ho : s.heap[t]? = some o) {tag : Str}
    (hne : o.tag ≠ tag) : Tree.end_ (absTree s) tag = absTree s := by
  have := hI.top_tag ho
  unfold Tree.end_
  split
  · rfl
  · simp [this, hne]

/-- `self.last_closed = self.stack.pop()` -/
theorem InvAt.pop {s s' : TreeBuilder} {t p rs} {o : NodeObj} (hI : InvAt s t (p :: rs)) (ho : s.heap[t]? = some o)
    (hh : s'.heap = s.heap) (hs : s'.stack = rs.reverse ++ [p]) (hl : s'.lastClosed = some t) (hr : s'.root = s.root) :
    InvAt s' p rs ∧ absTree s' = Tree.end_ (absTree s) o.tag := by
  obtain ⟨o', ks, hO, hch⟩ := hI.top
  obtain ⟨⟨op, kp, hOp, hchp⟩, hrest⟩ := hI.below
  cases ho.symm.trans hO.alloc
  have wt : Within s.heap s.heap.length t :=
    .mk t o ho (List.getElem?_eq_some_iff.1 ho).1 hO.gt (fun c hcm => hch.within_all c (by rw [← hO.children]; exact hcm))
  refine ⟨⟨hs, ⟨op, kp, by rw [hh, hl]; exact hOp, ?_⟩, by rw [hh]; exact hrest, by rw [hr]; simpa using hI.root⟩, ?_⟩
  · rw [hl, hh]; exact Chain.snoc.2 ⟨hchp, wt⟩
  · rw [absTree_of_stack hs, absTree_of_stack hI.stack, hl, hh]
    simp only [Tree.end_, restFrames, hO.flush_eq]
    simp [frameOf_eq ho, frameOf_eq hOp.alloc, hOp.children, hO.read]

section push
variable {s s' : TreeBuilder} {t rs} {o n : NodeObj} (hI : InvAt s t rs) (ho : s.heap[t]? = some o)
  (hh : s'.heap = (s.heap ++ [n]).set t { o with children := o.children ++ [s.heap.length] })
include hI ho hh

/-- `node = {…}` … `self.stack[-1]["children"].append(node)`: seen from the new node, the old stack is in order below it,
    and its frames are the old top with `last_closed` put back and the old rest -/
theorem InvAt.push_below :
    StackOk s'.heap s.heap.length (t :: rs) ∧ s'.heap[s.heap.length]? = some n ∧
    restFrames s'.heap s.heap.length (t :: rs) = Tree.flush (absTree s).top (absTree s).last :: (absTree s).rest := by
  obtain ⟨o', ks, hO, hch⟩ := hI.top
  cases ho.symm.trans hO.alloc
  have htlt : t < s.heap.length := (List.getElem?_eq_some_iff.1 ho).1
  have agree : ∀ a, a ≠ t → a < s.heap.length → s'.heap[a]? = s.heap[a]? := fun a ha hb => by
    rw [hh, List.getElem?_set_ne (Ne.symm ha), List.getElem?_append_left hb]
  have e : s'.heap[t]? = some { o with children := (ks ++ s.lastClosed.toList) ++ [s.heap.length] } := by
    rw [hh, List.getElem?_set_self (by simp; omega), hO.children]
  have en : s'.heap[s.heap.length]? = some n := by
    rw [hh, List.getElem?_set_ne (by omega)]; simp
  have f := Chain.frame (lo := t + 1) s'.heap (fun a ha hb => agree a (by omega) hb) hch
    (fun k hk => hO.gt k (by rw [hO.children]; exact hk))
  have g := StackOk.frame s'.heap hI.below (fun a ha => agree a (by omega) (by omega))
  have hg' : ∀ c ∈ (ks ++ s.lastClosed.toList) ++ [s.heap.length], t < c := by
    intro c hcm
    rcases List.mem_append.1 hcm with h1 | h1
    · exact hO.gt c (by rw [hO.children]; exact h1)
    · simp at h1; omega
  refine ⟨⟨⟨_, _, ⟨e, rfl, hg', hO.tail⟩, f.1⟩, g.1⟩, en, ?_⟩
  simp only [absTree_of_stack hI.stack, restFrames, g.2, hO.flush_eq, frameOf_eq e, kidsOf_some, List.map_congr_left f.2]

/-- `push_below`, and then `self.stack.append(node)`: an element that is not void -/
theorem InvAt.push_open (hnc : n.children = []) (hnx : n.text = []) (hnt : n.tail = []) (hr : s'.root = s.root)
    (hs : s'.stack = s.stack ++ [s.heap.length]) (hl : s'.lastClosed = none) :
    InvAt s' s.heap.length (t :: rs) ∧
    absTree s' = { top := { tag := n.tag, attrs := n.attrs, text := [], kids := [] },
                   rest := Tree.flush (absTree s).top (absTree s).last :: (absTree s).rest, last := none } := by
  obtain ⟨hst, en, hfr⟩ := hI.push_below ho hh
  have hs' : s'.stack = (t :: rs).reverse ++ [s.heap.length] := by rw [hs, hI.stack]; simp
  refine ⟨⟨hs', ⟨n, [], ⟨en, by rw [hl]; simp [hnc], by simp [hnc], hnt⟩, by rw [hl]; trivial⟩, hst,
    by rw [hr]; simpa using hI.root⟩, ?_⟩
  rw [absTree_of_stack hs', hl, hfr]
  simp [frameOf_eq en, hnc, hnx]

/-- `push_below`, and then `self.last_closed = node`: a void element -/
theorem InvAt.push_void (hnc : n.children = []) (hnx : n.text = []) (hnt : n.tail = []) (hr : s'.root = s.root)
    (hs : s'.stack = s.stack) (hl : s'.lastClosed = some s.heap.length) :
    InvAt s' t rs ∧
    absTree s' = { top := Tree.flush (absTree s).top (absTree s).last, rest := (absTree s).rest,
                   last := some (.mk n.tag n.attrs [] [] []) } := by
  obtain ⟨⟨⟨o', ks', hO', hch'⟩, hst⟩, en, hfr⟩ := hI.push_below ho hh
  simp only [restFrames, List.cons.injEq] at hfr
  have hlen : s'.heap.length = s.heap.length + 1 := by simp [hh]
  have wn : Within s'.heap (s.heap.length + 1) s.heap.length :=
    .mk _ n en (Nat.lt_succ_self _) (by simp [hnc]) (by simp [hnc])
  refine ⟨⟨hs.trans hI.stack, ⟨o', ks', by rw [hl]; exact hO', by rw [hl, hlen]; exact Chain.snoc.2 ⟨hch', wn⟩⟩, hst,
    hr ▸ hI.root⟩, ?_⟩
  rw [absTree_of_stack (hs.trans hI.stack), hl, hfr.1, hfr.2]
  simp [readNode_eq en, hnc, hnx, hnt]

end push

/-- `__init__`: one object, alone on the stack -/
theorem InvAt.init {s' : TreeBuilder} {h0 : Heap NodeObj}
    (hh : s'.heap = h0 ++ [{ tag := "root".toList, attrs := [], children := [], text := [], tail := [] }])
    (hs : s'.stack = [h0.length]) (hl : s'.lastClosed = none) (hr : s'.root = h0.length) :
    InvAt s' h0.length [] ∧ absTree s' = Tree.initState := by
  have e : s'.heap[h0.length]? = some { tag := "root".toList, attrs := [], children := [], text := [], tail := [] } := by
    rw [hh]; simp
  refine ⟨⟨by rw [hs]; rfl, ⟨_, [], ⟨e, by rw [hl]; rfl, by simp, rfl⟩, by rw [hl]; trivial⟩, trivial, by rw [hr]; rfl⟩, ?_⟩
  rw [absTree_of_stack (t := h0.length) (rs := []) (by rw [hs]; rfl), hl]
  simp [frameOf_eq e, restFrames, Tree.initState]

/-- the left side is the body of `Tree.closeUp` -/
theorem node_of_open {h : Heap NodeObj} {r ks} {open_ : Option Nat} {o : NodeObj} (hO : OpenAt h r ks open_ o) :
    (let f := Tree.flush (frameOf h r open_) (open_.map (readNode h))
     Tree.Node.mk f.tag f.attrs f.text f.kids.reverse []) = readNode h r := by
  rw [hO.flush_eq, hO.read]
  simp

theorem closeUp_read {h : Heap NodeObj} : ∀ (rs : List Nat) (r : Nat) (ks : List Nat) (open_ : Option Nat) (o : NodeObj),
    OpenAt h r ks open_ o → StackOk h r rs →
      some (Tree.closeUp (frameOf h r open_) (open_.map (readNode h)) (restFrames h r rs))
        = ((r :: rs).getLast?).map (readNode h)
  | [], r, ks, open_, o, hO, _ => by
    have := node_of_open hO
    simp only [Tree.closeUp, restFrames] at this ⊢
    simp [this]
  | p :: rs, r, ks, open_, o, hO, ⟨⟨op, kp, hOp, _⟩, hrest⟩ => by
    have h1 := node_of_open hO
    have ih := closeUp_read rs p kp (some r) op hOp hrest
    simp only [Tree.closeUp, restFrames] at h1 ⊢
    rw [h1]
    simpa using ih

/-- under the invariant, the tree `self.root` points to is the model's `getTree` -/
theorem InvAt.get_tree {s : TreeBuilder} {t rs} (hI : InvAt s t rs) :
    readNode s.heap s.root = Tree.getTree (absTree s) := by
  obtain ⟨o, ks, hO, _⟩ := hI.top
  have := closeUp_read rs t ks s.lastClosed o hO hI.below
  rw [hI.root] at this
  rw [absTree_of_stack hI.stack]
  simpa [Tree.getTree] using this.symm

/-- from a statement about the tree fields to the statement of the commuting square (`s'` and `M` come from the goal) -/
theorem square_of {s' : TreeBuilder} {t rs} {T : Tree.State} {M : St Tree.State}
    (h : InvAt s' t rs ∧ absTree s' = T) (hM : M = ⟨s'.skipDepth, s'.skipTag, T⟩) : Inv s' ∧ absT s' = M := by
  refine ⟨⟨t, rs, h.1⟩, ?_⟩
  rw [hM, ← h.2]; rfl

end S2T.Py.Html
