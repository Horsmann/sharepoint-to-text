import S2T.Model.SharePointRaw
/-! Raw driveItems (C18, core Lean only): `classify` and everything built on it look at the essence of an item only, and
a faithful decoration of the healthy server's answers is undone by it. -/
namespace S2T.SP

theorem classify_essence (r : RawItem) : classify r.essence = classify r := by
  unfold classify RawItem.essence
  cases hf : r.folder.present <;> cases hg : r.file.present <;> simp [Facet.present]

theorem toObj_essence (o : RawObj) : o.essence.toObj = o.toObj := by
  unfold RawObj.toObj RawObj.essence
  simp only [List.map_map]
  congr 1
  · apply List.map_congr_left; intro r _; exact classify_essence r
  · cases o.folder <;> rfl

theorem toOutcome_essence (o : RawOutcome) : o.essence.toOutcome = o.toOutcome := by
  cases o with
  | resp st b =>
    cases b with
    | obj ob => simp [RawOutcome.essence, RawBody.essence, RawOutcome.toOutcome, RawBody.toBody, toObj_essence]
    | notJson => rfl
    | nonObject => rfl
  | httpError c => rfl
  | urlError => rfl

theorem ofRaw_essence (rt : RawTransport) : ofRaw (fun i u => (rt i u).essence) = ofRaw rt := by
  funext i u; exact toOutcome_essence _

theorem classify_decorateItems (d : Nat → Item → RawItem) (hd : ∀ k it, classify (d k it) = it) :
    ∀ (k : Nat) (its : List Item), (decorateItems d k its).map classify = its := by
  intro k its
  induction its generalizing k with
  | nil => rfl
  | cons it r ih => simp [decorateItems, hd, ih]

theorem toOutcome_decorate (d : Nat → Item → RawItem) (hd : ∀ k it, classify (d k it) = it) (fd : Facet)
    (hfd : fd.present = true) (o : Outcome) : (decorateOutcome d fd o).toOutcome = o := by
  cases o with
  | resp st b =>
    cases b with
    | obj ob =>
      obtain ⟨tok, id, value, next, hasFolder⟩ := ob
      simp only [decorateOutcome, RawOutcome.toOutcome, RawBody.toBody, RawObj.toObj, classify_decorateItems d hd]
      cases hasFolder
      · rfl
      · simp only [if_true, hfd]
    | notJson => rfl
    | nonObject => rfl
  | httpError c => rfl
  | urlError => rfl

end S2T.SP
