import S2T.Lemmas.Tables
/-! C13: the HTML table walk (`_process_node` / `_extract_table` / `_find_own_rows` / `_find_nested_tables` /
    `_get_cell_text`) on written pages. -/
namespace S2T.Tables
open S2T.HtmlSkip (Str)

/-- what the theorem needs from the generated tag sets -/
def HtmlTags.ok (H : HtmlTags) : Bool :=
  [hP, hTable, hTr, hTd].all H.cellBreak.contains
  && [hB, hThead, hTbody].all (fun t => !H.cellBreak.contains t)
  && [hP, hB, hTable, hThead, hTbody, hTr, hTd, hRoot, hHtml, hHead, hBody].all (fun t => !H.remove.contains t)

/-- `H.ok` read as a proposition: the line-ending tags of a written table, the tags that are none, the tags that are kept -/
structure HtmlTags.Ok (H : HtmlTags) : Prop where
  breaks : ∀ t ∈ [hP, hTable, hTr, hTd], H.cellBreak.contains t = true
  inline : ∀ t ∈ [hB, hThead, hTbody], H.cellBreak.contains t = false
  -- the proofs use `hTable` and `hBody` only
  kept : ∀ t ∈ [hP, hB, hTable, hThead, hTbody, hTr, hTd, hRoot, hHtml, hHead, hBody], H.remove.contains t = false

theorem HtmlTags.Ok.of_ok {H : HtmlTags} (h : H.ok = true) : H.Ok := by
  simp only [HtmlTags.ok, Bool.and_eq_true, List.all_eq_true] at h
  obtain ⟨⟨h1, h2⟩, h3⟩ := h
  exact ⟨h1, fun t ht => by simpa using h2 t ht, fun t ht => by simpa using h3 t ht⟩

/- the fields of `htmlXT` as rewrite rules: the proofs meet the tag constants by name and never unfold the record, whose string
   literals would then be compared character by character -/
@[simp] theorem hx_tbl : htmlXT.tbl = hTable := rfl
@[simp] theorem hx_tr : htmlXT.tr = hTr := rfl
@[simp] theorem hx_tc : htmlXT.tc = hTd := rfl
@[simp] theorem hx_p : htmlXT.p = hP := rfl
@[simp] theorem hx_wh : htmlXT.wrapHdr = some hThead := rfl
@[simp] theorem hx_wb : htmlXT.wrapBody = some hTbody := rfl
@[simp] theorem hx_p1 : htmlXT.tblPre = [] := rfl
@[simp] theorem hx_p2 : htmlXT.trPre = [] := rfl
@[simp] theorem hx_p3 : htmlXT.tcPre = [] := rfl

theorem htr_mk (cells : List Node) : trNode htmlXT cells = .mk hTr [] [] cells [] := rfl
theorem htc_mk (content : List Node) : tcNode htmlXT content = .mk hTd [] [] content [] := rfl

theorem ownRows_append (a b : List Node) : htmlOwnRowsL (a ++ b) = htmlOwnRowsL a ++ htmlOwnRowsL b := by
  induction a with
  | nil => simp [htmlOwnRowsL]
  | cons c r ih => cases c; simp [htmlOwnRowsL, ih]

theorem tagfacts : (hThead == sTable) = false ∧ (hThead == sTr) = false ∧ (hTbody == sTable) = false ∧ (hTbody == sTr) = false
    ∧ (hTr == sTable) = false ∧ (hTd == sTable) = false ∧ (hTd == sTr) = false ∧ (hP == sTable) = false ∧ (hP == sTr) = false
    ∧ (hB == sTable) = false ∧ (hB == sTr) = false ∧ (hTable == sTable) = true ∧ (hTr == sTr) = true
    ∧ (hTd == sTd) = true := by decide

theorem ownRows_map {α : Type} (l : List α) (f : α → Node) :
    htmlOwnRowsL (l.map f) = l.flatMap (fun a => htmlOwnRowsL [f a]) := by
  induction l with
  | nil => simp [htmlOwnRowsL]
  | cons a r ih => rw [List.map_cons, ← List.singleton_append, ownRows_append, ih]; rfl

theorem ownRows_bnodes (l : List (Str × Str)) : htmlOwnRowsL (l.map (fun bt => (.mk hB [] bt.1 [] bt.2 : Node))) = [] := by
  have tf := tagfacts
  rw [ownRows_map]
  exact List.flatMap_eq_nil_iff.mpr fun bt _ => by simp [htmlOwnRowsL, tf]

theorem ownRows_blocks (cell : List (Blk HPara)) : htmlOwnRowsL (cell.map (Blk.render htmlXT hParaNode)) = [] := by
  have tf := tagfacts
  rw [ownRows_map]
  refine List.flatMap_eq_nil_iff.mpr fun b _ => ?_
  cases b with
  | para p => rw [render_para]; simp [hParaNode, htmlOwnRowsL, tf, ownRows_bnodes]
  | tbl h rows => rw [render_tbl]; simp [tblNode, elem, htmlOwnRowsL, tf]

theorem ownRows_wrap (w : Str) (hw : w = hThead ∨ w = hTbody) (l : List Node) :
    htmlOwnRowsL (wrap (some w) l) = htmlOwnRowsL l := by
  have tf := tagfacts
  refine wrap_congr htmlOwnRowsL w l ?_
  rcases hw with h | h <;> simp [h, elem, htmlOwnRowsL, tf]

theorem ownRows_cells (row : List (List (Blk HPara))) :
    htmlOwnRowsL (row.map (fun cell => tcNode htmlXT (cell.map (Blk.render htmlXT hParaNode)))) = [] := by
  have tf := tagfacts
  rw [ownRows_map]
  exact List.flatMap_eq_nil_iff.mpr fun cell _ => by simp [htc_mk, htmlOwnRowsL, tf, ownRows_blocks]

theorem ownRows_rows (rows : Rows HPara) :
    htmlOwnRowsL (rows.map (fun row => trNode htmlXT (row.map (fun cell => tcNode htmlXT (cell.map (Blk.render htmlXT hParaNode))))))
      = rows.map (fun row => trNode htmlXT (row.map (fun cell => tcNode htmlXT (cell.map (Blk.render htmlXT hParaNode))))) := by
  have tf := tagfacts
  -- the right side as a `flatMap` of singletons, so that the two sides are compared row by row
  rw [ownRows_map, ← List.flatMap_singleton' (l := rows.map _), List.flatMap_map]
  exact List.flatMap_congr fun row _ => by simp [htr_mk, htmlOwnRowsL, tf, ownRows_cells]

theorem ownRows_table (h : Nat) (R : List Node) : htmlOwnRowsL (tblNode htmlXT h R).kids = htmlOwnRowsL R := by
  unfold tblNode
  rw [elem_kids, hx_p1, hx_wh, hx_wb, List.nil_append, ownRows_append, ownRows_wrap _ (.inl rfl),
    ownRows_wrap _ (.inr rfl), ← ownRows_append, List.take_append_drop]

section html
variable (H : HtmlTags)

theorem hraw_para (p : HPara) : Blk.hraw (.para p) = p.text := by simp [Blk.hraw, Blk.fold_para]

theorem hraw_tbl (h : Nat) (rows : Rows HPara) :
    Blk.hraw (.tbl h rows) = rows.flatMap (fun row => sp ++ row.flatMap (fun cell => sp ++ hcellRaw cell ++ sp) ++ sp) := by
  simp only [Blk.hraw, Blk.fold_tbl, List.flatMap_map, hcellRaw]

theorem htmlCellRawL_append (a b : List Node) : htmlCellRawL H (a ++ b) = htmlCellRawL H a ++ htmlCellRawL H b := by
  induction a with
  | nil => simp [htmlCellRawL]
  | cons c r ih => simp [htmlCellRawL, ih]

theorem htmlCellRawL_map {α : Type} (l : List α) (f : α → Node) :
    htmlCellRawL H (l.map f) = l.flatMap (fun a =>
      (if H.cellBreak.contains (f a).tag then sp else []) ++ htmlCellRaw H (f a) ++ (if H.cellBreak.contains (f a).tag then sp else []) ++ (f a).tail) := by
  induction l with
  | nil => simp [htmlCellRawL]
  | cons a r ih => simp [htmlCellRawL, ih, sp]

theorem cellRaw_para (ok : H.Ok) (p : HPara) : htmlCellRaw H (hParaNode p) = p.text := by
  have hb := ok.inline hB (by simp)
  unfold hParaNode HPara.text
  simp only [htmlCellRaw]
  congr 1
  rw [htmlCellRawL_map]
  apply List.flatMap_congr
  intro bt _
  have hb' : hB ∉ H.cellBreak := by simpa using hb
  simp [hb', htmlCellRaw, htmlCellRawL]

theorem cellRaw_wrap (w : Option Str) (hw : ∀ t, w = some t → H.cellBreak.contains t = false) (l : List Node) :
    htmlCellRawL H (wrap w l) = htmlCellRawL H l := by
  cases w with
  | none => rfl
  | some t =>
    have hw' : t ∉ H.cellBreak := by simpa using hw t rfl
    exact wrap_congr (htmlCellRawL H) t l (by simp [htmlCellRawL, elem, htmlCellRaw, hw'])

theorem render_break_tail (ok : H.Ok) (b : Blk HPara) :
    H.cellBreak.contains (Blk.render htmlXT hParaNode b).tag = true ∧ (Blk.render htmlXT hParaNode b).tail = [] := by
  cases b with
  | para p => rw [render_para]; exact ⟨ok.breaks hP (by simp), rfl⟩
  | tbl h' rows' => rw [render_tbl]; exact ⟨ok.breaks hTable (by simp), rfl⟩

theorem cellRaw_cell (ok : H.Ok) (cell : List (Blk HPara)) (hb : ∀ b ∈ cell, htmlCellRaw H (Blk.render htmlXT hParaNode b) = b.hraw) :
    htmlCellRaw H (tcNode htmlXT (cell.map (Blk.render htmlXT hParaNode))) = hcellRaw cell := by
  simp only [tcNode, elem, htmlCellRaw, hx_p3, List.nil_append, hcellRaw]
  rw [htmlCellRawL_map]
  apply List.flatMap_congr
  intro b hm
  obtain ⟨hbr, ht⟩ := render_break_tail H ok b
  rw [hbr, ht, hb b hm]
  simp

theorem cellRaw_render (ok : H.Ok) (b : Blk HPara) : htmlCellRaw H (Blk.render htmlXT hParaNode b) = b.hraw := by
  induction b using Blk.ind with
  | hp p => simp only [Blk.render, Blk.fold_para, hraw_para]; exact cellRaw_para H ok p
  | ht h rows ih =>
    rw [render_tbl, hraw_tbl]
    unfold tblNode
    simp only [elem, htmlCellRaw, hx_p1, hx_wh, hx_wb, List.nil_append, htmlCellRawL_append]
    rw [cellRaw_wrap H _ (by intro t ht; cases ht; exact ok.inline hThead (by simp)),
      cellRaw_wrap H _ (by intro t ht; cases ht; exact ok.inline hTbody (by simp)),
      ← htmlCellRawL_append, List.take_append_drop, htmlCellRawL_map]
    apply List.flatMap_congr
    intro row hrow
    have e1 : H.cellBreak.contains hTr = true := ok.breaks hTr (by simp)
    simp only [trNode, elem, mk_tag, mk_tail, hx_tr, hx_p2, e1, if_true, List.nil_append, htmlCellRaw, List.append_nil]
    congr 2
    rw [htmlCellRawL_map]
    apply List.flatMap_congr
    intro cell hcell
    have e2 : H.cellBreak.contains hTd = true := ok.breaks hTd (by simp)
    rw [cellRaw_cell H ok cell (ih row hrow cell hcell)]
    simp only [tcNode, elem, mk_tag, mk_tail, hx_tc, e2, if_true, List.append_nil]

theorem htmlTable_render (ok : H.Ok) (h : Nat) (rows : Rows HPara) (hne : rows.all (fun row => !row.isEmpty) = true) :
    htmlTable H (Blk.render htmlXT hParaNode (.tbl h rows)) = rows.map (fun row => row.map hcellText) := by
  have tf := tagfacts
  unfold htmlTable
  rw [render_tbl, ownRows_table, ownRows_rows, List.filterMap_map]
  apply List.filterMap_eq_map_of_mem
  intro row hrow
  have hrne : row.isEmpty = false := by simpa using List.all_eq_true.mp hne row hrow
  simp only [Function.comp_apply, trNode, elem_kids, hx_p2, List.nil_append]
  have hf : (row.map (fun cell => tcNode htmlXT (cell.map (Blk.render htmlXT hParaNode)))).filter (fun c => c.tag == sTh || c.tag == sTd)
      = row.map (fun cell => tcNode htmlXT (cell.map (Blk.render htmlXT hParaNode))) := by
    rw [List.filter_eq_self]
    intro n hn
    simp [tag_of_map (fun _ => tcNode_tag ..) n hn, tf]
  rw [hf, List.map_map, Function.comp_def]
  simp only [List.isEmpty_map, hrne, Bool.false_eq_true, if_false]
  exact congrArg some (List.map_congr_left fun cell _ => by rw [cellRaw_cell H ok cell fun b _ => cellRaw_render H ok b]; rfl)

theorem htables_para (p : HPara) : Blk.htables (.para p) = [] := by simp [Blk.htables, Blk.fold_para]

theorem htmlProcL_map {α : Type} (l : List α) (f : α → Node) : htmlProcL H (l.map f) = l.flatMap (fun a => htmlProc H (f a)) := by
  induction l with
  | nil => simp [htmlProcL]
  | cons a r ih => simp [htmlProcL, ih]

theorem htmlNested_flatMap (l : List Node) : htmlNested H l = l.flatMap (fun c => htmlNested H [c]) := by
  induction l with
  | nil => simp [htmlNested]
  | cons c r ih => cases c; rw [List.flatMap_cons, ← ih]; simp [htmlNested]

/-- on ANY tree: `_find_nested_tables` and the recursion of `_process_node` through it register the table elements
    below a node in document order, as `iter("table")` lists them -/
theorem htmlNested_iter (hr : H.remove.contains sTable = false) (n : Node) :
    htmlNested H [n] = (iter sTable n).map (htmlTable H) := by
  induction n using Node.ind with
  | h t a x ch tl ih =>
    have hk : htmlNested H ch = (ch.flatMap (iter sTable)).map (htmlTable H) := by
      rw [htmlNested_flatMap, List.map_flatMap]; exact List.flatMap_congr ih
    have hr' : sTable ∉ H.remove := by simpa using hr
    rw [iter_mk]
    by_cases e : t = sTable
    · subst e
      simp [htmlNested, htmlProc, hr', hk]
    · simp [htmlNested, e, hk]

theorem htmlProc_table (hr : H.remove.contains sTable = false) (n : Node) (hn : n.tag = sTable) :
    htmlProc H n = (iter sTable n).map (htmlTable H) := by
  obtain ⟨t, a, x, ch, tl⟩ := n
  rw [mk_tag] at hn
  subst hn
  rw [← htmlNested_iter H hr]; simp [htmlNested]

theorem htmlProc_nil (n : Node) (h : iter sTable n = []) : htmlProc H n = [] := by
  induction n using Node.ind with
  | h t a x ch tl ih =>
    rw [iter_mk, List.append_eq_nil_iff, List.flatMap_eq_nil_iff] at h
    have e : (t == sTable) = false := by
      cases ht : t == sTable with
      | false => rfl
      | true => rw [ht] at h; simp at h
    have hk : htmlProcL H ch = [] := by
      -- `htmlProcL_map` is stated for a mapped list: `ch` as `ch.map id`
      rw [← List.map_id ch, htmlProcL_map]; exact List.flatMap_eq_nil_iff.mpr fun c hc => ih c hc (h.2 c hc)
    rw [htmlProc]
    simp only [e, hk, Bool.false_eq_true, if_false, ite_self]

theorem htmlXT_ok : htmlXT.Ok := .of_ok (by decide)
theorem hB_notS : hB ∉ htmlXT.S := by decide
theorem sTable_S : htmlXT.S.contains sTable = true := S_tbl htmlXT

theorem h_paraOk (p : HPara) : paraOk htmlXT (hParaNode p) = true := by
  simp [paraOk, hParaNode, noTags, List.all_map, hB_notS]

/-- `_process_node` on a written block registers exactly the block's tables, outer before inner: its table
    elements in document order (`htmlNested_iter`), which the generic walk `iter_tbl_render` reads -/
theorem htmlProc_render (ok : H.Ok) (b : Blk HPara) (hp : b.rowsProper = true) :
    htmlProc H (Blk.render htmlXT hParaNode b) = b.htables := by
  have hr : H.remove.contains sTable = false := ok.kept hTable (by simp)
  cases b with
  | para p =>
    rw [render_para, htables_para]
    exact htmlProc_nil H _ (by rw [iter_para htmlXT hParaNode h_paraOk p sTable_S]; rfl)
  | tbl h rows =>
    rw [htmlProc_table H hr _ (render_tag htmlXT hParaNode h_paraOk _), ← List.filterMap_eq_map]
    exact iter_tbl_render htmlXT hParaNode htmlXT_ok h_paraOk (fun rows => rows.map (fun row => row.map hcellText))
      (some ∘ htmlTable H) Blk.rowsProper rowsProper_sub
      (fun h rows hq => by
        rw [rowsProper_tbl, Bool.and_eq_true] at hq
        exact congrArg some (htmlTable_render H ok h rows hq.1)) _ hp

theorem morefacts : (hBody == sTable) = false ∧ (hBody == "li".toList) = false ∧ isHeading hBody = false ∧ (hBody == "br".toList) = false
    ∧ (hBody == "hr".toList) = false ∧ (hRoot == sBody) = false ∧ (hHtml == sBody) = false ∧ (hHead == sBody) = false
    ∧ (hBody == sBody) = true := by decide

theorem html_tables (ok : H.Ok) (doc : List (Blk HPara)) (hp : doc.all Blk.rowsProper = true) :
    htmlTables H (htmlRoot doc) = doc.flatMap Blk.htables := by
  have mf := morefacts
  have hr : H.remove.contains hBody = false := ok.kept hBody (by simp)
  have hfind : findNode sBody (htmlRoot doc) = some (.mk hBody [] [] (doc.map (Blk.render htmlXT hParaNode)) []) := by
    simp [htmlRoot, elem, findNode, findNodeL, mf]
  unfold htmlTables
  rw [hfind]
  simp only [htmlProc, hr, mf, Bool.false_eq_true, if_false, Bool.or_self]
  rw [htmlProcL_map]
  apply List.flatMap_congr
  intro b hb
  exact htmlProc_render H ok b (List.all_eq_true.mp hp b hb)

end html

end S2T.Tables
