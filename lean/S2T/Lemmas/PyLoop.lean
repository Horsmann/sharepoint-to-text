import S2T.Lemmas.Py
/-!
The loop theory under the source ties.  A translated `for x in xs: BODY` is `forIn xs s f` in `M`; a tie compares it with
a loop of the hand model.  `forIn_suffix` is the rule for a body that goes on without raising, with an invariant over the
loop state and the items still to come.  Against a model that is a fold of its step `g` the rule is `forIn_fold_embed`: the
body is `g` on the model state, which a function `e` places in the loop state, under an invariant `P` on model states.
The `do` notation carries the mutable variables of a loop as a tuple in DECLARATION order, so re-ordering independent
`x = …` statements in the source permutes the tuple: a loop lemma that takes `e` is stated for the model's order and tried
at `e := fun t => t` and at the permutations (`forIn_mapM_collect` of `Lemmas/PySheets` in `Props/C13_Src`).
-/
namespace S2T.Py

namespace Sheets
/-- the state inside a loop body's result, mapped -/
def stepMap {σ τ} (e : σ → τ) : ForInStep σ → ForInStep τ
  | .yield a => .yield (e a)
  | .done a => .done (e a)

@[simp] theorem stepMap_yield {σ τ} (e : σ → τ) (a : σ) : stepMap e (.yield a) = .yield (e a) := rfl
@[simp] theorem stepMap_done {σ τ} (e : σ → τ) (a : σ) : stepMap e (.done a) = .done (e a) := rfl
end Sheets
open Sheets (stepMap)

/-- the invariant may speak of the items still to come (look-ahead, membership in the list, a model given by recursion
    on the list) -/
theorem forIn_suffix {α σ} (I : List α → σ → Prop) {f : α → σ → M (ForInStep σ)}
    (hstep : ∀ x r s, I (x :: r) s → ∃ s', f x s = Except.ok (ForInStep.yield s') ∧ I r s') (xs : List α) {s : σ}
    (h0 : I xs s) : ∃ s', forIn xs s f = Except.ok s' ∧ I [] s' := by
  induction xs generalizing s with
  | nil => exact ⟨s, rfl, h0⟩
  | cons x r ih =>
    obtain ⟨s1, h1, hI1⟩ := hstep x r s h0
    obtain ⟨s2, h2, hI2⟩ := ih hI1
    exact ⟨s2, by simp [List.forIn_cons, h1, h2], hI2⟩

theorem forIn_fold_embed {α σ μ} (e : μ → σ) (P : μ → Prop) (g : μ → α → μ) (xs : List α) (f : α → σ → M (ForInStep σ))
    (h : ∀ x ∈ xs, ∀ m, P m → f x (e m) = Except.ok (ForInStep.yield (e (g m x))) ∧ P (g m x)) (m : μ) (hm : P m) :
    forIn xs (e m) f = Except.ok (e (xs.foldl g m)) ∧ P (xs.foldl g m) := by
  induction xs generalizing m with
  | nil => exact ⟨rfl, hm⟩
  | cons x r ih =>
    obtain ⟨h1, h2⟩ := h x List.mem_cons_self m hm
    simp only [List.forIn_cons, h1, List.foldl_cons]
    exact ih (fun y hy => h y (List.mem_cons_of_mem _ hy)) _ h2

theorem forIn_fold {β σ} (P : σ → Prop) (g : σ → β → σ) (l : List β) (f : β → σ → M (ForInStep σ))
    (h : ∀ b ∈ l, ∀ s, P s → f b s = Except.ok (ForInStep.yield (g s b)) ∧ P (g s b)) (s : σ) (hs : P s) :
    forIn l s f = Except.ok (l.foldl g s) ∧ P (l.foldl g s) :=
  forIn_fold_embed id P g l f h s hs

theorem forIn_ok_fold {β σ μ} (e : μ → σ) (g : μ → β → μ) (l : List β) (f : β → σ → M (ForInStep σ))
    (h : ∀ b ∈ l, ∀ m, f b (e m) = Except.ok (ForInStep.yield (e (g m b)))) (m : μ) :
    forIn l (e m) f = Except.ok (e (l.foldl g m)) :=
  (forIn_fold_embed e (fun _ => True) g l f (fun b hb m _ => ⟨h b hb m, trivial⟩) m trivial).1

/-- `acc.append(h(x)) for x in l` -/
theorem foldl_append_map {α β} (h : α → β) (l : List α) (acc : List β) :
    l.foldl (fun a x => a ++ [h x]) acc = acc ++ l.map h := by
  induction l generalizing acc with
  | nil => simp
  | cons x t ih => simp [ih, List.append_assoc]

/-- `for x in xs: acc.append(g(x))`, whatever the shape of the body -/
theorem forIn_append_map {α β} (g : α → β) (xs : List α) (f : α → List β → M (ForInStep (List β)))
    (hf : ∀ x ∈ xs, ∀ acc, f x acc = Except.ok (ForInStep.yield (acc ++ [g x]))) (acc : List β) :
    forIn xs acc f = Except.ok (acc ++ xs.map g) := by
  rw [forIn_ok_fold (fun t => t) _ xs f hf, foldl_append_map]

/-- indexed version for `for i in range(a, a + n)`: the invariant may mention the index (`forIn_suffix` would have to
    recover it from the items still to come) -/
theorem forIn_range'_fold {σ} (P : Nat → σ → Prop) (g : σ → Nat → σ) (f : Nat → σ → M (ForInStep σ)) :
    ∀ (n a : Nat) (s : σ), P a s →
    (∀ i s, a ≤ i → i < a + n → P i s → f i s = Except.ok (ForInStep.yield (g s i)) ∧ P (i + 1) (g s i)) →
    forIn (List.range' a n) s f = Except.ok ((List.range' a n).foldl g s) ∧ P (a + n) ((List.range' a n).foldl g s) := by
  intro n
  induction n with
  | zero => intro a s hs _; exact ⟨rfl, hs⟩
  | succ n ih =>
    intro a s hs h
    obtain ⟨e, p⟩ := h a s (Nat.le_refl _) (by omega) hs
    simp only [List.range'_succ, List.forIn_cons, e, List.foldl_cons]
    have := ih (a + 1) (g s a) p (fun i s' h1 h2 hp => h i s' (by omega) (by omega) hp)
    rw [show a + (n + 1) = a + 1 + n by omega]
    exact this

/-- the loop followed by the rest of the function (`k`): goal-directed form of `forIn_range'_fold` -/
theorem forIn_range'_bind {σ β} (P : Nat → σ → Prop) (g : σ → Nat → σ) {f : Nat → σ → M (ForInStep σ)} {n a : Nat}
    {s : σ} {k : σ → M β} {r : M β} (h0 : P a s)
    (hstep : ∀ i s, a ≤ i → i < a + n → P i s → f i s = Except.ok (ForInStep.yield (g s i)) ∧ P (i + 1) (g s i))
    (hk : P (a + n) ((List.range' a n).foldl g s) → k ((List.range' a n).foldl g s) = r) :
    (forIn (List.range' a n) s f >>= k) = r := by
  obtain ⟨e, p⟩ := forIn_range'_fold P g f n a s h0 hstep
  rw [e]
  exact hk p

/-- the same for a loop over a list, with a second fact `Q` about the rest -/
theorem forIn_bind_and {β σ γ} (P : σ → Prop) (g : σ → β → σ) {l : List β} {f : β → σ → M (ForInStep σ)}
    {s : σ} {k : σ → M γ} {r : M γ} {Q : Prop} (h0 : P s)
    (hstep : ∀ b ∈ l, ∀ s, P s → f b s = Except.ok (ForInStep.yield (g s b)) ∧ P (g s b))
    (hk : P (l.foldl g s) → k (l.foldl g s) = r ∧ Q) :
    (forIn l s f >>= k) = r ∧ Q := by
  obtain ⟨e, p⟩ := forIn_fold P g l f hstep s h0
  rw [e]
  exact hk p

/-- on the states with `P`, the translated `F` returns (never raises) what the model's `f` returns, and `f` keeps `P`:
    `Keeps` (Lemmas/Keeps.lean) for a first function in the monad `M` -/
def Runs {σ : Type} (P : σ → Prop) (F : σ → M σ) (f : σ → σ) : Prop := ∀ s, P s → F s = Except.ok (f s) ∧ P (f s)

theorem Runs.bind {σ γ : Type} {P : σ → Prop} {F : σ → M σ} {f : σ → σ} (h : Runs P F f) {s : σ} (hs : P s)
    {k : σ → M γ} {r : M γ} {Q : Prop} (hk : P (f s) → k (f s) = r ∧ Q) : (F s >>= k) = r ∧ Q := by
  obtain ⟨e, p⟩ := h s hs
  rw [e]
  exact hk p

/-- the call as the last statement of a loop body -/
theorem Runs.yield {σ : Type} {P : σ → Prop} {F : σ → M σ} {f : σ → σ} (h : Runs P F f) {s : σ} (hs : P s) :
    ForInStep.yield <$> F s = Except.ok (ForInStep.yield (f s)) ∧ P (f s) := by
  obtain ⟨e, p⟩ := h s hs
  rw [e]
  exact ⟨rfl, p⟩

/-- a loop whose body cannot raise and does not leave the loop: core's `List.forIn_pure_yield_eq_foldl`, stated with
    `Except.ok` as the normalised body reads -/
theorem forIn_pure_fold {β σ} (g : σ → β → σ) (l : List β) (s : σ) :
    forIn l s (fun b s => (Except.ok (ForInStep.yield (g s b)) : M (ForInStep σ))) = Except.ok (l.foldl g s) :=
  List.forIn_pure_yield_eq_foldl ..

end S2T.Py
