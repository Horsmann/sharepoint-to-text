import S2T.Lemmas.Tables
/-! C13: the XML table walkers on rendered documents (DOCX, ODT, ODP, PPTX). -/
namespace S2T.Tables
open S2T.HtmlSkip (Str)

/-- the paragraph `<p><a/><b><c>run</c></b>…</p>`, over variable tags: with DOCX's literal tags under `simp` the proof is slow -/
theorem paraOk_runs (X : XT) (a b c : Str) (ha : a ∉ X.S) (hb : b ∉ X.S) (hc : c ∉ X.S) (runs : List Str) :
    paraOk X (elem X.p (elem a [] :: runs.map (fun s => elem b [.mk c [] s [] []]))) = true := by
  simp [paraOk, noTags, elem, List.all_map, Function.comp_def, ha, hb, hc]

theorem collect_runs (p a b t : Str) (hp : p ≠ t) (ha : a ≠ t) (hb : b ≠ t) (runs : List Str) :
    (iter t (elem p (elem a [] :: runs.map (fun s => elem b [.mk t [] s [] []])))).flatMap Node.text = runs.flatMap id := by
  simp only [iter_elem, beq_eq_false_iff_ne.mpr hp, beq_eq_false_iff_ne.mpr ha, beq_eq_false_iff_ne.mpr hb, Bool.false_eq_true,
    if_false, List.nil_append, List.flatMap_cons, List.flatMap_nil, List.flatMap_map, iter_mk, beq_self_eq_true, if_true,
    List.append_nil]
  induction runs with
  | nil => rfl
  | cons s r ih => simp [Node.text, ih]

/-- everything the DOCX theorem needs from the tag values (decidable; decided on the generated tags in Props/C13) -/
def DocxTags.ok (T : DocxTags) : Bool :=
  (docxXT T docxNoise).ok
  && ![T.tbl, T.tr, T.tc, T.p].contains T.t
  && ![T.tbl, T.tr, T.tc, T.p, T.t].contains (wNs ++ "pPr".toList)
  && ![T.tbl, T.tr, T.tc, T.p, T.t].contains (wNs ++ "r".toList)
  && ![T.tbl, T.tr, T.tc, T.p, T.t].contains (wNs ++ "sectPr".toList)

/-- what the DOCX proofs use of `T.ok`: the three inner tags of a written paragraph are not structural, `iter(w:t)` meets
    only the runs' text elements, the section properties behind the blocks are no table -/
structure DocxTags.Ok (T : DocxTags) : Prop where
  xt : (docxXT T docxNoise).Ok
  pPr_notS : wNs ++ "pPr".toList ∉ (docxXT T docxNoise).S
  r_notS : wNs ++ "r".toList ∉ (docxXT T docxNoise).S
  t_notS : T.t ∉ (docxXT T docxNoise).S
  p_t : T.p ≠ T.t
  pPr_t : wNs ++ "pPr".toList ≠ T.t
  r_t : wNs ++ "r".toList ≠ T.t
  sectPr_tbl : wNs ++ "sectPr".toList ≠ T.tbl

theorem DocxTags.Ok.of_ok {T : DocxTags} (h : T.ok = true) : T.Ok := by
  simp only [DocxTags.ok, Bool.and_eq_true, Bool.not_eq_true', List.contains_eq_mem, List.mem_cons,
    List.not_mem_nil, or_false, decide_eq_false_iff_not, not_or] at h
  obtain ⟨⟨⟨⟨h1, h2⟩, h3⟩, h4⟩, h5⟩ := h
  have nS : ∀ s, s ≠ T.tbl → s ≠ T.tr → s ≠ T.tc → s ≠ T.p → s ∉ (docxXT T docxNoise).S :=
    fun s a b c d => by simp [XT.S, docxXT, a, b, c, d]
  exact ⟨.of_ok h1, nS _ h3.1 h3.2.1 h3.2.2.1 h3.2.2.2.1, nS _ h4.1 h4.2.1 h4.2.2.1 h4.2.2.2.1, nS _ h2.1 h2.2.1 h2.2.2.1 h2.2.2.2,
    Ne.symm h2.2.2.2, h3.2.2.2.2, h4.2.2.2.2, h5.1⟩

section docx
variable (T : DocxTags) (ok : T.Ok)
include ok

theorem docx_paraOk (runs : DocxPara) : paraOk (docxXT T docxNoise) (docxParaNode T runs) = true :=
  paraOk_runs _ _ _ _ ok.pPr_notS ok.r_notS ok.t_notS runs

theorem docx_collect_para (runs : DocxPara) : docxCollectText T (docxParaNode T runs) = runs.flatMap id :=
  collect_runs _ _ _ _ ok.p_t ok.pPr_t ok.r_t runs

theorem docx_cellText (cell : List (Blk DocxPara)) :
    docxCellText T (tcNode (docxXT T docxNoise) (cell.map (Blk.render (docxXT T docxNoise) (docxParaNode T))))
      = docxCellSpec (cellParas cell) :=
  cellText_rendered _ _ ok.xt (docx_paraOk T ok) _ _ (docx_collect_para T ok) cell

theorem docx_table (h : Nat) (rows : Rows DocxPara) :
    docxTable T (Blk.render (docxXT T docxNoise) (docxParaNode T) (.tbl h rows)) = gridOf docxCellSpec rows := by
  rw [render_tbl]
  unfold docxTable gridOf
  -- the generic lemmas are stated on `X.tr`, `X.tc`, `X.tbl` and `rw` matches syntactically: the format's tag is first written as the
  -- field of its vocabulary (here and in `docx_tables`, `odfRow_rendered`, `odt_tables`)
  rw [show T.tr = (docxXT T docxNoise).tr from rfl,
    findall_tr_nowrap _ ok.xt rfl rfl _ _ (tag_of_map fun _ => trNode_tag ..), List.map_map]
  apply List.map_congr_left
  intro row _
  rw [Function.comp_apply, show T.tc = (docxXT T docxNoise).tc from rfl,
    findall_tc _ ok.xt _ (tag_of_map fun _ => tcNode_tag ..), List.map_map, Function.comp_def]
  exact List.map_congr_left fun cell _ => docx_cellText T ok cell

theorem docx_tables (doc : List (Blk DocxPara)) :
    docxTables T (docxBody T doc) = doc.flatMap (Blk.tables docxCellSpec) := by
  have hpn := docx_paraOk T ok
  unfold docxTables docxBody
  rw [elem_kids, List.flatMap_append, List.flatMap_map]
  have e : (wNs ++ "sectPr".toList == T.tbl) = false := beq_eq_false_iff_ne.mpr ok.sectPr_tbl
  simp only [List.flatMap_cons, elem_tag, e, List.flatMap_nil, List.append_nil, Bool.false_eq_true, if_false]
  apply List.flatMap_congr
  intro b _
  rw [render_tag _ _ hpn]
  cases b with
  | para a =>
    have : ((docxXT T docxNoise).p == T.tbl) = false := beq_eq_false_iff_ne.mpr ok.xt.tbl_p.symm
    simp [this, tables_para]
  | tbl h rows =>
    have : ((docxXT T docxNoise).tbl == T.tbl) = true := by simp [docxXT]
    simp only [this, if_true]
    have e : T.tbl = (docxXT T docxNoise).tbl := rfl
    rw [e, ← List.filterMap_eq_map]
    exact iter_tbl_render _ _ ok.xt hpn (gridOf docxCellSpec) (some ∘ docxTable T) (fun _ => true) (fun _ _ _ _ _ _ _ _ _ => rfl)
      (fun h rows _ => by simp [docx_table T ok h rows]) (.tbl h rows) rfl

end docx

/-- what the ODT / ODP theorems need from the tag values -/
def OdfTags.ok (T : OdfTags) : Bool :=
  (odfXT T).ok
  && [spanTag, T.s, T.tab, T.lineBreak].all (fun s => ![T.table, T.row, T.cell, T.p].contains s && !T.skip.contains s)
  && T.s != spanTag && T.tab != spanTag && T.lineBreak != spanTag
  && T.s != T.tab && T.s != T.lineBreak && T.tab != T.lineBreak
  && officeText != T.table && colTag != T.row && colTag != T.table
  && T.headerRows != T.row && T.headerRows != T.table && colTag != T.headerRows

/-- what the ODT / ODP proofs use of `T.ok` (`xt`: the structural vocabulary; `inline_…`: the four inline tags of a paragraph
    are neither structural nor skipped; then the single inequalities) -/
structure OdfTags.Ok (T : OdfTags) : Prop where
  xt : (odfXT T).Ok
  inline_struct : ∀ s ∈ [spanTag, T.s, T.tab, T.lineBreak], s ∉ (odfXT T).S
  inline_skip : ∀ s ∈ [spanTag, T.s, T.tab, T.lineBreak], s ∉ T.skip
  s_span : T.s ≠ spanTag
  tab_span : T.tab ≠ spanTag
  lineBreak_span : T.lineBreak ≠ spanTag
  s_tab : T.s ≠ T.tab
  s_lineBreak : T.s ≠ T.lineBreak
  tab_lineBreak : T.tab ≠ T.lineBreak
  officeText_table : officeText ≠ T.table
  col_row : colTag ≠ T.row
  col_table : colTag ≠ T.table
  headerRows_row : T.headerRows ≠ T.row
  headerRows_table : T.headerRows ≠ T.table
  col_headerRows : colTag ≠ T.headerRows

theorem OdfTags.Ok.of_ok {T : OdfTags} (h : T.ok = true) : T.Ok := by
  simp only [OdfTags.ok, Bool.and_eq_true, bne_iff_ne, ne_eq, List.all_eq_true, Bool.not_eq_true',
    List.contains_eq_mem, List.mem_cons, List.not_mem_nil, or_false, decide_eq_false_iff_not, not_or] at h
  obtain ⟨⟨⟨⟨⟨⟨⟨⟨⟨⟨⟨⟨⟨h0, h1⟩, a1⟩, a2⟩, a3⟩, a4⟩, a5⟩, a6⟩, a7⟩, a8⟩, a9⟩, a10⟩, a11⟩, a12⟩ := h
  refine ⟨.of_ok h0, fun s hs => ?_, fun s hs => ?_, a1, a2, a3, a4, a5, a6, a7, a8, a9, a10, a11, a12⟩
  · have := (h1 s (by simpa using hs)).1
    simp [XT.S, odfXT, this]
  · simpa using (h1 s (by simpa using hs)).2

/-- what `odfRows` makes of one row: its cell texts, nothing for a row without cells (`if row_data:`) -/
def odfRowOf (T : OdfTags) (row : Node) : Option (List Str) :=
  let cells := (findall T.cell row).map (odfCellText T)
  if cells.isEmpty then none else some cells

theorem odfRows_eq (T : OdfTags) (rows : List Node) : odfRows T rows = rows.filterMap (odfRowOf T) := rfl

/-- what `odtTables` makes of one table element: its grid, nothing for a table without rows (`if data:`) -/
def odtTableOf (T : OdfTags) (table : Node) : Option Grid :=
  let data := odfRows T (odtOwnRows T table)
  if data.isEmpty then none else some data

theorem odtTables_eq (T : OdfTags) (body : Node) : odtTables T body = (iter T.table body).filterMap (odtTableOf T) := rfl

section odf
variable (T : OdfTags)

theorem odfTextL_plain (t : Str) (a x ch tl) (r : List Node) (h0 : t ∉ T.skip) (h1 : t ≠ T.s) (h2 : t ≠ T.tab)
    (h3 : t ≠ T.lineBreak) : odfTextL T (.mk t a x ch tl :: r) = odfText T (.mk t a x ch tl) ++ tl ++ odfTextL T r := by
  simp [odfTextL, Node.tag, Node.tail, h0, h1, h2, h3]

theorem odtOwnRowsL_rows (rows : List Node) (hr : ∀ r ∈ rows, r.tag = T.row) : odtOwnRowsL T rows = rows := by
  induction rows with
  | nil => simp [odtOwnRowsL]
  | cons r rs ih =>
    cases r with
    | mk t a x ch tl =>
      have : t = T.row := hr (.mk t a x ch tl) (by simp)
      have ih' := ih (fun r hr' => hr r (by simp [hr']))
      simp [odtOwnRowsL, this, ih']

theorem odtOwnRowsL_append (l₁ l₂ : List Node) : odtOwnRowsL T (l₁ ++ l₂) = odtOwnRowsL T l₁ ++ odtOwnRowsL T l₂ := by
  induction l₁ with
  | nil => simp [odtOwnRowsL]
  | cons c r ih => cases c; simp [odtOwnRowsL, ih]

variable (ok : T.Ok)
include ok

theorem odf_paraOk (p : OdfPara) : paraOk (odfXT T) (odfParaNode T p) = true := by
  -- over a variable tag: with `spanTag` written into the node the tags are compared character by character
  have leaf : ∀ s ∈ [spanTag, T.s, T.tab, T.lineBreak], ∀ x tl, noTags (odfXT T).S (.mk s [] x [] tl) = true := by
    intro s h x tl
    simp [noTags, ok.inline_struct s h]
  simp only [paraOk, odfParaNode, mk_tag, mk_kids, List.all_map, List.all_eq_true, Bool.and_eq_true, Function.comp_apply]
  refine ⟨by simp [odfXT], fun pc _ => ?_⟩
  cases pc with
  | span s tl => exact leaf spanTag (by simp) _ _
  | spaces tl => exact leaf T.s (by simp) _ _
  | tab tl => exact leaf T.tab (by simp) _ _
  | lineBreak tl => exact leaf T.lineBreak (by simp) _ _

theorem odfTextL_pieces (ps : List OdfPiece) :
    odfTextL T (ps.map (OdfPiece.node T)) = ps.flatMap OdfPiece.text := by
  have k1' := ok.inline_skip spanTag (by simp)
  have k2' := ok.inline_skip T.s (by simp)
  have k3' := ok.inline_skip T.tab (by simp)
  have k4' := ok.inline_skip T.lineBreak (by simp)
  induction ps with
  | nil => simp [odfTextL]
  | cons pc r ih =>
    simp only [List.map_cons, List.flatMap_cons]
    cases pc with
    | span s tl =>
      rw [OdfPiece.node, odfTextL_plain T spanTag [] s [] tl _ k1' ok.s_span.symm ok.tab_span.symm ok.lineBreak_span.symm, ih]
      simp [OdfPiece.text, odfText, odfTextL]
    | spaces tl =>
      simp only [odfTextL, ih]
      simp [OdfPiece.node, OdfPiece.text, Node.tag, Node.tail, Node.get, Node.attrs, k2']
    | tab tl =>
      simp only [odfTextL, ih]
      have e1 : (T.tab == T.s) = false := beq_eq_false_iff_ne.mpr ok.s_tab.symm
      simp [OdfPiece.node, OdfPiece.text, Node.tag, Node.tail, k3', e1]
    | lineBreak tl =>
      simp only [odfTextL, ih]
      have e1 : (T.lineBreak == T.s) = false := beq_eq_false_iff_ne.mpr ok.s_lineBreak.symm
      have e2 : (T.lineBreak == T.tab) = false := beq_eq_false_iff_ne.mpr ok.tab_lineBreak.symm
      simp [OdfPiece.node, OdfPiece.text, Node.tag, Node.tail, k4', e1, e2]

theorem odfText_para (p : OdfPara) : odfText T (odfParaNode T p) = p.text := by
  simp [odfParaNode, odfText, OdfPara.text, odfTextL_pieces T ok]

theorem odf_cellText (cell : List (Blk OdfPara)) :
    odfCellText T (tcNode (odfXT T) (cell.map (Blk.render (odfXT T) (odfParaNode T)))) = odfCellSpec (cellParas cell) :=
  cellText_rendered _ _ ok.xt (odf_paraOk T ok) _ _ (odfText_para T ok) cell

theorem odt_ownRows (h : Nat) (rows : List Node) (hr : ∀ r ∈ rows, r.tag = T.row) :
    odtOwnRows T (tblNode (odfXT T) h rows) = rows := by
  -- neither a row nor a table: the column element has no child, the header wrapper is looked through
  have e1 : odtOwnRowsL T [elem colTag []] = [] := by simp [elem, odtOwnRowsL, ok.col_row, ok.col_table]
  have e2 (l : List Node) : odtOwnRowsL T (wrap (some T.headerRows) l) = odtOwnRowsL T l :=
    wrap_congr _ _ l (by simp [elem, odtOwnRowsL, ok.headerRows_row, ok.headerRows_table])
  unfold odtOwnRows tblNode
  rw [elem_kids, odtOwnRowsL_append, odtOwnRowsL_append]
  simp only [odfXT, wrap_none]
  rw [e1, e2, List.nil_append, ← odtOwnRowsL_append, List.take_append_drop, odtOwnRowsL_rows T _ hr]

theorem odfRow_rendered (row : List (List (Blk OdfPara))) (hne : row.isEmpty = false) :
    odfRowOf T (trNode (odfXT T) (row.map (fun cell => tcNode (odfXT T) (cell.map (Blk.render (odfXT T) (odfParaNode T))))))
      = some (row.map (fun cell => odfCellSpec (cellParas cell))) := by
  rw [odfRowOf, show T.cell = (odfXT T).tc from rfl, findall_tc _ ok.xt _ (tag_of_map fun _ => tcNode_tag ..), List.map_map,
    Function.comp_def]
  simp only [List.isEmpty_map, hne, Bool.false_eq_true, if_false]
  exact congrArg some (List.map_congr_left fun cell _ => odf_cellText T ok cell)

theorem odfRows_rendered (rows : Rows OdfPara) (hne : rows.all (fun row => !row.isEmpty) = true) :
    odfRows T (rows.map (fun row => trNode (odfXT T) (row.map (fun cell =>
      tcNode (odfXT T) (cell.map (Blk.render (odfXT T) (odfParaNode T))))))) = gridOf odfCellSpec rows := by
  unfold gridOf
  rw [odfRows_eq, List.filterMap_map]
  apply List.filterMap_eq_map_of_mem
  intro row hrow
  have := List.all_eq_true.mp hne row hrow
  exact odfRow_rendered T ok row (by simpa using this)

theorem odt_table (h : Nat) (rows : Rows OdfPara) (hp : Blk.proper (.tbl h rows) = true) :
    odtTableOf T (Blk.render (odfXT T) (odfParaNode T) (.tbl h rows)) = some (gridOf odfCellSpec rows) := by
  rw [proper_tbl] at hp
  simp only [Bool.and_eq_true] at hp
  rw [odtTableOf, render_tbl, odt_ownRows T ok _ _ (tag_of_map fun _ => trNode_tag ..),
    odfRows_rendered T ok rows hp.1.2]
  have : (gridOf odfCellSpec rows).isEmpty = false := by
    cases rows with
    | nil => simp at hp
    | cons _ _ => simp [gridOf]
  simp [this]

theorem odt_tables (doc : List (Blk OdfPara)) (hp : doc.all Blk.proper = true) :
    odtTables T (odtBody T doc) = doc.flatMap (Blk.tables odfCellSpec) := by
  have hpn := odf_paraOk T ok
  rw [odtTables_eq, odtBody, iter_elem_ne ok.officeText_table]
  simp only [List.flatMap_map, List.filterMap_flatMap]
  apply List.flatMap_congr
  intro b hb
  have e : T.table = (odfXT T).tbl := rfl
  rw [e]
  exact iter_tbl_render _ _ ok.xt hpn (gridOf odfCellSpec) (odtTableOf T) Blk.proper proper_sub (odt_table T ok) b
    (List.all_eq_true.mp hp b hb)

theorem odp_table (t : OdpTable) (hne : t.2.all (fun row => !row.isEmpty) = true) :
    odpTable T (odpTableNode T t) = t.2.map (fun row => row.map odfCellSpec) := by
  obtain ⟨h, rows⟩ := t
  simp only at hne ⊢
  unfold odpTable odpTableNode
  rw [render_tbl]
  generalize hR : (toBlkRows rows).map (fun row => trNode (odfXT T) (row.map (fun cell =>
      tcNode (odfXT T) (cell.map (Blk.render (odfXT T) (odfParaNode T)))))) = R
  have hr : ∀ r ∈ R, r.tag = T.row := by
    rw [← hR]; exact tag_of_map fun _ => trNode_tag ..
  have ht : ∀ r ∈ R.take h, r.tag = T.row := fun r hm => hr r (List.mem_of_mem_take hm)
  have hd : ∀ r ∈ R.drop h, r.tag = T.row := fun r hm => hr r (List.mem_of_mem_drop hm)
  have fd : (R.drop h).filter (fun m => m.tag == T.headerRows) = [] :=
    List.filter_eq_nil_iff.mpr fun n hn => by simp [hd n hn, ok.headerRows_row.symm]
  -- the children of the table: the column element, the header rows in their wrapper, the other rows bare
  have key : (findall T.headerRows (tblNode (odfXT T) h R)).flatMap (findall T.row) ++ findall T.row (tblNode (odfXT T) h R) = R := by
    unfold tblNode
    simp only [findall_elem, odfXT, wrap_none, List.filter_append, filter_wrap, if_true, if_neg ok.headerRows_row, fd, filter_all hd,
      List.filter_cons, elem_tag, beq_iff_eq, if_neg ok.col_row, if_neg ok.col_headerRows, List.filter_nil, List.nil_append, List.append_nil]
    rw [wrap_findall _ ht, List.take_append_drop]
  rw [key, ← hR, odfRows_rendered T ok (toBlkRows rows) (by
    simp only [toBlkRows, List.all_map, Function.comp_def, List.isEmpty_map] at hne ⊢; exact hne), gridOf_toBlkRows]

end odf

/-- the tag inequalities the PPTX theorem uses -/
def PptxTags.pairs (T : PptxTags) : List (Str × Str) :=
  [(pGraphicFrame, T.graphicData), (pNvPr, T.graphicData), (aGraphic, T.graphicData),
   (aTblPr, T.tr), (aTblGrid, T.tr), (T.txBody, T.p), (aBodyPr, T.p),
   (aPPr, T.p), (T.r, T.p), (T.fld, T.p), (T.br, T.p), (aRPr, T.p), (T.t, T.p),
   (aPPr, T.r), (aPPr, T.fld), (aPPr, T.br), (aPPr, T.t), (T.fld, T.r), (T.br, T.r), (T.br, T.fld),
   (aRPr, T.t), (aTcPr, T.txBody)]

def PptxTags.ok (T : PptxTags) : Bool := T.pairs.all (fun p => p.1 != p.2)

/-- the text `pptxFrameTable` reads off one `a:tc` -/
def pptxCellText (T : PptxTags) (tc : Node) : Str :=
  match find T.txBody tc with
  | some b => pyStrip (pptxText T b)
  | none => []

section pptx
variable (T : PptxTags) (hT : T.ok = true)
include hT

/-- `T.ok` unpacked into one fact `(a == b) = false` per pair of `T.pairs`, in the order of `T.pairs` (the proof is the
    unfolding, so the two lists go together): the proofs below give the conjunction to `simp only [ne, …]` as a set of
    rewrite rules -/
theorem pptx_ne :
    (pGraphicFrame == T.graphicData) = false ∧ (pNvPr == T.graphicData) = false ∧ (aGraphic == T.graphicData) = false ∧
    (aTblPr == T.tr) = false ∧ (aTblGrid == T.tr) = false ∧ (T.txBody == T.p) = false ∧ (aBodyPr == T.p) = false ∧ (aPPr
    == T.p) = false ∧ (T.r == T.p) = false ∧ (T.fld == T.p) = false ∧ (T.br == T.p) = false ∧ (aRPr == T.p) = false ∧ (T.t
    == T.p) = false ∧ (aPPr == T.r) = false ∧ (aPPr == T.fld) = false ∧ (aPPr == T.br) = false ∧ (aPPr == T.t) = false ∧
    (T.fld == T.r) = false ∧ (T.br == T.r) = false ∧ (T.br == T.fld) = false ∧ (aRPr == T.t) = false ∧ (aTcPr == T.txBody)
    = false := by
  simp only [PptxTags.ok, PptxTags.pairs, List.all_cons, List.all_nil, Bool.and_true, Bool.and_eq_true, bne,
    Bool.not_eq_true'] at hT
  exact hT

theorem pptx_paraText (p : PptxPara) : pptxParaText T (pptxParaNode T p) = p.flatMap PptxPiece.text := by
  have ne := pptx_ne T hT
  unfold pptxParaText pptxParaNode
  simp only [ne, elem_kids, List.flatMap_cons, elem_tag, Bool.or_self, Bool.false_eq_true, if_false, List.nil_append,
    List.flatMap_map]
  apply List.flatMap_congr
  intro pc _
  cases pc <;> simp [ne, PptxPiece.node, PptxPiece.text, find_elem]

theorem pptx_iter_p_para (p : PptxPara) : iter T.p (pptxParaNode T p) = [pptxParaNode T p] := by
  have ne := pptx_ne T hT
  have : p.flatMap (fun a => iter T.p (PptxPiece.node T a)) = [] := by
    apply List.flatMap_eq_nil_iff.mpr
    intro pc _
    cases pc <;> simp [ne, PptxPiece.node, iter_elem, iter_mk]
  unfold pptxParaNode
  simp only [ne, iter_elem, beq_self_eq_true, if_true, List.flatMap_cons, Bool.false_eq_true, if_false, List.flatMap_nil,
    List.append_nil, List.flatMap_map, this]

theorem pptx_cell (cell : List PptxPara) :
    pptxCellText T (pptxCellNode T cell) = pyStrip (pptxCellSpec cell) := by
  have ne := pptx_ne T hT
  have : cell.flatMap (fun a => iter T.p (pptxParaNode T a)) = cell.map (pptxParaNode T) :=
    (List.flatMap_congr fun p _ => pptx_iter_p_para T hT p).trans List.map_eq_flatMap.symm
  unfold pptxCellText pptxCellNode
  rw [find_elem, List.find?_cons_of_pos (by simp)]
  unfold pptxText pptxCellSpec
  simp only [ne, iter_elem, Bool.false_eq_true, if_false, List.nil_append, List.flatMap_cons, List.flatMap_nil,
    List.flatMap_map, this, List.map_map, Function.comp_def]
  rw [List.map_congr_left fun p _ => pptx_paraText T hT p]

theorem pptx_frame (t : PptxTable) :
    pptxFrameTable T (pptxFrame T t) = some (t.map (fun row => row.map (fun cell => pyStrip (pptxCellSpec cell)))) := by
  have ne := pptx_ne T hT
  -- `rw`, not `unfold`: after `unfold` the kernel compares the two sides by evaluating the `match` on the written frame
  rw [pptxFrameTable, pptxFrame]
  simp only [ne, iter_elem, Bool.false_eq_true, if_false, List.nil_append, List.flatMap_cons, List.flatMap_nil, iter_mk,
    beq_self_eq_true, if_true, List.append_nil, List.cons_append, List.head?_cons]
  have g1 : ∀ kids, Node.get (.mk T.graphicData [(sUri, T.tableUri)] [] kids []) sUri = some T.tableUri := by
    intro kids; simp [Node.get]
  have g2 : ∀ (a : List (Str × Str)) (e : List Node), find T.tbl (.mk T.graphicData a [] [elem T.tbl e] []) = some (elem T.tbl e) := by
    intro a e; simp [find]
  simp only [ne, g1, g2, bne_self_eq_false, Bool.false_eq_true, if_false, findall_elem, List.filter_cons, elem_tag]
  refine congrArg some ?_
  rw [filter_all (tag_of_map fun _ => elem_tag ..), List.map_map]
  apply List.map_congr_left
  intro row _
  rw [Function.comp_apply, findall_elem, filter_all (tag_of_map (tag := T.tc) fun _ => rfl), List.map_map,
    Function.comp_def]
  exact List.map_congr_left fun cell _ => pptx_cell T hT cell

end pptx

end S2T.Tables
