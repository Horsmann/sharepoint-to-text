import S2T.Model.LoopInventory
import S2T.Gen.Loops
import S2T.Lemmas.Covered
import S2T.Lemmas.StrTable
/-! The closed world of `while` loops and self-recursive functions, decided on the current source;
`Props/C12_Loops.lean` and `Props/C01_Iter.lean` both stand on it.

The tables are compared as character lists (`Lemmas/StrTable.lean` says why): `simp` pushes `String.toList` to the literals
of the two tables and rewrites them with `String.toList_ofList`, the kernel runs the walk of `Lemmas/Covered.lean` over the
lists, injectivity brings the result back. -/
namespace S2T.Loops
open S2T.Gen.Loops S2T.StrTable

def keyChars : LoopKey → List Char × List Char × List Char × List (List Char) :=
  Prod.map String.toList (Prod.map String.toList (Prod.map String.toList (List.map String.toList)))

theorem keyChars_inj : ∀ a b, keyChars a = keyChars b → a = b :=
  prodMap_inj toList_inj (prodMap_inj toList_inj (prodMap_inj toList_inj fun _ _ h =>
    (List.map_inj_right fun _ _ => String.toList_injective).1 h))

def whileKey (ℓ : String × String × String × List String × Bool) : LoopKey := (ℓ.1, ℓ.2.1, ℓ.2.2.1, ℓ.2.2.2.1)

/- `simp` is handed the tables themselves: their bodies are lists of tuples of literals, and `String.toList` reaches a
literal only after `List.map` and `Prod.map` are pushed through the list, which is `simp`'s work (`decide_chars` unfolds
and rewrites, it does not push).  What `Lemmas/Chars.lean` warns of, a constant whose body is `"…".toList`, is not here. -/
theorem whileKeys_same : SameEntries (whileLoops.map whileKey) knownKeys := by
  refine (sameEntries_sound ?_).of_map keyChars_inj
  simp -index only [whileLoops, knownKeys, provenLoops, assumedLoops, whileKey, List.map_cons, List.map_nil,
    List.cons_append, List.nil_append, keyChars, Prod.map_apply, String.toList_ofList]
  decide +kernel

theorem whileLoops_known : ∀ ℓ ∈ whileLoops, whileKey ℓ ∈ knownKeys := fun _ hℓ =>
  whileKeys_same.sub _ (List.mem_map_of_mem hℓ)

theorem knownKeys_current : ∀ k ∈ knownKeys, k ∈ whileLoops.map whileKey := whileKeys_same.sup

theorem recursiveFunctions_read : ∀ f ∈ recursiveFunctions, f ∈ recursiveByReading.map (·.1) := by
  refine covered_of_map (prodMap_inj toList_inj toList_inj) ?_
  -- the tables go to `simp` for the reason given above `whileKeys_same`
  simp -index only [recursiveFunctions, recursiveByReading, List.map_cons, List.map_nil, Prod.map_apply,
    String.toList_ofList]
  decide +kernel

end S2T.Loops
