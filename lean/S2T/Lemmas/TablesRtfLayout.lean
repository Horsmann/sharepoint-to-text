import S2T.Lemmas.TablesRtfFinal
/-!
Row layouts: every written row carries what its writer puts behind its `\row` (nothing at all — `\row\trowd`, rows
directly one after the other, as compact writers emit them —, a space, LF, CR LF, a closing / opening brace, …).
The text of a document then is gaps and rows in turn, with the separator of a row as the gap in front of the next;
`extractTables_body` (the generic layer) does not care what the gaps are, as long as `\trowd` / `\row` do not match
inside them and the text behind every `\row` lets `\\row\b` match (`StartsNW`).  The documents of `docRtf` (a line end
behind every `\row`) are the instance `withNl`.  (`RowLayout` of the Spec, ten slots, is the writer of the harness; of its slots only
`rowEnd`, the separator, occurs in a theorem: `C13_rtf_layout_tie` in Props/C13_RtfLayout.)
-/
namespace S2T.Tables.Rtf
open S2T.HtmlSkip (Str)
open S2T.Tables

/-- a row and what is written behind its `\row`, its separator: the `S` in `SRow`, `STable`, `segsS`, `docRtfS`, `gtsOfS` … -/
abbrev SRow := RRow × Str
abbrev STable := List SRow

def rowsOfS (t : STable) : RTable := t.map (·.1)

def tableRtfS (t : STable) : Str := t.flatMap (fun r => rowRtf r.1 ++ r.2)

/-- what is written behind the last `\row` of the table (`g` for a table without rows) -/
def lastSep (g : Str) : STable → Str
  | [] => g
  | r :: rs => lastSep r.2 rs

/-- the rows, each with the text in front of it: `g` in front of the first, then the separator of the row before -/
def segsS (g : Str) : STable → List Seg
  | [] => []
  | r :: rs => (g, r.1) :: segsS r.2 rs

def tablesRtfS (ts : List (STable × List Str)) : Str := ts.flatMap (fun tp => tableRtfS tp.1 ++ parasRtf tp.2)

/-- a document written with row layouts: leading paragraphs, tables, each followed by paragraphs -/
def docRtfS (lead : List Str) (ts : List (STable × List Str)) : Str :=
  (header ++ parasRtf lead) ++ tablesRtfS ts ++ ['}']

def tailS (g : Str) : List (STable × List Str) → Str
  | [] => g ++ ['}']
  | tp :: rest => tailS (lastSep g tp.1 ++ parasRtf tp.2) rest

/-- (text in front of the table, its rows) -/
def gtsOfS (g : Str) : List (STable × List Str) → List GT
  | [] => []
  | tp :: rest => (g, rowsOfS tp.1) :: gtsOfS (lastSep [] tp.1 ++ parasRtf tp.2) rest

/-- the rows of the document with the gap in front of each: `g` in front of the first table -/
def segsOf (g : Str) : List (STable × List Str) → List Seg
  | [] => []
  | tp :: rest => segsS g tp.1 ++ segsOf (lastSep g tp.1 ++ parasRtf tp.2) rest

theorem segsS_text : ∀ (t : STable) (g Y : Str),
    g ++ (tableRtfS t ++ Y) = (segsS g t).flatMap (fun s => s.1 ++ rowRtf s.2) ++ (lastSep g t ++ Y)
  | [], g, Y => by simp [tableRtfS, segsS, lastSep]
  | r :: rs, g, Y => by
    have ih := segsS_text rs r.2 Y
    simp only [tableRtfS, List.flatMap_cons, segsS, lastSep, List.append_assoc] at ih ⊢
    rw [ih]

theorem text_as_bodyS : ∀ (ts : List (STable × List Str)) (g : Str),
    g ++ tablesRtfS ts ++ ['}'] = body (segsOf g ts) (tailS g ts)
  | [], g => by simp [tablesRtfS, segsOf, body, tailS]
  | tp :: rest, g => by
    have ih := text_as_bodyS rest (lastSep g tp.1 ++ parasRtf tp.2)
    have h1 := segsS_text tp.1 g (parasRtf tp.2 ++ (tablesRtfS rest ++ ['}']))
    simp only [segsOf, body_append, tailS, ← ih]
    simp only [tablesRtfS, List.flatMap_cons, List.append_assoc] at h1 ⊢
    rw [h1]

theorem lastSep_eq : ∀ (t : STable) (g : Str) (h : t ≠ []), lastSep g t = (t.getLast h).2
  | [], _, h => absurd rfl h
  | [_], _, _ => rfl
  | x :: r :: rs, _, _ => lastSep_eq (r :: rs) x.2 (List.cons_ne_nil _ _)

theorem segsS_rows : ∀ (t : STable) (g : Str), (segsS g t).map (·.2) = rowsOfS t
  | [], _ => rfl
  | r :: rs, g => by simp [segsS, rowsOfS, segsS_rows rs r.2]

theorem segsS_all (G : Str → Prop) (R : RRow → Prop) : ∀ (t : STable) (g : Str), G g → (∀ r ∈ t, R r.1 ∧ G r.2) →
    ∀ s ∈ segsS g t, G s.1 ∧ R s.2
  | [], _, _, _, _, hs => nomatch hs
  | r :: rs, _, hg, h, s, hs => by
    rcases List.mem_cons.mp hs with rfl | hs'
    · exact ⟨hg, (h r List.mem_cons_self).1⟩
    · exact segsS_all G R rs r.2 (h r List.mem_cons_self).2 (fun x hx => h x (List.mem_cons_of_mem _ hx)) s hs'

/-- a row separator: no backslash (white space, line ends, braces, any text that is not a control word), not longer
    than the raw-gap literal (so the heuristic cannot take it for a table break), empty or starting with a character
    that ends the control word `\row` -/
def sepOk (P : Params) (g : Str) : Bool :=
  g.all (fun c => c != '\\') && decide (g.length ≤ P.rawGap) && (match g with | [] => true | c :: _ => !isWord P c)

theorem breaks_of_sepOk {P : Params} {g : Str} (h : sepOk P g = true) : breaks P g = false := by
  simp only [sepOk, Bool.and_eq_true, decide_eq_true_eq] at h
  simp only [breaks, Bool.and_eq_false_iff, decide_eq_false_iff_not]; left; omega

theorem gapOk_of_sepOk {P : Params} {g : Str} (h : sepOk P g = true) : GapOk P g := by
  simp only [sepOk, Bool.and_eq_true] at h
  exact ⟨silentGap_noBs P (noBs_of_all g h.1.1), fun c t he => by subst he; simpa using h.2⟩

structure STableOk (P : Params) (t : STable) : Prop where
  ne : t ≠ []
  rows : ∀ r ∈ t, RowOk r.1
  seps : ∀ r ∈ t, sepOk P r.2 = true

theorem fold_rowsS (P : Params) (hP : paramsOk P = true) : ∀ (rs : List Seg) (cur : Grid) (out : List Grid),
    (∀ s ∈ rs, RowOk s.2 ∧ breaks P s.1 = false) →
    rs.foldl (segStep P) (cur, out) = (cur ++ gridSpec (rs.map (·.2)), out)
  | [], cur, out, _ => by simp [gridSpec]
  | s :: rs, cur, out, h => by
    obtain ⟨hr, hb⟩ := h s List.mem_cons_self
    -- `segStep_row` is stated for a pair written out: `s` as `(s.1, s.2)`
    rw [List.foldl_cons, show s = (s.1, s.2) from rfl, segStep_row P hP _ _ s.2 hr, hb]
    simp only [Bool.and_false, Bool.false_eq_true, if_false]
    rw [fold_rowsS P hP rs _ _ (fun x hx => h x (List.mem_cons_of_mem _ hx))]
    simp [gridSpec]

/-- in front of the first row of a table the heuristic may see a break, inside a table it sees none -/
theorem fold_tableS (P : Params) (hP : paramsOk P = true) (t : STable) (ht : STableOk P t) (g : Str) (cur : Grid)
    (out : List Grid) :
    (segsS g t).foldl (segStep P) (cur, out) =
      if !cur.isEmpty && breaks P g then (gridSpec (rowsOfS t), out ++ [saveTable cur])
      else (cur ++ gridSpec (rowsOfS t), out) := by
  obtain ⟨hne, hrows, hseps⟩ := ht
  cases t with
  | nil => exact absurd rfl hne
  | cons r rs =>
    have hrest := segsS_all (fun g => sepOk P g = true) RowOk rs r.2 (hseps r List.mem_cons_self)
      (fun x hx => ⟨hrows x (List.mem_cons_of_mem _ hx), hseps x (List.mem_cons_of_mem _ hx)⟩)
    have hfold := fun cur out => fold_rowsS P hP (segsS r.2 rs) cur out
      (fun s hs => ⟨(hrest s hs).2, breaks_of_sepOk (hrest s hs).1⟩)
    simp only [segsS, List.foldl_cons, rowsOfS, List.map_cons]
    rw [segStep_row P hP _ _ r.1 (hrows r List.mem_cons_self)]
    split <;> rw [hfold, segsS_rows] <;> simp [gridSpec, rowsOfS]

theorem fold_docS (P : Params) (hP : paramsOk P = true) : ∀ (ts : List (STable × List Str)) (g : Str) (cur : Grid)
    (out : List Grid), (∀ tp ∈ ts, STableOk P tp.1) →
    finish ((segsOf g ts).foldl (segStep P) (cur, out)) = out ++ groupTables P cur (gtsOfS g ts)
  | [], _, cur, out, _ => by
    simp only [segsOf, List.foldl_nil, finish, gtsOfS, groupTables]
    split <;> simp_all [List.isEmpty_iff]
  | tp :: rest, g, cur, out, h => by
    have ht := h tp List.mem_cons_self
    have hrest := fun x hx => h x (List.mem_cons_of_mem _ hx)
    -- `segsOf` threads `lastSep g`, `gtsOfS` `lastSep []`: behind a table with rows both are the separator of its last row
    rw [segsOf, List.foldl_append, fold_tableS P hP tp.1 ht, lastSep_eq tp.1 g ht.ne, ← lastSep_eq tp.1 []]
    simp only [gtsOfS, groupTables]
    split
    · rw [fold_docS P hP rest _ _ _ hrest]; simp
    · rw [fold_docS P hP rest _ _ _ hrest]

theorem startsNW_paras (P : Params) (ps : List Str) : StartsNW P (parasRtf ps) := by
  cases ps with
  | nil => exact fun _ _ h => nomatch h
  | cons p ps =>
    have : parasRtf (p :: ps) = '\\' :: ("pard ".toList ++ esc p ++ "\\par\n".toList ++ parasRtf ps) := by
      simp [parasRtf, paraRtf]
    rw [this]; exact startsNW_bs P _

theorem startsNW_header (P : Params) (x : Str) : StartsNW P (header ++ x) := by
  unfold header
  rw [String.toList_ofList]
  exact startsNW_cons P _ (isWord_lbrace P)

theorem gapOk_after (P : Params) (t : STable) (ht : STableOk P t) (g : Str) (ps : List Str)
    (hps : ∀ p ∈ ps, plainText p = true) : GapOk P (lastSep g t ++ parasRtf ps) := by
  have hs := gapOk_of_sepOk (ht.seps _ (List.getLast_mem ht.ne))
  rw [lastSep_eq t g ht.ne]
  exact ⟨(appends_silentGap P).append hs.silent (silentGap_paras P ps hps),
    startsNW_append P _ _ hs.startsNW (fun _ => startsNW_paras P ps)⟩

theorem wellSeg_docS (P : Params) : ∀ (ts : List (STable × List Str)) (g : Str), GapOk P g →
    (∀ tp ∈ ts, STableOk P tp.1 ∧ ∀ p ∈ tp.2, plainText p = true) → WellSeg P (segsOf g ts) (tailS g ts)
  | [], g, hg, _ => by
    refine ⟨nofun, (appends_silentGap P).append hg.silent (silentGap_noBs P (noBs_of_all _ (by decide))), ?_⟩
    apply startsNW_append P _ _ hg.startsNW
    exact fun _ => startsNW_cons P [] (isWord_rbrace P)
  | tp :: rest, g, hg, h => by
    obtain ⟨htp, hps⟩ := h tp List.mem_cons_self
    have ih := wellSeg_docS P rest _ (gapOk_after P tp.1 htp g tp.2 hps) (fun x hx => h x (List.mem_cons_of_mem _ hx))
    refine ⟨fun s hs => ?_, ih.last⟩
    rcases List.mem_append.mp hs with hs | hs
    · exact segsS_all (GapOk P) RowOk tp.1 g hg (fun r hr => ⟨htp.rows r hr, gapOk_of_sepOk (htp.seps r hr)⟩) s hs
    · exact ih.seg s hs

theorem extractTables_docRtfS (P : Params) (hP : paramsOk P = true) (lead : List Str) (ts : List (STable × List Str))
    (hlead : ∀ p ∈ lead, plainText p = true) (hts : ∀ tp ∈ ts, STableOk P tp.1 ∧ ∀ p ∈ tp.2, plainText p = true) :
    extractTables P (docRtfS lead ts) = groupTables P [] (gtsOfS (header ++ parasRtf lead) ts) := by
  unfold docRtfS
  rw [text_as_bodyS, extractTables_body P _ _ (wellSeg_docS P ts _
      ⟨(appends_silentGap P).append (silentGap_header P) (silentGap_paras P lead hlead), startsNW_header P _⟩ hts),
    fold_docS P hP ts _ [] [] (fun tp htp => (hts tp htp).1)]
  simp

theorem gtsOfS_map {β : Type} (f : RTable → β) : ∀ (ts : List (STable × List Str)) (g : Str),
    (gtsOfS g ts).map (fun gt => f gt.2) = ts.map (fun tp => f (rowsOfS tp.1))
  | [], _ => rfl
  | tp :: rest, g => by simp only [gtsOfS, List.map_cons, gtsOfS_map f rest]

theorem rowsOfS_ne {P : Params} {t : STable} (h : STableOk P t) : rowsOfS t ≠ [] := by
  simpa [rowsOfS] using h.ne

theorem gtsOfS_ne {P : Params} : ∀ (ts : List (STable × List Str)) (g : Str), (∀ tp ∈ ts, STableOk P tp.1) →
    ∀ gt ∈ gtsOfS g ts, gt.2 ≠ []
  | [], _, _, _, hgt => nomatch hgt
  | tp :: rest, _, h, gt, hgt => by
    rcases List.mem_cons.mp hgt with rfl | h'
    · exact rowsOfS_ne (h tp List.mem_cons_self)
    · exact gtsOfS_ne rest _ (fun x hx => h x (List.mem_cons_of_mem _ hx)) gt h'

theorem extractTables_separated (P : Params) (hP : paramsOk P = true) (lead : List Str) (ts : List (STable × List Str))
    (hlead : ∀ p ∈ lead, plainText p = true) (hts : ∀ tp ∈ ts, STableOk P tp.1 ∧ ∀ p ∈ tp.2, plainText p = true)
    (hs : (gtsOfS (header ++ parasRtf lead) ts).tail.all (fun gt => breaks P gt.1) = true) :
    extractTables P (docRtfS lead ts) = ts.map (fun tp => tableSpec (rowsOfS tp.1)) := by
  rw [extractTables_docRtfS P hP lead ts hlead hts]
  cases ts with
  | nil => rfl
  | cons tp rest =>
    rw [gtsOfS, groupTables_nil_cons]
    rw [group_all_break P _ _ (gridSpec_ne (rowsOfS_ne (hts tp List.mem_cons_self).1))
      (gtsOfS_ne rest _ (fun x hx => (hts x (List.mem_cons_of_mem _ hx)).1)) hs, gtsOfS_map]
    rfl

theorem extractTables_length_iff (P : Params) (hP : paramsOk P = true) (lead : List Str) (ts : List (STable × List Str))
    (hlead : ∀ p ∈ lead, plainText p = true) (hts : ∀ tp ∈ ts, STableOk P tp.1 ∧ ∀ p ∈ tp.2, plainText p = true) :
    (extractTables P (docRtfS lead ts)).length = ts.length ↔
      (gtsOfS (header ++ parasRtf lead) ts).tail.all (fun gt => breaks P gt.1) = true := by
  rw [extractTables_docRtfS P hP lead ts hlead hts]
  cases ts with
  | nil => simp [gtsOfS, groupTables]
  | cons tp rest =>
    rw [gtsOfS, groupTables_nil_cons, List.tail_cons]
    rw [group_length P _ _ (gridSpec_ne (rowsOfS_ne (hts tp List.mem_cons_self).1))
      (gtsOfS_ne rest _ (fun x hx => (hts x (List.mem_cons_of_mem _ hx)).1)), List.all_eq_true,
      ← List.length_filter_eq_length_iff]
    have hl := congrArg List.length (gtsOfS_map id rest (lastSep [] tp.1 ++ parasRtf tp.2))
    simp only [List.length_map] at hl
    simp only [List.length_cons]
    omega

/-- the rows of a table as `docRtf` writes them: a line end behind every `\row` -/
def withNl (t : RTable) : STable := t.map (fun r => (r, ['\n']))

theorem tableRtfS_withNl (t : RTable) : tableRtfS (withNl t) = tableRtf t := by
  simp [tableRtfS, withNl, tableRtf, List.flatMap_map]

theorem docRtfS_withNl (lead : List Str) (ts : List (RTable × List Str)) :
    docRtfS lead (ts.map (fun tp => (withNl tp.1, tp.2))) = docRtf (docOf lead ts) := by
  rw [docRtf_docOf]
  simp [docRtfS, tablesRtfS, tablesRtf, List.flatMap_map, tableRtfS_withNl]

theorem rowsOfS_map_sep (sep : Str) (t : RTable) : rowsOfS (t.map (fun r => (r, sep))) = t := by
  simp [rowsOfS, Function.comp_def]

theorem rowsOfS_withNl (t : RTable) : rowsOfS (withNl t) = t := rowsOfS_map_sep _ t

theorem lastSep_withNl : ∀ (t : RTable) (g : Str), t ≠ [] → lastSep g (withNl t) = ['\n']
  | [], _, h => absurd rfl h
  | [_], _, _ => rfl
  | _ :: r :: rs, _, _ => lastSep_withNl (r :: rs) ['\n'] (List.cons_ne_nil _ _)

theorem gtsOfS_withNl : ∀ (ts : List (RTable × List Str)) (g : Str), (∀ tp ∈ ts, tp.1 ≠ []) →
    gtsOfS g (ts.map (fun tp => (withNl tp.1, tp.2))) = gtsOf g ts
  | [], _, _ => rfl
  | tp :: rest, g, h => by
    simp only [List.map_cons, gtsOfS, gtsOf, rowsOfS_withNl, lastSep_withNl tp.1 [] (h tp List.mem_cons_self)]
    rw [gtsOfS_withNl rest _ (fun x hx => h x (List.mem_cons_of_mem _ hx))]
    rfl

theorem sTableOk_sep (P : Params) {sep : Str} (hs : sepOk P sep = true) {t : RTable} (ht : TableOk t) :
    STableOk P (t.map (fun r => (r, sep))) := by
  refine ⟨by simpa using ht.ne, fun r hr => ?_, fun r hr => ?_⟩
  · obtain ⟨x, hx, rfl⟩ := List.mem_map.mp hr; exact ht.rows x hx
  · obtain ⟨x, _, rfl⟩ := List.mem_map.mp hr; exact hs

theorem sepOk_nl {P : Params} (hP : paramsOk P = true) : sepOk P ['\n'] = true := by
  simp [sepOk, isWord_nl, paramsOk_rawGap hP]

end S2T.Tables.Rtf
