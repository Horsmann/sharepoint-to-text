import S2T.Spec.Fips197
/-!
Facts about the FIPS-197 byte functions.  That `ginv` is the inverse and an involution, and that the two affine maps
invert each other, is decided by the kernel over the complete domain of 256 bytes; that all the functions stay below
256 follows from the degree of the polynomials, and the product InvMixMatrix · MixMatrix from additivity of `gmul` in
its first factor, which leaves the eight bytes 1, 2, 4, …, 128 to evaluate.  Nothing here depends on the Python source.
-/
namespace S2T.AesL
open S2T.Spec.Fips197

/-- both facts about `ginv` in one statement: one evaluation of every `ginv a` serves both -/
theorem ginv_spec : ∀ a, a < 256 → (a ≠ 0 → gmul a (ginv a) = 1) ∧ ginv (ginv a) = a := by decide +kernel
/-- validates the b²⁵⁴ chain of `ginv` in the specification -/
theorem gmul_ginv : ∀ a, a < 256 → (a ≠ 0 → gmul a (ginv a) = 1) := fun a h => (ginv_spec a h).1
theorem ginv_ginv : ∀ a, a < 256 → ginv (ginv a) = a := fun a h => (ginv_spec a h).2
theorem ginv_zero : ginv 0 = 0 := by decide +kernel
theorem invAffine_affine : ∀ b, b < 256 → invAffine (affine b) = b := by decide +kernel
theorem affine_invAffine : ∀ b, b < 256 → affine (invAffine b) = b := by decide +kernel
theorem gmul_one : ∀ a, a < 256 → gmul a 1 = a := by decide +kernel

/-- ⊕ over the bits i < n of x of c i -/
def bitsum (c : Nat → Nat) (x : Nat) : Nat → Nat
  | 0 => 0
  | n + 1 => bitsum c x n ^^^ (if x.testBit n then c n else 0)

theorem clmul_eq_bitsum (a b : Nat) : clmul a b = bitsum (fun i => a <<< i) b 8 := by
  have : ∀ n, (List.range n).foldl (fun p i => if b.testBit i then p ^^^ (a <<< i) else p) 0
      = bitsum (fun i => a <<< i) b n := by
    intro n
    induction n with
    | zero => rfl
    | succ n ih =>
      rw [List.range_succ, List.foldl_append, ih, List.foldl_cons, List.foldl_nil, bitsum]
      split
      · rfl
      · exact (Nat.xor_zero _).symm
  exact this 8

theorem bitsum_lt {c : Nat → Nat} {m : Nat} (x : Nat) : ∀ n, (∀ i, i < n → c i < 2 ^ m) → bitsum c x n < 2 ^ m
  | 0, _ => Nat.two_pow_pos m
  | n + 1, h => by
    refine Nat.xor_lt_two_pow (bitsum_lt x n fun i hi => h i (Nat.lt_succ_of_lt hi)) ?_
    split
    · exact h n (Nat.lt_succ_self n)
    · exact Nat.two_pow_pos m

theorem xor_lt {x y : Nat} (hx : x < 256) (hy : y < 256) : x ^^^ y < 256 := Nat.xor_lt_two_pow (n := 8) hx hy

theorem clmul_lt {a : Nat} (ha : a < 256) (b : Nat) : clmul a b < 2 ^ 15 := by
  rw [clmul_eq_bitsum]
  refine bitsum_lt b 8 fun i hi => ?_
  rw [Nat.shiftLeft_eq]
  exact Nat.mul_lt_mul_of_lt_of_le (c := 2 ^ 8) (d := 2 ^ 7) ha
    (Nat.pow_le_pow_right (by decide) (Nat.le_of_lt_succ hi)) (by decide)

/-- one step of `reduce` removes the leading term x^k -/
theorem reduce_step_lt {p k : Nat} (hk : 8 ≤ k) (hp : p < 2 ^ (k + 1)) :
    (if p.testBit k then p ^^^ (0x11B <<< (k - 8)) else p) < 2 ^ k := by
  apply Nat.lt_pow_two_of_testBit
  intro i hi
  have above : ∀ {x : Nat}, x < 2 ^ (k + 1) → k < i → x.testBit i = false := fun hx hik =>
    Nat.testBit_lt_two_pow (Nat.lt_of_lt_of_le hx (Nat.pow_le_pow_right (by decide) hik))
  have hm : 0x11B <<< (k - 8) < 2 ^ (k + 1) := by
    rw [Nat.shiftLeft_eq, (by omega : k + 1 = 9 + (k - 8)), Nat.pow_add]
    exact (Nat.mul_lt_mul_right (Nat.two_pow_pos _)).mpr (by decide)
  split
  · next h =>
    rw [Nat.testBit_xor]
    rcases Nat.eq_or_lt_of_le hi with rfl | hik
    · rw [h, Nat.testBit_shiftLeft, (by omega : k - (k - 8) = 8), decide_eq_true (Nat.sub_le k 8)]
      rfl
    · rw [above hp hik, above hm hik]; rfl
  · next h =>
    rcases Nat.eq_or_lt_of_le hi with rfl | hik
    · simpa using h
    · exact above hp hik

-- `reduce p`, a `foldl` over the literal list 14 … 8, unfolds to seven nested steps of the form `reduce_step_lt` speaks of
theorem reduce_lt {p : Nat} (hp : p < 2 ^ 15) : reduce p < 256 :=
  reduce_step_lt (k := 8) (by decide) <| reduce_step_lt (k := 9) (by decide) <|
  reduce_step_lt (k := 10) (by decide) <| reduce_step_lt (k := 11) (by decide) <|
  reduce_step_lt (k := 12) (by decide) <| reduce_step_lt (k := 13) (by decide) <|
  reduce_step_lt (k := 14) (by decide) hp

theorem gmul_lt {a : Nat} (ha : a < 256) (b : Nat) : gmul a b < 256 := reduce_lt (clmul_lt ha b)

theorem rcon_lt : ∀ i, rcon i < 256
  | 0 => by decide
  | 1 => by decide
  | i + 2 => gmul_lt (rcon_lt (i + 1)) 2

theorem ginv_lt {a : Nat} (ha : a < 256) : ginv a < 256 := by
  simp only [ginv, strict_eq]
  repeat apply gmul_lt
  exact ha

theorem rotl8_lt (x n : Nat) : rotl8 x n < 256 := Nat.and_lt_two_pow (n := 8) _ (by decide)

theorem sbox_lt : ∀ a, a < 256 → sbox a < 256 := fun a ha => by
  have := ginv_lt ha
  exact xor_lt (xor_lt (xor_lt (xor_lt (xor_lt this (rotl8_lt ..)) (rotl8_lt ..)) (rotl8_lt ..)) (rotl8_lt ..)) (by decide)

theorem invAffine_lt (a : Nat) : invAffine a < 256 :=
  xor_lt (xor_lt (xor_lt (rotl8_lt ..) (rotl8_lt ..)) (rotl8_lt ..)) (by decide)

theorem invSbox_lt (a : Nat) : invSbox a < 256 := ginv_lt (invAffine_lt a)

theorem invSbox_sbox : ∀ a, a < 256 → invSbox (sbox a) = a := fun a ha => by
  rw [invSbox, sbox, invAffine_affine _ (ginv_lt ha), ginv_ginv a ha]
theorem sbox_invSbox : ∀ a, a < 256 → sbox (invSbox a) = a := fun a ha => by
  rw [sbox, invSbox, ginv_ginv _ (invAffine_lt a), affine_invAffine a ha]

theorem xcl (a b : Nat) : a ^^^ (a ^^^ b) = b := by rw [← Nat.xor_assoc, Nat.xor_self, Nat.zero_xor]

/-- `f` is GF(2)-linear: it maps ⊕ to ⊕ -/
def XorHom (f : Nat → Nat) : Prop := ∀ x y, f (x ^^^ y) = f x ^^^ f y

theorem XorHom.zero {f : Nat → Nat} (h : XorHom f) : f 0 = 0 := by
  have := h 0 0
  rwa [Nat.xor_self, Nat.xor_self] at this

theorem XorHom.id : XorHom fun x => x := fun _ _ => rfl

theorem XorHom.const_zero : XorHom fun _ => 0 := fun _ _ => (Nat.xor_self 0).symm

theorem XorHom.comp {f g : Nat → Nat} (hf : XorHom f) (hg : XorHom g) : XorHom fun x => f (g x) :=
  fun x y => by show f (g (x ^^^ y)) = _; rw [hg x y, hf]

theorem XorHom.xor {f g : Nat → Nat} (hf : XorHom f) (hg : XorHom g) : XorHom fun x => f x ^^^ g x := by
  intro x y
  show f (x ^^^ y) ^^^ g (x ^^^ y) = f x ^^^ g x ^^^ (f y ^^^ g y)
  rw [hf x y, hg x y]
  ac_rfl

theorem XorHom.foldl {β} {step : Nat → β → Nat} (h : ∀ b, XorHom fun p => step p b) (l : List β) :
    XorHom fun p => l.foldl step p := by
  induction l with
  | nil => exact XorHom.id
  | cons b t ih => exact ih.comp (h b)

/-- every step of `reduce` adds a fixed polynomial where the bit that selects it is set, and the bit is additive -/
theorem reduce_hom : XorHom reduce := by
  refine XorHom.foldl (fun k p q => ?_) _
  show (if (p ^^^ q).testBit k then _ else _) = (if p.testBit k then _ else _) ^^^ (if q.testBit k then _ else _)
  rw [Nat.testBit_xor]
  cases p.testBit k <;> cases q.testBit k <;>
    simp only [Bool.xor_false, Bool.xor_true, Bool.not_false, Bool.not_true, if_true, if_false, Bool.false_eq_true]
  · exact Nat.xor_assoc ..
  · ac_rfl
  · have : ∀ m, p ^^^ m ^^^ (q ^^^ m) = m ^^^ (m ^^^ (p ^^^ q)) := fun m => by ac_rfl
    rw [this, xcl]

theorem bitsum_xor (c c' : Nat → Nat) (x : Nat) :
    ∀ n, bitsum (fun i => c i ^^^ c' i) x n = bitsum c x n ^^^ bitsum c' x n
  | 0 => (Nat.xor_self 0).symm
  | n + 1 => by
    simp only [bitsum, bitsum_xor c c' x n]
    split
    · ac_rfl
    · simp only [Nat.xor_zero]

theorem clmul_xor (a a' b : Nat) : clmul (a ^^^ a') b = clmul a b ^^^ clmul a' b := by
  simp only [clmul_eq_bitsum, ← bitsum_xor, Nat.shiftLeft_xor_distrib]

theorem gmul_hom (b : Nat) : XorHom fun a => gmul a b :=
  fun a a' => by show reduce _ = reduce _ ^^^ reduce _; rw [clmul_xor, reduce_hom]

theorem gmul_xor (a a' b : Nat) : gmul (a ^^^ a') b = gmul a b ^^^ gmul a' b := gmul_hom b a a'

theorem bitsum_two_pow : ∀ x, x < 256 → bitsum (fun i => 2 ^ i) x 8 = x := by decide +kernel

theorem XorHom.ext8 {f g : Nat → Nat} (hf : XorHom f) (hg : XorHom g) (h : ∀ i, i < 8 → f (2 ^ i) = g (2 ^ i))
    {x : Nat} (hx : x < 256) : f x = g x := by
  have : ∀ n, n ≤ 8 → f (bitsum (fun i => 2 ^ i) x n) = g (bitsum (fun i => 2 ^ i) x n) := by
    intro n
    induction n with
    | zero => intro _; rw [bitsum, hf.zero, hg.zero]
    | succ n ih =>
      intro hn
      rw [bitsum, hf, hg, ih (Nat.le_of_succ_le hn)]
      split
      · rw [h n hn]
      · rw [hf.zero, hg.zero]
  rw [← bitsum_two_pow x hx]
  exact this 8 (Nat.le_refl 8)

/-- the product InvMixMatrix · MixMatrix on one byte: the first row (14 11 13 9) times column 0 is the diagonal entry, the
    identity; times columns 1, 2, 3 the entries off the diagonal, zero.  The other rows are rotations of the first. -/
theorem invMix_mix_diag : ∀ a, a < 256 → gmul (gmul a 2) 14 ^^^ gmul a 11 ^^^ gmul a 13 ^^^ gmul (gmul a 3) 9 = a :=
  fun _ => XorHom.ext8 (g := fun a => a) ((((gmul_hom 14).comp (gmul_hom 2)).xor (gmul_hom 11)).xor (gmul_hom 13)
    |>.xor ((gmul_hom 9).comp (gmul_hom 3))) XorHom.id (by decide +kernel)
theorem invMix_mix_off1 : ∀ a, a < 256 → gmul (gmul a 3) 14 ^^^ gmul (gmul a 2) 11 ^^^ gmul a 13 ^^^ gmul a 9 = 0 :=
  fun _ => XorHom.ext8 (g := fun _ => 0) ((((gmul_hom 14).comp (gmul_hom 3)).xor ((gmul_hom 11).comp (gmul_hom 2))).xor
    (gmul_hom 13) |>.xor (gmul_hom 9)) XorHom.const_zero (by decide +kernel)
theorem invMix_mix_off2 : ∀ a, a < 256 → gmul a 14 ^^^ gmul (gmul a 3) 11 ^^^ gmul (gmul a 2) 13 ^^^ gmul a 9 = 0 :=
  fun _ => XorHom.ext8 (g := fun _ => 0) (((gmul_hom 14).xor ((gmul_hom 11).comp (gmul_hom 3))).xor
    ((gmul_hom 13).comp (gmul_hom 2)) |>.xor (gmul_hom 9)) XorHom.const_zero (by decide +kernel)
theorem invMix_mix_off3 : ∀ a, a < 256 → gmul a 14 ^^^ gmul a 11 ^^^ gmul (gmul a 3) 13 ^^^ gmul (gmul a 2) 9 = 0 :=
  fun _ => XorHom.ext8 (g := fun _ => 0) (((gmul_hom 14).xor (gmul_hom 11)).xor ((gmul_hom 13).comp (gmul_hom 3))
    |>.xor ((gmul_hom 9).comp (gmul_hom 2))) XorHom.const_zero (by decide +kernel)

end S2T.AesL
