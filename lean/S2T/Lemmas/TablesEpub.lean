import S2T.Spec.Tables
import S2T.Lemmas.HtmlSkip
/-! C13: the table state of the EPUB event machine (`S2T.HtmlSkip.Epub`) on written chapters without
    tables inside cells. -/
namespace S2T.Tables.Epub
open S2T.HtmlSkip
open S2T.HtmlSkip.Epub (State)

/-- the part of the parser state the tables depend on -/
structure Core where
  tables : List Grid
  currentTable : Grid
  currentRow : List Str
  currentCell : List Str
  inTable : Bool
  inCell : Bool
  inTitle : Bool
  deriving DecidableEq

def core (s : State) : Core :=
  ⟨s.tables, s.currentTable, s.currentRow, s.currentCell, s.inTable, s.inCell, s.inTitle⟩

def tTitle : Str := "title".toList
def tTable : Str := "table".toList
def tTr : Str := "tr".toList
def tTd : Str := "td".toList
def tTh : Str := "th".toList
def tP : Str := "p".toList
def tThead : Str := "thead".toList
def tTbody : Str := "tbody".toList

/-- a tag the table logic does not look at -/
def inert (t : Str) : Bool := t != tTitle && t != tTable && t != tTr && t != tTd && t != tTh

variable (block : List Str)

def cstart (c : Core) (tag : Str) : Core :=
  if tag = tTitle then { c with inTitle := true }
  else if tag = tTable then { c with inTable := true, currentTable := [] }
  else if c.inTable then
    (if tag = tTr then { c with currentRow := [] }
     else if tag = tTd || tag = tTh then { c with inCell := true, currentCell := [] }
     else c)
  else c

def cend (c : Core) (tag : Str) : Core :=
  if tag = tTitle then { c with inTitle := false }
  else if tag = tTable then
    { c with tables := (if c.currentTable.isEmpty then c.tables else c.tables ++ [c.currentTable]),
             currentTable := [], inTable := false }
  else if c.inTable then
    (if tag = tTr then
       { c with currentTable := (if c.currentRow.isEmpty then c.currentTable else c.currentTable ++ [c.currentRow]),
                currentRow := [] }
     else if tag = tTd || tag = tTh then
       { c with currentRow := c.currentRow ++ [S2T.HtmlSkip.Epub.cellText c.currentCell], currentCell := [], inCell := false }
     else c)
  else c

def cdata (c : Core) (d : Str) : Core :=
  if c.inTitle then c else if c.inCell then { c with currentCell := c.currentCell ++ [d] } else c

def cstep (c : Core) : DEv → Core
  | .start t _ => cstart c t
  | .end_ t => cend c t
  | .data d => cdata c d

/-- the table fields evolve on their own: the rest of the state (text parts, block flag, title) never feeds back -/
theorem core_step (s : State) (e : DEv) : core ((Epub.down block).step s e) = cstep (core s) e := by
  -- the trailing updates of `start` / `end_` touch `textParts` and `inBlock` only
  have drop : ∀ (c : Prop) [Decidable c] (a b : State), core b = core a → core (if c then b else a) = core a := by
    intro c _ a b h; split
    · exact h
    · rfl
  have inTable : (core s).inTable = s.inTable := rfl
  cases e with
  | start t a =>
    -- in each of the three cases the first `show` is the goal with `(Epub.down block).step` and `cstep` unfolded at the event
    show core (Epub.start block s t a) = cstart (core s) t
    unfold Epub.start cstart tTitle tTable tTr tTd tTh
    by_cases h1 : t = "title".toList
    · rw [if_pos h1, if_pos h1]; rfl
    rw [if_neg h1, if_neg h1]
    by_cases h2 : t = "table".toList
    · rw [if_pos h2, if_pos h2]; rfl
    rw [if_neg h2, if_neg h2]
    dsimp only
    rw [drop, drop, inTable]
    · split
      · split
        · rfl
        · split <;> rfl
      · rfl
    · rfl
    · rfl
  | end_ t =>
    show core (Epub.end_ block s t) = cend (core s) t
    unfold Epub.end_ cend tTitle tTable tTr tTd tTh
    by_cases h1 : t = "title".toList
    · rw [if_pos h1, if_pos h1]; rfl
    rw [if_neg h1, if_neg h1]
    by_cases h2 : t = "table".toList
    · rw [if_pos h2, if_pos h2]; rfl
    rw [if_neg h2, if_neg h2]
    dsimp only
    rw [drop, inTable]
    · split
      · split
        · rfl
        · split <;> rfl
      · rfl
    · rfl
  | data d =>
    show core (Epub.data s d) = cdata (core s) d
    unfold Epub.data cdata
    -- the right side tests `(core s).inTitle`, `(core s).inCell`: shown with the tests of the left side, so that `split` opens both
    show core (if s.inTitle = true then _ else if s.inCell = true then _ else _) = if s.inTitle = true then _ else if s.inCell = true then _ else _
    split
    · rfl
    · split <;> rfl

theorem cstart_inert (c : Core) (t : Str) (h : inert t = true) : cstart c t = c := by
  simp only [inert, Bool.and_eq_true, bne_iff_ne, ne_eq] at h
  obtain ⟨⟨⟨⟨h1, h2⟩, h3⟩, h4⟩, h5⟩ := h
  simp [cstart, h1, h2, h3, h4, h5]

theorem cend_inert (c : Core) (t : Str) (h : inert t = true) : cend c t = c := by
  simp only [inert, Bool.and_eq_true, bne_iff_ne, ne_eq] at h
  obtain ⟨⟨⟨⟨h1, h2⟩, h3⟩, h4⟩, h5⟩ := h
  simp [cend, h1, h2, h3, h4, h5]

theorem start_inert (s : State) (t : Str) (a : Attrs) (h : inert t = true) :
    core (Epub.start block s t a) = core s :=
  (core_step block s (.start t a)).trans (cstart_inert _ t h)

theorem end_inert (s : State) (t : Str) (h : inert t = true) :
    core (Epub.end_ block s t) = core s :=
  (core_step block s (.end_ t)).trans (cend_inert _ t h)

theorem data_cell (s : State) (d : Str) (h1 : s.inTitle = false) (h2 : s.inCell = true) :
    core (Epub.data s d) = { core s with currentCell := s.currentCell ++ [d] } :=
  (core_step [] s (.data d)).trans (by simp [cstep, cdata, core, h1, h2])

theorem data_out (s : State) (d : Str) (h1 : s.inTitle = false) (h2 : s.inCell = false) :
    core (Epub.data s d) = core s :=
  (core_step [] s (.data d)).trans (by simp [cstep, cdata, core, h1, h2])

def crun (c : Core) (evs : List DEv) : Core := evs.foldl cstep c

theorem core_feed (s : State) (evs : List DEv) : core ((Epub.down block).feed s evs) = crun (core s) evs := by
  induction evs generalizing s with
  | nil => rfl
  | cons e r ih =>
    simp only [Down.feed, List.foldl_cons, crun] at ih ⊢
    rw [ih, core_step]

theorem crun_append (c : Core) (a b : List DEv) : crun c (a ++ b) = crun (crun c a) b := by
  simp [crun, List.foldl_append]

/-- a table without nested tables: header-row count, rows of cells of paragraph texts -/
abbrev ETable := Nat × List (List (List Str))

inductive EBlk where
  | para (s : Str)
  | tbl (t : ETable)

def paraEvs (p : Str) : List DEv := [.start tP [], .data p, .end_ tP]
def cellEvs (tag : Str) (cell : List Str) : List DEv := [.start tag []] ++ cell.flatMap paraEvs ++ [.end_ tag]
def rowEvs (tag : Str) (row : List (List Str)) : List DEv := [.start tTr []] ++ row.flatMap (cellEvs tag) ++ [.end_ tTr]
def wrapEvs (w : Str) (evs : List DEv) : List DEv := if evs.isEmpty then [] else [.start w []] ++ evs ++ [.end_ w]
def tableEvs (t : ETable) : List DEv :=
  [.start tTable []] ++ wrapEvs tThead ((t.2.take t.1).flatMap (rowEvs tTh))
    ++ wrapEvs tTbody ((t.2.drop t.1).flatMap (rowEvs tTd)) ++ [.end_ tTable]
def EBlk.evs : EBlk → List DEv
  | .para s => paraEvs s
  | .tbl t => tableEvs t

def gridOfE (t : ETable) : Grid := t.2.map (fun row => row.map S2T.HtmlSkip.Epub.cellText)
def EBlk.tables : EBlk → List Grid
  | .para _ => []
  | .tbl t => [gridOfE t]
def ETable.proper (t : ETable) : Bool := !t.2.isEmpty && t.2.all (fun row => !row.isEmpty)
def EBlk.proper : EBlk → Bool
  | .para _ => true
  | .tbl t => t.proper

/- Between two cells `currentCell` is empty, between two rows `currentRow` as well, between two tables `currentTable` too:
   the machine is followed through these states only (the initial state is one). -/

/-- outside a table, `T` collected -/
abbrev outside (T : List Grid) : Core := ⟨T, [], [], [], false, false, false⟩
/-- in a table between two cells: rows `ct` finished, cells `cr` of the current row finished -/
abbrev inTbl (T : List Grid) (ct : Grid) (cr : List Str) : Core := ⟨T, ct, cr, [], true, false, false⟩
/-- in a cell with the chunks `cc` read -/
abbrev inCel (T : List Grid) (ct : Grid) (cr cc : List Str) : Core := ⟨T, ct, cr, cc, true, true, false⟩

theorem crun_para (c : Core) (p : Str) : crun c (paraEvs p) = cdata c p := by
  have hp : inert tP = true := by decide
  simp [crun, paraEvs, cstep, cstart_inert _ _ hp, cend_inert _ _ hp]

/-- pieces written one after the other, each of which appends what is read off it to a list the state keeps (`S`):
    the readings arrive in order -/
theorem crun_flatMap {α β : Type} (S : List β → Core) (f : α → List DEv) (g : α → List β) (l : List α)
    (h : ∀ a ∈ l, ∀ x, crun (S x) (f a) = S (x ++ g a)) (x : List β) :
    crun (S x) (l.flatMap f) = S (x ++ l.flatMap g) := by
  induction l generalizing x with
  | nil => simp [crun]
  | cons a r ih =>
    rw [List.flatMap_cons, crun_append, h a (by simp), ih fun b hb => h b (by simp [hb]), List.flatMap_cons, List.append_assoc]

theorem crun_cell (tag : Str) (htag : tag = tTd ∨ tag = tTh) (cell : List Str) (T : List Grid) (ct : Grid) (cr : List Str) :
    crun (inTbl T ct cr) (cellEvs tag cell)
      = inTbl T ct (cr ++ [S2T.HtmlSkip.Epub.cellText cell]) := by
  unfold cellEvs
  rw [crun_append, crun_append]
  have h1 : crun (inTbl T ct cr) [.start tag []] = inCel T ct cr [] := by
    rcases htag with rfl | rfl <;> (simp [crun, cstep, cstart, tTitle, tTable, tTr, tTd, tTh])
  rw [h1, crun_flatMap (fun cc => inCel T ct cr cc) paraEvs (fun p => [p]) cell (fun p _ _ => crun_para _ p) []]
  rcases htag with rfl | rfl <;> (simp [crun, cstep, cend, tTitle, tTable, tTr, tTd, tTh])

theorem crun_row (tag : Str) (htag : tag = tTd ∨ tag = tTh) (row : List (List Str)) (hne : row.isEmpty = false)
    (T : List Grid) (ct : Grid) :
    crun (inTbl T ct []) (rowEvs tag row)
      = inTbl T (ct ++ [row.map S2T.HtmlSkip.Epub.cellText]) [] := by
  unfold rowEvs
  rw [crun_append, crun_append]
  have h1 : crun (inTbl T ct []) [.start tTr []] = inTbl T ct [] := by
    simp [crun, cstep, cstart, tTitle, tTable, tTr]
  rw [h1, crun_flatMap (fun cr => inTbl T ct cr) (cellEvs tag) (fun c => [S2T.HtmlSkip.Epub.cellText c]) row
    (fun c _ cr => crun_cell tag htag c T ct cr) [], ← List.map_eq_flatMap]
  simp [crun, cstep, cend, tTitle, tTable, tTr, hne]

theorem crun_rows (tag : Str) (htag : tag = tTd ∨ tag = tTh) (rows : List (List (List Str)))
    (hne : ∀ row ∈ rows, row.isEmpty = false) (T : List Grid) (ct : Grid) :
    crun (inTbl T ct []) (rows.flatMap (rowEvs tag))
      = inTbl T (ct ++ rows.map (fun row => row.map S2T.HtmlSkip.Epub.cellText)) [] := by
  rw [crun_flatMap (fun ct => inTbl T ct []) (rowEvs tag) (fun row => [row.map S2T.HtmlSkip.Epub.cellText]) rows
    (fun row hr ct => crun_row tag htag row (hne row hr) T ct), ← List.map_eq_flatMap]

theorem crun_wrap (w : Str) (hw : inert w = true) (c : Core) (evs : List DEv) : crun c (wrapEvs w evs) = crun c evs := by
  unfold wrapEvs
  split
  · next he => cases evs <;> simp_all [crun]
  · simp [crun, List.foldl_append, cstep, cstart_inert _ _ hw, cend_inert _ _ hw]

theorem crun_table (t : ETable) (hp : t.proper = true) (T : List Grid) :
    crun (outside T) (tableEvs t) = outside (T ++ [gridOfE t]) := by
  obtain ⟨h, rows⟩ := t
  simp only [ETable.proper, Bool.and_eq_true, List.all_eq_true] at hp
  obtain ⟨hne, hall⟩ := hp
  unfold tableEvs
  simp only
  rw [crun_append, crun_append, crun_append]
  have h1 : crun (outside T) [.start tTable []] = inTbl T [] [] := by
    simp [crun, cstep, cstart, tTitle, tTable]
  rw [h1, crun_wrap tThead (by decide), crun_rows tTh (Or.inr rfl) _ (fun r hr => by simpa using hall r (List.mem_of_mem_take hr)),
    crun_wrap tTbody (by decide), crun_rows tTd (Or.inl rfl) _ (fun r hr => by simpa using hall r (List.mem_of_mem_drop hr)),
    List.nil_append, ← List.map_append, List.take_append_drop]
  have hne' : rows ≠ [] := by cases rows <;> simp_all
  simp [crun, cstep, cend, tTitle, tTable, gridOfE, hne']

theorem crun_blk (b : EBlk) (hp : b.proper = true) (T : List Grid) :
    crun (outside T) b.evs = outside (T ++ b.tables) := by
  cases b with
  | para s => simp only [EBlk.evs, EBlk.tables, crun_para, List.append_nil]; rfl
  | tbl t => exact crun_table t hp T

def itemOf : DEv → Item
  | .start t a => .open_ t a
  | .end_ t => .close t
  | .data s => .text s

/-- the handler calls `HTMLParser` makes for the chapter -/
def chapterEvents (doc : List EBlk) : List Ev := events ((doc.flatMap EBlk.evs).map itemOf)

def usedTags : List Str := [tTable, tThead, tTbody, tTr, tTd, tTh, tP]

theorem downEvents_items (evs : List DEv) : downEvents (evs.map itemOf) = evs := by
  induction evs with
  | nil => rfl
  | cons e r ih => rw [List.map_cons, downEvents_cons, ih]; cases e <;> rfl

theorem all_wrap (P : DEv → Bool) (w : Str) (evs : List DEv) (hs : P (.start w []) = true) (he : P (.end_ w) = true)
    (h : evs.all P = true) : (wrapEvs w evs).all P = true := by
  unfold wrapEvs
  split
  · rfl
  · simp [hs, he, h]

theorem all_chapter (P : DEv → Bool) (hs : ∀ t ∈ usedTags, P (.start t []) = true) (he : ∀ t, P (.end_ t) = true)
    (hd : ∀ s, P (.data s) = true) (doc : List EBlk) : (doc.flatMap EBlk.evs).all P = true := by
  simp only [usedTags, List.mem_cons, List.not_mem_nil, or_false, forall_eq_or_imp, forall_eq] at hs
  obtain ⟨u1, u2, u3, u4, u5, u6, u7⟩ := hs
  have rows : ∀ tag rows, P (.start tag []) = true → (List.flatMap (rowEvs tag) rows).all P = true := fun tag rows ht => by
    simp [rowEvs, cellEvs, paraEvs, List.all_flatMap, u4, ht, u7, he, hd]
  rw [List.all_flatMap, List.all_eq_true]
  intro b _
  cases b with
  | para s => simp [EBlk.evs, paraEvs, u7, he, hd]
  | tbl t =>
    simp only [EBlk.evs, tableEvs, List.all_append, all_wrap P _ _ u2 (he _) (rows _ _ u6), all_wrap P _ _ u3 (he _) (rows _ _ u5)]
    simp [u1, he]

theorem docOk_chapter (T : Tables) (hT : usedTags.all (fun t => !T.remove.contains t) = true) (doc : List EBlk) :
    DocOk T ((doc.flatMap EBlk.evs).map itemOf) = true := by
  rw [DocOk, List.all_map]
  exact all_chapter _ (fun t ht => List.all_eq_true.mp hT t ht) (fun _ => rfl) (fun _ => rfl) doc

theorem feed_tables (doc : List EBlk) (hp : doc.all EBlk.proper = true) :
    ((S2T.HtmlSkip.Epub.down block).feed S2T.HtmlSkip.Epub.initState (doc.flatMap EBlk.evs)).tables
      = doc.flatMap EBlk.tables := by
  have h := congrArg Core.tables (core_feed block S2T.HtmlSkip.Epub.initState (doc.flatMap EBlk.evs))
  rwa [show core S2T.HtmlSkip.Epub.initState = outside [] from rfl,
    crun_flatMap (fun T => outside T) EBlk.evs EBlk.tables doc
      (fun b hb T => crun_blk b (List.all_eq_true.mp hp b hb) T)] at h

end S2T.Tables.Epub
