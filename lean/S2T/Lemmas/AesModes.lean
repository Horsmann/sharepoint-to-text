import S2T.Lemmas.AesKeys
/-! The model's ECB / CBC drivers are SP 800-38A over the block functions, its `CryptAES` wrapper round-trips, its round-key
    cache answers like `_expand_key`. -/
namespace S2T.AesL
open S2T.Aes (IsBytes Tables Exc)
open S2T.Spec

variable {T : Tables}

theorem chunks_append {b R : List Nat} (hb : b.length = 16) : Aes.chunks (b ++ R) 16 = b :: Aes.chunks R 16 := by
  unfold Aes.chunks
  have h1 : ((b ++ R).length + 16 - 1) / 16 = (R.length + 16 - 1) / 16 + 1 := by
    rw [List.length_append, hb]; omega
  rw [h1, List.range_succ_eq_map, List.map_cons, List.map_map]
  congr 1
  · simp [List.take_left' hb]
  · apply List.map_congr_left
    intro j _
    simp only [Function.comp, Nat.succ_eq_add_one]
    have : (j + 1) * 16 = b.length + j * 16 := by rw [hb]; omega
    rw [this, List.drop_append, List.drop_of_length_le (by omega)]
    simp

theorem chunks_flatten {bs : List (List Nat)} (hbs : Blocks bs) : Aes.chunks bs.flatten 16 = bs := by
  induction bs with
  | nil => rfl
  | cons b rest ih =>
    rw [List.flatten_cons, chunks_append (blocks_cons.mp hbs).1.1, ih (blocks_cons.mp hbs).2]

theorem length_flatten_blocks {bs : List (List Nat)} (hbs : Blocks bs) : bs.flatten.length = 16 * bs.length := by
  induction bs with
  | nil => rfl
  | cons b rest ih =>
    rw [List.flatten_cons, List.length_append, (blocks_cons.mp hbs).1.1, ih (blocks_cons.mp hbs).2, List.length_cons]
    omega

theorem isBytes_flatten {bs : List (List Nat)} (hbs : Blocks bs) : IsBytes bs.flatten := by
  intro x hx
  obtain ⟨b, hb, hxb⟩ := List.mem_flatten.mp hx
  exact (hbs b hb).2 x hxb

theorem exists_blocks : ∀ (n : Nat) (d : List Nat), d.length = 16 * n → IsBytes d →
    ∃ bs, Blocks bs ∧ bs.flatten = d ∧ bs.length = n := by
  intro n
  induction n with
  | zero =>
    intro d hd _
    have : d = [] := List.eq_nil_of_length_eq_zero (by omega)
    subst this
    exact ⟨[], blocks_nil, rfl, rfl⟩
  | succ n ih =>
    intro d hd hb
    obtain ⟨bs, h1, h2, h3⟩ := ih (d.drop 16) (by rw [List.length_drop]; omega)
      (fun x hx => hb x (List.mem_of_mem_drop hx))
    refine ⟨d.take 16 :: bs, blocks_cons.mpr ⟨⟨?_, fun x hx => hb x (List.mem_of_mem_take hx)⟩, h1⟩, ?_, by simp [h3]⟩
    · rw [List.length_take]; omega
    · rw [List.flatten_cons, h2, List.take_append_drop]

theorem chunks16_blocks {d : List Nat} (hd : IsBytes d) (hl : d.length % 16 = 0) : Blocks (Aes.chunks d 16) := by
  obtain ⟨bs, h1, rfl, _⟩ := exists_blocks (d.length / 16) d (by omega) hd
  rwa [chunks_flatten h1]

theorem chunks16_length {d : List Nat} (hl : d.length % 16 = 0) : d.length = 16 * (Aes.chunks d 16).length := by
  simp only [Aes.chunks, List.length_map, List.length_range]
  omega

theorem ecbLoop_map {f : List Nat → Except Exc (List Nat)} {g : List Nat → List Nat} :
    ∀ bs : List (List Nat), (∀ b ∈ bs, f b = .ok (g b)) → Aes.ecbLoop f bs = .ok (bs.map g).flatten := by
  intro bs
  induction bs with
  | nil => intro _; rfl
  | cons b rest ih =>
    intro h
    simp only [Aes.ecbLoop, h b (List.mem_cons_self ..), ih (fun x hx => h x (List.mem_cons_of_mem _ hx))]
    rfl

theorem cbcEncLoop_eq (hT : TablesOk T) {key : List Nat} (hk : KeyOk key) :
    ∀ (bs : List (List Nat)) (iv : List Nat), Block iv → Blocks bs →
      Aes.cbcEncLoop T (specRoundKeys key) iv bs = .ok (Fips197.cbcEncrypt key iv bs).flatten := by
  intro bs
  induction bs with
  | nil => intro _ _ _; rfl
  | cons p rest ih =>
    intro iv hiv hbs
    obtain ⟨hp, hrest⟩ := blocks_cons.mp hbs
    have hx : Block (Fips197.xorWords p iv) := xorWords_block hp hiv
    have hc : Block (Fips197.aesEnc key (Fips197.xorWords p iv)) := aesEnc_block hk hx
    have e : Aes.encryptBlock T (List.zipWith (· ^^^ ·) p iv) (specRoundKeys key)
        = .ok (Fips197.aesEnc key (Fips197.xorWords p iv)) := encryptBlock_eq hT hk hx
    simp only [Aes.cbcEncLoop, e, ih _ hc hrest]
    rfl

theorem cbcDecLoop_eq (hT : TablesOk T) {key : List Nat} (hk : KeyOk key) :
    ∀ (bs : List (List Nat)) (iv : List Nat), Block iv → Blocks bs →
      Aes.cbcDecLoop T (specRoundKeys key) iv bs = .ok (Fips197.cbcDecrypt key iv bs).flatten := by
  intro bs
  induction bs with
  | nil => intro _ _ _; rfl
  | cons c rest ih =>
    intro iv hiv hbs
    obtain ⟨hc, hrest⟩ := blocks_cons.mp hbs
    have hd : Block (Fips197.aesDec key c) := aesDec_block hk hc
    simp only [Aes.cbcDecLoop, decryptBlock_eq hT hk hc, ih _ hc hrest,
      xor16_eq hd.1 hiv.1]
    rfl

/-! length tests in the form of the model's `if` conditions (`flatten_mod` is what the drivers' `if_neg` takes) -/
theorem keyLen_ok {key : List Nat} (hk : KeyOk key) : ¬ (key.length ≠ 16 ∧ key.length ≠ 24 ∧ key.length ≠ 32) := by
  have := hk.1; omega

theorem flatten_mod {bs : List (List Nat)} (hbs : Blocks bs) : ¬ (bs.flatten.length % 16 ≠ 0) := by
  rw [length_flatten_blocks hbs]; omega

theorem aesEcbEncrypt_eq (hT : TablesOk T) {key : List Nat} {bs : List (List Nat)} (hk : KeyOk key) (hbs : Blocks bs) :
    Aes.aesEcbEncrypt T key bs.flatten = .ok (Fips197.ecbEncrypt key bs).flatten := by
  unfold Aes.aesEcbEncrypt
  rw [if_neg (flatten_mod hbs), expandKey_eq hT hk, chunks_flatten hbs]
  exact ecbLoop_map bs fun b hb => encryptBlock_eq hT hk (hbs b hb)

theorem aesEcbDecrypt_eq (hT : TablesOk T) {key : List Nat} {bs : List (List Nat)} (hk : KeyOk key) (hbs : Blocks bs) :
    Aes.aesEcbDecrypt T key bs.flatten = .ok (Fips197.ecbDecrypt key bs).flatten := by
  unfold Aes.aesEcbDecrypt
  rw [if_neg (flatten_mod hbs), expandKey_eq hT hk, chunks_flatten hbs]
  exact ecbLoop_map bs fun b hb => decryptBlock_eq hT hk (hbs b hb)

theorem aesCbcEncrypt_eq (hT : TablesOk T) {key iv : List Nat} {bs : List (List Nat)} (hk : KeyOk key)
    (hiv : Block iv) (hbs : Blocks bs) :
    Aes.aesCbcEncrypt T key iv bs.flatten = .ok (Fips197.cbcEncrypt key iv bs).flatten := by
  unfold Aes.aesCbcEncrypt
  rw [if_neg (by rw [hiv.1]; decide), if_neg (flatten_mod hbs), expandKey_eq hT hk, chunks_flatten hbs]
  exact cbcEncLoop_eq hT hk bs iv hiv hbs

theorem aesCbcDecrypt_eq (hT : TablesOk T) {key iv : List Nat} {bs : List (List Nat)} (hk : KeyOk key)
    (hiv : Block iv) (hbs : Blocks bs) :
    Aes.aesCbcDecrypt T key iv bs.flatten = .ok (Fips197.cbcDecrypt key iv bs).flatten := by
  unfold Aes.aesCbcDecrypt
  rw [if_neg (by rw [hiv.1]; decide), if_neg (flatten_mod hbs), expandKey_eq hT hk, chunks_flatten hbs]
  exact cbcDecLoop_eq hT hk bs iv hiv hbs

theorem pkcs7Pad_spec (m : List Nat) (k : Nat) : Aes.pkcs7Pad m k = Fips197.pkcs7Pad k m := rfl

theorem pkcs7Unpad_pad (m : List Nat) {k : Nat} (hk : 0 < k) : Aes.pkcs7Unpad (Aes.pkcs7Pad m k) k = .ok m := by
  have hp1 : 1 ≤ k - m.length % k := by have := Nat.mod_lt m.length hk; omega
  have hp2 : k - m.length % k ≤ k := Nat.sub_le _ _
  -- the padding length named, so that `replicate p p` has one variable
  generalize hp : k - m.length % k = p at hp1 hp2
  unfold Aes.pkcs7Pad
  simp only [hp]
  unfold Aes.pkcs7Unpad
  have hlast : (m ++ List.replicate p p).getLast? = some p := by
    rw [List.getLast?_append, List.getLast?_replicate, if_neg (by omega)]
    rfl
  rw [hlast]
  dsimp only
  rw [if_neg (by omega)]
  have hlen : (m ++ List.replicate p p).length - p = m.length := by simp
  rw [hlen, List.drop_left' rfl, if_neg (by simp), List.take_left' rfl]

theorem pkcs7Pad_length (m : List Nat) : (Aes.pkcs7Pad m 16).length = 16 * (m.length / 16 + 1) := by
  unfold Aes.pkcs7Pad
  simp only [List.length_append, List.length_replicate]
  omega

theorem pkcs7Pad_bytes {m : List Nat} (hm : IsBytes m) : IsBytes (Aes.pkcs7Pad m 16) := by
  unfold Aes.pkcs7Pad
  rw [isBytes_append]
  refine ⟨hm, ?_⟩
  intro x hx
  have := (List.mem_replicate.mp hx).2
  omega

theorem cryptAesEncrypt_eq (hT : TablesOk T) {key iv m : List Nat} (hk : KeyOk key) (hiv : Block iv) (hm : IsBytes m) :
    ∃ bs, Blocks bs ∧ bs.flatten = Fips197.pkcs7Pad 16 m ∧ bs.length = m.length / 16 + 1 ∧
      Aes.cryptAesEncrypt T key iv m = .ok (iv ++ (Fips197.cbcEncrypt key iv bs).flatten) := by
  obtain ⟨bs, h1, h2, h3⟩ := exists_blocks (m.length / 16 + 1) (Aes.pkcs7Pad m 16) (pkcs7Pad_length m) (pkcs7Pad_bytes hm)
  refine ⟨bs, h1, h2, h3, ?_⟩
  unfold Aes.cryptAesEncrypt
  rw [← h2, aesCbcEncrypt_eq hT hk hiv h1]

theorem cryptAes_roundtrip (hT : TablesOk T) {key iv m : List Nat} (hk : KeyOk key) (hiv : Block iv) (hm : IsBytes m) :
    ∃ c, Aes.cryptAesEncrypt T key iv m = .ok c ∧ c.take 16 = iv ∧ c.length = 16 + 16 * (m.length / 16 + 1) ∧
      Aes.cryptAesDecrypt T key c = .ok m := by
  obtain ⟨bs, h1, h2, h3, h4⟩ := cryptAesEncrypt_eq hT hk hiv hm
  have hcb : Blocks (Fips197.cbcEncrypt key iv bs) := cbcEncrypt_blocks hk bs iv hiv h1
  have hclen : (Fips197.cbcEncrypt key iv bs).flatten.length = 16 * (m.length / 16 + 1) := by
    have hcl : ∀ (l : List (List Nat)) (v : List Nat), (Fips197.cbcEncrypt key v l).length = l.length := by
      intro l; induction l with
      | nil => intro _; rfl
      | cons p r ih => intro v; simp [Fips197.cbcEncrypt, ih]
    rw [length_flatten_blocks hcb, hcl, h3]
  refine ⟨_, h4, List.take_left' hiv.1, by rw [List.length_append, hiv.1, hclen], ?_⟩
  unfold Aes.cryptAesDecrypt
  simp only [List.take_left' hiv.1, List.drop_left' hiv.1]
  have hne : (Fips197.cbcEncrypt key iv bs).flatten ≠ [] := by
    intro h; rw [h] at hclen; simp at hclen
  rw [if_neg hne, if_neg (flatten_mod hcb), aesCbcDecrypt_eq hT hk hiv hcb, cbcDecrypt_cbcEncrypt hk bs iv hiv h1, h2]
  exact pkcs7Unpad_pad m (by decide)

/-- every cached entry is what `_expand_key` returns for its key -/
def CacheOk (T : Tables) (cache : Aes.Cache) : Prop := ∀ e ∈ cache, Aes.expandKey T e.1 = .ok e.2

theorem cacheOk_snoc {cache : Aes.Cache} {key : List Nat} {rks : List (List Nat)} (hc : CacheOk T cache)
    (he : Aes.expandKey T key = .ok rks) : CacheOk T (cache ++ [(key, rks)]) := by
  intro e hm
  rcases List.mem_append.mp hm with hm | hm
  · exact hc e hm
  · simp only [List.mem_singleton] at hm; subst hm; exact he

theorem getRoundKeys_spec (T : Tables) (n : Nat) (cache : Aes.Cache) (key : List Nat) (hc : CacheOk T cache) :
    (Aes.getRoundKeys T n cache key).1 = Aes.expandKey T key ∧ CacheOk T (Aes.getRoundKeys T n cache key).2 ∧
      (cache.length ≤ n → (Aes.getRoundKeys T n cache key).2.length ≤ n) := by
  unfold Aes.getRoundKeys
  split
  · rename_i rks hl
    have hm := List.mem_of_lookup_eq_some hl
    refine ⟨(hc _ hm).symm, cacheOk_snoc (fun e he => hc e (List.mem_filter.mp he).1) (hc _ hm), ?_⟩
    · intro hn
      simp only [List.length_append, List.length_cons, List.length_nil]
      have h1 : (List.filter (fun e => decide (e.1 ≠ key)) cache).length < cache.length :=
        List.length_filter_lt_length_iff_exists.mpr ⟨(key, rks), hm, by simp⟩
      omega
  · split
    · rename_i e he
      exact ⟨he.symm, hc, fun h => h⟩
    · rename_i rks he
      refine ⟨he.symm, ?_, ?_⟩
      · have hall := cacheOk_snoc hc he
        dsimp only
        split
        · intro e hm; exact hall e (List.mem_of_mem_drop hm)
        · exact hall
      · intro hn
        dsimp only
        split
        · simp only [List.length_drop, List.length_append, List.length_cons, List.length_nil]; omega
        · rename_i h; omega

end S2T.AesL
