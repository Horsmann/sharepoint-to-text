import S2T.Lemmas.PyBytes
import S2T.Py.Paths
import S2T.Lemmas.Opc
/-!
The second prelude part (`S2T/Py/Paths.lean`) in the terms the C14 proofs know: `str.split` / `str.join` are core's and
the `/`-functions of the OPC specification, its list primitives on the shapes the translated path helpers use, and the
"dot-segment" loops (`for part in parts: …pop/append`) as folds.
-/
namespace S2T.Py
open S2T.Spec.Opc (splitSlash joinSlash dot dotdot)

theorem splitOn_eq (c : Char) (s : Str) : splitOn c s = s.splitOn c :=
  List.eq_splitOn c _ rfl (fun x r p ps h => by rw [splitOn, h]) s

theorem splitOn_slash (s : Str) : splitOn '/' s = splitSlash s :=
  (splitOn_eq '/' s).trans (S2T.Spec.Opc.splitSlash_eq s).symm

theorem strJoin_slash (l : List Str) : strJoin ['/'] l = joinSlash l := by
  induction l with
  | nil => rfl
  | cons s t ih =>
    cases t with
    | nil => rfl
    | cons t1 t2 => simp only [strJoin, joinSlash, ih, List.append_assoc, List.cons_append, List.nil_append]

theorem strJoin_cons (sep s : Str) (t : List Str) :
    strJoin sep (s :: t) = s ++ (t.map (fun y => sep ++ y)).flatten := by
  induction t generalizing s with
  | nil => simp [strJoin]
  | cons u v ih =>
    -- the third equation of `strJoin` carries the side condition that the tail is not `[]`
    rw [strJoin]
    · rw [ih]; simp
    · exact fun h => nomatch h

theorem strJoin_nil (l : List Str) : strJoin [] l = l.flatten := by
  cases l with
  | nil => rfl
  | cons s t => rw [strJoin_cons]; simp

theorem splitOn_ne_nil (c : Char) (s : Str) : splitOn c s ≠ [] := splitOn_eq c s ▸ List.splitOn_ne_nil c s

@[simp] theorem listPop_nil {α} : listPop ([] : List α) = Except.error pIndexError := rfl
@[simp] theorem listPop_cons {α} (x : α) (r : List α) :
    listPop (x :: r) = Except.ok ((x :: r).dropLast, (x :: r).getLast (by simp)) := rfl

theorem listPop_of_ne_nil {α} (l : List α) (h : l ≠ []) : listPop l = Except.ok (l.dropLast, l.getLast h) := by
  cases l with
  | nil => exact absurd rfl h
  | cons x r => rfl

theorem listPop_snoc {α} (l : List α) (t : α) : listPop (l ++ [t]) = Except.ok (l, t) := by
  rw [listPop_of_ne_nil _ (by simp)]
  simp

/-- `xs[i]` inside the list.  (`listGetItem` computes what `getItem` of the other prelude part does, `pIndexError` and
    `indexError` being one value; its lemmas answer with `l[i]` / `getLast`, those of `getItem` with the model's `getD`.) -/
theorem listGetItem_natCast {α} (l : List α) (i : Nat) (h : i < l.length) : listGetItem l (i : Int) = Except.ok l[i] := by
  unfold listGetItem
  have h1 : ¬ ((i : Int) < 0) := by omega
  simp [h1, h]

/-- `xs[-1]` -/
theorem listGetItem_neg_one {α} (l : List α) (h : l ≠ []) : listGetItem l (-1) = Except.ok (l.getLast h) := by
  unfold listGetItem
  have hl : 0 < l.length := List.length_pos_iff.mpr h
  have e : ((-1 : Int) + (l.length : Int)).toNat = l.length - 1 := by omega
  simp only [show ((-1 : Int) < 0) from by decide, if_true]
  rw [if_neg (by omega), e]
  rw [List.getLast_eq_getElem]
  simp [List.getElem?_eq_getElem (show l.length - 1 < l.length by omega)]

theorem listGetItem_snoc {α} (l : List α) (t : α) : listGetItem (l ++ [t]) (-1) = Except.ok t := by
  rw [listGetItem_neg_one _ (by simp)]
  simp

@[simp] theorem len_nil {α} : len ([] : List α) = 0 := rfl
theorem len_cons {α} (a : α) (l : List α) : len (a :: l) = len l + 1 := by simp [len]
theorem len_nonneg {α} (l : List α) : 0 ≤ len l := by simp [len]
/-- the ways a source tests a list for emptiness through `len` -/
@[simp] theorem len_eq_zero {α} (l : List α) : len l = 0 ↔ l = [] := by cases l <;> simp [len] <;> omega
@[simp] theorem zero_eq_len {α} (l : List α) : 0 = len l ↔ l = [] := by cases l <;> simp [len] <;> omega
@[simp] theorem len_pos {α} (l : List α) : 0 < len l ↔ l ≠ [] := by cases l <;> simp [len] <;> omega
@[simp] theorem len_le_zero {α} (l : List α) : len l ≤ 0 ↔ l = [] := by cases l <;> simp [len] <;> omega
@[simp] theorem one_le_len {α} (l : List α) : 1 ≤ len l ↔ l ≠ [] := by cases l <;> simp [len] <;> omega
@[simp] theorem len_lt_one {α} (l : List α) : len l < 1 ↔ l = [] := by cases l <;> simp [len] <;> omega

@[simp] theorem listAppend_def {α} (l : List α) (x : α) : listAppend l x = l ++ [x] := rfl

/-- the slices of the two prelude parts are one function: `(xs.take b).drop a` here, `(xs.drop a).take (b - a)` there, and
    `pClampIndex` has the body of `clampIndex`, so that each case is `rfl` once the order is turned -/
theorem pSlice_eq_slice {α} (xs : List α) (lo hi : Option Int) : pSlice xs lo hi = slice xs lo hi := by
  simp only [pSlice, slice, List.drop_take]
  cases lo <;> cases hi <;> rfl

/-- `xs[:-1]` -/
@[simp] theorem pSlice_dropLast {α} (xs : List α) : pSlice xs none (some (-1)) = xs.dropLast := by
  rw [pSlice_eq_slice, List.dropLast_eq_take]; exact slice_to_neg xs (p := 1) (by decide)

/-- `xs[:i]`, `xs[i:]` with a non-negative bound -/
theorem pSlice_to_nat {α} (xs : List α) (i : Nat) : pSlice xs none (some (i : Int)) = xs.take i := by
  rw [pSlice_eq_slice, slice_to_nat]

theorem pSlice_from_nat {α} (xs : List α) (i : Nat) : pSlice xs (some (i : Int)) none = xs.drop i := by
  rw [pSlice_eq_slice, slice_from_nat]

-- the dot-segment loop runs on the list the Python loop holds: last element = top of the stack (`Spec.Opc.normSegs` keeps
-- the top first)

/-- one iteration of `if part == "..": (if resolved: resolved.pop()) elif part and part != ".": resolved.append(part)` -/
def dotStep (res : List Str) (p : Str) : List Str :=
  if p = dotdot then res.dropLast else if p ≠ [] ∧ p ≠ dot then res ++ [p] else res

/-- what the source's two tests in the loop body say, in the model's words.  Equations between propositions, because they are
    the condition arguments of `ite_congr` in `dot_body` -/
theorem beq_dotdot (p : Str) : ((p == "..".toList) = true) = (p = dotdot) := by
  rw [beq_iff_eq]; rfl
theorem truthy_ne_dot (p : Str) : ((truthy p && p != ".".toList) = true) = (p ≠ [] ∧ p ≠ dot) := by
  cases p <;> simp [dot]

/-- a loop body that is this tree of tests is `dotStep` (`a`: what the body does on `..`, where `pop()` is guarded) -/
theorem dot_body {β} {c1 c2 : Prop} [Decidable c1] [Decidable c2] (p : Str) (res : List Str)
    (g : List Str → β) (a : β) (h1 : c1 = (p = dotdot)) (h2 : c2 = (p ≠ [] ∧ p ≠ dot))
    (ha : p = dotdot → a = g res.dropLast) :
    (if c1 then a else if c2 then g (res ++ [p]) else g res) = g (dotStep res p) := by
  unfold dotStep
  rw [apply_ite g, apply_ite g]
  exact ite_congr h1 ha fun _ => ite_congr h2 (fun _ => rfl) fun _ => rfl

theorem forIn_dotStep (f : Str → List Str → M (ForInStep (List Str)))
    (hf : ∀ p res, f p res = Except.ok (ForInStep.yield (dotStep res p))) (parts : List Str) (res : List Str) :
    forIn parts res f = Except.ok (parts.foldl dotStep res) :=
  forIn_ok_fold (fun t => t) dotStep parts f (fun p _ => hf p) res

/-- the same loop with `if not resolved: return href` in the `..` branch: `none` = the early return fired -/
def dotRun : List Str → List Str → Option (List Str)
  | res, [] => some res
  | res, p :: r => if p = dotdot ∧ res = [] then none else dotRun (dotStep res p) r

/-- loop state of a `for` with an early `return v`: `(some v, state at the return)` or `(none, final state)` -/
def dotRunState (v : Str) : List Str → List Str → Option Str × List Str
  | res, [] => (none, res)
  | res, p :: r => if p = dotdot ∧ res = [] then (some v, res) else dotRunState v (dotStep res p) r

theorem forIn_dotRun (v : Str) (f : Str → Option Str × List Str → M (ForInStep (Option Str × List Str)))
    (hf : ∀ p res, f p (none, res) = Except.ok (if p = dotdot ∧ res = [] then ForInStep.done (some v, res)
      else ForInStep.yield (none, dotStep res p))) (parts : List Str) (res : List Str) :
    forIn parts (none, res) f = Except.ok (dotRunState v res parts) := by
  induction parts generalizing res with
  | nil => rfl
  | cons p r ih =>
    simp only [List.forIn_cons, hf, dotRunState]
    split <;> simp [ih]

theorem dotRunState_none (v : Str) (res parts : List Str) (h : dotRun res parts = none) :
    (dotRunState v res parts).1 = some v := by
  induction parts generalizing res with
  | nil => simp [dotRun] at h
  | cons p r ih =>
    simp only [dotRunState, dotRun] at h ⊢
    split
    · rfl
    · rename_i hc; rw [if_neg hc] at h; exact ih _ h

theorem dotRunState_some (v : Str) (res parts segs : List Str) (h : dotRun res parts = some segs) :
    dotRunState v res parts = (none, segs) := by
  induction parts generalizing res with
  | nil => simp [dotRun] at h; simp [dotRunState, h]
  | cons p r ih =>
    simp only [dotRunState, dotRun] at h ⊢
    split
    · rename_i hc; rw [if_pos hc] at h; cases h
    · rename_i hc; rw [if_neg hc] at h; exact ih _ h

end S2T.Py
