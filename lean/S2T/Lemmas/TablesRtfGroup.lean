import S2T.Lemmas.TablesRtfDoc
/-! The extractor works with positions (`tableRows`, `groupStep`).  On a text of gaps and rows the positions drop out: the loop is a
fold of `segStep` over (gap, row) pairs, and what it makes of whole tables is `groupTables`. -/
namespace S2T.Tables.Rtf
open S2T.HtmlSkip (Str)
open S2T.Tables

theorem rowsOf_lower : ∀ (segs : List Seg) (i : Nat), ∀ q ∈ rowsOf i segs, i ≤ q.1
  | [], _, q, h => by simp [rowsOf] at h
  | s :: segs, i, q, h => by
    simp only [rowsOf, List.mem_cons] at h
    rcases h with rfl | h
    · simp
    · have := rowsOf_lower segs _ q h; omega

/-- `(start, end, text)` triples in text order: every one ends behind its start and not behind the start of any later one -/
def Chained : List (Nat × Nat × Str) → Prop
  | [] => True
  | q :: O => q.1 < q.2.1 ∧ (∀ q' ∈ O, q.2.1 ≤ q'.1) ∧ Chained O

theorem chain_rowsOf : ∀ (segs : List Seg) (i : Nat), Chained (rowsOf i segs)
  | [], _ => trivial
  | s :: segs, i => by
    refine ⟨?_, ?_, chain_rowsOf segs _⟩
    · have := rowRtf_length_ge s.2; simp only; omega  -- `simp only` with no lemma reduces the projections of the triple
    · intro q' hq'; exact rowsOf_lower segs _ q' hq'

/-- pairing every start with the first end behind it gives the triples back; `pre` = the ends of the rows already passed, none of them
    behind a later start, so `find? (· > p)` walks over them -/
theorem chain_filterMap (text : Str) : ∀ (O : List (Nat × Nat × Str)) (pre : List Nat), Chained O →
    (∀ q ∈ O, slice text q.1 q.2.1 = q.2.2) → (∀ e ∈ pre, ∀ q ∈ O, e ≤ q.1) →
    (O.map (·.1)).filterMap (fun p => ((pre ++ O.map (·.2.1)).find? (fun e => e > p)).map (fun e => (p, e, slice text p e))) = O
  | [], _, _, _, _ => rfl
  | q :: O, pre, hc, hs, hp => by
    obtain ⟨h1, h2, h3⟩ := hc
    have hpre : pre.find? (fun e => decide (e > q.1)) = none := by
      rw [List.find?_eq_none]; intro e he; simpa using hp e he q List.mem_cons_self
    have hhead : ((pre ++ (q :: O).map (·.2.1)).find? (fun e => decide (e > q.1))).map
        (fun e => (q.1, e, slice text q.1 e)) = some q := by
      rw [List.find?_append, hpre, Option.none_or, List.map_cons, List.find?_cons_of_pos (by simpa using h1)]
      simp only [Option.map_some, hs q List.mem_cons_self]
    have ih := chain_filterMap text O (pre ++ [q.2.1]) h3 (fun x hx => hs x (List.mem_cons_of_mem _ hx))
      (by
        intro e he x hx
        rcases List.mem_append.mp he with h | h
        · exact hp e h x (List.mem_cons_of_mem _ hx)
        · simp only [List.mem_singleton] at h; subst h; exact h2 x hx)
    have eapp : pre ++ (q :: O).map (·.2.1) = (pre ++ [q.2.1]) ++ O.map (·.2.1) := by simp
    simp only [eapp] at hhead ⊢
    rw [List.map_cons, List.filterMap_cons]
    simp only [hhead]
    rw [ih]

theorem slice_mid (a R c : Str) : slice (a ++ (R ++ c)) a.length (a.length + R.length) = R := by
  simp [slice]

theorem slices_rowsOf : ∀ (segs : List Seg) (tail pre : Str), ∀ q ∈ rowsOf pre.length segs,
    slice (pre ++ body segs tail) q.1 q.2.1 = q.2.2
  | [], _, _, q, h => by simp [rowsOf] at h
  | s :: segs, tail, pre, q, h => by
    simp only [rowsOf, List.mem_cons] at h
    rcases h with rfl | h
    · have := slice_mid (pre ++ s.1) (rowRtf s.2) (body segs tail)
      simpa [body_cons, List.append_assoc] using this
    · have := slices_rowsOf segs tail (pre ++ s.1 ++ rowRtf s.2) q (by simpa [Nat.add_assoc] using h)
      simpa [body_cons, List.append_assoc] using this

theorem tableRows_body (P : Params) (segs : List Seg) (tail : Str) (h : WellSeg P segs tail) :
    tableRows P (body segs tail) = rowsOf 0 segs := by
  unfold tableRows
  simp only  -- with no lemma: reduces the `let`s of the unfolded body (so below, and in `saveTable_rect`)
  rw [trowds_body P segs tail 0 h, ends_body P segs tail 0 h]
  have := chain_filterMap (body segs tail) (rowsOf 0 segs) [] (chain_rowsOf segs 0)
    (by intro q hq; have := slices_rowsOf segs tail [] q (by simpa using hq); simpa using this) (by simp)
  simpa using this

/-- the row-grouping heuristic sees a table break in this gap -/
def breaks (P : Params) (g : Str) : Bool :=
  decide (g.length > P.rawGap) && decide ((pyStrip (stripSimple P g)).length > P.textGap)

def segStep (P : Params) (st : Grid × List Grid) (s : Seg) : Grid × List Grid :=
  let st1 : Grid × List Grid := if !st.1.isEmpty && breaks P s.1 then ([], st.2 ++ [saveTable st.1]) else st
  let cells := extractCells P (rowRtf s.2)
  (if cells.isEmpty then st1.1 else st1.1 ++ [cells], st1.2)

/-- one turn of the grouping loop on a row that stands behind the gap `g`: positions do not matter -/
theorem groupStep_seg (P : Params) (text : Str) (st : GState) (g : Str) (r : RRow) (p e : Nat)
    (h : st.cur = [] ∨ (p - st.lastEnd = g.length ∧ slice text st.lastEnd p = g)) :
    groupStep P text st (p, e, rowRtf r) =
      { cur := (segStep P (st.cur, st.out) (g, r)).1, lastEnd := e, out := (segStep P (st.cur, st.out) (g, r)).2 } := by
  rcases h with hc | ⟨h1, h2⟩
  · simp [groupStep, segStep, hc]
  · simp only [groupStep, segStep, breaks, h1, h2]
    cases st.cur.isEmpty
    · by_cases ha : g.length > P.rawGap
      · by_cases hb : (pyStrip (stripSimple P g)).length > P.textGap
        · simp [ha, hb]
        · simp [ha, hb]
      · simp [ha]
    · rfl

theorem fold_segs (P : Params) (tail : Str) : ∀ (segs : List Seg) (pre : Str) (st : GState),
    (st.cur = [] ∨ st.lastEnd = pre.length) →
    ((rowsOf pre.length segs).foldl (groupStep P (pre ++ body segs tail)) st).cur =
      (segs.foldl (segStep P) (st.cur, st.out)).1 ∧
    ((rowsOf pre.length segs).foldl (groupStep P (pre ++ body segs tail)) st).out =
      (segs.foldl (segStep P) (st.cur, st.out)).2
  | [], _, _, _ => ⟨rfl, rfl⟩
  | (g, r) :: segs, pre, st, hst => by
    have etext : pre ++ body ((g, r) :: segs) tail = (pre ++ g ++ rowRtf r) ++ body segs tail := by
      simp [body_cons, List.append_assoc]
    have elen : (pre ++ g ++ rowRtf r).length = pre.length + g.length + (rowRtf r).length := by
      simp [Nat.add_assoc]
    have hstep := groupStep_seg P (pre ++ body ((g, r) :: segs) tail) st g r (pre.length + g.length)
      (pre.length + g.length + (rowRtf r).length)
      (hst.imp id (fun hl => by rw [hl, body_cons]; exact ⟨by omega, slice_mid pre g _⟩))
    -- name the new state, so that the induction hypothesis applies without unfolding `segStep`
    cases hs : segStep P (st.cur, st.out) (g, r) with
    | mk c o =>
      rw [hs] at hstep
      have ih := fold_segs P tail segs (pre ++ g ++ rowRtf r) ⟨c, (pre ++ g ++ rowRtf r).length, o⟩ (Or.inr rfl)
      rw [elen, ← etext] at ih
      simp only [rowsOf, List.foldl_cons, hstep, hs]
      exact ih

def finish (st : Grid × List Grid) : List Grid := if st.1.isEmpty then st.2 else st.2 ++ [saveTable st.1]

theorem extractTables_body (P : Params) (segs : List Seg) (tail : Str) (h : WellSeg P segs tail) :
    extractTables P (body segs tail) = finish (segs.foldl (segStep P) ([], [])) := by
  unfold extractTables
  simp only
  rw [tableRows_body P segs tail h]
  have := fold_segs P tail segs [] { cur := [], lastEnd := 0, out := [] } (Or.inl rfl)
  simp only [List.length_nil, List.nil_append] at this
  obtain ⟨h1, h2⟩ := this
  simp only [finish, h1, h2]

/-- (text in front of the table, table) -/
abbrev GT := Str × RTable

/-- what the grouping loop makes of the tables: a new table starts only where the heuristic sees a break,
    otherwise the rows are appended to the table before -/
def groupTables (P : Params) : Grid → List GT → List Grid
  | cur, [] => if cur.isEmpty then [] else [saveTable cur]
  | cur, gt :: rest =>
    if !cur.isEmpty && breaks P gt.1 then saveTable cur :: groupTables P (gridSpec gt.2) rest
    else groupTables P (cur ++ gridSpec gt.2) rest

structure TableOk (t : RTable) : Prop where
  ne : t ≠ []
  rows : ∀ r ∈ t, RowOk r

/-- conditions on the generated parameters: `specialsOk`, and a raw-gap literal of at least 1, so that a separator of one character
    (the line end of `docRtf`) is never a break -/
def paramsOk (P : Params) : Bool := specialsOk P && decide (1 ≤ P.rawGap)

theorem paramsOk_specials {P : Params} (h : paramsOk P = true) : specialsOk P = true := by
  simp only [paramsOk, Bool.and_eq_true] at h; exact h.1

theorem paramsOk_rawGap {P : Params} (h : paramsOk P = true) : 1 ≤ P.rawGap := by
  simp only [paramsOk, Bool.and_eq_true, decide_eq_true_eq] at h; exact h.2

theorem segStep_row (P : Params) (hP : paramsOk P = true) (st : Grid × List Grid) (g : Str) (r : RRow) (hr : RowOk r) :
    segStep P st (g, r) =
      if !st.1.isEmpty && breaks P g then ([r.map cellSpec], st.2 ++ [saveTable st.1]) else (st.1 ++ [r.map cellSpec], st.2) := by
  have hc := extractCells_row P (paramsOk_specials hP) r hr.ne hr.cells
  have hne : (r.map cellSpec).isEmpty = false := by
    rw [List.isEmpty_map, List.isEmpty_eq_false_iff]; exact hr.ne
  simp only [segStep, hc, hne, Bool.false_eq_true, if_false]
  split <;> simp

theorem groupTables_nil_cons (P : Params) (gt : GT) (gts : List GT) :
    groupTables P [] (gt :: gts) = groupTables P (gridSpec gt.2) gts := by
  simp [groupTables]

theorem gridSpec_ne {t : RTable} (h : t ≠ []) : (gridSpec t).isEmpty = false := by
  rw [gridSpec, List.isEmpty_map, List.isEmpty_eq_false_iff]; exact h

theorem group_all_break (P : Params) : ∀ (gts : List GT) (cur : Grid), cur.isEmpty = false →
    (∀ gt ∈ gts, gt.2 ≠ []) → gts.all (fun gt => breaks P gt.1) = true →
    groupTables P cur gts = saveTable cur :: gts.map (fun gt => tableSpec gt.2)
  | [], cur, hc, _, _ => by simp [groupTables, hc]
  | gt :: rest, cur, hc, hne, hb => by
    simp only [List.all_cons, Bool.and_eq_true] at hb
    simp only [groupTables, hc, hb.1, Bool.not_false, Bool.and_self, if_true, List.map_cons]
    rw [group_all_break P rest _ (gridSpec_ne (hne gt List.mem_cons_self))
      (fun x hx => hne x (List.mem_cons_of_mem _ hx)) hb.2]
    rfl

theorem group_length (P : Params) : ∀ (gts : List GT) (cur : Grid), cur.isEmpty = false → (∀ gt ∈ gts, gt.2 ≠ []) →
    (groupTables P cur gts).length = 1 + (gts.filter (fun gt => breaks P gt.1)).length
  | [], cur, hc, _ => by simp [groupTables, hc]
  | gt :: rest, cur, hc, hne => by
    simp only [groupTables, hc, Bool.not_false, Bool.true_and, List.filter_cons]
    have hr := fun x hx => hne x (List.mem_cons_of_mem _ hx)
    split
    · rw [List.length_cons, group_length P rest _ (gridSpec_ne (hne gt List.mem_cons_self)) hr]
      simp; omega
    · have hc' : (cur ++ gridSpec gt.2).isEmpty = false := by
        cases cur with
        | nil => simp at hc
        | cons a b => rfl
      rw [group_length P rest _ hc' hr]

end S2T.Tables.Rtf
