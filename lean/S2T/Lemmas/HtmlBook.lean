import S2T.Lemmas.HtmlSkip
import S2T.Spec.HtmlBook
/-! C17 on histories of documents: the full state after one content document (`run_chapter`), of which the chapter theorems
    of `Props/C17_Life.lean` are projections. -/
namespace S2T.HtmlSkip

variable {σ : Type} (T : Tables) (D : Down σ)

/-- Under `ChapterOk` the nesting `bal t 0 junk` of an unclosed tail is `some k`; the `getD` only makes the right-hand side
    total. -/
theorem run_chapter (c : Chapter) (h : ChapterOk T c = true) (st : St σ) (hc : Clean st) :
    run T D st c.events = match c.tail with
      | .complete => { st with down := D.feed st.down (downEvents c.doc) }
      | .unclosed t _ junk => { st with down := D.feed st.down (downEvents c.doc), skipTag := some t,
                                        skipDepth := (((bal t 0 junk).getD 0 : Nat) : Int) + 1 } := by
  obtain ⟨doc, tl⟩ := c
  simp only [ChapterOk, Bool.and_eq_true] at h
  rw [Chapter.events, run_append, run_doc T D doc st h.1 hc]
  cases tl with
  | complete => rfl
  | unclosed t a junk =>
    obtain ⟨⟨hr, hv⟩, hb⟩ := by simpa only [TailOk, Bool.and_eq_true, Bool.not_eq_true'] using h.2
    obtain ⟨k, hk⟩ := Option.isSome_iff_exists.mp hb
    simp only [hk, Option.getD_some]
    exact run_enter T D t a junk k hr hv hk _ hc.not_skipping

theorem chapter_strip_ok (c : Chapter) (h : ChapterOk T c = true) : ChapterOk T c.strip = true := by
  simp only [ChapterOk, Bool.and_eq_true] at h
  simp [ChapterOk, Chapter.strip, TailOk, strip_ok T c.doc h.1]

theorem chapterOk_eq_spec (h : TablesMatchSpec T = true) (c : Chapter) : ChapterOk T c = SpecChapterOk c := by
  simp only [ChapterOk, SpecChapterOk, docOk_eq_spec T h]
  cases c with
  | mk doc tail =>
    cases tail with
    | complete => rfl
    | unclosed t a junk =>
      simp only [TailOk, SpecTailOk, Bool.and_assoc]
      rw [matchSpec_and T h t (fun v => !v && (bal t 0 junk).isSome)]

theorem all_chapterOk_of_spec (h : TablesMatchSpec T = true) {book : List Chapter}
    (hb : book.all SpecChapterOk = true) : book.all (ChapterOk T) = true := by
  simp only [List.all_eq_true] at *
  intro c hc
  rw [chapterOk_eq_spec T h]; exact hb c hc

end S2T.HtmlSkip
