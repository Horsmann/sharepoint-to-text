import S2T.Model.Limits
namespace S2T.Limits

theorem digits_of_lt {n : Nat} (h : n < 10) : digits n = 1 := by rw [digits]; simp [h]

theorem digits_of_ge {n : Nat} (h : 10 ≤ n) : digits n = 1 + digits (n / 10) := by
  rw [digits, dif_neg (Nat.not_lt.mpr h)]

theorem digits_pow10 (d : Nat) : digits (10 ^ d) = d + 1 := by
  induction d with
  | zero => exact digits_of_lt (by decide)
  | succ k ih =>
    have hp : 0 < 10 ^ k := Nat.pow_pos (by decide)
    rw [digits_of_ge (by rw [Nat.pow_succ]; omega), show 10 ^ (k + 1) / 10 = 10 ^ k by rw [Nat.pow_succ]; omega, ih]
    omega

theorem memberSkipped_documented (k : Kind) (limit declared : Nat) :
    memberSkipped Ops.documented k limit declared = decide (limit < declared) := by
  cases k <;> simp [memberSkipped, Ops.documented, Cmp.eval]

theorem tarPayload_eq (ms : List TarMember) :
    tarPayload ms = (ms.map fun m => if m.kind = .reg then m.size else 0).sum := by
  induction ms with
  | nil => rfl
  | cons m r ih =>
    rw [List.map_cons, List.sum_cons, ← ih]
    by_cases hk : m.kind = .reg <;> simp [tarPayload, hk]

end S2T.Limits
