import S2T.Lemmas.AesKatVec
import S2T.Lemmas.AesSpec
/-! Known-answer validation of the specification `S2T.Spec.Fips197`.  SP 800-38A F.2.3/F.2.4 (CBC-AES192): the
    encryption is evaluated by the kernel, the decryption follows because `cbcDecrypt` inverts `cbcEncrypt` -/
namespace S2T.AesL.Kat
open S2T.Spec.Fips197

/-- SP 800-38A F.2.3 CBC-AES192.Encrypt -/
theorem cbc192_encrypt : cbcEncrypt key192 iv pt = cbc192 := by decide +kernel
/-- SP 800-38A F.2.4 CBC-AES192.Decrypt -/
theorem cbc192_decrypt : cbcDecrypt key192 iv cbc192 = pt := by
  rw [← cbc192_encrypt]
  exact cbcDecrypt_cbcEncrypt (by decide) _ _ (by decide) (by decide)

end S2T.AesL.Kat
