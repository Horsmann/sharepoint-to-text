import S2T.Model.C02OdfTok
import S2T.Lemmas.ListBasics
/-! `str.split()` / `strip()` / `join()` over any element type.  `tokens` is `glue ∘ toks`: a fact about `tokens` is an
induction on `toks` through `toks_cons`, and a step through `glue`. -/
namespace S2T.Tok

variable {α : Type} {p : α → Bool}

/-- binds its own `α` (any universe; the file's is in `Type`): `tokens_map` rewrites with it, and with `glue_map`, at two
    element types of its own -/
theorem toks_cons {α} {p : α → Bool} (c : α) (r : List α) :
    toks p (c :: r) = if p c then ([], glue (toks p r)) else (c :: (toks p r).1, (toks p r).2) := rfl

theorem glue_append (h : List α) (t u : List (List α)) : glue (h, t ++ u) = glue (h, t) ++ u := by
  unfold glue; split <;> rfl

theorem mem_glue {t : List α} {ht : List α × List (List α)} : t ∈ glue ht ↔ (t = ht.1 ∧ ht.1 ≠ []) ∨ t ∈ ht.2 := by
  unfold glue; split <;> simp_all

theorem glue_map {α β} (f : α → β) (ht : List α × List (List α)) :
    glue (ht.1.map f, ht.2.map (List.map f)) = (glue ht).map (List.map f) := by
  unfold glue; split <;> simp_all

theorem glue_flatten (ht : List α × List (List α)) : (glue ht).flatten = ht.1 ++ ht.2.flatten := by
  unfold glue; split <;> simp_all

@[simp] theorem tokens_nil : tokens p [] = [] := by simp [tokens, toks, glue]

theorem tokens_cons_ws {w : α} (hw : p w = true) (b : List α) : tokens p (w :: b) = tokens p b := by
  simp [tokens, toks, glue, hw]

theorem toks_append_ws {w : α} (hw : p w = true) (a b : List α) :
    toks p (a ++ w :: b) = ((toks p a).1, (toks p a).2 ++ tokens p b) := by
  induction a with
  | nil => simp [toks, hw, tokens, glue]
  | cons c a ih =>
    rw [List.cons_append, toks_cons, toks_cons, ih]
    by_cases hc : p c = true <;> simp [hc, glue_append]

theorem tokens_append_ws {w : α} (hw : p w = true) (a b : List α) :
    tokens p (a ++ w :: b) = tokens p a ++ tokens p b := by
  rw [tokens, toks_append_ws hw, glue_append]; rfl

theorem toks_nows (r : List α) (h : ∀ c ∈ r, p c = false) : toks p r = (r, []) := by
  induction r with
  | nil => rfl
  | cons c r ih =>
    have hc : p c = false := h c (by simp)
    simp [toks, hc, ih (fun x hx => h x (by simp [hx]))]

theorem tokens_of_token (t : List α) (hne : t ≠ []) (h : ∀ c ∈ t, p c = false) : tokens p t = [t] := by
  simp [tokens, toks_nows t h, glue, hne]

theorem tokens_ws_prefix (w b : List α) (hw : w.all p = true) : tokens p (w ++ b) = tokens p b := by
  induction w with
  | nil => rfl
  | cons c w ih =>
    simp only [List.all_cons, Bool.and_eq_true] at hw
    rw [List.cons_append, tokens_cons_ws hw.1, ih hw.2]

theorem tokens_all_ws (w : List α) (hw : w.all p = true) : tokens p w = [] := by
  have := tokens_ws_prefix (p := p) w [] hw
  simpa using this

theorem tokens_ws_suffix (a w : List α) (hw : w.all p = true) : tokens p (a ++ w) = tokens p a := by
  cases w with
  | nil => simp
  | cons c w =>
    simp only [List.all_cons, Bool.and_eq_true] at hw
    rw [tokens_append_ws hw.1, tokens_all_ws w hw.2, List.append_nil]

theorem tokens_append_sep (a w b : List α) (hw : w.all p = true) (hne : w ≠ []) :
    tokens p (a ++ w ++ b) = tokens p a ++ tokens p b := by
  cases w with
  | nil => exact absurd rfl hne
  | cons c w =>
    simp only [List.all_cons, Bool.and_eq_true] at hw
    rw [List.append_assoc, List.cons_append, tokens_append_ws hw.1, tokens_ws_prefix w b hw.2]

theorem blank_tokens {s : List α} (h : blank p s = true) : tokens p s = [] := tokens_all_ws s h

theorem rstrip_split (q : α → Bool) (l : List α) : ∃ w, l = rstrip q l ++ w ∧ ∀ x ∈ w, q x = true := by
  refine ⟨(l.reverse.takeWhile q).reverse, ?_, fun x hx => List.all_eq_true.1 List.all_takeWhile x (List.mem_reverse.1 hx)⟩
  unfold rstrip
  rw [← List.reverse_append, List.takeWhile_append_dropWhile, List.reverse_reverse]

section
variable {q : α → Bool} (hq : ∀ c, q c = true → p c = true)
include hq

theorem tokens_lstrip (s : List α) : tokens p (lstrip q s) = tokens p s := by
  unfold lstrip
  conv => rhs; rw [← List.takeWhile_append_dropWhile (p := q) (l := s)]
  exact (tokens_ws_prefix _ _ (List.all_eq_true.2 fun x hx => hq x (List.all_eq_true.1 List.all_takeWhile x hx))).symm

theorem tokens_rstrip (s : List α) : tokens p (rstrip q s) = tokens p s := by
  obtain ⟨w, hs, hw⟩ := rstrip_split q s
  conv => rhs; rw [hs]
  exact (tokens_ws_suffix _ _ (List.all_eq_true.2 fun x hx => hq x (hw x hx))).symm

/-- `s.strip()`, `s.strip("\n")`: any class `q` of whitespace characters -/
theorem tokens_strip_of (s : List α) : tokens p (strip q s) = tokens p s := by
  unfold strip; rw [tokens_rstrip hq, tokens_lstrip hq]

end

theorem tokens_strip (s : List α) : tokens p (strip p s) = tokens p s := tokens_strip_of (fun _ h => h) s

def SepOk (p : α → Bool) (sep : List α) : Prop := sep ≠ [] ∧ sep.all p = true

theorem tokens_join {sep : List α} (hs : sep.all p = true) (hne : sep ≠ []) (l : List (List α)) :
    tokens p (join sep l) = l.flatMap (tokens p) := by
  induction l with
  | nil => simp [join]
  | cons a r ih =>
    cases r with
    | nil => simp [join]
    | cons b r =>
      rw [join, tokens_append_sep _ _ _ hs hne, ih]
      simp

theorem SepOk.tokens_join {sep : List α} (h : SepOk p sep) (l : List (List α)) :
    tokens p (join sep l) = l.flatMap (tokens p) := Tok.tokens_join h.2 h.1 l

theorem tokens_joinNl {p : Char → Bool} (hn : p '\n' = true) (l : List Str) : tokens p (joinNl l) = l.flatMap (tokens p) :=
  tokens_join (by simp [hn]) (by simp) l

/-- `"".join(x + "\n" for x in l)` -/
theorem tokens_flatMap_ended {β} {w : α} (hw : p w = true) (f : β → List α) (l : List β) :
    tokens p (l.flatMap (fun x => f x ++ [w])) = l.flatMap (fun x => tokens p (f x)) := by
  induction l with
  | nil => simp
  | cons a r ih => rw [List.flatMap_cons, List.append_assoc, List.singleton_append, tokens_append_ws hw, ih,
      List.flatMap_cons]

theorem flatMap_tokens_filter_nonblank (l : List (List α)) :
    (l.filter (fun s => !blank p s)).flatMap (tokens p) = l.flatMap (tokens p) :=
  List.flatMap_filter_eq _ _ l (fun _ _ ha => blank_tokens (by simpa using ha))

theorem tokens_map {α β} (f : α → β) (p : α → Bool) (q : β → Bool) (h : ∀ a, q (f a) = p a) (s : List α) :
    tokens q (s.map f) = (tokens p s).map (List.map f) := by
  have key : ∀ s : List α, toks q (s.map f) = ((toks p s).1.map f, (toks p s).2.map (List.map f)) := by
    intro s
    induction s with
    | nil => rfl
    | cons c r ih =>
      rw [List.map_cons, toks_cons, toks_cons, ih, h, glue_map]
      by_cases hc : p c = true <;> simp [hc]
  rw [tokens, key, glue_map]; rfl

theorem toks_fst_no_ws (s : List α) : ∀ c ∈ (toks p s).1, p c = false := by
  induction s with
  | nil => simp [toks]
  | cons c r ih =>
    rw [toks_cons]
    by_cases hc : p c = true
    · simp [hc]
    · simpa [hc] using ih

theorem toks_snd_ok (s : List α) : ∀ t ∈ (toks p s).2, t ≠ [] ∧ ∀ c ∈ t, p c = false := by
  induction s with
  | nil => simp [toks]
  | cons c r ih =>
    rw [toks_cons]
    by_cases hc : p c = true
    · simp only [hc, if_true]
      intro t ht
      rcases mem_glue.1 ht with ⟨rfl, hne⟩ | ht
      · exact ⟨hne, toks_fst_no_ws r⟩
      · exact ih t ht
    · simpa [hc] using ih

theorem token_ok (s : List α) : ∀ t ∈ tokens p s, t ≠ [] ∧ ∀ c ∈ t, p c = false := by
  intro t ht
  rcases mem_glue.1 ht with ⟨rfl, hne⟩ | ht
  · exact ⟨hne, toks_fst_no_ws s⟩
  · exact toks_snd_ok s t ht

theorem toks_flatten (s : List α) : (toks p s).1 ++ (toks p s).2.flatten = s.filter (fun c => !p c) := by
  induction s with
  | nil => simp [toks]
  | cons c r ih =>
    rw [toks_cons]
    by_cases hc : p c = true <;> simp [hc, glue_flatten, List.filter, ih]

/-- no character is invented, lost, duplicated or reordered by `split` -/
theorem tokens_flatten (s : List α) : (tokens p s).flatten = s.filter (fun c => !p c) := by
  rw [← toks_flatten, tokens, glue_flatten]

end S2T.Tok
