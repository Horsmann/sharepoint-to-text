/-! Two inventories of the same source, compared in the order of the lists.  They list their entries in nearly the same
order, so each entry is looked for behind the place of the previous one, and almost every comparison the walk makes
succeeds.  A comparison that succeeds is the dear one for the kernel (finding two keys equal walks all their strings), and
the one that finds `a` of `l` at `k` of `ks` also finds `k` in `l`: both inclusions come from one walk. -/
namespace S2T

/-- `xs` cut at the first occurrence of `a`: what was skipped, what is behind -/
def cutAt {α} [DecidableEq α] (a : α) : List α → Option (List α × List α)
  | [] => none
  | k :: ks => if a = k then some ([], ks) else (cutAt a ks).map fun p => (k :: p.1, p.2)

theorem cutAt_some {α} [DecidableEq α] {a : α} {xs : List α} {p : List α × List α} (h : cutAt a xs = some p) :
    xs = p.1 ++ a :: p.2 := by
  induction xs generalizing p with
  | nil => cases h
  | cons k ks ih =>
    rw [cutAt] at h
    split at h
    · cases h; simp [*]
    · obtain ⟨q, hq, rfl⟩ := Option.map_eq_some_iff.1 h
      simp [← ih hq]

/-- the entries of `ks` that the walk through `l` has not met: each element of `l` is looked for behind the previous hit
    (`rest`), then among what was passed over on the way (`skipped`), and the walk goes on behind the place where it is
    found; an element found in neither may still repeat an earlier one; `none` when it is not in `ks` at all -/
def unmet {α} [DecidableEq α] (ks : List α) : (l rest skipped : List α) → Option (List α)
  | [], rest, sk => some (sk ++ rest)
  | a :: l, rest, sk =>
    match cutAt a rest with
    | some p => unmet ks l p.2 (p.1 ++ sk)
    | none =>
      match cutAt a sk with
      | some p => unmet ks l p.2 (p.1 ++ rest)
      | none => if a ∈ ks then unmet ks l rest sk else none

/-- What a walk through `l` that ends with `u` establishes, `xs` and `ys` being its two lists (`rest`, `skipped`) at the start:
    `l` lies in `ks`, and every entry of the two lists is met, i.e. in `l`, or left over, i.e. in `u`. -/
structure Walked {α} (ks l u xs ys : List α) : Prop where
  sub : ∀ a ∈ l, a ∈ ks
  cover : ∀ k, k ∈ xs ∨ k ∈ ys → k ∈ l ∨ k ∈ u

/-- one step of the walk: `a` is found in `xs`, the walk goes on behind it (`ih` is the rest of the walk) -/
theorem unmet_step {α} {ks l u xs ys : List α} {a : α} {p : List α × List α} (hx : xs = p.1 ++ a :: p.2)
    (hr : ∀ x, x ∈ xs ∨ x ∈ ys → x ∈ ks)
    (ih : (∀ x, x ∈ p.2 ∨ x ∈ p.1 ++ ys → x ∈ ks) → Walked ks l u p.2 (p.1 ++ ys)) : Walked ks (a :: l) u xs ys := by
  have hcut : ∀ k, k ∈ xs ∨ k ∈ ys ↔ k = a ∨ k ∈ p.2 ∨ k ∈ p.1 ++ ys := fun k => by
    rw [hx]; simp only [List.mem_append, List.mem_cons]; grind
  have w := ih fun x hx' => hr x ((hcut x).2 (Or.inr hx'))
  refine ⟨fun b hb => ?_, fun k hk => ?_⟩
  · rcases List.mem_cons.1 hb with rfl | hb
    · exact hr _ ((hcut _).2 (Or.inl rfl))
    · exact w.sub b hb
  · rcases (hcut k).1 hk with rfl | hk
    · exact Or.inl List.mem_cons_self
    · exact (w.cover k hk).imp_left (List.mem_cons_of_mem _)

theorem unmet_sound {α} [DecidableEq α] {ks l rest sk u : List α} (hr : ∀ x, x ∈ rest ∨ x ∈ sk → x ∈ ks)
    (h : unmet ks l rest sk = some u) : Walked ks l u rest sk := by
  induction l generalizing rest sk with
  | nil => cases h; exact ⟨fun _ h => (nomatch h), fun k hk => Or.inr (List.mem_append.2 hk.symm)⟩
  | cons a l ih =>
    rw [unmet] at h
    split at h
    · exact unmet_step (cutAt_some ‹_›) hr fun hr' => ih hr' h
    · split at h
      · have w := unmet_step (cutAt_some ‹_›) (fun x hx => hr x hx.symm) fun hr' => ih hr' h
        exact ⟨w.sub, fun k hk => w.cover k hk.symm⟩
      · split at h
        · rename_i ha
          have w := ih hr h
          exact ⟨fun b hb => (List.mem_cons.1 hb).elim (· ▸ ha) (w.sub b),
            fun k hk => (w.cover k hk).imp_left (List.mem_cons_of_mem _)⟩
        · cases h

def coveredBy {α} [DecidableEq α] (ks l : List α) : Bool := (unmet ks l ks []).isSome

theorem coveredBy_sound {α} [DecidableEq α] {ks l : List α} (h : coveredBy ks l = true) : ∀ a ∈ l, a ∈ ks := by
  obtain ⟨u, hu⟩ := Option.isSome_iff_exists.1 h
  exact (unmet_sound (fun _ h => h.elim id fun h => (List.not_mem_nil h).elim) hu).sub

structure SameEntries {α} (l ks : List α) : Prop where
  sub : ∀ a ∈ l, a ∈ ks
  sup : ∀ k ∈ ks, k ∈ l

/-- the test for `SameEntries`: the walk through `l`, then the few entries of `ks` it has not met are looked for in `l` -/
def sameEntries {α} [DecidableEq α] (l ks : List α) : Bool :=
  match unmet ks l ks [] with
  | some u => u.all (l.contains ·)
  | none => false

theorem sameEntries_sound {α} [DecidableEq α] {l ks : List α} (h : sameEntries l ks = true) : SameEntries l ks := by
  unfold sameEntries at h
  split at h
  · rename_i u hu
    have w := unmet_sound (fun _ h => h.elim id fun h => (List.not_mem_nil h).elim) hu
    exact ⟨w.sub, fun k hk => (w.cover k (Or.inl hk)).elim id fun hku =>
      List.contains_iff_mem.1 (List.all_eq_true.1 h k hku)⟩
  · cases h

theorem mem_of_map_mem {α β} {f : α → β} (hf : ∀ a b, f a = f b → a = b) {a : α} {l : List α} (h : f a ∈ l.map f) :
    a ∈ l := by
  obtain ⟨b, hb, he⟩ := List.mem_map.1 h
  rwa [← hf _ _ he]

/-! What is decided of the images under an injective `f` holds of the lists: keys made of strings are compared as lists
of characters (`Lemmas/StrTable.lean`). -/

theorem SameEntries.of_map {α β} {f : α → β} (hf : ∀ a b, f a = f b → a = b) {l ks : List α}
    (h : SameEntries (l.map f) (ks.map f)) : SameEntries l ks :=
  ⟨fun _ ha => mem_of_map_mem hf (h.sub _ (List.mem_map_of_mem ha)),
    fun _ hk => mem_of_map_mem hf (h.sup _ (List.mem_map_of_mem hk))⟩

theorem covered_of_map {α β} [DecidableEq β] {f : α → β} (hf : ∀ a b, f a = f b → a = b) {l ks : List α}
    (h : coveredBy (ks.map f) (l.map f) = true) : ∀ a ∈ l, a ∈ ks := fun _ ha =>
  mem_of_map_mem hf (coveredBy_sound h _ (List.mem_map_of_mem ha))

end S2T
