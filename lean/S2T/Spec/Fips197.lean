/-!
# FIPS-197 (AES) and SP 800-38A (ECB, CBC) — specification, transcribed from the standards

Nothing here looks at the Python source.  Bytes are `Nat`s (< 256), the state is the flat
16-byte list `in[r + 4c] = s[r,c]` (FIPS-197 §3.4), a word is a list of 4 bytes.

* GF(2⁸): §4.2 — multiplication of polynomials over GF(2) modulo m(x) = x⁸+x⁴+x³+x+1.
* S-box: §5.1.1 — multiplicative inverse (b²⁵⁴) followed by the affine transformation (5.1/5.2).
* ShiftRows (5.3), MixColumns (5.6) as matrix product, KeyExpansion (Fig. 11), Cipher (Fig. 5),
  InvCipher (Fig. 12), InvShiftRows (5.8), InvMixColumns (5.10), InvSubBytes (§5.3.2).
* ECB / CBC: SP 800-38A §6.1, §6.2, over lists of 16-byte blocks.

Validated in the kernel against FIPS-197 Appendix C.1–C.3, Appendix A/B and SP 800-38A F.1/F.2
in `S2T/Lemmas/AesKat*.lean`.
-/
namespace S2T.Spec.Fips197

/-! ## GF(2⁸) -/

/-- product of the polynomials `a` and `b` over GF(2) (`b` of degree < 8): ⊕ over the set bits i of b of a·xⁱ -/
def clmul (a b : Nat) : Nat :=
  (List.range 8).foldl (fun p i => if b.testBit i then p ^^^ (a <<< i) else p) 0

/-- remainder modulo m(x) = x⁸+x⁴+x³+x+1 = 0x11B of a polynomial of degree ≤ 14 -/
def reduce (p : Nat) : Nat :=
  [14, 13, 12, 11, 10, 9, 8].foldl (fun p k => if p.testBit k then p ^^^ (0x11B <<< (k - 8)) else p) p

/-- the product a • b in GF(2⁸) (§4.2) -/
def gmul (a b : Nat) : Nat := reduce (clmul a b)

/-- `strict x k = k x`; written as a match so that kernel evaluation computes `x` once. -/
def strict {α} (x : Nat) (k : Nat → α) : α := match x with | 0 => k 0 | n + 1 => k (n + 1)

theorem strict_eq {α} (x : Nat) (k : Nat → α) : strict x k = k x := by cases x <;> rfl

/-- b²⁵⁴ = b² • b⁴ • … • b¹²⁸, the multiplicative inverse for b ≠ 0, and 0 for b = 0 (§5.1.1).
    That it is the inverse is theorem `gmul_ginv` in `Lemmas/AesBytes.lean` (all 255 cases). -/
def ginv (a : Nat) : Nat :=
  strict (gmul a a) fun a2 => strict (gmul a2 a2) fun a4 => strict (gmul a4 a4) fun a8 =>
  strict (gmul a8 a8) fun a16 => strict (gmul a16 a16) fun a32 => strict (gmul a32 a32) fun a64 =>
  strict (gmul a64 a64) fun a128 =>
  strict (gmul a2 a4) fun b => strict (gmul b a8) fun b => strict (gmul b a16) fun b =>
  strict (gmul b a32) fun b => strict (gmul b a64) fun b => gmul b a128

/-- rotate a byte left by n bits -/
def rotl8 (x n : Nat) : Nat := ((x <<< n) ||| (x >>> (8 - n))) &&& 0xFF

/-- affine transformation (5.2): b'ᵢ = bᵢ ⊕ b₍ᵢ₊₄₎ ⊕ b₍ᵢ₊₅₎ ⊕ b₍ᵢ₊₆₎ ⊕ b₍ᵢ₊₇₎ ⊕ cᵢ, c = 0x63 -/
def affine (b : Nat) : Nat := b ^^^ rotl8 b 1 ^^^ rotl8 b 2 ^^^ rotl8 b 3 ^^^ rotl8 b 4 ^^^ 0x63

/-- inverse of the affine transformation (§5.3.2): b'ᵢ = b₍ᵢ₊₂₎ ⊕ b₍ᵢ₊₅₎ ⊕ b₍ᵢ₊₇₎ ⊕ dᵢ, d = 0x05 -/
def invAffine (b : Nat) : Nat := rotl8 b 1 ^^^ rotl8 b 3 ^^^ rotl8 b 6 ^^^ 0x05

def sbox (a : Nat) : Nat := affine (ginv a)
def invSbox (a : Nat) : Nat := ginv (invAffine a)

/-- Rcon[i] = x^(i-1) (first byte of the round constant word, §5.2); index 0 is not used. -/
def rcon : Nat → Nat
  | 0 => 0
  | 1 => 1
  | i + 1 => gmul (rcon i) 2

/-! ## transformations of the state (flat list, index r + 4c) -/

def subBytes (s : List Nat) : List Nat := s.map sbox
def invSubBytes (s : List Nat) : List Nat := s.map invSbox

/-- (5.3)  s'[r,c] = s[r, (c + r) mod 4] -/
def shiftRows (s : List Nat) : List Nat :=
  (List.range 16).map fun i => s.getD (i % 4 + 4 * ((i / 4 + i % 4) % 4)) 0

/-- (5.8)  s'[r, (c + r) mod 4] = s[r,c],  i.e.  s'[r,c] = s[r, (c - r) mod 4] -/
def invShiftRows (s : List Nat) : List Nat :=
  (List.range 16).map fun i => s.getD (i % 4 + 4 * ((i / 4 + 4 - i % 4) % 4)) 0

/-- the matrix of (5.6) -/
def mixMatrix : List (List Nat) := [[2, 3, 1, 1], [1, 2, 3, 1], [1, 1, 2, 3], [3, 1, 1, 2]]
/-- the matrix of (5.10) -/
def invMixMatrix : List (List Nat) :=
  [[0x0e, 0x0b, 0x0d, 0x09], [0x09, 0x0e, 0x0b, 0x0d], [0x0d, 0x09, 0x0e, 0x0b], [0x0b, 0x0d, 0x09, 0x0e]]

/-- row • column over GF(2⁸) -/
def dot (row col : List Nat) : Nat := (List.zipWith (fun m a => gmul a m) row col).foldl (· ^^^ ·) 0

/-- every column of the state is multiplied by the matrix `M` -/
def matColumns (M : List (List Nat)) (s : List Nat) : List Nat :=
  (List.range 4).flatMap fun c => M.map fun row => dot row ((s.drop (4 * c)).take 4)

def mixColumns (s : List Nat) : List Nat := matColumns mixMatrix s
def invMixColumns (s : List Nat) : List Nat := matColumns invMixMatrix s

def addRoundKey (s k : List Nat) : List Nat := List.zipWith (· ^^^ ·) s k

/-! ## key expansion (Fig. 11) -/

def rotWord (w : List Nat) : List Nat := w.drop 1 ++ w.take 1
def subWord (w : List Nat) : List Nat := w.map sbox
def xorWords (a b : List Nat) : List Nat := List.zipWith (· ^^^ ·) a b

/-- one step of the `while i < Nb*(Nr+1)` loop: append w[i] -/
def expandStep (nk : Nat) (w : List (List Nat)) (i : Nat) : List (List Nat) :=
  let temp := w.getD (i - 1) []
  let temp :=
    if i % nk = 0 then xorWords (subWord (rotWord temp)) [rcon (i / nk), 0, 0, 0]
    else if nk > 6 ∧ i % nk = 4 then subWord temp
    else temp
  w ++ [xorWords (w.getD (i - nk) []) temp]

def Nk (key : List Nat) : Nat := key.length / 4
def Nr (key : List Nat) : Nat := Nk key + 6

/-- the key schedule: 4·(Nr+1) words -/
def keyExpansion (key : List Nat) : List (List Nat) :=
  let nk := Nk key
  let w0 := (List.range nk).map fun i => (key.drop (4 * i)).take 4
  (List.range' nk (4 * (Nr key + 1) - nk)).foldl (expandStep nk) w0

/-- round key `r` = words w[4r .. 4r+3] -/
def roundKey (w : List (List Nat)) (r : Nat) : List Nat := ((w.drop (4 * r)).take 4).flatten

/-! ## Cipher (Fig. 5) and InvCipher (Fig. 12), for a round-key function `rk` -/

def cipherRK (rk : Nat → List Nat) (nr : Nat) (inp : List Nat) : List Nat :=
  let s := addRoundKey inp (rk 0)
  let s := (List.range' 1 (nr - 1)).foldl
    (fun s r => addRoundKey (mixColumns (shiftRows (subBytes s))) (rk r)) s
  addRoundKey (shiftRows (subBytes s)) (rk nr)

def invCipherRK (rk : Nat → List Nat) (nr : Nat) (inp : List Nat) : List Nat :=
  let s := addRoundKey inp (rk nr)
  let s := (List.range' 1 (nr - 1)).reverse.foldl
    (fun s r => invMixColumns (addRoundKey (invSubBytes (invShiftRows s)) (rk r))) s
  addRoundKey (invSubBytes (invShiftRows s)) (rk 0)

/-- AES-128/192/256 encryption of one block under `key` (16/24/32 bytes) -/
def aesEnc (key blk : List Nat) : List Nat := cipherRK (roundKey (keyExpansion key)) (Nr key) blk
def aesDec (key blk : List Nat) : List Nat := invCipherRK (roundKey (keyExpansion key)) (Nr key) blk

/-! ## SP 800-38A modes over lists of blocks -/

def ecbEncrypt (key : List Nat) (blocks : List (List Nat)) : List (List Nat) := blocks.map (aesEnc key)
def ecbDecrypt (key : List Nat) (blocks : List (List Nat)) : List (List Nat) := blocks.map (aesDec key)

/-- C₁ = CIPH(P₁ ⊕ IV), Cⱼ = CIPH(Pⱼ ⊕ Cⱼ₋₁) -/
def cbcEncrypt (key : List Nat) : List Nat → List (List Nat) → List (List Nat)
  | _, [] => []
  | prev, p :: rest =>
    let c := aesEnc key (xorWords p prev)
    c :: cbcEncrypt key c rest

/-- P₁ = CIPH⁻¹(C₁) ⊕ IV, Pⱼ = CIPH⁻¹(Cⱼ) ⊕ Cⱼ₋₁ -/
def cbcDecrypt (key : List Nat) : List Nat → List (List Nat) → List (List Nat)
  | _, [] => []
  | prev, c :: rest => xorWords (aesDec key c) prev :: cbcDecrypt key c rest

/-! ## PKCS#7 (RFC 5652 §6.3) for block size `k` -/

def pkcs7Pad (k : Nat) (m : List Nat) : List Nat :=
  let p := k - m.length % k
  m ++ List.replicate p p

end S2T.Spec.Fips197
