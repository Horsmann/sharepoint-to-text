/-
Models for C12: the explicit limits (with the comparison operator that the
translator found at each limit site), which archive members are read / decoded / written, the 7z
`extractall` step before and after the repair, and ODS repeat expansion.
Core Lean only.
-/
namespace S2T.Limits

/-- comparison operator of a limit test, as found in the source by the translator -/
inductive Cmp | gt | ge | lt | le | eq | ne
deriving Repr, DecidableEq

def Cmp.ofString : String → Option Cmp
  | "gt" => some .gt | "ge" => some .ge | "lt" => some .lt | "le" => some .le
  | "eq" => some .eq | "ne" => some .ne | _ => none

def Cmp.eval : Cmp → Int → Int → Bool
  | .gt, a, b => decide (a > b) | .ge, a, b => decide (a ≥ b)
  | .lt, a, b => decide (a < b) | .le, a, b => decide (a ≤ b)
  | .eq, a, b => decide (a = b) | .ne, a, b => decide (a ≠ b)

/-- the operators at the seven limit sites -/
structure Ops where
  rfEnabled : Cmp      -- `max_file_size > 0`
  rfReject : Cmp       -- `file_size > max_file_size`
  szReject : Cmp       -- `archive_size > MAX_7Z_FILE_SIZE`
  zipSkip : Cmp        -- `info.file_size > _config.max_memory_size`
  tarSkip : Cmp        -- `member.size > _config.max_memory_size`
  szSkip : Cmp         -- `file_info.uncompressed > _config.max_memory_size`
  entrySkip : Cmp      -- `len(file_data) > MAX_ARCHIVE_FILE_SIZE`
deriving Repr, DecidableEq

def lookupSite (sites : List (String × String × String × String)) (k : String) : Option (String × String × String) :=
  match sites.find? (·.1 == k) with
  | some (_, r) => some r
  | none => none

/-- build `Ops` from the generated site list; `none` if a site is missing, has an unknown operator,
    or compares other operands than the model expects -/
def Ops.ofSites (sites : List (String × String × String × String)) : Option Ops := do
  let get (k lhs rhs : String) : Option Cmp := do
    let (l, op, r) ← lookupSite sites k
    if l == lhs && r == rhs then Cmp.ofString op else none
  let a ← get "read_file.enabled" "limit" "0"
  let b ← get "read_file.reject" "size" "limit"
  let c ← get "7z.reject" "size" "limit"
  let d ← get "zip.skip" "size" "limit"
  let e ← get "tar.skip" "size" "limit"
  let f ← get "7z.skip" "size" "limit"
  let g ← get "entry.skip" "size" "limit"
  return ⟨a, b, c, d, e, f, g⟩

/-- the operators the documentation promises (`>` everywhere) -/
def Ops.documented : Ops := ⟨.gt, .gt, .gt, .gt, .gt, .gt, .gt⟩

/-- `read_file`: the size check at the first `next()`: `if max_file_size > 0: if file_size > max_file_size: raise` -/
def readFileRejects (o : Ops) (maxFileSize : Int) (size : Nat) : Bool :=
  o.rfEnabled.eval maxFileSize 0 && o.rfReject.eval size maxFileSize

def sevenZipRejects (o : Ops) (max7z : Nat) (archiveSize : Nat) : Bool := o.szReject.eval archiveSize max7z

inductive Kind | zip | tar | sevenZip
deriving Repr, DecidableEq

/-- the per-member size filter (declared size against `_config.max_memory_size`) -/
def memberSkipped (o : Ops) (k : Kind) (limit : Nat) (declared : Nat) : Bool :=
  match k with
  | .zip => o.zipSkip.eval declared limit
  | .tar => o.tarSkip.eval declared limit
  | .sevenZip => o.szSkip.eval declared limit

/-- ZIP / TAR member loop: the declared sizes of the members handed to `zf.read` / `tf.extractfile`
    (only these are decompressed into memory; nothing is written to disk) -/
def membersRead (o : Ops) (k : Kind) (limit : Nat) (declared : List Nat) : List Nat :=
  declared.filter (fun s => !memberSkipped o k limit s)

/-! ### 7z: `szf.extractall(...)` -/

/-- one non-directory entry: declared size and whether the filters kept it (`files_to_process`) -/
structure SzFile where
  declared : Nat
  wanted : Bool
deriving Repr, DecidableEq

/-- a folder = the entries stored in it, in order (a solid folder has several) -/
abbrev SzFolder := List SzFile

structure FolderRun where
  decoded : Option Nat      -- `none`: folder not decoded; `some n`: decoder output bounded by `n` (`none`-bounded = unfixed is modelled as the declared total)
  bounded : Bool            -- whether a `max_length` was passed to the decoder
  written : List Nat        -- declared sizes of the entries written to the temp directory
deriving Repr, DecidableEq

/-- end offset of the last wanted entry (`_needed_output`); `none` when no entry is wanted -/
def neededOutput : SzFolder → Nat → Option Nat → Option Nat
  | [], _, acc => acc
  | f :: rest, off, acc =>
    let off' := off + f.declared
    neededOutput rest off' (if f.wanted then some off' else acc)

/-- `extractall` on one folder.  UNFIXED (`fixed = false`): every folder is decoded without an output
    bound and every entry is written.  FIXED: a folder with no wanted entry is not decoded; otherwise it is
    decoded up to the end of the last wanted entry and only wanted entries are written. -/
def extractFolder (fixed : Bool) (f : SzFolder) : FolderRun :=
  if fixed then
    match neededOutput f 0 none with
    | none => ⟨none, true, []⟩
    | some n => ⟨some n, true, (f.filter (·.wanted)).map (·.declared)⟩
  else ⟨some (f.map (·.declared)).sum, false, f.map (·.declared)⟩

def extractAll (fixed : Bool) (folders : List SzFolder) : List FolderRun := folders.map (extractFolder fixed)

/-- the loop at the end of `extractall` that creates the EMPTY files (entries without a data stream):
    declared sizes (all 0) of the entries created.  FIXED: only the wanted ones. -/
def emptyWritten (fixed : Bool) (es : List SzFile) : List Nat :=
  ((if fixed then es.filter (·.wanted) else es)).map (·.declared)

/-- `files_to_process` marking: an entry is wanted iff it passed the size filter (name filters are a parameter `keep`) -/
def markWanted (o : Ops) (limit : Nat) (declared : Nat) (keep : Bool) : SzFile :=
  ⟨declared, keep && !memberSkipped o .sevenZip limit declared⟩

/-! ### ODS repeat expansion (`_extract_sheet`) -/

structure OdsCell where
  rep : Int          -- `int(cell.get("table:number-columns-repeated", "1"))`
  isNone : Bool      -- typed value is None (empty cell)
  textLen : Nat      -- length of the text content (for the size of the input)
deriving Repr, DecidableEq

structure OdsRow where
  rep : Int          -- `int(row.get("table:number-rows-repeated", "1"))`
  cells : List OdsCell
deriving Repr, DecidableEq

/-- `row_values` of one `table:table-row`: one flag (`typed_value is None`) per materialised cell -/
def rowValues (cells : List OdsCell) : List Bool :=
  cells.flatMap (fun c => if c.isNone ∧ c.rep > 100 then [true] else List.replicate c.rep.toNat c.isNone)

/-- `raw_rows` after the row loop -/
def rawRows (rows : List OdsRow) : List (List Bool) :=
  rows.flatMap (fun r =>
    let rv := rowValues r.cells
    if r.rep > 100 ∧ rv.all id then [rv] else List.replicate r.rep.toNat rv)

/-- trailing all-empty rows removed (`while raw_rows and all(...): raw_rows.pop()`) -/
def trimRows (rows : List (List Bool)) : List (List Bool) :=
  (rows.reverse.dropWhile (fun r => r.all id)).reverse

/-- index + 1 of the last non-empty cell of a row, 0 if none -/
def lastData (row : List Bool) : Nat := (row.reverse.dropWhile id).length

/-- `(number of rows, number of columns)` of `sheet.data` -/
def sheetShape (rows : List OdsRow) : Nat × Nat :=
  let rr := trimRows (rawRows rows)
  (rr.length, (rr.map lastData).foldl max 0)

/-- number of cells of `sheet.data` (every row is padded to the same width) -/
def sheetCells (rows : List OdsRow) : Nat := (sheetShape rows).1 * (sheetShape rows).2

/-- cells materialised in `row_values` lists, before row repetition (which shares the list) and padding -/
def materialised (rows : List OdsRow) : Nat := (rows.map (fun r => (rowValues r.cells).length)).sum

/-- number of decimal digits (`len(str(n))`) -/
def digits (n : Nat) : Nat := if h : n < 10 then 1 else 1 + digits (n / 10)
termination_by n
decreasing_by omega
def intLen (i : Int) : Nat := if i < 0 then 1 + digits i.natAbs else digits i.natAbs

/-- exact byte length of the canonical `content.xml` the harness writes for a sheet (see
    `harness/props/c12.py:_ods_xml`): envelope + per row / per cell tags + the repeat attributes' digits -/
def xmlLen (envelope rowTags emptyCellTags textCellTags : Nat) (rows : List OdsRow) : Nat :=
  envelope + (rows.map (fun r => rowTags + intLen r.rep +
    (r.cells.map (fun c => (if c.isNone then emptyCellTags else textCellTags + c.textLen) + intLen c.rep)).sum)).sum

/-- one row repeated `r` times holding one non-empty one-character cell repeated `c` times -/
def repeatSheet (r c : Nat) : List OdsRow := [⟨r, [⟨c, false, 1⟩]⟩]

/-- a first row of `n` distinct non-empty cells followed by `n` rows of one non-empty cell (no repeat attributes above 1) -/
def staircaseSheet (n : Nat) : List OdsRow :=
  ⟨1, List.replicate n ⟨1, false, 1⟩⟩ :: List.replicate n ⟨1, [⟨1, false, 1⟩]⟩

/-! ### TAR member loop with link members (`_extract_from_tar_optimized`)

A hard-link / symbolic-link entry has its OWN header (size field 0 when written by `tarfile`, but any value can be
forged) while `TarFile.extractfile(link)` follows the link and hands out the bytes of the member it points at.
So the size the loop tests (`member.size`) and the bytes the loop reads are two different things unless the
member-type guard lets only regular members through. -/

inductive TarKind | reg | hardlink | symlink | dir | special
deriving Repr, DecidableEq

def TarKind.name : TarKind → String
  | .reg => "reg" | .hardlink => "hardlink" | .symlink => "symlink" | .dir => "dir" | .special => "special"

def TarKind.ofString : String → Option TarKind
  | "reg" => some .reg | "hardlink" => some .hardlink | "symlink" => some .symlink
  | "dir" => some .dir | "special" => some .special | _ => none

structure TarMember where
  size : Nat               -- `member.size`: the size field of the member's own header
  kind : TarKind           -- `isreg()` ⇔ kind = reg; `islnk()` ⇔ hardlink; `issym()` ⇔ symlink
  delivers : Option Nat    -- `len(tf.extractfile(member).read())`; `none`: extractfile returns None or raises
deriving Repr, DecidableEq

/-- the one fact about `tarfile` the bound needs: a REGULAR member's handle never delivers more than the size in
    the member's own header (a truncated archive delivers less).  Nothing is assumed about links. -/
def TarFaithful (ms : List TarMember) : Prop :=
  ∀ m ∈ ms, m.kind = .reg → ∀ n, m.delivers = some n → n ≤ m.size

/-- the documented member-type guard `if not member.isreg(): continue` -/
def onlyReg : TarKind → Bool
  | .reg => true | _ => false

/-- the guard as the translator found it: (kind name, gets past the guard); a kind missing from the table counts
    as accepted (worst case) -/
def acceptOfTable (t : List (String × Bool)) (k : TarKind) : Bool :=
  match t.find? (·.1 == k.name) with
  | some (_, b) => b
  | none => true

/-- position of an event in the generated event list (`events.length` when absent) -/
def eventBefore (events : List String) (a b : String) : Bool :=
  events.contains a && events.contains b && decide (events.idxOf a < events.idxOf b)

/-- the member loop: lengths of the byte strings `extractfile(member).read()` hands to the process, in order.
    `sizeTestFirst = false` models a loop that reads before it tests the size. -/
def tarLoopDelivered (o : Ops) (accept : TarKind → Bool) (sizeTestFirst : Bool) (limit : Nat) (ms : List TarMember) : List Nat :=
  ms.filterMap (fun m =>
    if accept m.kind && !(sizeTestFirst && memberSkipped o .tar limit m.size) then m.delivers else none)

/-- uncompressed payload of the archive: the sizes of the regular members -/
def tarPayload (ms : List TarMember) : Nat := ((ms.filter (·.kind = .reg)).map (·.size)).sum

/-! ### ODS rows with `table:covered-table-cell` children

The row loop is `for cell in row.findall("table:table-cell", NS)`: covered cells (the cells hidden by a merged
neighbour) are not visited at all, whatever their `table:number-columns-repeated` says. -/

inductive OdsChild
  | cell (c : OdsCell)
  | covered (rep : Int)
deriving Repr, DecidableEq

def OdsChild.cell? : OdsChild → Option OdsCell
  | .cell c => some c
  | .covered _ => none

def OdsChild.coveredRep? : OdsChild → Option Int
  | .cell _ => none
  | .covered r => some r

structure OdsRowC where
  rep : Int
  children : List OdsChild
deriving Repr, DecidableEq

/-- the `table:table-cell` children, in order (what `findall` returns) -/
def childCells (cs : List OdsChild) : List OdsCell := cs.filterMap (·.cell?)

def OdsRowC.toRow (r : OdsRowC) : OdsRow := ⟨r.rep, childCells r.children⟩

def sheetShapeC (rows : List OdsRowC) : Nat × Nat := sheetShape (rows.map (·.toRow))
def sheetCellsC (rows : List OdsRowC) : Nat := sheetCells (rows.map (·.toRow))
def materialisedC (rows : List OdsRowC) : Nat := materialised (rows.map (·.toRow))

/-- byte length of the harness's canonical `content.xml` with covered cells -/
def xmlLenC (envelope rowTags emptyCellTags textCellTags coveredTags : Nat) (rows : List OdsRowC) : Nat :=
  xmlLen envelope rowTags emptyCellTags textCellTags (rows.map (·.toRow)) +
  (rows.map (fun r => ((r.children.filterMap (·.coveredRep?)).map (fun n => coveredTags + intLen n)).sum)).sum

end S2T.Limits
