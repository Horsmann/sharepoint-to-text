/-
Models of the library's own `while` loops (C12; also used by C01).

Every loop below is a Lean function defined by STRUCTURAL or WELL-FOUNDED recursion whose
`termination_by` measure is the variant the real loop has (`len − offset`, stack height, `b`, …).
There is no `partial` and no fuel: Lean accepting a definition *is* the termination proof of the
modelled loop.  Every function also counts its iterations (`steps`) — one per execution of the loop
body — so that `Props/C12*.lean` can state *linear* cost, not just finiteness.

`bytes` are `List Nat` (each < 256 at the driver boundary; nothing here depends on that bound);
`str` is `List Nat` of code points.  Tables that the real code takes from module constants are
parameters here and instantiated from `S2T.Gen.C12Consts` in the driver and in the theorems.
-/
namespace S2T.Loops

abbrev Bytes := List Nat

@[inline] def byte (d : Bytes) (i : Nat) : Nat := d.getD i 0
def u16le (d : Bytes) (o : Nat) : Nat := byte d o + 256 * byte d (o + 1)
def u16be (d : Bytes) (o : Nat) : Nat := 256 * byte d o + byte d (o + 1)
def u32le (d : Bytes) (o : Nat) : Nat :=
  byte d o + 256 * byte d (o + 1) + 65536 * byte d (o + 2) + 16777216 * byte d (o + 3)
def u32be (d : Bytes) (o : Nat) : Nat :=
  16777216 * byte d o + 65536 * byte d (o + 1) + 256 * byte d (o + 2) + byte d (o + 3)
/-- two's complement reading of a 32-bit value, then `abs` -/
def absI32 (v : Nat) : Nat := if v < 2147483648 then v else 4294967296 - v
/-- Python `d[a:b]` for `0 ≤ a` -/
def slice (d : Bytes) (a b : Nat) : Bytes := (d.drop a).take (b - a)
/-- `int.from_bytes(x, "big")` of a (possibly short) slice -/
def beInt (l : Bytes) : Nat := l.foldl (fun acc b => acc * 256 + b) 0
/-- `d[o:o+k] == pat` where `k = len(pat)` (false when the slice is short) -/
def matchAt (pat d : Bytes) (o : Nat) : Bool := slice d o (o + pat.length) == pat

/-- `bytes.find(pat, i)`: smallest `j ≥ i` with `d[j:j+len(pat)] == pat`. (C-level scan; its own
    variant is `len − j`.) -/
def findFrom (pat d : Bytes) (i : Nat) : Option Nat :=
  if h : i + pat.length ≤ d.length then
    if matchAt pat d i then some i
    else if h' : i < d.length then findFrom pat d (i + 1) else none   -- (`i = len` only for an empty pattern, which matches)
  else none
termination_by d.length - i

theorem findFrom_ge {pat d : Bytes} {i j : Nat} (h : findFrom pat d i = some j) : i ≤ j ∧ j + pat.length ≤ d.length := by
  fun_induction findFrom pat d i with
  | case1 i h1 hm => cases h; exact ⟨Nat.le_refl _, h1⟩
  | case2 i h1 hm h2 ih => have := ih h; omega
  | case3 i h1 hm h2 => cases h
  | case4 i h1 => cases h

/-! ## util/encryption.py : is_xls_encrypted — BIFF record walk looking for FILEPASS -/

/-- `(found, steps)`; variant `len − offset` (`offset += 4 + record_len`). -/
def xlsFilepass (filepass : Nat) (d : Bytes) (off : Nat) : Bool × Nat :=
  if h : off + 4 ≤ d.length then
    if u16le d off = filepass then (true, 1)
    else
      let r := xlsFilepass filepass d (off + 4 + u16le d (off + 2))
      (r.1, r.2 + 1)
  else (false, 0)
termination_by d.length - off

/-! ## util/image_utils.py : get_jpeg_dimensions — SOF scanner -/

/-- `((width, height) | none, steps)`; loop test `offset < len(data) − 9`; variant `len − offset`
    (`offset += 1` or `offset += 2 + segment_len`). -/
def jpegDims (sof : List Nat) (d : Bytes) (off : Nat) : Option (Nat × Nat) × Nat :=
  if h : off + 9 < d.length then
    if byte d off ≠ 0xFF then
      let r := jpegDims sof d (off + 1); (r.1, r.2 + 1)
    else
      let marker := byte d (off + 1)
      if marker = 0xFF then
        let r := jpegDims sof d (off + 1); (r.1, r.2 + 1)
      else if sof.contains marker then
        -- `if offset + 9 <= len(data)` is implied by the loop test
        (some (u16be d (off + 7), u16be d (off + 5)), 1)
      else
        -- `if offset + 4 <= len(data)` is implied by the loop test; the `else: break` arm is dead
        let r := jpegDims sof d (off + 2 + u16be d (off + 2)); (r.1, r.2 + 1)
  else (none, 0)
termination_by d.length - off

/-! ## ms_modern/{docx,xlsx,pptx}_extractor.py : _get_image_pixel_dimensions (JPEG branch) -/

/-- result of the JPEG branch: `some (w, h)` raw values (before `or None`), or `none`.
    `strict = true` is the pptx copy (an SOF marker whose segment overruns the data breaks the loop);
    `strict = false` are the docx/xlsx copies (it is skipped like any other segment).
    Variant `len − i` (`i += 1` or `i += 2 + length` with `length ≥ 2`). -/
def sofScan (sof : List Nat) (strict : Bool) (d : Bytes) (i : Nat) : Option (Nat × Nat) × Nat :=
  if h : i + 4 ≤ d.length then
    if byte d i ≠ 0xFF then
      let r := sofScan sof strict d (i + 1); (r.1, r.2 + 1)
    else
      let marker := byte d (i + 1)
      if marker = 0xD9 ∨ marker = 0xDA then (none, 1)
      else
        let length := u16be d (i + 2)
        if length < 2 then (none, 1)
        else if sof.contains marker ∧ i + 2 + length ≤ d.length then
          -- `int.from_bytes(image_data[i+7:i+9], "big")`: the slices may be short when `length < 7`
          (some (beInt (slice d (i + 7) (i + 9)), beInt (slice d (i + 5) (i + 7))), 1)
        else if sof.contains marker ∧ strict then (none, 1)
        else
          let r := sofScan sof strict d (i + 2 + length); (r.1, r.2 + 1)
  else (none, 0)
termination_by d.length - i

def pngSig : Bytes := [0x89, 0x50, 0x4E, 0x47, 0x0D, 0x0A, 0x1A, 0x0A]

/-- whole `_get_image_pixel_dimensions`: `(w|None, h|None, steps of the JPEG loop)`;
    `0` stands for `None` in the two dimension fields (`w or None`). -/
def pixelDims (sof : List Nat) (strict : Bool) (d : Bytes) : Nat × Nat × Nat :=
  if d.isEmpty then (0, 0, 0)
  else if matchAt pngSig d 0 ∧ d.length ≥ 24 then (u32be d 16, u32be d 20, 0)
  else if (slice d 0 6 == [71, 73, 70, 56, 55, 97] ∨ slice d 0 6 == [71, 73, 70, 56, 57, 97]) ∧ d.length ≥ 10 then
    (u16le d 6, u16le d 8, 0)
  else if slice d 0 2 == [66, 77] ∧ d.length ≥ 26 then (absI32 (u32le d 18), absI32 (u32le d 22), 0)
  else if matchAt [0xFF, 0xD8] d 0 then
    match sofScan sof strict d 2 with
    | (some (w, h), s) => (w, h, s)
    | (none, s) => (0, 0, s)
  else (0, 0, 0)

/-! ## ms_legacy/ppt_extractor.py : _iter_records and its re-walking caller -/

structure PptRec where
  recType : Nat
  recInstance : Nat
  isContainer : Bool
  offset : Nat
  endOffset : Nat
deriving Repr, DecidableEq

/-- `_iter_records(data, start)`: the yielded records (header fields and extent; `data` is
    `slice d (offset+8) endOffset`), the number of loop iterations, and the number of bytes copied
    into `Record.data` slices.  Loop test `offset <= data_len − 8`; variant `len − offset`
    (`offset += 1`, `offset = data_start` (+8) or `offset = data_end` (≥ +8)). -/
def pptIter (d : Bytes) (off : Nat) : List PptRec × Nat × Nat :=
  if h : off + 8 ≤ d.length then
    let vi := u16le d off
    let recLen := u32le d (off + 4)
    if recLen > d.length - off - 8 then
      let r := pptIter d (off + 1); (r.1, r.2.1 + 1, r.2.2)
    else
      let isC := vi % 16 = 15
      let dataStart := off + 8
      let dataEnd := dataStart + recLen
      let rec_ : PptRec := ⟨u16le d (off + 2), (vi / 16) % 4096, isC, off, dataEnd⟩
      -- "Containers: step into, non-containers: skip over"
      if isC then
        let r := pptIter d dataStart; (rec_ :: r.1, r.2.1 + 1, r.2.2 + recLen)
      else
        let r := pptIter d dataEnd; (rec_ :: r.1, r.2.1 + 1, r.2.2 + recLen)
  else ([], 0, 0)
termination_by d.length - off
decreasing_by all_goals omega

/-- `_extract_slide_list_texts`: walks the stream and, for every SlideListWithText record with
    instance 0, walks `record.data` again (`_parse_slide_list_container`).  `(steps, bytes copied)`
    summed over the outer walk and all inner walks. -/
def slideListCost (slwt : Nat) (d : Bytes) : Nat × Nat :=
  let outer := pptIter d 0
  let inner := outer.1.filter (fun r => r.recType = slwt ∧ r.recInstance = 0)
  inner.foldl (fun acc r =>
      let w := pptIter (slice d (r.offset + 8) r.endOffset) 0
      (acc.1 + w.2.1, acc.2 + w.2.2)) (outer.2.1, outer.2.2)

/-- `_parse_containers`: `while container_stack and record.offset >= container_stack[-1][1]: pop()`.
    Structural on the stack (top first): `(remaining stack, steps)`. -/
def popEnded (recOffset : Nat) : List (Nat × Nat) → List (Nat × Nat) × Nat
  | [] => ([], 0)
  | (t, e) :: rest => if recOffset ≥ e then let r := popEnded recOffset rest; (r.1, r.2 + 1) else ((t, e) :: rest, 0)

/-! ## ms_legacy/xls_extractor.py : _extract_images_from_workbook — BLIP record scan -/

/-- one entry `(offset, advance)` per iteration (a BLIP record was taken iff `advance > 1`, and then
    `rec_len = advance − 8`); `steps` = length of the list.  Loop test `offset <= data_len − 8`;
    variant `len − offset` (`offset += 1` or `offset += 8 + rec_len`). -/
def xlsBlipScan (blip : List Nat) (d : Bytes) (off : Nat) : List (Nat × Nat) :=
  if h : off + 8 ≤ d.length then
    let recType := u16le d (off + 2)
    let recLen := u32le d (off + 4)
    if recLen = 0 ∨ recLen > d.length - off - 8 then (off, 1) :: xlsBlipScan blip d (off + 1)
    else if ¬ blip.contains recType then (off, 1) :: xlsBlipScan blip d (off + 1)
    else (off, 8 + recLen) :: xlsBlipScan blip d (off + 8 + recLen)
  else []
termination_by d.length - off

/-! ## ms_legacy/doc_extractor.py : DIB carver and PNG carver -/

def dibSig : Bytes := [0x28, 0, 0, 0]

/-- `dib_len` of the BITMAPINFOHEADER at `i`, or `none` when one of the `i += 1; continue` filters
    rejects it (`header_size` is 40 by the signature). -/
def dibLenAt (d : Bytes) (i : Nat) : Option Nat :=
  let aw := absI32 (u32le d (i + 4))
  let ah := absI32 (u32le d (i + 8))
  let planes := u16le d (i + 12)
  let bpp := u16le d (i + 14)
  let compression := u32le d (i + 16)
  let sizeImage0 := u32le d (i + 20)
  if planes ≠ 1 ∨ ¬ [1, 4, 8, 16, 24, 32].contains bpp ∨ compression > 5 then none
  else if aw = 0 ∨ ah = 0 ∨ aw > 10000 ∨ ah > 10000 then none
  else
    let sizeImage := if sizeImage0 = 0 then ((bpp * aw + 31) / 32) * 4 * ah else sizeImage0
    let cts := if bpp ≤ 8 then 2 ^ bpp * 4 else 0
    let dibLen := 40 + cts + sizeImage
    if i + dibLen > d.length then none else some dibLen

theorem dibLenAt_ge {d : Bytes} {i dl : Nat} (h : dibLenAt d i = some dl) : 40 ≤ dl := by
  unfold dibLenAt at h
  extract_lets aw ah planes bpp comp s0 sz cts len at h
  split at h
  · cases h
  · split at h
    · cases h
    · split at h
      · cases h
      · injection h with h; omega

/-- `_extract_images_from_word_document` main loop: `(accepted (offset, dib_len), steps)`.
    Loop test `i + 40 <= data_len`; variant `len − i` (`i = start ≥ i`, then `i += 1` or
    `i += dib_len` with `dib_len ≥ 40`). -/
def dibCarve (d : Bytes) (i : Nat) : List (Nat × Nat) × Nat :=
  if h : i + 40 ≤ d.length then
    match hf : findFrom dibSig d i with
    | none => ([], 1)
    | some start =>
      if hs : start + 40 > d.length then ([], 1)
      else
        match hl : dibLenAt d start with
        | none => let r := dibCarve d (start + 1); (r.1, r.2 + 1)
        | some dl => let r := dibCarve d (start + dl); ((start, dl) :: r.1, r.2 + 1)
  else ([], 0)
termination_by d.length - i
decreasing_by
  · have := (findFrom_ge hf).1; omega
  · have := (findFrom_ge hf).1
    have := dibLenAt_ge hl
    omega

/-- inner loop of `_extract_png_images_from_bytes`: chunk walk from `pos`;
    `(end of PNG if an IEND chunk was reached, steps)`.  Loop test `pos + 12 <= len(data)`;
    variant `len − pos` (`pos = crc_end = pos + 12 + length`). -/
def pngChunks (d : Bytes) (pos : Nat) : Option Nat × Nat :=
  if h : pos + 12 ≤ d.length then
    let length := u32be d pos
    let crcEnd := pos + 8 + length + 4
    if crcEnd > d.length then (none, 1)
    else if slice d (pos + 4) (pos + 8) == [73, 69, 78, 68] then (some crcEnd, 1)
    else let r := pngChunks d crcEnd; (r.1, r.2 + 1)
  else (none, 0)
termination_by d.length - pos

/-- outer loop of `_extract_png_images_from_bytes` AS IT IS in the unfixed source: every signature
    restarts a chunk walk and the scan resumes at `start + 1`.
    `(carved (start, end) before de-duplication, outer steps, inner steps)`.
    Variant `len − offset` (`offset = start + 1 > offset`). -/
def pngCarve (d : Bytes) (off : Nat) : List (Nat × Nat) × Nat × Nat :=
  match hf : findFrom pngSig d off with
  | none => ([], 1, 0)
  | some start =>
      let w := pngChunks d (start + 8)
      let r := pngCarve d (start + 1)
      ((match w.1 with | some e => [(start, e)] | none => []) ++ r.1, r.2.1 + 1, r.2.2 + w.2)
termination_by d.length - off
decreasing_by
  have := findFrom_ge hf
  simp [pngSig] at this
  omega

/-! ## ms_legacy/rtf_extractor.py -/

abbrev Str := List Nat   -- code points

def strAt (s : Str) (i : Nat) : Nat := s.getD i 0
/-- `lower.startswith(pfx, i)` -/
def startsAt (pfx s : Str) (i : Nat) : Bool := (s.drop i).take pfx.length == pfx

/-- inner loop of `_remove_ignorable_groups`: skip a brace group starting at `i`
    (`depth` counts as Python does; it may not return to 0, then the scan runs to `n`).
    `(new i, steps)`; variant `n − i`. -/
def skipGroup (s : Str) (i : Nat) (depth : Int) : Nat × Nat :=
  if h : i < s.length then
    let c := strAt s i
    if c = 123 then let r := skipGroup s (i + 1) (depth + 1); (r.1, r.2 + 1)
    else if c = 125 then
      if depth - 1 = 0 then (i + 1, 1)
      else let r := skipGroup s (i + 1) (depth - 1); (r.1, r.2 + 1)
    else let r := skipGroup s (i + 1) depth; (r.1, r.2 + 1)
  else (i, 0)
termination_by s.length - i

theorem skipGroup_ge (s : Str) (i : Nat) (depth : Int) : i ≤ (skipGroup s i depth).1 := by
  fun_induction skipGroup s i depth <;> simp +zetaDelta only [] at * <;> omega

theorem skipGroup_gt (s : Str) (i : Nat) (depth : Int) (h : i < s.length) : i < (skipGroup s i depth).1 := by
  unfold skipGroup
  simp only [h, ↓reduceDIte]
  have h1 := skipGroup_ge s (i + 1) (depth + 1)
  have h2 := skipGroup_ge s (i + 1) (depth - 1)
  have h3 := skipGroup_ge s (i + 1) depth
  split
  · simp; omega
  · split
    · split
      · simp
      · simp; omega
    · simp; omega

theorem skipGroup_le (s : Str) (i : Nat) (depth : Int) (h : i ≤ s.length) : (skipGroup s i depth).1 ≤ s.length := by
  fun_induction skipGroup s i depth <;> simp +zetaDelta only [] at * <;> omega

/-- `_remove_ignorable_groups(text)`; `lower` is `text.lower()` computed by CPython (a parameter:
    it may differ in length from `text`).  `(output, outer steps, inner steps)`.
    Outer loop test `i < n`; variant `n − i`: `i += 1`, or the inner loop which starts on a `{`
    and therefore advances `i` by at least 1. -/
def removeIgnorable (prefixes : List Str) (text lower : Str) (i : Nat) : Str × Nat × Nat :=
  if h : i < text.length then
    if strAt text i ≠ 123 then
      let r := removeIgnorable prefixes text lower (i + 1); (strAt text i :: r.1, r.2.1 + 1, r.2.2)
    else if prefixes.any (fun p => startsAt p lower i) then
      let g := skipGroup text i 0
      let r := removeIgnorable prefixes text lower g.1; (r.1, r.2.1 + 1, r.2.2 + g.2)
    else
      let r := removeIgnorable prefixes text lower (i + 1); (strAt text i :: r.1, r.2.1 + 1, r.2.2)
  else ([], 0, 0)
termination_by text.length - i
decreasing_by
  · omega
  · have := skipGroup_gt text i 0 h
    have := skipGroup_le text i 0 (Nat.le_of_lt h)
    omega
  · omega

/-- inner scans of `_strip_rtf_full_with_pages`: `while j < n and p(text[j]): j += 1`
    (`(new j, steps)`, variant `n − j`). -/
def scanWhile (p : Nat → Bool) (s : Str) (j : Nat) : Nat × Nat :=
  if h : j < s.length then
    if p (strAt s j) then let r := scanWhile p s (j + 1); (r.1, r.2 + 1) else (j, 0)
  else (j, 0)
termination_by s.length - j

theorem scanWhile_ge (p : Nat → Bool) (s : Str) (j : Nat) : j ≤ (scanWhile p s j).1 := by
  fun_induction scanWhile p s j <;> simp +zetaDelta only [] at * <;> omega

theorem scanWhile_gt (p : Nat → Bool) (s : Str) (j : Nat) (h : j < s.length) (hp : p (strAt s j) = true) :
    j < (scanWhile p s j).1 := by
  unfold scanWhile
  simp only [h, ↓reduceDIte, hp, ↓reduceIte]
  have := scanWhile_ge p s (j + 1)
  simp; omega

/-- `while k and p(control_word[k-1]): k -= 1` — structural on the reversed word; `(k, steps)` -/
def trimBack (p : Nat → Bool) : List Nat → Nat × Nat
  | [] => (0, 0)
  | c :: rest => if p c then let r := trimBack p rest; (r.1, r.2 + 1) else (rest.length + 1, 0)

/-- length of `_RE_UNICODE.match(text, i)` = `\\u(-?\d+)\??`, 0 when there is no match -/
def uniMatchLen (digit : Nat → Bool) (s : Str) (i : Nat) : Nat :=
  if strAt s i = 92 ∧ i < s.length ∧ strAt s (i + 1) = 117 ∧ i + 1 < s.length then
    let j0 := if strAt s (i + 2) = 45 ∧ i + 2 < s.length then i + 3 else i + 2
    let j1 := (scanWhile digit s j0).1
    if j1 = j0 then 0
    else if strAt s j1 = 63 ∧ j1 < s.length then j1 + 1 - i else j1 - i
  else 0

structure RtfState where
  groupDepth : Int := 0
  skipGroup : Bool := false
  skipDepth : Int := 0

/-- main loop of `_strip_rtf_full_with_pages`, index skeleton: the list of values of `i` at the start
    of every iteration.  `alpha`/`digit` are `str.isalpha`/`str.isdigit` (parameters), `skipDest i`
    is `_is_skip_destination(text[i+1:i+30])`.  Loop test `i < n`; variant `n − i`; every branch
    advances: `i += 1`, `i += 2`, `i += 4`, `i += len(m.group(0))` (≥ 3), `i = j` (≥ i + 2). -/
def rtfWalk (alpha digit : Nat → Bool) (skipDest : Str → Nat → Bool) (s : Str) (i : Nat) (st : RtfState) : List Nat :=
  if h : i < s.length then
    let c := strAt s i
    if c = 123 then
      let gd := st.groupDepth + 1
      let st' : RtfState :=
        if i + 1 < s.length ∧ strAt s (i + 1) = 92 ∧ skipDest s i then ⟨gd, true, gd⟩ else { st with groupDepth := gd }
      i :: rtfWalk alpha digit skipDest s (i + 1) st'
    else if c = 125 then
      let sg := if st.skipGroup ∧ st.groupDepth = st.skipDepth then false else st.skipGroup
      i :: rtfWalk alpha digit skipDest s (i + 1) ⟨st.groupDepth - 1, sg, st.skipDepth⟩
    else if st.skipGroup then i :: rtfWalk alpha digit skipDest s (i + 1) st
    else if c = 92 then
      if i + 1 ≥ s.length then i :: rtfWalk alpha digit skipDest s (i + 1) st
      else
        let nc := strAt s (i + 1)
        if nc = 92 ∨ nc = 123 ∨ nc = 125 then i :: rtfWalk alpha digit skipDest s (i + 2) st
        else if nc = 117 then
          let m := uniMatchLen digit s i
          i :: rtfWalk alpha digit skipDest s (i + (if m = 0 then 2 else m)) st
        else if nc = 39 then
          i :: rtfWalk alpha digit skipDest s (if i + 3 < s.length then i + 4 else i + 2) st
        else if alpha nc then
          let j1 := (scanWhile alpha s (i + 1)).1
          let j2 := if j1 < s.length ∧ (digit (strAt s j1) ∨ strAt s j1 = 45) then
                      (scanWhile (fun c => digit c || c == 45) s j1).1 else j1
          let j3 := if j2 < s.length ∧ strAt s j2 = 32 then j2 + 1 else j2
          i :: rtfWalk alpha digit skipDest s j3 st
        else i :: rtfWalk alpha digit skipDest s (i + 2) st
    else i :: rtfWalk alpha digit skipDest s (i + 1) st
  else []
termination_by s.length - i
decreasing_by
  all_goals first
    | omega
    | (split <;> omega)
    | (rename_i hlen _ _ _ ha
       have g1 := scanWhile_gt alpha s (i + 1) (by omega) ha
       have g2 := scanWhile_ge (fun c => digit c || c == 45) s (scanWhile alpha s (i + 1)).1
       repeat' split
       all_goals omega)

/-! ## stacks, counters -/

/-- `while heading_stack and heading_stack[-1][0] >= level: heading_stack.pop()` (data_types.py ×3);
    the stack is given top first; structural; `(remaining, steps)` -/
def popHeadings (level : Int) : List Int → List Int × Nat
  | [] => ([], 0)
  | l :: rest => if l ≥ level then let r := popHeadings level rest; (r.1, r.2 + 1) else (l :: rest, 0)

/-- pdf_extractor `_patched_build_char_map` (restore on last exit): `while _CHAR_MAP_PATCH_ORIGINALS: … = _CHAR_MAP_PATCH_ORIGINALS.pop()`;
    drains the saved-originals stack; structural; `(remaining, steps)` -/
def drainStack {α} : List α → List α × Nat
  | [] => ([], 0)
  | _ :: rest => let r := drainStack rest; (r.1, r.2 + 1)

/-- ods `_extract_sheet`: `while raw_rows and all(v[0] is None for v in raw_rows[-1]): raw_rows.pop()`;
    rows given last first, a row is its list of "typed value is None" flags; structural. -/
def trimEmptyRows : List (List Bool) → List (List Bool) × Nat
  | [] => ([], 0)
  | r :: rest => if r.all id then let t := trimEmptyRows rest; (t.1, t.2 + 1) else (r :: rest, 0)

/-- util/omml_to_latex.py `process_element`:
    `while pending_sqrt_close and pending_sqrt_close[-1] in converted: … = converted.partition(pending_sqrt_close.pop())`.
    The stack is given top first, each entry with the answer of the `in converted` test at the moment it is on top
    (an oracle: `converted` shrinks by `partition` on every iteration); structural; `(remaining height, steps)` -/
def popSqrtClose : List Bool → Nat × Nat
  | [] => (0, 0)
  | found :: rest => if found then let r := popSqrtClose rest; (r.1, r.2 + 1) else (rest.length + 1, 0)

def xtime (a : Nat) : Nat :=
  let a := a % 256
  if a ≥ 128 then ((a * 2) ^^^ 0x1B) % 256 else (a * 2) % 256

/-- `_gf_mul` loop `while b: … b >>= 1`; variant `b`. `(result, steps)` -/
def gfMulLoop (a b result : Nat) : Nat × Nat :=
  if h : b = 0 then (result % 256, 0)
  else
    let r := gfMulLoop (xtime a) (b / 2) (if b % 2 = 1 then result ^^^ a else result)
    (r.1, r.2 + 1)
termination_by b
decreasing_by omega

def gfMul (a b : Nat) : Nat × Nat := gfMulLoop (a % 256) (b % 256) 0

/-! ## pdf/pdf_extractor.py table helpers -/

/-- `_extract_row`: `while idx >= 0 and is_numeric_token(tokens[idx]): idx -= 1` — structural on the
    reversed token flags; `(number of trailing numeric tokens, steps)` -/
def trailingNumeric : List Bool → Nat × Nat
  | [] => (0, 0)
  | b :: rest => if b then let r := trailingNumeric rest; (r.1 + 1, r.2 + 1) else (0, 0)

def isDigits (s : List Char) : Bool := !s.isEmpty && s.all Char.isDigit

/-- one pass of the `for idx in range(len(merged) - 1)` search: merge the first adjacent all-digit pair -/
def mergeFirstPair : List (List Char) → Option (List (List Char))
  | a :: b :: rest =>
    if isDigits a && isDigits b then some ((a ++ b) :: rest)
    else (mergeFirstPair (b :: rest)).map (a :: ·)
  | _ => none

theorem mergeFirstPair_length (l r : List (List Char)) (h : mergeFirstPair l = some r) : r.length + 1 = l.length := by
  induction l generalizing r with
  | nil => simp [mergeFirstPair] at h
  | cons a t ih =>
    cases t with
    | nil => simp [mergeFirstPair] at h
    | cons b rest =>
      simp only [mergeFirstPair] at h
      split at h
      · cases h; simp
      · cases hm : mergeFirstPair (b :: rest) with
        | none => simp [hm] at h
        | some r' =>
          simp [hm] at h
          have := ih r' hm
          subst h; simp at this ⊢; omega

/-- `_normalize_values`: `while len(merged) > expected_count:` … every iteration deletes one element;
    variant `len(merged)`.  (`expected_count > 0` is checked before the loop.)  `(merged, steps)` -/
def normalizeLoop (expected : Nat) (merged : List (List Char)) : List (List Char) × Nat :=
  if h : merged.length > expected ∧ expected > 0 then
    match hm : mergeFirstPair merged with
    | some m' => let r := normalizeLoop expected m'; (r.1, r.2 + 1)
    | none =>
      match merged, h with
      | a :: b :: rest, _ => let r := normalizeLoop expected ((a ++ b) :: rest); (r.1, r.2 + 1)
      | [_], _ => (merged, 0)   -- unreachable: length > expected ≥ 1
      | [], _ => (merged, 0)
  else (merged, 0)
termination_by merged.length
decreasing_by
  · have := mergeFirstPair_length _ _ hm; omega
  · simp

/-- `_extract_word_date_header`: `while look_idx < len(lines) and len(block) < max_block: … look_idx += 1`
    over the "line is non-empty" flags from `look_idx` on; structural; `(block size reached, steps)` -/
def lookAhead (maxBlock : Nat) : List Bool → Nat → Nat × Nat
  | [], blk => (blk, 0)
  | b :: rest, blk => if blk < maxBlock then let r := lookAhead maxBlock rest (if b then blk + 1 else blk); (r.1, r.2 + 1) else (blk, 0)

/-! ## util/sevenzip.py — header stream readers -/

inductive SzErr | bad7z | overflow
deriving Repr, DecidableEq

structure Rd (α : Type) where
  val : α
  pos : Nat

/-- `_read_bytes(n)` on a `BytesIO` at `pos` (which may lie beyond the end after a `seek`):
    `read(n)` needs `n < 2^63` (else `OverflowError`), returns what is left, and a short read is `Bad7zFile` -/
def readBytes (d : Bytes) (pos n : Nat) : Except SzErr (Rd Bytes) :=
  if n ≥ 2 ^ 63 then .error .overflow
  else if pos + n ≤ d.length ∨ n = 0 then .ok ⟨slice d pos (pos + n), if pos + n ≤ d.length then pos + n else pos⟩
  else .error .bad7z

def readU8 (d : Bytes) (pos : Nat) : Except SzErr (Rd Nat) :=
  if pos < d.length then .ok ⟨byte d pos, pos + 1⟩ else .error .bad7z

def readU32 (d : Bytes) (pos : Nat) : Except SzErr (Rd Nat) :=
  if pos + 4 ≤ d.length then .ok ⟨u32le d pos, pos + 4⟩ else .error .bad7z

/-- `_read_number` (`for i in range(8)`: a bounded loop, structural on the remaining count) -/
def readNumberGo (d : Bytes) (first : Nat) : Nat → Nat → Nat → Nat → Except SzErr (Rd Nat)
  | 0, _, value, pos => .ok ⟨value, pos⟩
  | k + 1, i, value, pos =>
    let mask := 2 ^ (7 - i)
    if (first / mask) % 2 = 0 then .ok ⟨value + (first % mask) * 2 ^ (8 * i), pos⟩
    else do
      let b ← readU8 d pos
      readNumberGo d first k (i + 1) (value + b.val * 2 ^ (8 * i)) b.pos

def readNumber (d : Bytes) (pos : Nat) : Except SzErr (Rd Nat) := do
  let f ← readU8 d pos
  readNumberGo d f.val 8 0 0 f.pos

theorem readBytes_pos {d pos n r} (h : readBytes d pos n = .ok r) : pos ≤ r.pos := by
  unfold readBytes at h
  split at h
  · cases h
  · split at h
    · cases h; simp; split <;> omega
    · cases h

theorem readU8_pos {d pos r} (h : readU8 d pos = .ok r) : r.pos = pos + 1 ∧ pos < d.length := by
  unfold readU8 at h; split at h
  · cases h; simp_all
  · cases h

theorem readNumberGo_pos {d first k i value pos r} (h : readNumberGo d first k i value pos = .ok r) :
    pos ≤ r.pos ∧ (r.pos = pos ∨ r.pos ≤ d.length) := by
  induction k generalizing i value pos r with
  | zero => simp [readNumberGo] at h; cases h; simp
  | succ k ih =>
    simp only [readNumberGo] at h
    split at h
    · cases h; simp
    · cases hb : readU8 d pos with
      | error e => simp [hb, bind, Except.bind] at h
      | ok b =>
        simp [hb, bind, Except.bind] at h
        have := ih h
        have := readU8_pos hb
        omega

theorem readNumber_pos {d pos r} (h : readNumber d pos = .ok r) : pos < r.pos ∧ r.pos ≤ d.length := by
  unfold readNumber at h
  cases hf : readU8 d pos with
  | error e => simp [hf, bind, Except.bind] at h
  | ok f =>
    simp [hf, bind, Except.bind] at h
    have := readNumberGo_pos h
    have := readU8_pos hf
    omega

/-- `_parse_main_header`: `while True:` skipping archive properties
    (`prop_id = read_uint8(); if END: break; size = read_number(); read_bytes(size)`).
    `(position after the END byte, steps)`; variant `len − pos` (each iteration consumes ≥ 2 bytes or raises). -/
def skipArchiveProps (d : Bytes) (pos : Nat) : Except SzErr (Nat × Nat) :=
  match hp : readU8 d pos with
  | .error e => .error e
  | .ok p =>
    if p.val = 0 then .ok (p.pos, 1)
    else
      match hn : readNumber d p.pos with
      | .error e => .error e
      | .ok sz =>
        match hb : readBytes d sz.pos sz.val with
        | .error e => .error e
        | .ok b =>
          match skipArchiveProps d b.pos with
          | .error e => .error e
          | .ok (q, s) => .ok (q, s + 1)
termination_by d.length + 1 - pos
decreasing_by
  have := readU8_pos hp
  have := readNumber_pos hn
  have := readBytes_pos hb
  omega

/-- `for i in range(num_files): while True: char = u16; if char == 0: break` — one name;
    variant `len − pos` (2 bytes per iteration or `Bad7zFile`). `(name, pos, steps)` -/
def readName (d : Bytes) (pos : Nat) : Except SzErr (List Nat × Nat × Nat) :=
  if h : pos + 2 ≤ d.length then
    let c := u16le d pos
    if c = 0 then .ok ([], pos + 2, 1)
    else
      match readName d (pos + 2) with
      | .error e => .error e
      | .ok (nm, p, s) => .ok (c :: nm, p, s + 1)
  else .error .bad7z
termination_by d.length - pos

/-- `num_files` names (bounded `for`, structural on the count) -/
def readNames (d : Bytes) : Nat → Nat → Except SzErr (List (List Nat) × Nat × Nat)
  | 0, pos => .ok ([], pos, 0)
  | k + 1, pos => do
    let (nm, p, s) ← readName d pos
    let (rest, p', s') ← readNames d k p
    return (nm :: rest, p', s + s')

/-- `_read_boolean_vector(count)` without `check_defined`: only success/failure and the bytes consumed matter here -/
def boolVectorBytes (count : Nat) : Nat := (count + 7) / 8

structure FilesInfo where
  numFiles : Nat
  names : Option (List (List Nat))      -- none: no NAME property seen
  endPos : Nat
  steps : Nat          -- iterations of the outer `while True`
  nameSteps : Nat      -- iterations of the inner `while True`
  alloc : Nat          -- list cells allocated from the declared count alone (`[x] * num_files`)
deriving Repr

/-- the first `n` bits (MSB first) of the bytes at `pos`: `_read_boolean_vector(n)` -/
def bitAt (d : Bytes) (pos j : Nat) : Bool := (byte d (pos + j / 8) / 2 ^ (7 - j % 8)) % 2 = 1
def popcountBits (d : Bytes) (pos n : Nat) : Nat := ((List.range n).filter (bitAt d pos)).length

/-- outer `while True` of `_parse_files_info` from `pos` (after `num_files` was read).
    Each iteration reads `prop_id`, `size`, runs the handler (which may raise), then
    `seek(end_pos)` with `end_pos = tell() + size` ≥ the position after `size` > `pos`.
    `emptyCount` is `sum(empty_streams)` (0 until an EMPTY_STREAM property was read).
    Variant `len + 1 − pos` (a position beyond the end makes the next `read_uint8` raise). -/
def filesInfoLoop (d : Bytes) (numFiles : Nat) (pos : Nat) (names : Option (List (List Nat))) (emptyCount : Nat)
    (steps nameSteps alloc : Nat) : Except SzErr FilesInfo :=
  match hp : readU8 d pos with
  | .error e => .error e
  | .ok p =>
    if p.val = 0 then .ok ⟨numFiles, names, p.pos, steps + 1, nameSteps, alloc⟩
    else
      match hn : readNumber d p.pos with
      | .error e => .error e
      | .ok sz =>
        let endPos := sz.pos + sz.val
        -- handlers: (names, emptyCount, nameSteps, alloc)
        let handled : Except SzErr (Option (List (List Nat)) × Nat × Nat × Nat) :=
          if p.val = 0x0E then
            if sz.pos + boolVectorBytes numFiles ≤ d.length then .ok (names, popcountBits d sz.pos numFiles, nameSteps, alloc) else .error .bad7z
          else if p.val = 0x0F then
            -- `_read_boolean_vector(sum(empty_streams))`
            if sz.pos + boolVectorBytes emptyCount ≤ d.length ∨ emptyCount = 0 then .ok (names, emptyCount, nameSteps, alloc) else .error .bad7z
          else if p.val = 0x11 then
            match readU8 d sz.pos with
            | .error e => .error e
            | .ok ext =>
              if ext.val ≠ 0 then .error .bad7z
              else match readNames d numFiles ext.pos with
                | .error e => .error e
                | .ok (nms, _, s) => .ok (some nms, emptyCount, nameSteps + s, alloc)
          else if p.val = 0x15 then
            match readU8 d sz.pos with
            | .error e => .error e
            | .ok allDef =>
              if allDef.val ≠ 0 then
                -- `[True] * count`, the External byte (must be 0), then one `read_uint32` per file
                match readU8 d allDef.pos with
                | .error e => .error e
                | .ok ext =>
                  if ext.val ≠ 0 then .error .bad7z
                  else if ext.pos + 4 * numFiles ≤ d.length ∨ numFiles = 0 then .ok (names, emptyCount, nameSteps, alloc + numFiles) else .error .bad7z
              else if allDef.pos + boolVectorBytes numFiles ≤ d.length then
                let k := popcountBits d allDef.pos numFiles
                match readU8 d (allDef.pos + boolVectorBytes numFiles) with
                | .error e => .error e
                | .ok ext =>
                  if ext.val ≠ 0 then .error .bad7z
                  else if ext.pos + 4 * k ≤ d.length ∨ k = 0 then .ok (names, emptyCount, nameSteps, alloc) else .error .bad7z
              else .error .bad7z
          else .ok (names, emptyCount, nameSteps, alloc)
        match handled with
        | .error e => .error e
        | .ok (names', emptyCount', nameSteps', alloc') =>
          if endPos ≥ 2 ^ 63 then .error .overflow
          else filesInfoLoop d numFiles endPos names' emptyCount' (steps + 1) nameSteps' alloc'
termination_by d.length + 1 - pos
decreasing_by
  have := readU8_pos hp
  have := readNumber_pos hn
  omega

/-! ## amplifying witnesses (used by the counterexample theorems and replayed on the real code) -/

def be32 (n : Nat) : Bytes := [n / 16777216 % 256, n / 65536 % 256, n / 256 % 256, n % 256]
def le32 (n : Nat) : Bytes := [n % 256, n / 256 % 256, n / 65536 % 256, n / 16777216 % 256]

/-- `k` PNG signatures, each followed by one chunk header whose length field jumps to the start of ONE shared
    chain of `m` empty `tEXt` chunks (no IEND): `16k + 4 + 12m` bytes, `k·(m+1)` inner iterations. -/
def pngAmplifier (k m : Nat) : Bytes :=
  (List.range k).flatMap (fun j => pngSig ++ be32 (k * 16 + 4 - 4 - (j * 16 + 8 + 8)) ++ [106, 85, 78, 75])
    ++ [0, 0, 0, 0] ++ (List.replicate m ([0, 0, 0, 0, 116, 69, 88, 116, 0, 0, 0, 0])).flatten

/-- `k` nested SlideListWithText containers (instance 0, empty innermost): `8k` bytes -/
def pptNest : Nat → Bytes
  | 0 => []
  | k + 1 => [0x0F, 0x00, 0xF0, 0x0F] ++ le32 (8 * k) ++ pptNest k

/-- `num_files = self._read_number()` followed by `[False] * num_files`, `[""] * num_files`,
    `[0] * num_files`: list cells allocated from the declared count alone, before anything else is read.
    `fixed = true` models the repaired source, which first refuses a count larger than the number of header
    bytes that remain (a real entry needs at least its 2-byte name terminator). -/
def filesInfoCount (fixed : Bool) (d : Bytes) (pos : Nat) : Except SzErr (Rd Nat) :=
  match readNumber d pos with
  | .error e => .error e
  | .ok n => if fixed ∧ n.val > d.length - n.pos then .error .bad7z else .ok n

def filesInfoAlloc (fixed : Bool) (d : Bytes) (pos : Nat) : Nat :=
  match filesInfoCount fixed d pos with
  | .error _ => 0
  | .ok n => 3 * n.val

/-- `_parse_files_info` on the header stream `d` from `pos` (with `_build_file_list` left out) -/
def parseFilesInfo (fixed : Bool) (d : Bytes) (pos : Nat) : Except SzErr FilesInfo :=
  match filesInfoCount fixed d pos with
  | .error e => .error e
  | .ok n => filesInfoLoop d n.val n.pos none 0 0 0 (3 * n.val)

end S2T.Loops
