import S2T.Model.SharePoint
/-!
C18, part "what the server sees / what the client looks at" (core Lean only, linked into the driver).

1. PERCENT-DECODING.  The Graph server (and the harness's fake server) decodes a by-path request ONCE:
   `pctDecode` is RFC 3986 / `urllib.parse.unquote_to_bytes` on the request path; `utf8Str` are the bytes of a
   folder name.  `Lemmas/SharePointQuote.lean` proves `pctDecode (quote s) = utf8Str s` for every string: the folder the
   server looks up is the folder the caller named — also when the name itself contains a literal escape
   look-alike (`Rates %2B fees`, `Growth 100%25`, `Q%31`).

2. RAW ITEMS.  A Graph driveItem as the listing code can look at it: which members are present and what shape
   the facets have (`RawItem`), and the ACCESSOR code of `_list_items_paginated` / `_get_folders_from_url` /
   `_parse_file_item` / `_walk_drive_items` (`"folder" in item`, `"file" in item`, `item.get("name", "")`,
   `item.get("id")`, …) as `classify : RawItem → Item`.  The optional members (childCount, facet members, size,
   dates of folders, parentReference, fileSystemInfo, webUrl, …) are fields of `RawItem` that `classify` does
   not read: `RawItem.essence` erases them and `classify` factors through it.  The driver op `c18.run` receives
   raw items and classifies them HERE (before: in Python, trusted).
-/
namespace S2T.SP

/-! ### 1. percent-decoding (server side) -/

/-- value of a hexadecimal digit, either case -/
def hexVal (ch : Char) : Option Nat :=
  let n := ch.toNat
  if 48 ≤ n ∧ n ≤ 57 then some (n - 48)
  else if 65 ≤ n ∧ n ≤ 70 then some (n - 55)
  else if 97 ≤ n ∧ n ≤ 102 then some (n - 87)
  else none

/-- `%XX` at the head of `r` (after the `%`) -/
def pctHead : Str → Option (Nat × Str)
  | a :: b :: r =>
    match hexVal a, hexVal b with
    | some x, some y => some (16 * x + y, r)
    | _, _ => none
  | _ => none

theorem pctHead_length {r r' : Str} {v : Nat} (h : pctHead r = some (v, r')) : r'.length < r.length := by
  unfold pctHead at h
  split at h
  · split at h
    · simp only [Option.some.injEq, Prod.mk.injEq] at h
      rw [← h.2]; simp only [List.length_cons]; omega
    · cases h
  · cases h

/-- RFC 3986 percent-decoding of an ASCII request path to bytes: `%XX` (either hex case) is one byte, a `%` that
    does not start an escape stays a `%`, every other character is its own byte -/
def pctDecode : Str → List Nat
  | [] => []
  | ch :: r =>
    if ch = '%' then
      match _h : pctHead r with
      | some (v, r') => v :: pctDecode r'
      | none => 37 :: pctDecode r
    else ch.toNat :: pctDecode r
termination_by s => s.length
decreasing_by
  · have := pctHead_length _h; simp only [List.length_cons]; omega
  · simp
  · simp

/-- `name.encode("utf-8")` -/
def utf8Str (s : Str) : List Nat := s.flatMap (fun ch => utf8 ch.toNat)

/-- the decoded request path as a string, when it is ASCII (examples / counterexamples only) -/
def pctDecodeAscii (s : Str) : Str := (pctDecode s).map Char.ofNat

/-! ### 2. raw driveItems and the accessor code -/

/-- a facet member (`folder`, `file`): missing, or an object with / without the optional `childCount`
    (`extra`: further members such as `view`, `mimeType`, `hashes`) -/
inductive Facet
  | absent
  | obj (childCount : Option Nat) (extra : Bool)
  deriving DecidableEq, Repr

def Facet.present : Facet → Bool
  | .absent => false
  | .obj _ _ => true

/-- the `id` member: missing, a falsy value (`""`, `null`), a non-empty string -/
inductive RawId
  | absent
  | falsy
  | str (s : Str)
  deriving DecidableEq, Repr

/-- optional members the listing must not depend on -/
structure Optional where
  size : Option Nat := none            -- `size` (missing / 0 / n)
  webUrl : Bool := false
  downloadUrl : Bool := false
  parentRef : Bool := false            -- `parentReference` {driveId, id, path}
  fileSystemInfo : Bool := false       -- `fileSystemInfo` with its own (different) timestamps
  listItem : Bool := false
  extraFacet : Bool := false           -- an unrelated facet: `shared`, `image`, `specialFolder`, …
  deriving DecidableEq, Repr

/-- one element of a page's `value` array, before the client has looked at it -/
structure RawItem where
  isDict : Bool := true
  name : Option Str := none            -- `name` (none = member missing)
  id : RawId := .absent
  folder : Facet := .absent
  file : Facet := .absent
  created : Option Str := none         -- `createdDateTime`
  modified : Option Str := none        -- `lastModifiedDateTime`
  opt : Optional := {}
  deriving DecidableEq, Repr

/-- `item.get("id")` of a folder item (`if folder_id:` — the emptiness test — is `forFolders`' business) -/
def RawId.get : RawId → Option Str
  | .str s => some s
  | _ => none

/-- `item.get("id", "")` of a file item (the generator emits strings only) -/
def RawId.orEmpty : RawId → Str
  | .str s => s
  | _ => []

/-- the accessor code: `isinstance(item, dict)`, `"folder" in item` (folders win), `"file" in item`,
    `item.get("name", "")`, `item.get("id")`, the two timestamps.  Nothing else is read. -/
def classify (r : RawItem) : Item :=
  if !r.isDict then .other
  else if r.folder.present then .folder (r.name.getD []) r.id.get
  else if r.file.present then .file ⟨r.name.getD [], r.id.orEmpty, r.created, r.modified⟩
  else .other

/-- what is left of an item when the optional members are erased -/
def RawItem.essence (r : RawItem) : RawItem :=
  { r with folder := if r.folder.present then .obj none false else .absent,
           file := if r.file.present then .obj none false else .absent,
           opt := {} }

structure RawObj where
  accessToken : Option Str := none
  id : Option Str := none
  value : List RawItem := []           -- `value` (missing = [])
  next : Option Url := none
  folder : Facet := .absent            -- the `folder` member of a by-path answer
  deriving DecidableEq, Repr

def RawObj.toObj (o : RawObj) : Obj :=
  { accessToken := o.accessToken, id := o.id, value := o.value.map classify, next := o.next,
    hasFolder := o.folder.present }

def RawObj.essence (o : RawObj) : RawObj :=
  { o with value := o.value.map RawItem.essence,
           folder := if o.folder.present then .obj none false else .absent }

inductive RawBody
  | notJson
  | nonObject
  | obj (o : RawObj)
  deriving DecidableEq, Repr

def RawBody.toBody : RawBody → Body
  | .notJson => .notJson
  | .nonObject => .nonObject
  | .obj o => .obj o.toObj

def RawBody.essence : RawBody → RawBody
  | .obj o => .obj o.essence
  | b => b

inductive RawOutcome
  | resp (status : Nat) (body : RawBody)
  | httpError (code : Nat)
  | urlError
  deriving DecidableEq, Repr

def RawOutcome.toOutcome : RawOutcome → Outcome
  | .resp st b => .resp st b.toBody
  | .httpError c => .httpError c
  | .urlError => .urlError

def RawOutcome.essence : RawOutcome → RawOutcome
  | .resp st b => .resp st b.essence
  | o => o

/-- the raw item that presents abstract item `it` with optional members `o` and facet shape `f` -/
def rawOf (o : Optional) (f : Facet) : Item → RawItem
  | .file fi => { name := some fi.name, id := .str fi.id, file := f, created := fi.created, modified := fi.modified, opt := o }
  | .folder n id => { name := some n, id := (match id with | some s => .str s | none => .absent), folder := f, opt := o }
  | .other => { isDict := false }

abbrev RawTransport := Nat → Url → RawOutcome

/-- what the client makes of a server that answers with raw items -/
def ofRaw (rt : RawTransport) : Transport := fun i u => (rt i u).toOutcome

/-- a presentation of abstract items as raw items (which optional members the server adds to which item of
    which answer): any function of the request index, the URL, the position in the page and the item -/
abbrev Decoration := Nat → Url → Nat → Item → RawItem

def decorateItems (d : Nat → Item → RawItem) : Nat → List Item → List RawItem
  | _, [] => []
  | k, it :: r => d k it :: decorateItems d (k + 1) r

/-- an abstract answer presented with decoration `d` (`fd`: the shape of the `folder` member of by-path answers) -/
def decorateOutcome (d : Nat → Item → RawItem) (fd : Facet) : Outcome → RawOutcome
  | .resp st .notJson => .resp st .notJson
  | .resp st .nonObject => .resp st .nonObject
  | .resp st (.obj o) =>
    .resp st (.obj { accessToken := o.accessToken, id := o.id, value := decorateItems d 0 o.value, next := o.next,
                     folder := if o.hasFolder then fd else .absent })
  | .httpError c => .httpError c
  | .urlError => .urlError

end S2T.SP
