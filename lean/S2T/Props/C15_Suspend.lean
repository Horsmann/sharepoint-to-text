import S2T.Lemmas.Chars
import S2T.Model.YieldLock
import S2T.Model.CacheAlias
import S2T.Model.Cells
import S2T.Gen.Isolation
/-!
# C15 §10 — suspended generators and process-wide locks; §11 — caches that hand out mutable objects

* a generator that closes its `with L:` block before every `yield` (`spans = false`): for any number of generators and every
  schedule the lock is free whenever all generators are suspended, and a consumer is never blocked by generators that are
  merely suspended — however long their consumers keep them (`yield_lock_free_when_suspended`, `yield_never_blocked_by_suspended`);
* a `yield` inside the `with L:` block (`spans = true`) is NOT isolated: once one consumer holds a result without having
  resumed its generator, every other extraction that needs `L` is stuck for ever (`yield_inside_lock_blocks`), it goes on only
  when that consumer resumes (`yield_inside_lock_partial`);
* generated facts, re-decided from the current source on every run: no `yield` of a result generator is enclosed by a `with`
  over a lock or over a patch/set/restore section, no generator function acquires a lock by hand (`yields_hold_nothing_global`);
  the only lock-like objects of the package are the two modelled ones (`locks_are_modelled`);
* a memo that hands out its entries by reference is transparent for every history that never modifies a handed-out value,
  and for every history at all when it hands out copies (`alias_readonly_transparent`, `alias_copy_transparent`); by reference
  + one in-place modification it is not (`alias_by_reference_counterexample`); generated fact: every functools cache of the
  package returns an immutable value (`cache_values_immutable`).
-/
namespace S2T.C15.Suspend
open S2T.YieldLock

abbrev reached (spans : Bool) (segs : Nat → Nat) (sched : List Nat) : St := run spans (init segs) sched

private theorem released_step {s : St} (I : Inv s) (t : Nat) : Inv (step false s t) := by
  obtain ⟨H, N⟩ := I
  unfold step
  split
  · exact ⟨H, N⟩
  · -- idle (n + 1) → want n; left by `simp`: the holder equivalence at `t` itself, which was idle and so not the holder
    rename_i n hp
    refine ⟨fun u => ?_, fun u m => ?_⟩ <;> by_cases hu : u = t <;> simp [upd, hu, H, N]
    subst hu; simp [hp]
  · -- want n
    rename_i n hp
    split
    · -- the lock is free: → crit n; left: the holder equivalence for `u ≠ t`, where nobody is inside the block
      rename_i hl
      refine ⟨fun u => ?_, fun u m => ?_⟩ <;> by_cases hu : u = t <;> simp [upd, hu, N]
      have := H u; simp [hl] at this
      exact ⟨fun h => absurd h.symm hu, fun ⟨m, hm⟩ => absurd hm (this m)⟩
    · exact ⟨H, N⟩
  · -- crit n → idle n, lock released; left: no `u ≠ t` is inside the block, because `t` was the holder
    rename_i n hp
    have ht : s.lock = some t := (H t).mpr ⟨n, hp⟩
    refine ⟨fun u => ?_, fun u m => ?_⟩ <;> by_cases hu : u = t <;> simp [upd, hu, N]
    intro m hm
    have := (H u).mpr ⟨m, hm⟩
    rw [ht] at this; exact hu (Option.some.inj this).symm
  · -- held n does not occur
    rename_i n hp
    exact absurd hp (N t n)

private theorem released_run {s : St} (I : Inv s) (sched : List Nat) : Inv (run false s sched) := by
  induction sched generalizing s with
  | nil => exact I
  | cons t r ih => exact ih (released_step I t)

theorem yield_released_invariant (segs : Nat → Nat) (sched : List Nat) : Inv (reached false segs sched) :=
  released_run ⟨fun u => by simp [init], fun u n => by simp [init]⟩ sched

/-- all generators suspended (their consumers hold results, none is running) ⇒ the lock is free -/
theorem yield_lock_free_when_suspended (segs : Nat → Nat) (sched : List Nat)
    (h : ∀ u, suspended ((reached false segs sched).pc u) = true) : (reached false segs sched).lock = none := by
  have I := yield_released_invariant segs sched
  -- only the invariant speaks of the reached state from here on: it becomes a variable (as in `patch_restored`, Props/C15)
  generalize reached false segs sched = s at *
  cases hl : s.lock with
  | none => rfl
  | some u =>
    obtain ⟨n, hn⟩ := (I.holder u).mp hl
    have := h u; rw [hn] at this; simp [suspended] at this

/-- a consumer whose generator has work left always makes progress when all OTHER generators are merely suspended:
    nobody has to resume, exhaust or close anything first -/
theorem yield_never_blocked_by_suspended (segs : Nat → Nat) (sched : List Nat) (t : Nat)
    (others : ∀ u, u ≠ t → suspended ((reached false segs sched).pc u) = true)
    (work : (reached false segs sched).pc t ≠ .idle 0) :
    (step false (reached false segs sched) t).pc t ≠ (reached false segs sched).pc t := by
  have I := yield_released_invariant segs sched
  generalize reached false segs sched = s at *
  unfold step
  split
  · rename_i hp; exact absurd hp work
  · rename_i n hp; simp [upd, hp]
  · rename_i n hp
    split
    · simp [upd, hp]
    · rename_i holder hl
      exfalso
      obtain ⟨m, hm⟩ := (I.holder holder).mp hl
      by_cases hh : holder = t
      · subst hh; rw [hp] at hm; cases hm
      · have := others holder hh; rw [hm] at this; simp [suspended] at this
  · rename_i n hp; simp [upd, hp]
  · rename_i n hp; exact absurd hp (I.noHeld t n)

/-- the hypotheses are satisfiable in a non-trivial state: generator 0 suspended after its first result with one more to come,
    generator 1 about to acquire -/
example : let s := reached false (fun _ => 2) [0, 0, 0, 1]
    s.pc 0 = .idle 1 ∧ s.pc 1 = .want 1 ∧ s.lock = none := by
  simp [reached, run, step, init, upd]

/-! ### the `yield` inside the `with L:` block

Full-strength statements, FALSE for `spans = true`:
  `∀ segs sched, (∀ u, suspended (pc u)) → lock = none`
  `∀ segs sched t, (∀ u ≠ t, suspended (pc u)) → pc t ≠ idle 0 → (step true s t).pc t ≠ s.pc t` -/

private theorem blocked_forever (s : St) (h0 : s.lock = some 0) (h1 : s.pc 1 = .want 0) (n : Nat) :
    (run true s (List.replicate n 1)).pc 1 = .want 0 ∧ (run true s (List.replicate n 1)).lock = some 0 := by
  induction n generalizing s with
  | zero => exact ⟨h1, h0⟩
  | succ m ih =>
    have hs : step true s 1 = s := by unfold step; rw [h1]; simp [h0]
    simp only [List.replicate_succ, run, hs]
    exact ih s h0 h1

/-- consumer 0 has received its (only) result and has not resumed its generator; consumer 1 starts an extraction:
    however often it is scheduled it never gets past the acquire, and the lock stays with the suspended generator -/
theorem yield_inside_lock_blocks (n : Nat) :
    let s := reached true (fun _ => 1) [0, 0, 0, 1]
    s.pc 0 = .held 0 ∧ suspended (s.pc 0) = true ∧
    (run true s (List.replicate n 1)).pc 1 = .want 0 ∧ (run true s (List.replicate n 1)).lock = some 0 := by
  have e0 : (reached true (fun _ => 1) [0, 0, 0, 1]).lock = some 0 := by simp [reached, run, step, init, upd]
  have e1 : (reached true (fun _ => 1) [0, 0, 0, 1]).pc 1 = .want 0 := by simp [reached, run, step, init, upd]
  have e2 : (reached true (fun _ => 1) [0, 0, 0, 1]).pc 0 = .held 0 := by simp [reached, run, step, init, upd]
  refine ⟨e2, by rw [e2]; rfl, ?_⟩
  exact blocked_forever _ e0 e1 n

/-- what remains true of the spanning protocol: the blocked extraction goes on as soon as — and only because — the first
    consumer resumes (exhausts / closes) its generator -/
theorem yield_inside_lock_partial :
    let s := reached true (fun _ => 1) [0, 0, 0, 1, 1, 1, 0, 1, 1, 1]
    s.pc 0 = .idle 0 ∧ s.pc 1 = .idle 0 ∧ s.lock = none := by
  simp [reached, run, step, init, upd]

open S2T.Cells S2T.Gen.Isolation

/-- no `yield` of a result generator is enclosed by a `with` over a lock or over a patch / set / restore section, and no
    generator function takes a lock by hand: every generator of the package is `spans = false` for every lock and section -/
theorem yields_hold_nothing_global :
    ∀ y ∈ yieldScopes, (∀ w ∈ y.withs, w.1 = "local".toList) ∧ y.acquires = false ∧ y.finallyReleases = false := by
  decide_chars yieldScopes

/-- the lock-like objects of the package are the two the models own (`S2T.Patch`, `S2T.CacheConc`) -/
theorem locks_are_modelled :
    S2T.Gen.Isolation.notes = [] ∧
    ∀ l ∈ locks, (l.1, l.2.1) ∈ [("pdf_extractor.py".toList, "_CHAR_MAP_PATCH_LOCK".toList),
                                 ("_pypdf_aes_fallback.py".toList, "_ROUND_KEY_CACHE_LOCK".toList)] := by
  decide_chars locks

open S2T.CacheAlias

private theorem find_consistent {K V} [DecidableEq K] {f : K → V} {c : List (K × V)} (hc : Consistent f c) {k : K} {v : V}
    (h : find k c = some v) : v = f k := by
  fun_induction find k c with
  | case1 => cases h
  | case2 v' r => cases h; exact hc (_, _) List.mem_cons_self
  | case3 k' v' r e ih => exact ih (fun x hx => hc x (List.mem_cons_of_mem _ hx)) h

private theorem opStep_get {K V} [DecidableEq K] (byRef : Bool) {f : K → V} {c : List (K × V)} (hc : Consistent f c) (k : K) :
    (opStep byRef f c (.get k)).2 = some (f k) := by
  simp only [opStep]
  cases hv : find k c with
  | some v => rw [find_consistent hc hv]
  | none => rfl

private theorem opStep_get_consistent {K V} [DecidableEq K] (byRef : Bool) {f : K → V} {c : List (K × V)} (hc : Consistent f c) (k : K) :
    Consistent f (opStep byRef f c (.get k)).1 := by
  simp only [opStep]
  cases find k c with
  | some v => exact hc
  | none =>
    intro kv hkv
    rcases List.mem_cons.mp hkv with e | e
    · subst e; rfl
    · exact hc kv e

private theorem opStep_modify_consistent {K V} [DecidableEq K] {byRef : Bool} {f : K → V} {c : List (K × V)} (hc : Consistent f c)
    (k : K) {g : V → V} (hg : byRef = false ∨ ∀ v, g v = v) : Consistent f (opStep byRef f c (.modify k g)).1 := by
  simp only [opStep]
  split
  · have hg := hg.resolve_left (by simp [*])
    intro kv hkv
    obtain ⟨x, hx, rfl⟩ := List.mem_map.mp hkv
    split <;> simp [hg, hc x hx]
  · exact hc

private theorem opRun_consistent {K V} [DecidableEq K] (byRef : Bool) (f : K → V) (c : List (K × V)) (h : List (Op K V))
    (hc : Consistent f c) (ho : byRef = false ∨ ReadOnly h) : Consistent f (opRun byRef f c h) := by
  induction h generalizing c with
  | nil => exact hc
  | cons o r ih =>
    cases o with
    | get k => exact ih _ (opStep_get_consistent byRef hc k) ho
    | modify k g => exact ih _ (opStep_modify_consistent hc k (ho.imp_right And.left)) (ho.imp_right And.right)

/-- a cache that hands out COPIES (or whose callers cannot reach the stored object): after every history of calls and of
    in-place modifications of handed-out values, a call returns what the function returns -/
theorem alias_copy_transparent {K V} [DecidableEq K] (f : K → V) (h : List (Op K V)) (k : K) :
    (opStep false f (opRun false f [] h) (.get k)).2 = some (f k) :=
  opStep_get false (opRun_consistent false f [] h (by intro kv hkv; cases hkv) (Or.inl rfl)) k

/-- a cache that hands out its entries BY REFERENCE is transparent for every history in which no handed-out value is ever
    modified — which is guaranteed when the values are immutable -/
theorem alias_readonly_transparent {K V} [DecidableEq K] (f : K → V) (h : List (Op K V)) (k : K) (ro : ReadOnly h) :
    (opStep true f (opRun true f [] h) (.get k)).2 = some (f k) :=
  opStep_get true (opRun_consistent true f [] h (by intro kv hkv; cases hkv) (Or.inr ro)) k

example : ReadOnly [Op.get 1, Op.modify 1 (fun (v : List Nat) => v), Op.get 2] := by simp [ReadOnly]

/-- Full-strength statement `∀ h k, (opStep true f (opRun true f [] h) (.get k)).2 = some (f k)` is FALSE: a table row is split
    into its cells (`f`), the caller pads the row it got to the width of its table (`· ++ [0]`), the next document with the
    same row gets the padded row. -/
theorem alias_by_reference_counterexample :
    let f : Nat → List Nat := fun k => [k, k + 1]
    (opStep true f (opRun true f [] [.get 7, .modify 7 (· ++ [0])]) (.get 7)).2 ≠ some (f 7) := by
  decide

/-- the return annotations taken as immutable -/
def immutableAnnots : List Str :=
  ["bool".toList, "str".toList, "int".toList, "float".toList, "bytes".toList, "None".toList, "Callable".toList,
   "Tuple[Callable, Callable]".toList, "type".toList, "str | None".toList, "Optional[str]".toList, "tuple[str, ...]".toList,
   "tuple[str, str]".toList, "frozenset[str]".toList, "re.Pattern[str]".toList, "re.Pattern".toList]

/-- generated fact: every functools cache of the package returns an immutable value (annotation of the decorated function) -/
theorem cache_values_immutable : ∀ c ∈ cacheReturns, c.2.2 ∈ immutableAnnots := by
  decide_chars cacheReturns immutableAnnots

end S2T.C15.Suspend
