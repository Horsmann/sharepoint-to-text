import S2T.Lemmas.SerialMore
import S2T.Gen.Schema
import S2T.Props.C05_History
import S2T.Props.C05_Streams
import S2T.Props.C05_Codec
import S2T.Props.C05_Ctor
/-!
# C05 — `to_json` is JSON-serialisable and `from_json` restores the same object

Model: `S2T/Model/Serial.lean` (`ser` = `_serialize_for_json`, `deserValue` = `_deserialize_value`, …),
spec predicates: `S2T/Spec/Serial.lean`.  The theorems are proved for **every** class table `S`
satisfying the decidable `SchemaOk`, every value (unbounded depth / width / string length) and every
declared type; `SchemaOk` is re-decided by the kernel on the schema regenerated from the source
(`S2T.Gen.Schema.schema`: every dataclass the reflective registry finds, ordered fields, resolved hints,
defaults, `__post_init__` strips).

The transport `json.loads(json.dumps(j)) = j` for `isJson j` is CPython's (assumed; exercised by the
harness oracle on every case), so `from_json(json.loads(json.dumps(x.to_json())))` is
`deserializeExtraction (serializeExtraction true x)` whenever `C05_jsonable` applies.

FULL-STRENGTH STATEMENT (false on the current tree — see `C05_cex_*`):
  for every instance `v` of a registered dataclass whose fields are populated according to their type
  hints (with `Any` = any value at all) and every `include_binary`:
  `isJson (to_json v)` ∧ `from_json (to_json v)` is an instance of the same class with the same `to_json`.
What is proved instead (`C05_roundtrip_partial`): the same for every `v` with `WellTyped S ty v`, where
`WellTyped` differs from plain well-typedness in exactly one clause: a **dict standing in a position that
is not declared `Dict[...]`** (an `Any` cell, a `str | None` field, …) must not have a key whose `str()` is
`_type`, `_bytes` or `_bytesio`  (known findings `serial.bytes-marker-in-untyped-dict`,
`serial.type-marker-in-untyped-dict`; not producible by any extractor: their `Any` cells are scalars).
Dicts in positions declared `Dict[...]` (XLS rows keyed by header cells, HTML/EPUB link dicts) are
unrestricted: the deserialiser looks at the declared type before the markers (fix `typed-dict-before-markers`).  `C05_jsonable` needs `noForeign`; that the XLSX
extractor only produces such cells is `C05_cell_json` (fix `xlsx-cell-json-types`).
-/
namespace S2T.C05
open S2T.Serial

theorem gen_schema_ok : SchemaOk S2T.Gen.Schema.schema = true := by decide +kernel

/-- the translator's cross-checks (registry = dataclasses of `data_types`, every `__post_init__` understood,
no `init=False` field, every field hinted) found nothing -/
theorem gen_notes_empty : S2T.Gen.Schema.notes = [] := by decide

/-- the marker keys used by the source are exactly the model's -/
theorem gen_markers :
    (S2T.Gen.Schema.markerKeys.all markers.contains && markers.all S2T.Gen.Schema.markerKeys.contains) = true := by
  decide +kernel

theorem gen_type_key : S2T.Gen.Schema.typeKey = kType := by decide +kernel

/-- `str.isspace` code points at runtime = the model's `strip` set -/
theorem gen_whitespace : S2T.Gen.Schema.whitespace = pyWhitespace := by decide +kernel

/-- the cell types turned into ISO strings are the three the model's `Cell` has constructors for -/
theorem gen_cell_iso_types :
    S2T.Gen.Schema.cellIsoTypes = ["datetime".toList, "date".toList, "time".toList] := by decide +kernel

/-- `to_json()` / `serialize_extraction(x, include_binary=b)` of anything free of foreign values is accepted by the
standard JSON encoder and survives `json.loads ∘ json.dumps` unchanged. No typing hypothesis. -/
theorem C05_jsonable (b : Bool) (v : PyVal) (h : noForeign v = true) : isJson (serializeExtraction b v) = true := by
  have hj := isJson_ser b v h
  unfold serializeExtraction
  split
  · rename_i kvs hk; rw [hk] at hj; exact hj
  · simp [isJson, isJsonKVs, keysNodup, hj]

example : noForeign (.obj "XlsxSheet".toList [("data".toList, .list [.list [.float "1.5".toList, .str "1 day, 6:00:00".toList]])]) = true := by
  decide

section generic
variable {S : Schema}

/-- every position: deserialising the serialised value gives its canonical form, and the canonical form
serialises to the same JSON -/
theorem C05_roundtrip_value (hS : SchemaOk S = true) (ty : Ty) (v : PyVal) (h : WellTyped S ty v = true) :
    deserValue S ty (ser true v) = .ok (canon S ty v) ∧ ser true (canon S ty v) = ser true v :=
  ⟨deser_ser hS v ty h, ser_canon v ty⟩

/-- **`from_json(to_json(x))`** for a dataclass instance `x`: succeeds, gives an instance of the *same class*
with the *same field names*, whose `to_json()` is *identical*, and which is exactly `canon x`. -/
theorem C05_roundtrip_partial (hS : SchemaOk S = true) (c : Str) (fs : List (Str × PyVal))
    (h : WellTyped S .any (.obj c fs) = true) :
    ∃ fs', deserializeExtraction S (serializeExtraction true (.obj c fs)) = .ok (.obj c fs')
      ∧ fs'.map (·.1) = fs.map (·.1)
      ∧ serializeExtraction true (.obj c fs') = serializeExtraction true (.obj c fs)
      ∧ PyVal.obj c fs' = canon S .any (.obj c fs) := by
  obtain ⟨C, hC⟩ := wt_obj h
  refine ⟨canonFields S C fs, ?_, ?_, ?_, (canon_obj hC.find _ _).symm⟩
  · rw [deserializeExtraction_ser_obj hS c fs h, canon_obj hC.find]
  · simp [canonFields_eq, List.map_map, Function.comp_def]
  · rw [serializeExtraction_obj, serializeExtraction_obj, ← canon_obj hC.find .any]
    exact ser_canon _ _

/-- **the round trip in every reachable process state**: after ANY history `pre` of `to_json` / `from_json` calls on
any arguments (JSON of other types, written by this or another process, failing calls, …) in a process started with
an empty registry, `from_json` of the JSON of `x` rebuilds `x` exactly as `C05_roundtrip_partial` says.  (State
machine: `S2T/Model/SerialState.lean`; its tie to the source: `History.gen_state_sites_ok` + the fresh-process
history correspondence of the harness.) -/
theorem C05_roundtrip_any_history (hS : SchemaOk S = true) (pre : List S2T.SerialState.Op) (c : Str) (fs : List (Str × PyVal))
    (h : WellTyped S .any (.obj c fs) = true) :
    ∃ fs', (S2T.SerialState.run S .pure [] (pre ++ [.fromJson (serializeExtraction true (.obj c fs))])).getLast?
        = some (.back (.ok (.obj c fs')))
      ∧ fs'.map (·.1) = fs.map (·.1)
      ∧ serializeExtraction true (.obj c fs') = serializeExtraction true (.obj c fs)
      ∧ PyVal.obj c fs' = canon S .any (.obj c fs) := by
  obtain ⟨fs', h1, h2, h3, h4⟩ := C05_roundtrip_partial hS c fs h
  refine ⟨fs', ?_, h2, h3, h4⟩
  rw [History.C05_after_any_history]
  simp [S2T.SerialState.stateless, h1]

/-- … and `to_json` after any history is the stateless serialiser -/
theorem C05_to_json_any_history (pre : List S2T.SerialState.Op) (b : Bool) (v : PyVal) :
    (S2T.SerialState.run S .pure [] (pre ++ [.toJson b v])).getLast? = some (.json (serializeExtraction b v)) := by
  rw [History.C05_after_any_history]; rfl

/-- image / attachment payloads: a binary leaf in any traversed position comes back as the same bytes
(`bytearray` as `bytes`), whatever the declared type of the position -/
theorem C05_binary_restored (ty : Ty) (bs : List Nat) :
    canon S ty (.bytes bs) = .bytes bs ∧ canon S ty (.bytesio bs) = .bytesio bs
      ∧ canon S ty (.bytearray bs) = .bytes bs := by
  simp [canon]

/-- … in particular every binary field of the instance itself -/
theorem C05_binary_fields (c : Str) (fs : List (Str × PyVal))
    (h : WellTyped S .any (.obj c fs) = true) (n : Str) (bs : List Nat) :
    ((n, PyVal.bytes bs) ∈ fs → ∃ fs', canon S .any (.obj c fs) = .obj c fs' ∧ (n, PyVal.bytes bs) ∈ fs')
    ∧ ((n, PyVal.bytesio bs) ∈ fs → ∃ fs', canon S .any (.obj c fs) = .obj c fs' ∧ (n, PyVal.bytesio bs) ∈ fs') := by
  obtain ⟨C, hC⟩ := wt_obj h
  -- a field whose value `canon` leaves alone is a field of the canonical form
  have key : ∀ v, (∀ ty, canon S ty v = v) → (n, v) ∈ fs → ∃ fs', canon S .any (.obj c fs) = .obj c fs' ∧ (n, v) ∈ fs' :=
    fun v hv hm => ⟨_, canon_obj hC.find _ _, by rw [canonFields_eq]; exact List.mem_map.mpr ⟨(n, v), hm, by simp [hv]⟩⟩
  exact ⟨key _ (fun _ => by simp [canon]), key _ (fun _ => by simp [canon])⟩

/-- **image / attachment streams of the rebuilt object, in every reachable process state and after any later
history**: in ANY heap state `st` (whatever was restored, read, closed before), `from_json(to_json(x))` hands out
one new stream per `io.BytesIO` leaf of `canon x`; after ANY history `mid` of further `from_json` calls and of reads /
closes / rewinds of other streams (of this or of any other restored object), reading the `i`-th one returns its whole
payload.  (Heap: `S2T/Model/SerialHeap.lean`; tie of the decoder to the source: `Streams.gen_alloc_sites_ok`,
`History.gen_state_cells` + the consumption histories of the harness.) -/
theorem C05_restored_streams_any_history (hS : SchemaOk S = true) (c : Str) (fs : List (Str × PyVal))
    (h : WellTyped S .any (.obj c fs) = true) (st : S2T.SerialHeap.State) (i : Nat) (mid : List S2T.SerialHeap.HOp)
    (hi : i < (S2T.SerialHeap.leaves (canon S .any (.obj c fs))).length)
    (hmid : ∀ op ∈ mid, S2T.SerialHeap.touches (st.heap.length + i) op = false) :
    S2T.SerialHeap.restoredLeaves S (serializeExtraction true (.obj c fs)) = S2T.SerialHeap.leaves (canon S .any (.obj c fs))
    ∧ (S2T.SerialHeap.heapStep
        (S2T.SerialHeap.hrun .fresh (S2T.SerialHeap.hstep .fresh st
          (.restore (S2T.SerialHeap.restoredLeaves S (serializeExtraction true (.obj c fs))))) mid).heap
        (st.heap.length + i) .read).1 = .ok (S2T.SerialHeap.leaves (canon S .any (.obj c fs)))[i] := by
  have hl : S2T.SerialHeap.restoredLeaves S (serializeExtraction true (.obj c fs))
      = S2T.SerialHeap.leaves (canon S .any (.obj c fs)) := by
    simp only [S2T.SerialHeap.restoredLeaves, deserializeExtraction_ser_obj hS c fs h]
  rw [hl]
  exact ⟨rfl, (Streams.C05_read_after_any_history st _ i hi mid hmid).1⟩

private theorem leavesFields_eq (fs : List (Str × PyVal)) :
    S2T.SerialHeap.leavesFields fs = fs.flatMap fun e => S2T.SerialHeap.leaves e.2 := by
  induction fs with
  | nil => rfl
  | cons e fs ih => simp [S2T.SerialHeap.leavesFields, ih]

/-- … and every `io.BytesIO` field of `x` is one of those streams (the hypothesis `hi` above is satisfiable) -/
theorem C05_stream_fields (c : Str) (fs : List (Str × PyVal)) (h : WellTyped S .any (.obj c fs) = true) (n : Str) (bs : List Nat)
    (hm : (n, PyVal.bytesio bs) ∈ fs) : bs ∈ S2T.SerialHeap.leaves (canon S .any (.obj c fs)) := by
  obtain ⟨fs', hc, hm'⟩ := (C05_binary_fields c fs h n bs).2 hm
  rw [hc]
  simp only [S2T.SerialHeap.leaves, leavesFields_eq]
  exact List.mem_flatMap.mpr ⟨_, hm', by simp [S2T.SerialHeap.leaves]⟩

/-- the serialiser is idempotent: what `to_json` returns is plain data -/
theorem C05_to_json_plain (b : Bool) (v : PyVal) : ser b (ser true v) = ser true v := ser_ser b v

end generic

/-- the round trip on the current source's schema -/
theorem C05_roundtrip_current (c : Str) (fs : List (Str × PyVal))
    (h : WellTyped S2T.Gen.Schema.schema .any (.obj c fs) = true) :
    ∃ fs', deserializeExtraction S2T.Gen.Schema.schema (serializeExtraction true (.obj c fs)) = .ok (.obj c fs')
      ∧ fs'.map (·.1) = fs.map (·.1)
      ∧ serializeExtraction true (.obj c fs') = serializeExtraction true (.obj c fs)
      ∧ PyVal.obj c fs' = canon S2T.Gen.Schema.schema .any (.obj c fs) :=
  C05_roundtrip_partial gen_schema_ok c fs h

/-! the hypotheses are satisfiable by non-trivial values (and hold for content that looks like markers) -/

/-- an XLS sheet whose header cells are `_bytes` / `_type` (content in a `Dict[str, Any]` position) -/
def xlsSheetMarkerHeaders : PyVal :=
  .obj "XlsSheet".toList [
    ("name".toList, .str "_type".toList),
    ("data".toList, .list [.dict [(.str "_bytes".toList, .str "aGk=".toList), (.str "_type".toList, .str "XlsSheet".toList),
                                  (.int 7, .float "2.5".toList)]]),
    ("text".toList, .str "_bytesio".toList)]

example : WellTyped S2T.Gen.Schema.schema .any xlsSheetMarkerHeaders = true := by decide +kernel

/-- an e-mail attachment with its payload, a `BytesIO` leaf -/
def emailWithAttachment : PyVal :=
  .obj "EmailAttachment".toList [
    ("filename".toList, .str "a.bin".toList), ("mime_type".toList, .str "application/x".toList),
    ("data".toList, .bytesio [0, 255, 104, 105]), ("is_supported_mime_type".toList, .bool false)]

example : WellTyped S2T.Gen.Schema.schema .any emailWithAttachment = true := by decide +kernel

example : deserializeExtraction S2T.Gen.Schema.schema (serializeExtraction true emailWithAttachment)
    = .ok emailWithAttachment :=
  -- an instance of the round trip: the value is well typed and is its own canonical form
  (deserializeExtraction_ser_obj gen_schema_ok _ _ (by decide +kernel)).trans (by rfl)

/-- `include_binary=False` serialises exactly the value in which the binary leaves (`bytes`, `bytearray`,
`BytesIO`) are `None` — nothing else differs -/
theorem C05_nobinary (v : PyVal) : serializeExtraction false v = serializeExtraction true (dropBinary v) := by
  simp [serializeExtraction, ser_false]

example : serializeExtraction false emailWithAttachment
    = .dict [(.str kType, .str "EmailAttachment".toList), (.str "filename".toList, .str "a.bin".toList),
             (.str "mime_type".toList, .str "application/x".toList), (.str "data".toList, .none),
             (.str "is_supported_mime_type".toList, .bool false)] := by rfl

/-- one result: the JSON object `serialize_extraction` gives -/
theorem C05_cli_one (b : Bool) (r : PyVal) :
    cliResults b [r] = serializeExtraction b r ∧ ∃ kvs, cliResults b [r] = .dict kvs := by
  refine ⟨rfl, ?_⟩
  simp only [cliResults, serializeExtraction]
  split
  · exact ⟨_, rfl⟩
  · exact ⟨_, rfl⟩

/-- zero or several results: an array of those objects, in order -/
theorem C05_cli_many (b : Bool) (rs : List PyVal) (h : rs.length ≠ 1) :
    cliResults b rs = .list (rs.map (serializeExtraction b)) := by
  match rs, h with
  | [], _ => rfl
  | [_], h => simp at h
  | _ :: _ :: _, _ => rfl

theorem C05_cli_units_one (b : Bool) (units : PyVal → List PyVal) (r : PyVal) :
    cliUnitResults b units [r] = .list ((units r).map (serializeExtraction b)) := rfl

theorem C05_cli_units_many (b : Bool) (units : PyVal → List PyVal) (rs : List PyVal) (h : rs.length ≠ 1) :
    cliUnitResults b units rs = .list (rs.map (fun r => .list ((units r).map (serializeExtraction b)))) := by
  match rs, h with
  | [], _ => rfl
  | [_], h => simp at h
  | _ :: _ :: _, _ => rfl

/-- without `--binary` the `--json` payload is the payload of the results with exactly their binary leaves set to
`None` — for one result and for several -/
theorem C05_cli_nobinary (rs : List PyVal) : cliResults false rs = cliResults true (rs.map dropBinary) := by
  match rs with
  | [] => rfl
  | [r] => simp [cliResults, C05_nobinary]
  | r :: r' :: rs => simp [cliResults, C05_nobinary, Function.comp_def]

/-- … and so is the `--json-unit` payload (units of every result) -/
theorem C05_cli_units_nobinary (units : PyVal → List PyVal) (rs : List PyVal) :
    cliUnitResults false units rs = cliUnitResults true (fun r => (units r).map dropBinary) rs := by
  match rs with
  | [] => rfl
  | [r] => simp [cliUnitResults, C05_nobinary, Function.comp_def]
  | r :: r' :: rs => simp [cliUnitResults, C05_nobinary, Function.comp_def]

/-- every flag combination of `cli.main`: the payload with `--binary` absent is the payload with `--binary` of the
binary-free results / units -/
theorem C05_cli_payload_nobinary (jsonUnit : Bool) (units : PyVal → List PyVal) (rs : List PyVal) :
    cliPayload jsonUnit false units rs = cliPayload jsonUnit true (fun r => (units r).map dropBinary) (if jsonUnit then rs else rs.map dropBinary) := by
  cases jsonUnit
  · simp [cliPayload, C05_cli_nobinary]
  · simp [cliPayload, C05_cli_units_nobinary]

/-- the model is the plumbing `passed` -/
theorem C05_cli_plumbing (b : Bool) (rs : List PyVal) : cliResultsWith .passed b rs = cliResults b rs := by
  match rs with
  | [] => rfl
  | [r] => rfl
  | r :: r' :: rs => rfl

private theorem cliResultsWith_dropped (b : Bool) (r r' : PyVal) (rs : List PyVal) :
    cliResultsWith .droppedForSeveral b (r :: r' :: rs) = cliResults true (r :: r' :: rs) := rfl

/-- why `Streams.gen_flag_sites_ok` is an obligation (the shape of seeded change C05/flag dropped for several results): a
several-results branch that mentions the serialiser without the keyword prints the payloads although `--binary` is
absent — for two results, not for one -/
theorem C05_cex_cli_flag_dropped :
    (render (cliResultsWith .droppedForSeveral false [emailWithAttachment, emailWithAttachment])
        == render (cliResults false [emailWithAttachment, emailWithAttachment])) = false
    ∧ cliResultsWith .droppedForSeveral false [emailWithAttachment] = cliResults false [emailWithAttachment]
    ∧ (render (cliResultsWith .droppedForSeveral false [emailWithAttachment, emailWithAttachment])
        == render (cliResults true [emailWithAttachment, emailWithAttachment])) = true := by
  -- the first conjunct is a disequality, stated on renderings because `PyVal` has no decidable equality; the third is
  -- written the same way and holds already as an equality of values
  refine ⟨by decide +kernel, rfl, by rw [cliResultsWith_dropped]; exact beq_self_eq_true _⟩

/-- whatever openpyxl hands over, `_get_cell_value` returns a JSON scalar -/
theorem C05_cell_json (c : Cell) : noForeign (cellValue c) = true ∧ isJson (cellValue c) = true := by
  cases c <;> simp [cellValue, noForeign, isJson]

/-- … so a sheet's rows (`XlsxSheet.data`) are free of foreign values -/
theorem C05_sheet_rows_json (rows : List (List Cell)) :
    noForeign (.list (rows.map (fun r => .list (r.map cellValue)))) = true := by
  simp [noForeign, noForeignList_eq, C05_cell_json]

example : cellValue (.timedelta "1 day, 6:00:00".toList) = .str "1 day, 6:00:00".toList := rfl

/-- decidable: `from_json(to_json(v))` fails, or gives an object whose `to_json` is different -/
def roundTripBreaks (S : Schema) (v : PyVal) : Bool :=
  match deserializeExtraction S (serializeExtraction true v) with
  | .ok w => !(render (serializeExtraction true w) == render (serializeExtraction true v))
  | .error _ => true

theorem roundTripBreaks_sound (S : Schema) (v : PyVal) (h : roundTripBreaks S v = true) :
    ¬ ∃ w, deserializeExtraction S (serializeExtraction true v) = .ok w
        ∧ serializeExtraction true w = serializeExtraction true v := by
  rintro ⟨w, hw, he⟩
  simp [roundTripBreaks, hw, he] at h

/-- known finding `serial.bytes-marker-in-untyped-dict`: content `{"_bytes": "aGk=", "b": 2}` in an `Any` cell
comes back as `b'hi'` -/
def cexBytesMarker : PyVal :=
  .obj "TableData".toList [("data".toList, .list [.list [.dict [(.str "_bytes".toList, .str "aGk=".toList), (.str "b".toList, .int 2)]]])]

theorem C05_cex_bytes_marker :
    WellTyped S2T.Gen.Schema.schema .any cexBytesMarker = false
    ∧ deserializeExtraction S2T.Gen.Schema.schema (serializeExtraction true cexBytesMarker)
        = .ok (.obj "TableData".toList [("data".toList, .list [.list [.bytes [104, 105]]])])
    ∧ roundTripBreaks S2T.Gen.Schema.schema cexBytesMarker = true := by
  refine ⟨by decide +kernel, by rfl, by decide +kernel⟩

/-- known finding `serial.type-marker-in-untyped-dict`: content `{"_type": "TableDim", "rows": 3}` in an `Any` cell
is revived as a `TableDim` instance -/
def cexTypeMarker : PyVal :=
  .obj "TableData".toList [("data".toList, .list [.list [.dict [(.str "_type".toList, .str "TableDim".toList), (.str "rows".toList, .int 3)]]])]

/-- the cell of the rebuilt table is a dataclass instance -/
def cellIsObj : Except Err PyVal → Bool
  | .ok (.obj _ [(_, .list [.list [.obj _ _]])]) => true
  | _ => false

theorem C05_cex_type_marker :
    WellTyped S2T.Gen.Schema.schema .any cexTypeMarker = false
    ∧ cellIsObj (deserializeExtraction S2T.Gen.Schema.schema (serializeExtraction true cexTypeMarker)) = true
    ∧ roundTripBreaks S2T.Gen.Schema.schema cexTypeMarker = true := by
  refine ⟨by decide +kernel, by decide +kernel, by decide +kernel⟩

/-- `noForeign` is needed: a `datetime.timedelta` left in a cell is handed to the JSON encoder as is -/
theorem C05_cex_foreign :
    WellTyped S2T.Gen.Schema.schema .any
      (.obj "TableData".toList [("data".toList, .list [.list [.foreign "timedelta".toList]])]) = true
    ∧ isJson (serializeExtraction true
      (.obj "TableData".toList [("data".toList, .list [.list [.foreign "timedelta".toList]])])) = false := by
  refine ⟨by decide +kernel, by decide +kernel⟩

/-- the `__post_init__` clause of `WellTyped` is needed: a `PlainTextContent` whose `content` was assigned *after*
construction (so it is not stripped) comes back stripped -/
theorem C05_cex_post_init :
    let v : PyVal := .obj "PlainTextContent".toList [("content".toList, .str " x ".toList), ("metadata".toList, .none)]
    WellTyped S2T.Gen.Schema.schema .any v = false ∧ roundTripBreaks S2T.Gen.Schema.schema v = true := by
  refine ⟨by decide +kernel, by decide +kernel⟩

/-- the typing clause is needed: a `str` in a `bytes`-typed field is taken for base64 -/
theorem C05_cex_str_in_bytes_field :
    let v : PyVal := .obj "XlsImage".toList [("image_index".toList, .int 0), ("content_type".toList, .str "".toList),
      ("data".toList, .str "aGk=".toList), ("size_bytes".toList, .int 0), ("width".toList, .none), ("height".toList, .none)]
    WellTyped S2T.Gen.Schema.schema .any v = false ∧ roundTripBreaks S2T.Gen.Schema.schema v = true := by
  refine ⟨by decide +kernel, by decide +kernel⟩

end S2T.C05
