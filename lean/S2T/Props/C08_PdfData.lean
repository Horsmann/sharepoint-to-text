import S2T.Props.C20
/-!
# C08 (part) — the objects of an empty-password AES PDF decrypt to the objects of the original, whatever their length

"a PDF encrypted with the empty user password extracts the same content as its unencrypted original" needs more than
AES being installed (part `C08_PdfCrypt`): every string and stream of the document goes through the `CryptAES.decrypt`
the library patches into pypdf (IV split, CBC, PKCS#7 unpadding).  A plaintext whose length is a multiple of 16 carries a
WHOLE padding block, a plaintext shorter than a block is all in one block, an empty one is one block of padding: glue that
is right "for most lengths" changes the bytes of exactly those objects.  Proved here on the model of the glue
(`S2T.Aes.cryptAesDecrypt`: hand-modelled and tied by correspondence; what it calls, `aes_cbc_*` and `_pkcs7_*`, is tied by
C20's translation, `Props/C20_Src`) with the tables
generated from the current source (`C20_tables`), for EVERY document = list of objects of ANY lengths: every object
decrypts to the original object, and the stored object is IV ‖ ⌈(n+1)/16⌉ blocks — for n ≡ 0 (mod 16) one block more
than the data.  The counterexample theorems show the class on three lengths: an unpadding that only strips paddings
shorter than a block (`lenientUnpad`) keeps 16 bytes of 0x10 on a plaintext of 16 bytes and is right on 15 and 17 —
which is why the correspondence / oracle feed documents with uncompressed content streams of EVERY residue mod 16.
-/
namespace S2T.C08.PdfData
open S2T.Aes S2T.AesL S2T.Spec

abbrev T : Tables := S2T.Gen.Aes.tables

/-- one stored object of an AES-encrypted document: the IV the writer drew and the plaintext -/
structure Obj where
  iv : List Nat
  plain : List Nat

def Obj.Ok (o : Obj) : Prop := Block o.iv ∧ IsBytes o.plain

/-- every object of every document — strings, streams, of any length incl. 0, 1…15, 16, 32, … — that was encrypted as
    PDF 32000-1 §7.6.2 says (IV ‖ CBC(PKCS#7(plain))) comes back from the library's `CryptAES.decrypt` as it was -/
theorem C08_pdf_aes_objects {key : List Nat} (hk : KeyOk key) (doc : List Obj) (h : ∀ o ∈ doc, o.Ok) :
    ∀ o ∈ doc, ∃ c, cryptAesEncrypt T key o.iv o.plain = .ok c ∧ cryptAesDecrypt T key c = .ok o.plain := by
  intro o ho
  obtain ⟨c, h1, _, _, h4⟩ := S2T.C20.C20_src_wrapper hk (h o ho).1 (h o ho).2
  exact ⟨c, h1, h4⟩

/-- length of the stored object; for a plaintext of `16·k` bytes it is `16 + 16·k + 16`: a whole block of padding -/
theorem C08_pdf_aes_cipher_length {key : List Nat} (hk : KeyOk key) (o : Obj) (h : o.Ok) :
    ∃ c, cryptAesEncrypt T key o.iv o.plain = .ok c ∧ c.length = 16 + 16 * (o.plain.length / 16 + 1) ∧
      (o.plain.length % 16 = 0 → c.length = 16 + o.plain.length + 16) := by
  obtain ⟨c, h1, _, h3, _⟩ := S2T.C20.C20_src_wrapper hk h.1 h.2
  refine ⟨c, h1, h3, fun hm => ?_⟩
  rw [h3]; omega

/-- strict PKCS#7 unpadding (what `_pkcs7_unpad` is, `C20.Src.pkcs7_unpad_eq`) removes exactly the padding, for every length -/
theorem C08_pdf_unpad_exact (m : List Nat) : pkcs7Unpad (pkcs7Pad m 16) 16 = .ok m :=
  (S2T.C20.C20_pkcs7 m).1

example : (⟨List.replicate 16 7, List.replicate 32 65⟩ : Obj).Ok := by unfold Obj.Ok; decide
example : KeyOk (List.range 16) := by decide

/-- a lenient unpadding: well-formed padding SHORTER than a block is removed, anything else is handed back untouched -/
def lenientUnpad (data : List Nat) (blockSize : Nat) : List Nat :=
  match data.getLast? with
  | none => data
  | some padding =>
    if 0 < padding ∧ padding < blockSize ∧ data.drop (data.length - padding) = List.replicate padding padding
    then data.take (data.length - padding) else data

/-- … keeps the whole padding block of a plaintext whose length is a multiple of the block size (here: 16) -/
theorem C08_pdf_lenient_unpad_counterexample :
    lenientUnpad (pkcs7Pad (List.replicate 16 32) 16) 16 = List.replicate 16 32 ++ List.replicate 16 16 ∧
    pkcs7Unpad (pkcs7Pad (List.replicate 16 32) 16) 16 = .ok (List.replicate 16 32) :=
  ⟨by decide, C08_pdf_unpad_exact _⟩

/-- … and returns the plaintext, like the strict one, for the lengths 15 and 17 -/
theorem C08_pdf_lenient_unpad_masked :
    lenientUnpad (pkcs7Pad (List.replicate 15 32) 16) 16 = List.replicate 15 32 ∧
    lenientUnpad (pkcs7Pad (List.replicate 17 32) 16) 16 = List.replicate 17 32 := by decide

end S2T.C08.PdfData
