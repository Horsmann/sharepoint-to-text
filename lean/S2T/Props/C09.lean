import S2T.Lemmas.Archive
import S2T.Gen.Router
import S2T.Gen.Archive
import S2T.Props.C09_Src
import S2T.Props.C09_Filter
import S2T.Props.C09_Attrs
/-!
# C09 — Archive processing is confined: no host file is read or written

Full statement (kept verbatim):
  Processing any archive, well-formed, hostile or corrupt, never creates, modifies or reads a file
  outside a private temporary directory, and that directory is gone when the result generator is
  exhausted, closed early or fails; member names (absolute, dot-dot, drive or backslash forms, links,
  devices) cannot redirect I/O.  Results are a function of the archive bytes only: no content of the
  host file system can appear in them.  Hidden members, macOS resource forks, nested archives,
  unsupported types and oversize members never produce results.

The theorems below are about the model `S2T.Archive` of the REPAIRED source (patches
`fix-7z-readback-confined`, `fix-nested-archive-skip-from-router`).  On the unrepaired source the
statement is false in two ways; the `…Old` functions model that source and the three theorems about them
(`C09_reads_confined_old_counterexample`, `C09_results_host_dependent_old`, `C09_skip_old_counterexample`) exhibit the
failures (replayed on the real code by the harness).

Quantifiers: every base directory that is absolute and in normal form (what `mkdtemp` returns), every
cwd, every member name, every header (entries, sizes, folders, decoded folder bytes), every consumer,
every `Env` (str.lower, mimetypes, member extractors, host file system), every limit.
-/
namespace S2T.C09
open S2T.Archive S2T.Router

/-- the translator found every table/constant to be what the source literal shows -/
theorem gen_notes_empty : S2T.Gen.Archive.notes = [] := by decide

/-- call sites of archive_extractor.py the model accounts for (function, callee) -/
def accountedExtractor : List (Str × Str) := [
  ("_extract_from_7z_optimized".toList, "szf.extractall".toList),          -- `extractAll`
  ("_extract_from_7z_optimized".toList, "tempfile.TemporaryDirectory".toList),  -- `Ev.mkdtemp` / `Ev.rmtree` frame in `run7zWith`
  ("_extract_from_tar_optimized".toList, "tarfile.open".toList),           -- on a BytesIO: `TarMember` list is a parameter
  ("_extract_from_zip_optimized".toList, "zipfile.ZipFile".toList),        -- on a BytesIO: `ZipMember` list is a parameter
  ("_process_7z_files_sequential".toList, "_safe_join".toList),            -- `readBack`
  ("_process_7z_files_sequential".toList, "open".toList),                  -- `Ev.read`
  ("_process_7z_files_sequential".toList, "os.path.exists".toList)]        -- `Ev.probe`

/-- call sites of util/sevenzip.py the model accounts for -/
def accountedSevenZip : List (Str × Str) := [
  ("_extract_files_from_folder".toList, "_mkdirs".toList),                 -- `mkdirs`
  ("_extract_files_from_folder".toList, "_safe_join".toList),              -- `safeJoin`
  ("_extract_files_from_folder".toList, "open".toList),                    -- `writeFile`
  ("_mkdirs".toList, "os.makedirs".toList),                                -- `mkdirsWalk`
  ("_safe_join".toList, "os.path.join".toList),                            -- `join` inside `safeJoin`, result checked against base
  ("extractall".toList, "_mkdirs".toList),                                 -- empty-file loop: `writeEmpty`
  ("extractall".toList, "_safe_join".toList),                              -- empty-file loop: `writeEmpty`
  ("extractall".toList, "open".toList),                                    -- empty-file loop: `writeFile … []`
  ("extractall".toList, "os.makedirs".toList),                             -- on the private directory itself: it exists
  ("extractall".toList, "self._reader.extractall".toList)]

/-- closed world: every file-system relevant call site found in the two source files is one the model
    accounts for (a new `open`, `os.path.join`, `shutil.…`, `extractall` … anywhere breaks this). -/
theorem fs_call_sites_accounted :
    (S2T.Gen.Archive.fsCallsExtractor.all accountedExtractor.contains
      && S2T.Gen.Archive.fsCallsSevenZip.all accountedSevenZip.contains) = true := by
  decide_chars S2T.Gen.Archive.fsCallsExtractor S2T.Gen.Archive.fsCallsSevenZip accountedExtractor accountedSevenZip

/-- … and nothing the model relies on has disappeared (e.g. the `_safe_join` in the read-back loop) -/
theorem fs_call_sites_present :
    (accountedExtractor.all S2T.Gen.Archive.fsCallsExtractor.contains
      && accountedSevenZip.all S2T.Gen.Archive.fsCallsSevenZip.contains) = true := by
  decide_chars S2T.Gen.Archive.fsCallsExtractor S2T.Gen.Archive.fsCallsSevenZip accountedExtractor accountedSevenZip

/-- a private directory as `tempfile.mkdtemp` names it -/
def sampleBase : Str := "/tmp/tmpk3v9x2ab".toList

example : isAbs sampleBase = true ∧ normpath sampleBase = sampleBase := by decide_chars sampleBase
example : safeJoin "/work".toList sampleBase "d/../e/./x.txt".toList = .ok "/tmp/tmpk3v9x2ab/e/x.txt".toList := by decide_chars sampleBase
example : safeJoin "/work".toList sampleBase "d/../../x.txt".toList = .error .unsafePath := by decide_chars sampleBase
example : safeJoin "/work".toList sampleBase "/etc/passwd".toList = .error .absolutePath := by decide_chars sampleBase

/-- Whatever `_safe_join(base, rel)` returns is absolute and its components are those of `base`
    followed by entry names only: no `..`, no `.`, no empty component, no slash inside a component
    (`isAbs p = true ∧ Inside base p` of `Lemmas/Archive`, written out). -/
theorem C09_safe_join (cwd base rel p : Str) (habs : isAbs base = true) (hnorm : normpath base = base)
    (h : safeJoin cwd base rel = .ok p) :
    isAbs p = true ∧ ∃ s, comps p = comps base ++ s ∧
      ∀ c ∈ s, c ≠ [] ∧ c ≠ dot ∧ c ≠ dotdot ∧ '/' ∉ c :=
  safeJoin_inside cwd base rel p habs hnorm h

/-- Shape of every run of the 7z path (repaired source): either the generator was closed before it
    was started and nothing at all happened, or the trace is `mkdtemp base`, then only
    mkdir/write/probe/read events on absolute paths lexically inside `base`, then `rmtree base` —
    whether the consumer exhausts the generator, closes it after k results, or extraction fails. -/
theorem C09_7z_trace (T : Tables) (nested : List Str) (env : Env) (lim : Limits) (cwd base : Str) (a : SevenZ)
    (c : Consumer) (habs : isAbs base = true) (hnorm : normpath base = base) :
    (c = .closeAfter 0 ∧ (run7z T nested env lim cwd base a c).evs = [] ∧ (run7z T nested env lim cwd base a c).res = []) ∨
    (∃ mid, (run7z T nested env lim cwd base a c).evs = [.mkdtemp base] ++ mid ++ [.rmtree base] ∧ ∀ e ∈ mid, EvIn base e) := by
  unfold run7z run7zWith
  split
  · rename_i hc
    left; exact ⟨hc, rfl, rfl⟩
  · right
    have hx := fun files fmap w => extractAllFull_evIn env cwd base files fmap a.folderData a.folders w ⟨[], [], none⟩ habs hnorm (by simp)
    simp only  -- opens the `let`s
    split
    · exact ⟨_, rfl, hx _ _ _⟩
    · -- `mid` is the events of `extractall` followed by those the consumer saw: reassociate
      refine ⟨_, congrArg (· ++ _) (List.append_assoc _ _ _), ?_⟩
      intro e he
      rcases List.mem_append.mp he with h1 | h1
      · exact hx _ _ _ e h1
      · obtain ⟨s, hs, hes⟩ := List.mem_flatMap.mp ((consume_prefix _ _).1.subset h1)
        obtain ⟨nf, _, hf⟩ := List.mem_map.mp hs
        subst hf
        exact readBack_evIn env lim cwd base _ nf.2 habs hnorm e hes

private theorem run7z_evIn (T : Tables) (nested : List Str) (env : Env) (lim : Limits) (cwd base : Str) (a : SevenZ)
    (c : Consumer) (habs : isAbs base = true) (hnorm : normpath base = base) (e : Ev)
    (he : e ∈ (run7z T nested env lim cwd base a c).evs) (h1 : e ≠ .mkdtemp base) (h2 : e ≠ .rmtree base) :
    EvIn base e := by
  rcases C09_7z_trace T nested env lim cwd base a c habs hnorm with ⟨_, h0, _⟩ | ⟨mid, hm, hall⟩
  · rw [h0] at he; cases he
  · rw [hm] at he
    simp only [List.mem_append, List.mem_singleton, h1, h2, false_or, or_false] at he
    exact hall e he

/-- every write and every directory creation of `extractall` is inside the private directory -/
theorem C09_writes_confined (T : Tables) (nested : List Str) (env : Env) (lim : Limits) (cwd base : Str) (a : SevenZ)
    (c : Consumer) (habs : isAbs base = true) (hnorm : normpath base = base) (p : Str)
    (h : Ev.write p ∈ (run7z T nested env lim cwd base a c).evs ∨ Ev.mkdir p ∈ (run7z T nested env lim cwd base a c).evs) :
    isAbs p = true ∧ Inside base p := by
  rcases h with h | h <;> exact run7z_evIn T nested env lim cwd base a c habs hnorm _ h nofun nofun

/-- every file the read-back loop opens (or probes) is inside the private directory -/
theorem C09_reads_confined (T : Tables) (nested : List Str) (env : Env) (lim : Limits) (cwd base : Str) (a : SevenZ)
    (c : Consumer) (habs : isAbs base = true) (hnorm : normpath base = base) (p : Str)
    (h : Ev.read p ∈ (run7z T nested env lim cwd base a c).evs ∨ Ev.probe p ∈ (run7z T nested env lim cwd base a c).evs) :
    isAbs p = true ∧ Inside base p := by
  rcases h with h | h <;> exact run7z_evIn T nested env lim cwd base a c habs hnorm _ h nofun nofun

/-- lifetime of the private directory: if it was created, the last event of the run removes it, and
    it is created and removed exactly once — for every consumer behaviour and every failure. -/
theorem C09_tempdir (T : Tables) (nested : List Str) (env : Env) (lim : Limits) (cwd base : Str) (a : SevenZ)
    (c : Consumer) (habs : isAbs base = true) (hnorm : normpath base = base) :
    (run7z T nested env lim cwd base a c).evs = [] ∨
    ((run7z T nested env lim cwd base a c).evs.head? = some (.mkdtemp base) ∧
     (run7z T nested env lim cwd base a c).evs.getLast? = some (.rmtree base) ∧
     (run7z T nested env lim cwd base a c).evs.count (.mkdtemp base) = 1 ∧
     (run7z T nested env lim cwd base a c).evs.count (.rmtree base) = 1) := by
  rcases C09_7z_trace T nested env lim cwd base a c habs hnorm with ⟨_, h0, _⟩ | ⟨mid, hm, hall⟩
  · exact Or.inl h0
  · -- neither event is one of those in between
    have h1 : mid.count (.mkdtemp base) = 0 := List.count_eq_zero.mpr fun hmem => hall _ hmem
    have h2 : mid.count (.rmtree base) = 0 := List.count_eq_zero.mpr fun hmem => hall _ hmem
    rw [hm]
    exact Or.inr ⟨rfl, List.getLast?_concat, by simp [List.count_append, h1], by simp [List.count_append, h2]⟩

/-- The host file system is a parameter of the model (`env.host`).  Replacing it by any other host
    changes nothing: neither the results, nor the events, nor the outcome. -/
theorem C09_host_irrelevant (T : Tables) (nested : List Str) (env : Env) (h' : Str → Option (Option (List Nat)))
    (lim : Limits) (cwd base : Str) (a : SevenZ) (c : Consumer) (habs : isAbs base = true) (hnorm : normpath base = base) :
    run7z T nested (withHost env h') lim cwd base a c = run7z T nested env lim cwd base a c := by
  unfold run7z run7zWith
  have hskip : shouldSkip T nested (withHost env h') = shouldSkip T nested env := rfl
  have hrb : readBack (withHost env h') lim cwd base = readBack env lim cwd base := by
    funext fs f; exact readBack_host env h' lim cwd base fs f habs hnorm
  rw [hskip, hrb]
  simp only [extractAllFull_host env h' cwd base _ _ _ _ _ _ habs hnorm]

/-- two environments that agree on the interpreter (`lower`, `mime`, member extractors) but have
    arbitrary, different host file systems give the same run -/
theorem C09_results_function_of_archive (T : Tables) (nested : List Str) (env₁ env₂ : Env)
    (hl : env₁.lower = env₂.lower) (hm : env₁.mime = env₂.mime) (hn : env₁.nres = env₂.nres)
    (lim : Limits) (cwd base : Str) (a : SevenZ) (c : Consumer) (habs : isAbs base = true) (hnorm : normpath base = base) :
    run7z T nested env₁ lim cwd base a c = run7z T nested env₂ lim cwd base a c := by
  have : env₁ = withHost env₂ env₁.host := by
    cases env₁; cases env₂; simp only [withHost] at *; subst hl hm hn; rfl
  rw [this]
  exact C09_host_irrelevant T nested env₂ _ lim cwd base a c habs hnorm

/-- ZIP and TAR members are read in memory: the model of those loops has no file-system event to emit
    and never looks at the host -/
theorem C09_zip_tar_host_irrelevant (T : Tables) (nested : List Str) (env : Env) (h' : Str → Option (Option (List Nat)))
    (lim : Limits) (zs : List ZipMember) (ts : List TarMember) :
    zipRun (shouldSkip T nested (withHost env h')) (withHost env h') lim zs = zipRun (shouldSkip T nested env) env lim zs ∧
    tarRun (shouldSkip T nested (withHost env h')) (withHost env h') lim ts = tarRun (shouldSkip T nested env) env lim ts := by
  -- the loops see `env` through the skip rule and through what a member yields; neither looks at the host
  simp only [zipRun, zipProcess_eq, tarRun_eq]
  exact ⟨rfl, rfl⟩

/-- a member the skip rule lets through is not hidden, not a resource fork, of a supported type, not a
    nested archive by extension, and does not route back to the archive extractor -/
theorem C09_skip (T : Tables) (nested : List Str) (env : Env) (filename bname : Str)
    (h : shouldSkip T nested env filename bname = false) :
    hidden filename bname = false ∧ bname.head? ≠ some '.' ∧ macosxPrefix.isPrefixOf filename = false ∧
    isSupported T (env.lower bname) (env.mime (env.lower bname)) = true ∧
    nestedByExt nested (env.lower bname) = false ∧ routesToArchive T env (env.lower bname) = false := by
  unfold shouldSkip at h
  simp only [Bool.or_eq_false_iff, Bool.not_eq_false'] at h
  obtain ⟨⟨⟨h1, h2⟩, h3⟩, h4⟩ := h
  refine ⟨h1, ?_, ?_, h2, h3, h4⟩
  · unfold hidden at h1
    simp only [Bool.or_eq_false_iff, beq_eq_false_iff_ne] at h1
    exact h1.1
  · unfold hidden at h1
    simp only [Bool.or_eq_false_iff] at h1
    exact h1.2

/-- ZIP: every result comes from a member that is a regular entry, not encrypted, passed the skip rule
    (so: not hidden / resource fork / unsupported / nested archive), whose declared size is within
    `max_memory_size` and whose bytes are within `MAX_ARCHIVE_FILE_SIZE`; its bytes are the member's. -/
theorem C09_zip_results (T : Tables) (nested : List Str) (env : Env) (lim : Limits) (ms : List ZipMember) :
    ∀ r ∈ (zipRun (shouldSkip T nested env) env lim ms).1, ∃ m ∈ ms, r.1 = m.filename ∧ m.read = some r.2 ∧
      m.isDir = false ∧ shouldSkip T nested env m.filename (basename m.filename) = false ∧
      m.fileSize ≤ lim.maxMemory ∧ r.2.length ≤ lim.maxEntry := by
  unfold zipRun
  split
  · simp
  · rename_i sel hsel
    intro r hr
    rw [zipProcess_eq, zipSelect_ok hsel] at hr
    obtain ⟨m, hm, h1, h2, h3⟩ := mem_flatMap_yields hr
    obtain ⟨hm, hg⟩ := List.mem_filter.mp ((List.takeWhile_prefix _).subset hm)
    simp only [Bool.and_eq_true, Bool.not_eq_true'] at hg
    exact ⟨m, hm, h1, h2, hg.1, hg.2, h3⟩

/-- TAR: the same, and only regular files (no directory, symbolic or hard link, device, fifo) -/
theorem C09_tar_results (T : Tables) (nested : List Str) (env : Env) (lim : Limits) (ms : List TarMember) :
    ∀ r ∈ tarRun (shouldSkip T nested env) env lim ms, ∃ m ∈ ms, r.1 = m.name ∧ m.read = some r.2 ∧
      m.isReg = true ∧ shouldSkip T nested env m.name (basename m.name) = false ∧
      m.size ≤ lim.maxMemory ∧ r.2.length ≤ lim.maxEntry := by
  intro r hr
  rw [tarRun_eq] at hr
  obtain ⟨m, hm, h1, h2, h3⟩ := mem_flatMap_yields hr
  obtain ⟨hm, hg⟩ := List.mem_filter.mp hm
  simp only [Bool.and_eq_true, Bool.not_eq_true'] at hg
  exact ⟨m, hm, h1, h2, hg.1, hg.2, h3⟩

/-- 7z: every result comes from a listed non-directory entry that passed the skip rule and the size
    check, and its bytes are bytes `extractall` wrote inside the private directory under the path
    `_safe_join` gives for that entry (never bytes of the host). -/
theorem C09_7z_results (T : Tables) (nested : List Str) (env : Env) (lim : Limits) (cwd base : Str) (a : SevenZ) (c : Consumer) :
    ∀ r ∈ (run7z T nested env lim cwd base a c).res, ∃ f ∈ buildFiles a.entries a.fileSizes a.emptyFiles,
      r.1 = f.filename ∧ f.isDirectory = false ∧ shouldSkip T nested env f.filename (basename f.filename) = false ∧
      f.uncompressed ≤ lim.maxMemory ∧ r.2.length ≤ lim.maxEntry ∧
      ∃ p fs, safeJoin cwd base f.filename = .ok p ∧ nodeAt env base fs p = some (.file r.2) := by
  intro r hr
  obtain ⟨nf, hnf, h1, hl, p, hp, hd⟩ := run7z_res_mem T nested env lim cwd base a c r hr
  obtain ⟨hf, g1, g2, g3⟩ := mem_select7z hnf
  exact ⟨nf.2, List.mem_of_getElem? hf, h1, g1, g2, g3, hl, p, _, hp, hd⟩

/-- If `confined cfg t` then every event of `t` is harmless: `mkdtemp` under the temp root;
    writes, mkdirs, removals only on absolute paths lexically inside a private directory the trace
    itself created; reads additionally inside the read-only installation prefixes; nothing else
    (rename, symlink, link, chmod, subprocess, … are rejected). -/
theorem confined_sound (cfg : Cfg) (t : List FsEvent) (h : confined cfg t = true) :
    ∀ e ∈ t, FsOk cfg (dirsOf t) e := by
  have := (confinedFrom_sound cfg [] t h).1
  simpa using this

/-- … and every private directory created in the trace is removed later in the trace, with the
    removal observed to have succeeded. -/
theorem confined_cleanup (cfg : Cfg) (pre suf : List FsEvent) (d : Str)
    (h : confined cfg (pre ++ FsEvent.mkdtemp d :: suf) = true) : FsEvent.rmtree d true ∈ suf := by
  obtain ⟨live', hl⟩ := confinedFrom_suffix cfg [] pre _ h
  simp only [confinedFrom] at hl
  split at hl
  · cases hl
  · rename_i live'' hs
    -- an accepted `mkdtemp d` puts `d` at the head of the live set (`⟨⟩` substitutes it)
    obtain ⟨_, ⟨⟩⟩ := Option.ite_none_right_eq_some.mp hs
    exact (confinedFrom_sound cfg _ suf hl).2 d List.mem_cons_self

example : confined ⟨"/tmp".toList, ["/venv".toList]⟩
    [.mkdtemp sampleBase, .mkdir (sampleBase ++ "/d".toList), .openW (sampleBase ++ "/d/a.txt".toList),
     .openR "/venv/lib/x.py".toList, .openR (sampleBase ++ "/d/a.txt".toList), .rmtree sampleBase true] = true := by decide_chars sampleBase
example : confined ⟨"/tmp".toList, ["/venv".toList]⟩
    [.mkdtemp sampleBase, .openR "/etc/passwd".toList, .rmtree sampleBase true] = false := by decide_chars sampleBase
example : confined ⟨"/tmp".toList, ["/venv".toList]⟩
    [.mkdtemp sampleBase, .openR (sampleBase ++ "/../x".toList), .rmtree sampleBase true] = false := by decide_chars sampleBase
example : confined ⟨"/tmp".toList, []⟩ [.mkdtemp sampleBase, .openW (sampleBase ++ "/a".toList)] = false := by decide_chars sampleBase

private theorem mid_accepted (cfg : Cfg) (base : Str) (mid : List Ev) (rest : List FsEvent) (h : ∀ e ∈ mid, EvIn base e) :
    confinedFrom cfg [base] (mid.map Ev.toFs ++ rest) = confinedFrom cfg [base] rest := by
  induction mid with
  | nil => rfl
  | cons e r ih =>
    have he := h e (by simp)
    have hlive : ∀ p, isAbs p = true ∧ Inside base p → inLive [base] p = true := by
      intro p hp
      unfold inLive
      simp [hp.1, within_of_inside hp.2]
    simp only [List.map_cons, List.cons_append, confinedFrom]
    have ih := ih (fun e' h' => h e' (List.mem_cons_of_mem _ h'))
    cases e with
    | mkdtemp p | rmtree p => exact he.elim
    | mkdir p | write p => simp only [Ev.toFs, stepOk, hlive p he, if_true]; exact ih
    | probe p | read p => simp only [Ev.toFs, stepOk, hlive p he, Bool.true_or, if_true]; exact ih

/-- The model's own trace is accepted by the acceptor the real traces are fed to (same vocabulary, same
    verdict): for every archive and consumer, provided `base` is what `mkdtemp` may return under the
    configured temp root. -/
theorem C09_model_trace_accepted (cfg : Cfg) (T : Tables) (nested : List Str) (env : Env) (lim : Limits) (cwd base : Str)
    (a : SevenZ) (c : Consumer) (habs : isAbs base = true) (hnorm : normpath base = base)
    (hroot : stepOk cfg [] (.mkdtemp base) = some [base]) :
    confined cfg ((run7z T nested env lim cwd base a c).evs.map Ev.toFs) = true := by
  rcases C09_7z_trace T nested env lim cwd base a c habs hnorm with ⟨_, h0, _⟩ | ⟨mid, hm, hall⟩
  · rw [h0]; rfl
  · rw [hm]
    simp only [List.map_append, List.map_cons, List.map_nil, Ev.toFs, confined, List.cons_append, List.nil_append, confinedFrom, hroot]
    rw [mid_accepted cfg base mid _ hall]
    simp [confinedFrom, stepOk]

example : stepOk ⟨"/tmp".toList, []⟩ [] (.mkdtemp sampleBase) = some [sampleBase] := by decide_chars sampleBase

/-- interpreter stand-in for the closed examples: ASCII names are already lower case, no MIME database,
    every supported member yields one result -/
def demoEnv (host : Str → Option (Option (List Nat))) : Env :=
  { lower := id, mime := fun _ => none, nres := fun _ _ => 1, host := host }

def hostWith (p : Str) (d : List Nat) : Str → Option (Option (List Nat)) := fun q => if q = p then some (some d) else none

/-- hostile 7z: one stream-bearing file and one entry listed beyond the streams, named like a host file -/
def orphanArchive : SevenZ :=
  { entries := [⟨"a.txt".toList, false, false⟩, ⟨"/etc/secret.txt".toList, false, false⟩],
    fileSizes := [2], emptyFiles := [], folders := [1], folderData := [some [104, 105]] }

def genLimits : Limits := S2T.Gen.Archive.limits

/-- UNREPAIRED source (`os.path.join(temp_dir, filename)`): the read-back loop opens the host file
    `/etc/secret.txt` and its bytes come out as a result — the full statement is false there. -/
theorem C09_reads_confined_old_counterexample :
    let t := run7zOld S2T.Gen.Router.tables S2T.Gen.Archive.nested (demoEnv (hostWith "/etc/secret.txt".toList [83, 69, 67])) genLimits
      "/work".toList sampleBase orphanArchive .exhaust
    Ev.read "/etc/secret.txt".toList ∈ t.evs ∧ ("/etc/secret.txt".toList, [83, 69, 67]) ∈ t.res := by
  decide_chars S2T.Gen.Router.tables S2T.Gen.Router.registry S2T.Gen.Router.aliases S2T.Gen.Router.compound
    S2T.Gen.Router.supported S2T.Gen.Router.mimeMap S2T.Gen.Archive.nested sampleBase orphanArchive

/-- … and the results of the unrepaired model depend on the host -/
theorem C09_results_host_dependent_old :
    (run7zOld S2T.Gen.Router.tables S2T.Gen.Archive.nested (demoEnv (hostWith "/etc/secret.txt".toList [83, 69, 67])) genLimits
      "/work".toList sampleBase orphanArchive .exhaust).res ≠
    (run7zOld S2T.Gen.Router.tables S2T.Gen.Archive.nested (demoEnv (fun _ => none)) genLimits
      "/work".toList sampleBase orphanArchive .exhaust).res := by
  decide_chars S2T.Gen.Router.tables S2T.Gen.Router.registry S2T.Gen.Router.aliases S2T.Gen.Router.compound
    S2T.Gen.Router.supported S2T.Gen.Router.mimeMap S2T.Gen.Archive.nested sampleBase orphanArchive

/-- the repaired model on the same archive and host: one result, from the archive's own bytes -/
example :
    (run7z S2T.Gen.Router.tables S2T.Gen.Archive.nested (demoEnv (hostWith "/etc/secret.txt".toList [83, 69, 67])) genLimits
      "/work".toList sampleBase orphanArchive .exhaust).res = [("a.txt".toList, [104, 105])] := by
  decide_chars S2T.Gen.Router.tables S2T.Gen.Router.registry S2T.Gen.Router.aliases S2T.Gen.Router.compound
    S2T.Gen.Router.supported S2T.Gen.Router.mimeMap S2T.Gen.Archive.nested sampleBase orphanArchive

/-- non-trivial instance of `C09_7z_trace`: a member in a sub-directory, consumer closes after one result -/
example :
    (run7z S2T.Gen.Router.tables S2T.Gen.Archive.nested (demoEnv (fun _ => none)) genLimits "/work".toList sampleBase
      { entries := [⟨"d/a.txt".toList, false, false⟩, ⟨"b.txt".toList, false, false⟩], fileSizes := [1, 1], emptyFiles := [], folders := [2],
        folderData := [some [65, 66]] } (.closeAfter 1)).evs =
    [.mkdtemp sampleBase, .mkdir (sampleBase ++ "/d".toList), .write (sampleBase ++ "/d/a.txt".toList),
     .write (sampleBase ++ "/b.txt".toList), .probe (sampleBase ++ "/d/a.txt".toList), .read (sampleBase ++ "/d/a.txt".toList),
     .rmtree sampleBase] := by
  decide_chars S2T.Gen.Router.tables S2T.Gen.Router.registry S2T.Gen.Router.aliases S2T.Gen.Router.compound
    S2T.Gen.Router.supported S2T.Gen.Router.mimeMap S2T.Gen.Archive.nested sampleBase

/-- empty-stream entries: `d` is a directory (not created: nothing is stored under it), `d/e.txt` is an
    empty file (PROP_EMPTY_FILE flag set): written by the empty-file loop of `extractall`, read back, one result -/
example :
    let t := run7z S2T.Gen.Router.tables S2T.Gen.Archive.nested (demoEnv (fun _ => none)) genLimits "/work".toList sampleBase
      { entries := [⟨"d".toList, true, false⟩, ⟨"d/e.txt".toList, true, false⟩, ⟨"a.txt".toList, false, false⟩],
        fileSizes := [1], emptyFiles := [false, true], folders := [1], folderData := [some [65]] } .exhaust
    t.evs = [.mkdtemp sampleBase, .write (sampleBase ++ "/a.txt".toList), .mkdir (sampleBase ++ "/d".toList),
      .write (sampleBase ++ "/d/e.txt".toList), .probe (sampleBase ++ "/d/e.txt".toList), .read (sampleBase ++ "/d/e.txt".toList),
      .probe (sampleBase ++ "/a.txt".toList), .read (sampleBase ++ "/a.txt".toList), .rmtree sampleBase] ∧
    t.res = [("d/e.txt".toList, []), ("a.txt".toList, [65])] := by
  decide_chars S2T.Gen.Router.tables S2T.Gen.Router.registry S2T.Gen.Router.aliases S2T.Gen.Router.compound
    S2T.Gen.Router.supported S2T.Gen.Router.mimeMap S2T.Gen.Archive.nested sampleBase

/-- only the members that passed the filters are written: the unsupported file `a` is stepped over (so it does
    not block the directory `a/`), the member behind it is written from its own offset and read back -/
example :
    let t := run7z S2T.Gen.Router.tables S2T.Gen.Archive.nested (demoEnv (fun _ => none)) genLimits "/work".toList sampleBase
      { entries := [⟨"a".toList, false, false⟩, ⟨"a/b.txt".toList, false, false⟩, ⟨"../x.bin".toList, false, false⟩],
        fileSizes := [1, 2, 1], emptyFiles := [], folders := [3], folderData := [some [65, 66, 67, 68]] } .exhaust
    t.evs = [.mkdtemp sampleBase, .mkdir (sampleBase ++ "/a".toList), .write (sampleBase ++ "/a/b.txt".toList),
      .probe (sampleBase ++ "/a/b.txt".toList), .read (sampleBase ++ "/a/b.txt".toList), .rmtree sampleBase] ∧
    t.res = [("a/b.txt".toList, [66, 67])] ∧ t.out = .finished := by
  decide_chars S2T.Gen.Router.tables S2T.Gen.Router.registry S2T.Gen.Router.aliases S2T.Gen.Router.compound
    S2T.Gen.Router.supported S2T.Gen.Router.mimeMap S2T.Gen.Archive.nested sampleBase

/-- UNREPAIRED skip rule: `inner.gz` is routed to `read_archive` by the router (alias gz ↦ tgz) but is
    not in `NESTED_ARCHIVE_EXTENSIONS`, so a nested archive is unpacked — false full statement. -/
theorem C09_skip_old_counterexample :
    shouldSkipOld S2T.Gen.Router.tables S2T.Gen.Archive.nested (demoEnv (fun _ => none)) "inner.gz".toList "inner.gz".toList = false ∧
    routesToArchive S2T.Gen.Router.tables (demoEnv (fun _ => none)) "inner.gz".toList = true := by
  decide_chars S2T.Gen.Router.tables S2T.Gen.Router.registry S2T.Gen.Router.aliases S2T.Gen.Router.compound
    S2T.Gen.Router.supported S2T.Gen.Router.mimeMap S2T.Gen.Archive.nested

/-- the repaired rule skips it; a plain text member is kept -/
example : shouldSkip S2T.Gen.Router.tables S2T.Gen.Archive.nested (demoEnv (fun _ => none)) "inner.gz".toList "inner.gz".toList = true ∧
    shouldSkip S2T.Gen.Router.tables S2T.Gen.Archive.nested (demoEnv (fun _ => none)) "d/a.txt".toList "a.txt".toList = false := by
  decide_chars S2T.Gen.Router.tables S2T.Gen.Router.registry S2T.Gen.Router.aliases S2T.Gen.Router.compound
    S2T.Gen.Router.supported S2T.Gen.Router.mimeMap S2T.Gen.Archive.nested

/-- every extension of `NESTED_ARCHIVE_EXTENSIONS` is also recognised by the router rule (the old
    table is subsumed by the new clause on the current tables) -/
theorem nested_table_subsumed :
    S2T.Gen.Archive.nested.all (fun e =>
      routesToArchive S2T.Gen.Router.tables (demoEnv (fun _ => none)) ('x' :: e)) = true := by
  decide_chars S2T.Gen.Router.tables S2T.Gen.Router.registry S2T.Gen.Router.aliases S2T.Gen.Router.compound
    S2T.Gen.Router.supported S2T.Gen.Router.mimeMap S2T.Gen.Archive.nested

/-! `Props/C09_Src.lean` proves the `_safe_join` re-translated from `util/sevenzip.py` on every run
equal to the model's `safeJoin`; composed with `C09_safe_join`, confinement is a statement about the
function **as the source has it now**, for every host (`cwd`), every normalised absolute base and every
member name: what it returns lies under the base, component by component, and whatever it raises is
`Bad7zFile`. -/
section src
open S2T.Py S2T.Gen.PySevenZip S2T.C09.Src

/-- **C09 at the source level (`_safe_join` confines).** -/
theorem C09_src_safe_join (env : Py.Env) (base rel : Py.Str) (habs : isAbs base = true)
    (hnorm : normpath base = base) :
    (∀ p, _safe_join env base rel = .ok p →
        isAbs p = true ∧ ∃ s, comps p = comps base ++ s ∧
          ∀ c ∈ s, c ≠ [] ∧ c ≠ dot ∧ c ≠ dotdot ∧ '/' ∉ c) ∧
    (∀ e, _safe_join env base rel = .error e → e.cls = "Bad7zFile") := by
  rw [safe_join_eq]
  cases hj : safeJoin env.cwd base rel with
  | ok q => exact ⟨fun p hp => by cases hp; exact C09_safe_join env.cwd base rel q habs hnorm hj, nofun⟩
  | error x => exact ⟨nofun, fun e he => by cases he; rfl⟩

example : isAbs "/tmp/x".toList = true ∧ normpath "/tmp/x".toList = "/tmp/x".toList := by decide_chars
example : _safe_join ⟨id, fun _ => (none, none), "/w".toList⟩ "/tmp/x".toList "a/b.txt".toList
    = .ok "/tmp/x/a/b.txt".toList := by
  rw [safe_join_eq]
  have h : safeJoin "/w".toList "/tmp/x".toList "a/b.txt".toList = .ok "/tmp/x/a/b.txt".toList := by decide_chars
  -- `show` evaluates the field `cwd` of the environment literal, so that `rw [h]` finds the left side of `h`
  show Except.mapError excOf (safeJoin "/w".toList "/tmp/x".toList "a/b.txt".toList) = _
  rw [h]; rfl
example : ∃ e, _safe_join ⟨id, fun _ => (none, none), "/w".toList⟩ "/tmp/x".toList "a/../../b.txt".toList
    = .error e := by
  rw [safe_join_eq]
  have h : safeJoin "/w".toList "/tmp/x".toList "a/../../b.txt".toList = .error .unsafePath := by decide_chars
  show ∃ e, Except.mapError excOf (safeJoin "/w".toList "/tmp/x".toList "a/../../b.txt".toList) = .error e
  rw [h]; exact ⟨_, rfl⟩
end src

end S2T.C09
