import S2T.Lemmas.History
import S2T.Spec.C06Cells
import S2T.Gen.ModState
import S2T.Lemmas.StrTable
/-!
# C06 (history) — the result of an extraction does not depend on earlier extractions in the process

`run : Store → Doc → Out × Store` is an extraction with the process-global state made explicit.
The general theorems say under which conditions the `Store` is unobservable; the `*_reviewed` /
`module_state_sealed` theorems re-decide on the CURRENT source that every use of a module- or
class-level mutable container which is not a plain read — a write, an **alias**, an escape through
return / argument / default value — is one of the reviewed ones of `S2T.Spec.C06Cells`.
-/
namespace S2T.C06History
open S2T.History S2T.Spec.C06Cells S2T.Gen.ModState S2T.StrTable

/-- **C06 (history, constant tables)**: if no extraction changes the store, then after ANY history of
    extractions a document yields what it yields in a fresh process -/
theorem frame_history_free {σ δ ρ} (run : σ → δ → ρ × σ) (frame : ∀ g d, (run g d).2 = g)
    (g₀ : σ) (hist : List δ) (d : δ) : (run (after run g₀ hist) d).1 = (run g₀ d).1 := by
  rw [after_frame run frame]

/-- … and every document of a batch gets the output it gets alone, in whatever order the batch is processed -/
theorem frame_outputs {σ δ ρ} (run : σ → δ → ρ × σ) (frame : ∀ g d, (run g d).2 = g)
    (g₀ : σ) (ds : List δ) : outputs run g₀ ds = ds.map (fun d => (run g₀ d).1) :=
  outputs_inv run (· = g₀) (fun g d e => (frame g d).trans e) _ (fun _ _ e => e ▸ rfl) rfl ds

/-- **C06 (history, non-interference)**: extractions may write cells `W` as long as what they return only
    depends on cells `R` disjoint from `W` (scratch state, statistics, balanced patch bookkeeping) -/
theorem noninterference {κ ν δ ρ : Type} (run : (κ → ν) → δ → ρ × (κ → ν)) (R W : κ → Prop)
    (reads : ∀ g g' d, (∀ c, R c → g c = g' c) → (run g d).1 = (run g' d).1)
    (writes : ∀ g d c, ¬ W c → (run g d).2 c = g c)
    (disj : ∀ c, R c → ¬ W c) (g₀ : κ → ν) (hist : List δ) (d : δ) :
    (run (after run g₀ hist) d).1 = (run g₀ d).1 :=
  -- every history keeps the store equal to the first one on the cells that are read
  reads _ _ d (after_inv run (fun g => ∀ c, R c → g c = g₀ c)
    (fun g e hg c hc => (writes g e c (disj c hc)).trans (hg c hc)) (fun _ _ => rfl) hist)

/-- **C06 (history, caches)**: whatever keys earlier extractions asked for, and whatever was evicted, a
    memoised lookup returns the function value — the cache is unobservable -/
theorem memo_history_free {κ ν} [BEq κ] [LawfulBEq κ] (f : κ → ν) (keep : κ × ν → Bool) (hist : List κ) (k : κ) :
    (memoGet f keep (after (memoGet f keep) [] hist) k).1 = f k :=
  memoGet_fst f keep _ (after_inv _ (MemoSound f) (fun tbl k hs => memoGet_sound f keep tbl hs k) (MemoSound.nil f) hist) k

/-! a constant table consulted together with per-document declarations -/

theorem lookupOnly_history_free {κ ν} [BEq κ] (dflt : κ → ν) (g₀ : List (κ × ν)) (hist : List (Doc κ ν)) (d : Doc κ ν) :
    (lookupOnly dflt (after (lookupOnly dflt) g₀ hist) d).1 = (lookupOnly dflt g₀ d).1 :=
  frame_history_free _ (fun _ _ => rfl) g₀ hist d

/-- merging the declarations into a COPY keeps extraction history free -/
theorem overlayCopy_history_free {κ ν} [BEq κ] (dflt : κ → ν) (g₀ : List (κ × ν)) (hist : List (Doc κ ν)) (d : Doc κ ν) :
    (overlayCopy dflt (after (overlayCopy dflt) g₀ hist) d).1 = (overlayCopy dflt g₀ d).1 :=
  frame_history_free _ (fun _ _ => rfl) g₀ hist d

/-- merging them into the table itself (a per-call name that is an ALIAS of the module-level object) does
    not: a document that declares key 7 changes what a later document, which only uses key 7, gets.
    This is why the inventory lists aliases, not only writes. -/
theorem overlayAlias_history_dependent :
    ∃ (g₀ : List (Nat × Nat)) (a b : Doc Nat Nat),
      (overlayAlias (· + 1000) (after (overlayAlias (· + 1000)) g₀ [a]) b).1 ≠ (overlayAlias (· + 1000) g₀ b).1 :=
  ⟨[(1, 10)], ⟨[(7, 70)], [7]⟩, ⟨[], [7]⟩, by decide⟩

/-! The checks run on character lists (`S2T.StrTable`): string literals are costly to compare in the kernel.  The detour pays
for the larger tables only; the checks over a handful of short names decide on the `String`s directly. -/

/-- **C06 (process state sealed)**: every use of a mutable container bound at module or class level that is not a
    plain read (mutation, subscript store, alias, return, hand-over to a callee, default value, element of a
    nested table bound or passed on) is a reviewed one -/
theorem module_state_sealed :
    escapes.all (fun e => reviewedEscapes.any (fun r => r.1 == e)) = true := by
  simp only [any_beq]
  rw [all_contains_map chars4_inj]
  simp -index only [escapes, reviewedEscapes, List.map_cons, List.map_nil, Prod.map_apply, String.toList_ofList]
  decide +kernel

theorem no_mutable_defaults : mutableDefaults = [] := by decide

theorem rebinds_reviewed : rebinds.all reviewedRebinds.contains = true := by
  rw [all_contains_map chars3_inj]
  simp -index only [rebinds, reviewedRebinds, List.map_cons, List.map_nil, Prod.map_apply, String.toList_ofList]
  decide +kernel

theorem memos_reviewed : memos.all reviewedMemos.contains = true := by
  rw [all_contains_map chars3_inj]
  simp -index only [memos, reviewedMemos, List.map_cons, List.map_nil, Prod.map_apply, String.toList_ofList]
  decide +kernel

theorem attr_stores_reviewed : attrStores.all reviewedAttrStores.contains = true := by
  rw [all_contains_map chars3_inj]
  simp -index only [attrStores, reviewedAttrStores, List.map_cons, List.map_nil, Prod.map_apply, String.toList_ofList]
  decide +kernel

theorem modstate_translation_clean : notes = [] := by decide

/-- every cell the frame check lets change is a reviewed written cell / memo, and is a real cell or memoised
    function of the current source -/
theorem volatile_cells_exist :
    volatileCells.all (fun c => mutables.any (fun m => m.2.1 == c) || rebinds.any (fun r => r.2.2 == c)
      || memos.any (fun m => m.2.1 == c)) = true := by decide +kernel

example : (memoGet (· * 2) (fun _ => true) [(3, 6)] 3).1 = 6 ∧ (memoGet (· * 2) (fun _ => false) [(3, 6)] 4) = (8, [(4, 8)]) := by decide
example : MemoSound (· * 2) [(3, 6), (4, 8)] := by intro kv h; simp at h; rcases h with rfl | rfl <;> rfl
example : (overlayCopy (· + 1000) [(1, 10)] ⟨[(7, 70)], [7, 1, 2]⟩).1 = [70, 10, 1002] := by decide
example : (overlayAlias (· + 1000) [(1, 10)] ⟨[(7, 70), (1, 11)], [7]⟩).2 = [(1, 10), (7, 70)] := by decide
example : mutables.length ≥ 10 ∧ escapes.length ≥ 1 ∧ memos.length ≥ 1 ∧ volatileCells.length ≥ 3 := by decide

end S2T.C06History
