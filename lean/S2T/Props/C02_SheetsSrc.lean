import S2T.Lemmas.PySheetsXlsx
import S2T.Props.C13_Src
import S2T.Gen.PyXlsxSheet
import S2T.Gen.C02Sheets
/-!
# C02 'sheets' (source tie) — the translated `_format_sheet_as_text` IS the hand model `Xlsx.formatSheet`

`S2T.Gen.PyXlsxSheet._format_sheet_as_text` is regenerated from the current text of `xlsx_extractor.py` on every run
(`tools/gen/pyfun_sheets.py`): `max(len(row) for …)`, `[0] * num_cols`, the row loop with its comprehension over
`range(num_cols)` (padding with `None`), the width loop over `enumerate(…)` with the in-place store
`col_widths[i] = len(val)`, and the nested `"\n".join(" ".join(val.rjust(col_widths[i]) …) …)`.

`format_sheet_as_text_eq`: for every list of rows (any lengths, ragged) and every behaviour of
`_format_value_for_display` (parameter `env.formatValue`, may raise) that answers `""` for `None` (what the generator
`C02Sheets` checks on the real function), the translated function formats the cells row by row, left to right (the
first exception is the function's), and returns `Xlsx.formatSheet Gen.C02Sheets.xlsx` of the display strings — the
function all `xlsx_*` theorems of `Props/C02_Sheets.lean` are about.  The guarded `row[i]`, `col_widths[i]` reads and the
store never raise `IndexError`: inside the equation.

ODS: `ods_sheet_text` — `OdsSheet.text` of the translated `_extract_sheet` (read off the equation `C13.Src.extract_sheet_spec`
by `C13.Src.extract_sheet_data`) is the C02 text model `Ods.textOfRows Gen.C02Sheets.ods` of the display texts of the raw rows
(trailing rows / columns without data trimmed, the non-empty texts of a row joined by the generated cell separator, the
lines by the line separator), provided `_extract_cell_value` answers `None` exactly with an empty display text
(`CellValueOk`: the C02 model reads "no data" off the display text, the source off the typed value).
-/
-- the translated text follows the source: a simp argument one version of it needs is idle for another
set_option linter.unusedSimpArgs false
namespace S2T.C02.SheetsSrc
open S2T.Py S2T.Py.Sheets S2T.Py.Sheets.XlsxSpec S2T.Tables S2T.Gen.PyXlsxSheet
open S2T.C02.Sheets.Xlsx (padRow formatSheet)
open S2T.Py.Sheets.OdsSpec (PRow rawOf dispRows PairsOk)

/-- the translator understood every construct of the whitelisted functions -/
theorem gen_py_notes_empty : S2T.Gen.PyXlsxSheet.notes = [] := by decide

/-- the function this file ties is translated -/
theorem gen_py_translated : "_format_sheet_as_text" ∈ S2T.Gen.PyXlsxSheet.translated := by decide

theorem format_sheet_as_text_eq (env : XlsxEnv) (hnone : env.formatValue Val.none = Except.ok []) (rows : VGrid) :
    _format_sheet_as_text env rows =
      rows.mapM (·.mapM env.formatValue) >>= fun disp => pure (formatSheet S2T.Gen.C02Sheets.xlsx disp) := by
  unfold _format_sheet_as_text
  simp +instances only [M.pure_def, bind_pure_comp, pure_bind, bind_assoc, M.ok_bind]
  by_cases h0 : rows = []
  · subst h0; rfl
  simp only [truthy_ne_nil h0, Bool.not_true, Bool.false_eq_true, if_false, maxOf_lens rows h0, M.ok_bind]
  -- `[0] * num_cols`
  rw [show repeatList [(0 : Int)] ((numCols rows : Nat) : Int) = List.replicate (numCols rows) 0 by simp [repeatList]]
  generalize hn : numCols rows = n
  -- the row loop: format the row (effects), widen the column widths (pure on widths of length n)
  -- (the loop state in the model's order `(col_widths, formatted_rows)` or the other way round)
  have rowLoop {σ} (e : List Int × List (List Py.Str) → σ) := forIn_mapM_fold_inv e (fun s => s.1.length = n)
    (fun row => row.mapM env.formatValue >>= fun d => Except.ok (padRow n d)) (fun s fr => (widen s.1 fr, s.2 ++ [fr])) rows
  first
    | rw [rowLoop (fun t => t)]
    | rw [rowLoop (fun t => (t.2, t.1)) (m := (List.replicate n 0, []))]
  rotate_left
  -- the loop body is the model's step, on widths of length `n`
  · intro row hrow s hs
    have hle : row.length ≤ n := hn ▸ le_numCols rows row hrow
    rw [fmt_row_eq env hnone n row hle]
    rotate_left
    · intro i
      rw [apply_ite (· >>= env.formatValue), guarded_getItem]
      cases row[i]? <;> rfl
    simp only [bind_assoc, M.ok_bind]
    refine bind_congr_ok (fun d hd => ?_)
    have hlen : (padRow n d).length ≤ s.1.length := by
      have := mapM_length hd
      simp [padRow, hs]; omega
    rw [forIn_widen (padRow n d) _ _ s.1 hlen]
    · rfl
    · intro i v cw hi
      rw [listGetItem_natCast _ _ hi]
      simp only [M.ok_bind]
      by_cases hgt : len v > cw[i]
      · simp [hgt, setItem_natCast _ _ hi]
      · simp [hgt]
  -- a step keeps the length of the widths
  · intro row _ s y hs _
    simp [widen_length, hs]
  -- which is `n` at the start
  · simp
  rw [mapM_then_map]
  simp only [bind_assoc, M.ok_bind]
  refine bind_congr_ok (fun disp hd => ?_)
  have hlens := mapM_mapM_lengths hd
  have hn' : numCols disp = n := by rw [numCols_of_lengths disp rows hlens, hn]
  rw [foldl_widen_pairs]
  simp only [List.nil_append]
  generalize hfrs : disp.map (padRow n) = frs
  have hrowlen : ∀ row ∈ frs, row.length = n := by
    intro row hrow
    rw [← hfrs] at hrow
    obtain ⟨d, hdm, rfl⟩ := List.mem_map.mp hrow
    have : d.length ≤ n := hn' ▸ le_numCols disp d hdm
    simp [padRow]; omega
  rw [mapM_ok (fun row => strJoin " ".toList (row.zipIdx.map (fun vi => S2T.Rtf.rjust (S2T.Rtf.colWidth frs vi.2) vi.1)))]
  rotate_left
  · intro row hrow
    rw [mapM_ok (fun x => rjust x.2 ((S2T.Rtf.colWidth frs x.1.toNat : Nat) : Int))]
    · simp only [M.ok_bind, map_enumerate_zipIdx, rjust, Int.toNat_natCast]
    · intro x hx
      obtain ⟨j, hj, hrj⟩ := mem_enumerate hx
      have hjn : j < n := hrowlen row hrow ▸ (List.getElem?_eq_some_iff.mp hrj).1
      obtain ⟨hlt, hw⟩ := List.getElem?_eq_some_iff.mp (widths_getElem frs n j hjn)
      rw [hj, listGetItem_natCast _ _ hlt]
      simp [hw]
  -- `formatSheet` spells `numCols disp` out, over rows of `Tok.Str`
  have hn'' : List.foldl (fun m (r : List Tok.Str) => max m r.length) 0 disp = n := hn'
  simp only [M.ok_bind, formatSheet, hn'', hfrs, strJoin_eq_join]
  rfl

/-- the hypothesis is satisfiable, and the function really formats: two ragged rows -/
example : _format_sheet_as_text ⟨fun _ => [], fun v => match v with | .str s => pure s | _ => pure []⟩
    [[.str "ab".toList, .none], [.str "c".toList, .str "d".toList, .str "e".toList]]
    = .ok "ab    \n c d e".toList := by decide +kernel

/-- outside the hypothesis (a display function that shows `None` as text) the padding cells are not empty: the hand
    model pads with `""` -/
theorem format_none_counterexample :
    _format_sheet_as_text ⟨fun _ => [], fun v => match v with | .str s => pure s | _ => pure "-".toList⟩
      [[.str "a".toList], [.str "b".toList, .str "c".toList]] = .ok "a -\nb c".toList
    ∧ formatSheet S2T.Gen.C02Sheets.xlsx [["a".toList], ["b".toList, "c".toList]] = "a  \nb c".toList := by
  constructor <;> decide +kernel

/-- `_extract_cell_value` answers `None` exactly with an empty display text -/
def CellValueOk (env : OdsEnv) : Prop :=
  ∀ cell v, env.extractCellValue cell = Except.ok v → (v.1 = Val.none ↔ v.2 = [])

example : CellValueOk { S2T.C13.Src.exEnv with
    extractCellValue := fun c => pure (if c.text = [] then (Val.none, []) else (Val.str c.text, c.text)) } := by
  intro cell v h
  simp only [M.pure_def, Except.ok.injEq] at h
  subst h
  by_cases ht : cell.text = [] <;> simp [ht]

/-- **C02 source tie (ODS text).**  The text of a returned sheet is the C02 model's `textOfRows` of the display rows -/
theorem ods_sheet_text (env : OdsEnv) (hcv : CellValueOk env) (ctx : OdsCtx) (table : Node) (n ic : Int)
    (sheet : OdsSheet) (k : Int) (h : S2T.Gen.PyOdsSheet._extract_sheet env ctx table n ic = .ok (sheet, k)) :
    ∃ rows, S2T.C13.Src.odsParse env table = .ok rows ∧
      sheet.text = S2T.C02.Sheets.Ods.textOfRows S2T.Gen.C02Sheets.ods (dispRows (rawOf S2T.Gen.Tables.odsCaps rows)) := by
  obtain ⟨rows, hp, _, _, ht⟩ := S2T.C13.Src.extract_sheet_data env ctx table n ic sheet k h
  refine ⟨rows, hp, ht ▸ ?_⟩
  have hvals := S2T.Py.Sheets.OdsSpec.parseRows_values env _ _ _ _ table rows hp
  exact S2T.Py.Sheets.OdsSpec.textOf_eq S2T.Gen.C02Sheets.ods rfl rfl _ rows
    (S2T.Py.Sheets.OdsSpec.pairsOk_rawOf _ rows fun r hr c hc => (hvals r hr c hc).elim fun cell hcell => hcv cell _ hcell)

end S2T.C02.SheetsSrc
