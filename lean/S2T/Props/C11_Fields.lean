import S2T.Props.C11_Src
/-!
# C11 (fields) — a *directory entry* is a record whose NAME ends with '/', and nothing else of a
central-directory record reaches the guard

`S2T.ZipBomb.CdRecord` is a whole central-directory record as `zipfile` hands it out (a `ZipInfo`):
name, the two sizes, and every other field (external attributes with the MS-DOS directory bit and
the unix mode, creating system, versions, flag bits, compression method, CRC, DOS date/time, disk
number, extra field, comment).  The guard's model `validate` works on `Entry.ofRecord r =
(file_size, compress_size, name ends with '/')`.  The theorems tie that projection to the SOURCE:
`S2T.Gen.PyZipBomb._is_directory` / `validate_zipfile` are re-translated from the current text of
`zip_bomb.py` on every run; a guard that starts to read another attribute of the `ZipInfo` does not
translate (`C11_Src.gen_py_notes_empty`) or no longer equals the name test (`is_directory_src`).

ASSUMPTION (standard library, checked on every run by the harness on every generated name and on
every forged real ZIP): `ZipInfo.is_dir()` is `self.filename.endswith('/')` (`zipInfoOf`), and
`zipfile` parses name / sizes of a central-directory record as written.
-/
namespace S2T.C11.Fields
open S2T.Py S2T.ZipBomb S2T.Gen.PyZipBomb S2T.C11.Src

/-- the `ZipInfo` the translated functions see for a record: `is_dir()` is CPython's
    `filename.endswith('/')` -/
def zipInfoOf (r : CdRecord) : ZipInfo := ⟨r.filename, r.fileSize, r.compressSize, endswith r.filename "/".toList⟩

theorem nameIsDir_iff (n : List Char) : nameIsDir n = true ↔ ∃ p, n = p ++ ['/'] := by
  simp [nameIsDir, List.getLast?_eq_some_iff]

theorem nameIsDir_eq_endswith (n : List Char) : nameIsDir n = endswith n "/".toList :=
  (Bool.beq_eq_decide_eq _ _).trans (endswith_singleton n '/').symm

/-- **the model's notion of "directory entry"**: exactly the records whose name ends with '/',
    whatever the external attributes (MS-DOS directory bit, unix mode), creating system, flags,
    method, extra, CRC, date or comment say. -/
theorem dir_is_trailing_slash (r : CdRecord) :
    (Entry.ofRecord r).isDir = true ↔ ∃ p, r.filename = p ++ ['/'] := nameIsDir_iff r.filename

/-- **tie to the source**: the translated `_is_directory` of the current `zip_bomb.py`, applied to the
    `ZipInfo` of a record, is the name test — for every value of every other field. -/
theorem is_directory_src (r : CdRecord) : _is_directory (zipInfoOf r) = nameIsDir r.filename := by
  rw [is_directory_eq, nameIsDir_eq_endswith]; rfl

/-- two records with the same name are both directories or both not (source level) -/
theorem is_directory_name_only (r r' : CdRecord) (h : r.filename = r'.filename) :
    _is_directory (zipInfoOf r) = _is_directory (zipInfoOf r') := by
  rw [is_directory_src, is_directory_src, h]

theorem entryOf_zipInfoOf (r : CdRecord) : entryOf (zipInfoOf r) = Entry.ofRecord r := by
  simp [entryOf, zipInfoOf, Entry.ofRecord, nameIsDir_eq_endswith]

/-- **the translated `validate_zipfile` on whole records is the hand model on their projections** -/
theorem validate_zipfile_records (lim : Limits) (src : Option Str) (rs : List CdRecord) (hs : FloatSafe lim) :
    validate_zipfile ⟨pure (rs.map zipInfoOf)⟩ lim src = lift id (validate lim (some (rs.map Entry.ofRecord))) := by
  rw [validate_zipfile_eq lim src _ hs, List.map_map,
    List.map_congr_left (f := entryOf ∘ zipInfoOf) fun r _ => entryOf_zipInfoOf r]

/-- what the verdict may depend on -/
def core (r : CdRecord) : Nat × Nat × Bool := (r.fileSize, r.compressSize, nameIsDir r.filename)

theorem ofRecord_core (r : CdRecord) : Entry.ofRecord r = ⟨(core r).1, (core r).2.1, (core r).2.2⟩ := rfl

/-- **C11 (no other field matters), model.** Containers whose records agree on
    (file_size, compress_size, name ends with '/') get the same verdict and the same reason. -/
theorem C11_other_fields_ignored (lim : Limits) (rs rs' : List CdRecord) (h : rs.map core = rs'.map core) :
    validate lim (some (rs.map Entry.ofRecord)) = validate lim (some (rs'.map Entry.ofRecord)) := by
  have e : ∀ l : List CdRecord, l.map Entry.ofRecord = (l.map core).map (fun c => (⟨c.1, c.2.1, c.2.2⟩ : Entry)) := by
    intro l; rw [List.map_map]; rfl
  rw [e rs, e rs', h]

/-- **C11 (no other field matters), source.** The same for the translated `validate_zipfile`. -/
theorem C11_other_fields_ignored_src (lim : Limits) (src : Option Str) (rs rs' : List CdRecord)
    (hs : FloatSafe lim) (h : rs.map core = rs'.map core) :
    validate_zipfile ⟨pure (rs.map zipInfoOf)⟩ lim src = validate_zipfile ⟨pure (rs'.map zipInfoOf)⟩ lim src := by
  rw [validate_zipfile_records lim src rs hs, validate_zipfile_records lim src rs' hs,
    C11_other_fields_ignored lim rs rs' h]

/-- a file member that carries the MS-DOS directory bit, a unix directory mode and "created on
    MS-DOS": still a file for the guard -/
def dosDirFile : CdRecord :=
  { filename := "word/document.xml".toList, fileSize := 1001, compressSize := 1001, externalAttr := 1106051088,
    -- 0x41ED0010 = (S_IFDIR|0o755) <<< 16 ||| 0x10
    internalAttr := 0, createSystem := 0, createVersion := 20, extractVersion := 20, flagBits := 0,
    compressType := 8, crc := 0, dosDate := 33, dosTime := 0, volume := 0, extra := [], comment := [] }

example : _is_directory (zipInfoOf dosDirFile) = false := by rw [is_directory_src]; decide
/-- the same member as an ordinary archiver writes it -/
def plainFile : CdRecord :=
  { dosDirFile with
    externalAttr := 0, createSystem := 3, flagBits := 2048, compressType := 0, crc := 7, extra := [1, 0, 0, 0],
    comment := [47] }
example : core dosDirFile = core plainFile := by decide
example : validate ⟨5, 10000, 1000, ⟨200, 1⟩, ⟨500, 1⟩⟩ (some ([dosDirFile].map Entry.ofRecord)) = .error .entryTooLarge := by
  decide

end S2T.C11.Fields
