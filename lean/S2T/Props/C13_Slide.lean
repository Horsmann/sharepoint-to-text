import S2T.Lemmas.TablesSlide
import S2T.Gen.Tables
import S2T.Gen.TablesSlide
/-!
# C13, slide level — which tables of a slide come back, and in which order

Statement: "… tables arrive in source order and none is lost, merged with a neighbour or
invented."

`Props/C13.lean` proves the per-table part for PPTX and ODP (`_extract_table_from_graphic_frame`,
`_extract_table` on one written table).  This file proves the slide level for the code that exists:

* PPTX `_process_slide_from_context`: first `p:spTree`; all `p:sp`, `p:pic`, `p:graphicFrame` of it at
  any depth; `_get_shape_position`; ONE stable sort by position `(y, x)`; a table per graphic frame whose
  `_extract_table_from_graphic_frame` result is truthy.
* ODP `_extract_slide`: the `draw:frame` children of the page; stable sort by
  `(_parse_odf_length_to_px(svg:y), _parse_odf_length_to_px(svg:x))`; the first `table:table` child of a
  frame; `_extract_table` result truthy.

What "source order" means here, as the code defines it and as these theorems state it: the reading order
of the slide — top to bottom, then left to right, by the written offsets; frames at the same position in
document order; frames without a position last (PPTX) / first (ODP: missing = 0).  If the frames are written
in reading order, that is document order (`…_source_order`).

A written slide is an abstract value (`Shape` / `OdpItem`): frames holding tables (with a position), other
shapes (any element without a graphic frame inside: text boxes, placeholders, pictures, connectors), groups of
shapes to any depth.  `list.sort` is assumed to be THE stable sort by key (`sortBy`, proved sorted + stable +
a permutation below).  ODP: `lenPx` (a float in the code) is a parameter into any linear order; float
rounding is not modelled.  One instance, `lenPxQ signed`, is `_parse_odf_length_to_px` in exact arithmetic; with it the
order by TRUE offsets is proved under `SignsAgree`, which holds for every page when the expression reads the sign
(`signed = true`, the value `S2T.Gen.TablesSlide.odpLengthSigned` has on the current source); a reader without the sign
takes offsets with a minus sign for 0: `C13_slide_odp_negative_counterexample`.
-/
namespace S2T.C13.Slide
open S2T.Tables S2T.Tables.Slide
open S2T.HtmlSkip (Str)

theorem gen_slide_notes_empty : S2T.Gen.TablesSlide.notes = [] := by decide
theorem gen_slide_pptx_ok : S2T.Gen.TablesSlide.pptx.ok S2T.Gen.Tables.pptx = true := by
  decide_chars SlideTags.ok PptxTags.ok PptxTags.pairs frameVocab graphicVocab pGrpSp pNvGrpSpPr pGrpSpPr pSld pCSld pGraphicFrame
    pSpTree pXfrmTag aOffTag pNvPr aExt cChart chartUri aGraphic aTblPr aTblGrid aBodyPr aTcPr aPPr aRPr pNs aNs
    S2T.Gen.TablesSlide.pptx S2T.Gen.Tables.pptx
theorem gen_slide_odp_ok : S2T.Gen.TablesSlide.odp.ok S2T.Gen.Tables.odp = true := by
  decide_chars OdpSlideTags.ok OdfTags.ok odfXT spanTag colTag officeText drawFrame svgXAttr svgYAttr textNs tableNs drawNs svgNs
    S2T.Gen.TablesSlide.odp S2T.Gen.Tables.odp
/-- the default positions of `_get_shape_position` the statements below mention -/
theorem gen_slide_defaults :
    S2T.Gen.TablesSlide.pptx.noPos = (999999999, 999999999) ∧ S2T.Gen.TablesSlide.pptx.excPos = (999999999, 999999999)
    ∧ S2T.Gen.TablesSlide.pptx.titlePos = (0, 0) ∧ S2T.Gen.TablesSlide.pptx.footerPos = (999999998, 0)
    ∧ S2T.Gen.TablesSlide.pptx.bodyBase = 1 ∧ S2T.Gen.TablesSlide.pptx.bodyX = 0 := by decide

/-- Python's `<` on `(y, x)`: top first, then left -/
theorem C13_slide_posLt (a b : Int × Int) : posLt a b = true ↔ a.1 < b.1 ∨ (a.1 = b.1 ∧ a.2 < b.2) := by
  simp [posLt, lexLt, intLt]

/-- none lost, none invented, none duplicated: the sorted list is a permutation -/
theorem C13_sort_perm {α κ : Type} (lt : κ → κ → Bool) (key : α → κ) (l : List α) : (sortBy lt key l).Perm l :=
  sortBy_perm lt key l

/-- ascending: nothing stands behind something with a larger key -/
theorem C13_sort_sorted {α κ : Type} (lt : κ → κ → Bool) (key : α → κ) (h : LinOrd lt) (l : List α) :
    (sortBy lt key l).Pairwise (fun a b => lt (key b) (key a) = false) :=
  sortBy_sorted lt key h l

/-- stable: elements none of which is `<` another (equal keys) keep their document order -/
theorem C13_sort_stable {α κ : Type} (lt : κ → κ → Bool) (key : α → κ) (h : LinOrd lt) (p : α → Bool) (l : List α)
    (hp : ∀ a b, p a = true → p b = true → lt (key a) (key b) = false) :
    (sortBy lt key l).filter p = l.filter p :=
  sortBy_stable lt key h p l hp

example : ∀ a b : Int, (a == 2) = true → (b == 2) = true → intLt a b = false := by
  intro a b ha hb
  simp_all [intLt]

/-- … for the elements at one position `k` -/
theorem C13_sort_stable_key {α κ : Type} [DecidableEq κ] (lt : κ → κ → Bool) (key : α → κ) (h : LinOrd lt) (k : κ) (l : List α) :
    (sortBy lt key l).filter (fun a => decide (key a = k)) = l.filter (fun a => decide (key a = k)) := by
  apply sortBy_stable lt key h
  intro a b ha hb
  rw [decide_eq_true_eq] at ha hb
  rw [ha, hb]
  exact h.irrefl k

/-- stable, strongest form: the other elements of the list never change the relative order of a selection -/
theorem C13_sort_filter {α κ : Type} (lt : κ → κ → Bool) (key : α → κ) (h : LinOrd lt) (p : α → Bool) (l : List α) :
    (sortBy lt key l).filter p = sortBy lt key (l.filter p) :=
  sortBy_filter lt key h p l

/-- a list written in key order is returned as written -/
theorem C13_sort_sorted_id {α κ : Type} (lt : κ → κ → Bool) (key : α → κ) (l : List α)
    (hl : l.Pairwise (fun a b => lt (key b) (key a) = false)) : sortBy lt key l = l :=
  sortBy_of_sorted lt key l hl

theorem C13_linOrd_pos : LinOrd posLt := linOrd_pos
theorem C13_linOrd_rat_pair : LinOrd (lexLt ratLt) := linOrd_rat.lex

example : LinOrd intLt := linOrd_int
example : ([3, 1, 2] : List Int).Pairwise (fun a b => intLt b a = false) → False := by decide
example : ([1, 2, 2, 3] : List Int).Pairwise (fun a b => intLt b a = false) := by decide

/-- `int(str(i)) == i` for the decimal rendering of the written offsets -/
theorem C13_slide_offset_roundtrip (i : Int) : pyInt? (decInt i) = some i := pyInt_decInt i

/-- for EVERY slide tree (well-formed or not): `p:sp` and `p:pic` elements never add, remove or reorder a
    table — `PptxSlide.tables` is determined by the graphic frames of the first shape tree alone: their
    truthy table results, the frames stably sorted by `_get_shape_position` -/
theorem C13_slide_pptx_any_tree (T : PptxTags) (S : SlideTags) (root : Node) :
    slideTables T S root =
      match (iter S.spTree root).head? with
      | none => []
      | some tree => (sortBy posLt (shapePosition S) (iter S.graphicFrame tree)).filterMap (frameGrid T) :=
  slideTables_frames T S root

/-- `_get_shape_position` on a written frame is the written position `(y, x)`; a frame written without
    `p:xfrm` gets the "no position" default -/
theorem C13_slide_pptx_position (T : PptxTags) (S : SlideTags) (hS : S.ok T = true) (f : Frame) :
    shapePosition S (f.node T S) = f.pos?.getD S.noPos :=
  shapePosition_frame T S (.of_ok hS) f

/-- … which is (999999999, 999999999) on the current source -/
theorem C13_slide_pptx_default_position (f : Frame) (h : f.pos? = none) :
    shapePosition S2T.Gen.TablesSlide.pptx (f.node S2T.Gen.Tables.pptx S2T.Gen.TablesSlide.pptx) = (999999999, 999999999) := by
  rw [shapePosition_frame _ _ (.of_ok gen_slide_pptx_ok), Frame.position, h]
  rfl

example : (Frame.table none [[[[.run ['a']]]]]).pos? = none := rfl

/-! Full statement (false on the current code for the known reason, kept visible):
  `slideTables T S (slideRoot T S shapes) = (sortBy posLt (Frame.position S) (framesL shapes)).filterMap Frame.grid`
`_extract_table_from_graphic_frame` strips every cell text: open finding `pptx.cell-outer-whitespace-stripped`
(counterexample theorem `C13_pptx_counterexample` in `Props/C13.lean`, per frame; `C13_slide_pptx_counterexample`
below, on a slide). -/

/-- PPTX, every written slide (any number of frames, text shapes, pictures, groups to any depth; tables of any
    size): what the code returns — exactly the tables with at least one row, each as its grid with stripped
    cell texts, the frames in position order `(y, x)`, ties in document order -/
theorem C13_slide_pptx_stripped (T : PptxTags) (S : SlideTags) (hS : S.ok T = true) (shapes : List Shape)
    (hc : cleanL S shapes = true) :
    slideTables T S (slideRoot T S shapes) =
      (sortBy posLt (Frame.position S) (framesL shapes)).filterMap Frame.gridStripped :=
  slide_tables T S hS shapes hc

/-- every cell text of every table frame without outer white space (the hypothesis `PptxTrimmed` of
    `C13_grid_pptx_partial`, for all tables of the slide) -/
def PptxTrimmed (fs : List Frame) : Prop :=
  ∀ pos t, Frame.table pos t ∈ fs → ∀ row ∈ t, ∀ cell ∈ row, pyStrip (pptxCellSpec cell) = pptxCellSpec cell

/-- PPTX, every written slide whose cell texts have no outer white space: the slide's tables come back with
    every cell (i, j) holding exactly the text of source cell (i, j), in position order, ties in document order,
    tables without rows dropped, nothing else lost or invented -/
theorem C13_slide_pptx_partial (T : PptxTags) (S : SlideTags) (hS : S.ok T = true) (shapes : List Shape)
    (hc : cleanL S shapes = true) (ht : PptxTrimmed (framesL shapes)) :
    slideTables T S (slideRoot T S shapes) =
      (sortBy posLt (Frame.position S) (framesL shapes)).filterMap Frame.grid := by
  rw [slide_tables T S hS shapes hc]
  refine List.filterMap_congr fun f hf => ?_
  have hm := (sortBy_perm _ _ _).mem_iff.mp hf
  cases f with
  | chart pos => rfl
  | table pos t =>
    simp only [Frame.gridStripped, Frame.grid]
    split
    · rfl
    · exact congrArg some (List.map_congr_left fun row hrow => List.map_congr_left fun cell hcell =>
        ht pos t hm row hrow cell hcell)

theorem C13_slide_pptx_gen (shapes : List Shape) (hc : cleanL S2T.Gen.TablesSlide.pptx shapes = true)
    (ht : PptxTrimmed (framesL shapes)) :
    slideTables S2T.Gen.Tables.pptx S2T.Gen.TablesSlide.pptx (slideRoot S2T.Gen.Tables.pptx S2T.Gen.TablesSlide.pptx shapes) =
      (sortBy posLt (Frame.position S2T.Gen.TablesSlide.pptx) (framesL shapes)).filterMap Frame.grid :=
  C13_slide_pptx_partial _ _ gen_slide_pptx_ok shapes hc ht

/-- a slide with a picture, a connector, a chart, a group holding a table frame, two table frames at the same
    position and one without position -/
def exampleSlide : List Shape :=
  [.other (picNode S2T.Gen.TablesSlide.pptx (some (5, 5))),
   .frame (.table (some (3000, 10)) [[[[.run ['l', 'a', 't', 'e']]]]]),
   .group [.other (elem (pNs ++ ['c', 'x', 'n', 'S', 'p']) []), .frame (.table (some (1000, 500)) [[[[.run ['g']]], []]])],
   .frame (.chart (some (0, 0))),
   .frame (.table (some (1000, 20)) [[[[.run ['a', ' ', 'b'], .br, .field ['1']]]]]),
   .frame (.table (some (1000, 20)) []),
   .frame (.table none [[[[.run ['n', 'o']]]]]),
   .frame (.table (some (-5, 7)) [[]])]

example : cleanL S2T.Gen.TablesSlide.pptx exampleSlide = true := by
  decide_chars exampleSlide picNode aXfrmNodes aExt pNs aNs S2T.Gen.TablesSlide.pptx

example : PptxTrimmed (framesL exampleSlide) := by
  intro pos t hm row hrow cell hcell
  simp only [exampleSlide, framesL, Shape.frames, List.cons_append, List.nil_append, List.append_nil, List.mem_cons,
    List.not_mem_nil, or_false, Frame.table.injEq, reduceCtorEq, false_or] at hm
  rcases hm with ⟨_, rfl⟩ | ⟨_, rfl⟩ | ⟨_, rfl⟩ | ⟨_, rfl⟩ | ⟨_, rfl⟩ | ⟨_, rfl⟩
  all_goals
    simp only [List.mem_cons, List.not_mem_nil, or_false] at hrow
  all_goals try subst hrow
  all_goals
    simp only [List.mem_cons, List.not_mem_nil, or_false] at hcell
  · subst hcell; decide
  · rcases hcell with rfl | rfl <;> decide
  · subst hcell; decide
  · subst hcell; decide

/-- the example slide: (−5, 7) first, then the three frames at y = 1000 by x (the one with no rows dropped),
    then y = 3000, then the frame without position; the chart gives nothing -/
example : (sortBy posLt (Frame.position S2T.Gen.TablesSlide.pptx) (framesL exampleSlide)).filterMap Frame.grid
    = [[[]], [[['a', ' ', 'b', Char.ofNat 11, '1']]], [[['g'], []]], [[['l', 'a', 't', 'e']]], [[['n', 'o']]]] := by
  decide +kernel

/-- explicit order facts for the frames as they are visited (`out`): a permutation of the slide's frames (none
    lost, none invented); positions ascending in `(y, x)`; frames at the same position in document order -/
theorem C13_slide_pptx_order (S : SlideTags) (shapes : List Shape) :
    let out := sortBy posLt (Frame.position S) (framesL shapes)
    out.Perm (framesL shapes)
    ∧ out.Pairwise (fun a b => ¬ ((b.position S).1 < (a.position S).1
        ∨ ((b.position S).1 = (a.position S).1 ∧ (b.position S).2 < (a.position S).2)))
    ∧ ∀ p : Int × Int, out.filter (fun f => decide (f.position S = p)) = (framesL shapes).filter (fun f => decide (f.position S = p)) := by
  refine ⟨sortBy_perm _ _ _, ?_, fun p => C13_sort_stable_key posLt _ linOrd_pos p _⟩
  have := sortBy_sorted posLt (Frame.position S) linOrd_pos (framesL shapes)
  apply List.Pairwise.imp _ this
  intro a b h
  rw [← C13_slide_posLt]
  have h' : posLt (Frame.position S b) (Frame.position S a) = false := h
  simp [h']

/-- none lost, none invented, none merged: the returned tables are, up to order, exactly the grids of the source
    tables that have at least one row -/
theorem C13_slide_pptx_perm (T : PptxTags) (S : SlideTags) (hS : S.ok T = true) (shapes : List Shape)
    (hc : cleanL S shapes = true) :
    (slideTables T S (slideRoot T S shapes)).Perm ((framesL shapes).filterMap Frame.gridStripped) := by
  rw [slide_tables T S hS shapes hc]
  exact (sortBy_perm _ _ _).filterMap _

/-- "source order": if the frames are written in reading order (positions non-decreasing in document order),
    the tables arrive in document order -/
theorem C13_slide_pptx_source_order (T : PptxTags) (S : SlideTags) (hS : S.ok T = true) (shapes : List Shape)
    (hc : cleanL S shapes = true)
    (hord : (framesL shapes).Pairwise (fun a b => posLt (b.position S) (a.position S) = false)) :
    slideTables T S (slideRoot T S shapes) = (framesL shapes).filterMap Frame.gridStripped := by
  rw [slide_tables T S hS shapes hc, sortBy_of_sorted posLt _ _ hord]

example : (framesL [.frame (.table (some (10, 0)) [[[[.run ['a']]]]]), .frame (.chart (some (10, 0))),
      .group [.frame (.table (some (10, 5)) [[[[.run ['b']]]]])], .frame (.table none [[]])]).Pairwise
    (fun a b => posLt (b.position S2T.Gen.TablesSlide.pptx) (a.position S2T.Gen.TablesSlide.pptx) = false) := by
  decide +kernel

/-- what "source order" does NOT mean: two frames written bottom-first come back top-first (on the model; the
    harness replays the same slide on the real code) -/
theorem C13_slide_pptx_reading_order_example :
    slideTables S2T.Gen.Tables.pptx S2T.Gen.TablesSlide.pptx
      (slideRoot S2T.Gen.Tables.pptx S2T.Gen.TablesSlide.pptx
        [.frame (.table (some (2000, 0)) [[[[.run ['1', 's', 't']]]]]),
         .frame (.table (some (1000, 0)) [[[[.run ['2', 'n', 'd']]]]])])
      = [[[['2', 'n', 'd']]], [[['1', 's', 't']]]] := by
  rw [slide_tables _ _ gen_slide_pptx_ok _ rfl]
  decide +kernel

/-- counterexample to the full statement on a slide (the known stripping finding): the cell " a" of the only
    table of the slide comes back as "a" -/
theorem C13_slide_pptx_counterexample :
    slideTables S2T.Gen.Tables.pptx S2T.Gen.TablesSlide.pptx
      (slideRoot S2T.Gen.Tables.pptx S2T.Gen.TablesSlide.pptx [.frame (.table (some (0, 0)) [[[[.run [' ', 'a']]]]])])
      = [[[['a']]]]
    ∧ (Frame.table (some (0, 0)) [[[[.run [' ', 'a']]]]]).grid = some [[[' ', 'a']]] := by
  constructor
  · rw [slide_tables _ _ gen_slide_pptx_ok _ rfl]
    decide +kernel
  · decide +kernel

/-- ODP, every written page (frames with tables / text boxes / images, other page children; any `svg:y`,
    `svg:x` strings, present or not; ANY reading `lenPx` of a length string into ANY linear order): the slide's
    tables are exactly the tables with at least one row, each as its grid (cell (i, j) = text of source cell
    (i, j)), the frames in `(lenPx y, lenPx x)` order, ties in document order -/
theorem C13_slide_odp {K : Type} [DecidableEq K] (T : OdfTags) (D : OdpSlideTags) (hD : D.ok T = true)
    (lenPx : Option Str → K) (lt : K → K → Bool) (items : List OdpItem) (hok : items.all (OdpItem.ok T D) = true) :
    odpSlideTables T D lenPx lt (pageNode T D items) =
      (sortBy (lexLt lt) (OdpFrame.key lenPx) (items.filterMap OdpItem.frame?)).filterMap OdpFrame.grid :=
  odp_slide_tables T D (.of_ok hD) lenPx lt items hok

theorem C13_slide_odp_gen {K : Type} [DecidableEq K] (lenPx : Option Str → K) (lt : K → K → Bool) (items : List OdpItem)
    (hok : items.all (OdpItem.ok S2T.Gen.Tables.odp S2T.Gen.TablesSlide.odp) = true) :
    odpSlideTables S2T.Gen.Tables.odp S2T.Gen.TablesSlide.odp lenPx lt (pageNode S2T.Gen.Tables.odp S2T.Gen.TablesSlide.odp items) =
      (sortBy (lexLt lt) (OdpFrame.key lenPx) (items.filterMap OdpItem.frame?)).filterMap OdpFrame.grid :=
  odp_slide_tables _ _ (.of_ok gen_slide_odp_ok) lenPx lt items hok

/-- a page with a text box, two table frames (the second written above the first), a table without rows and
    a custom shape -/
def examplePage : List OdpItem :=
  [.frame ⟨some ['1', 'c', 'm'], some ['1', 'c', 'm'], .other [elem drawTextBox []]⟩,
   .frame ⟨some ['1', '0', 'c', 'm'], some ['2', 'c', 'm'],
     .table (1, [[[⟨['h'], []⟩]], [[⟨['a'], []⟩], [⟨['b'], [.tab ['c']]⟩]]])⟩,
   .frame ⟨some ['1', 'i', 'n'], none, .table (0, [[[⟨['t', 'o', 'p'], []⟩]]])⟩,
   .frame ⟨none, none, .table (0, [])⟩,
   .other (elem (drawNs ++ ['c', 'u', 's', 't', 'o', 'm', '-', 's', 'h', 'a', 'p', 'e']) [])]

private theorem examplePage_ok : examplePage.all (OdpItem.ok S2T.Gen.Tables.odp S2T.Gen.TablesSlide.odp) = true := by
  decide_chars examplePage drawTextBox drawNs S2T.Gen.Tables.odp S2T.Gen.TablesSlide.odp

example : examplePage.all (OdpItem.ok S2T.Gen.Tables.odp S2T.Gen.TablesSlide.odp) = true := examplePage_ok

/-- order facts (for a linear order on the keys): permutation, ascending, ties in document order -/
theorem C13_slide_odp_order {K : Type} [DecidableEq K] (lenPx : Option Str → K) (lt : K → K → Bool) (h : LinOrd lt)
    (items : List OdpItem) :
    let fs := items.filterMap OdpItem.frame?
    let out := sortBy (lexLt lt) (OdpFrame.key lenPx) fs
    out.Perm fs
    ∧ out.Pairwise (fun a b => lexLt lt (b.key lenPx) (a.key lenPx) = false)
    ∧ ∀ k : K × K, out.filter (fun f => decide (f.key lenPx = k)) = fs.filter (fun f => decide (f.key lenPx = k)) :=
  ⟨sortBy_perm _ _ _, sortBy_sorted _ _ h.lex _, fun k => C13_sort_stable_key _ _ h.lex k _⟩

example : LinOrd ratLt := linOrd_rat

/-- none lost, none invented -/
theorem C13_slide_odp_perm {K : Type} [DecidableEq K] (T : OdfTags) (D : OdpSlideTags) (hD : D.ok T = true)
    (lenPx : Option Str → K) (lt : K → K → Bool) (items : List OdpItem) (hok : items.all (OdpItem.ok T D) = true) :
    (odpSlideTables T D lenPx lt (pageNode T D items)).Perm ((items.filterMap OdpItem.frame?).filterMap OdpFrame.grid) := by
  rw [odp_slide_tables T D (.of_ok hD) lenPx lt items hok]
  exact (sortBy_perm _ _ _).filterMap _

/-- "source order": frames written in reading order come back in document order -/
theorem C13_slide_odp_source_order {K : Type} [DecidableEq K] (T : OdfTags) (D : OdpSlideTags) (hD : D.ok T = true)
    (lenPx : Option Str → K) (lt : K → K → Bool) (items : List OdpItem) (hok : items.all (OdpItem.ok T D) = true)
    (hord : (items.filterMap OdpItem.frame?).Pairwise (fun a b => lexLt lt (b.key lenPx) (a.key lenPx) = false)) :
    odpSlideTables T D lenPx lt (pageNode T D items) = (items.filterMap OdpItem.frame?).filterMap OdpFrame.grid := by
  rw [odp_slide_tables T D (.of_ok hD) lenPx lt items hok, sortBy_of_sorted _ _ _ hord]

example : (([.frame ⟨some ['1', 'c', 'm'], some ['2', 'c', 'm'], .table (0, [[[⟨['a'], []⟩]]])⟩,
      .frame ⟨some ['1', 'c', 'm'], some ['2', 'c', 'm'], .other []⟩,
      .frame ⟨some ['1', 'i', 'n'], none, .table (0, [[[⟨['b'], []⟩]]])⟩] : List OdpItem).filterMap OdpItem.frame?).Pairwise
    (fun a b => lexLt ratLt (b.key (lenPxQ false)) (a.key (lenPxQ false)) = false) := by decide +kernel

/-- the example page under the exact-arithmetic reading of the lengths: "1in" (96 px) is above "10cm" -/
theorem C13_slide_odp_example :
    odpSlideTables S2T.Gen.Tables.odp S2T.Gen.TablesSlide.odp (lenPxQ false) ratLt
      (pageNode S2T.Gen.Tables.odp S2T.Gen.TablesSlide.odp examplePage)
      = [[[['t', 'o', 'p']]], [[['h']], [['a'], ['b', '\t', 'c']]]] := by
  rw [odp_slide_tables _ _ (.of_ok gen_slide_odp_ok) _ _ _ examplePage_ok]
  decide +kernel

/-! ### the sign of an offset

Full statement: the tables of a page arrive in the order of the TRUE offsets of their frames — `lenPxQ true`, the
value of the ODF length with its sign:
  `odpSlideTables T D (lenPxQ signed) ratLt (pageNode T D items)
     = (sortBy (lexLt ratLt) (OdpFrame.key (lenPxQ true)) (items.filterMap OdpItem.frame?)).filterMap OdpFrame.grid`
It holds for `signed = true`, i.e. when `_ODF_LENGTH_RE` has `-?` in front of the digits, as it has on the current
source (`S2T.Gen.TablesSlide.odpLengthSigned` is generated by probing the compiled expression and is `true`).  It is false
for `signed = false`, an expression without the `-?` (finding `odp.negative-offset-sorted-as-zero`): there
`svg:y="-1cm"` (a frame that starts above the slide; what LibreOffice writes for it) does not match and is read as 0, so
all frames with a negative offset tie with each other and with offset 0 and stay in document order. -/

/-- the exact excluding hypothesis: on the frames of the page the reader in use gives the signed values
    (no negative offset, or a reader that knows the sign) -/
def SignsAgree (signed : Bool) (fs : List OdpFrame) : Prop :=
  ∀ f ∈ fs, f.key (lenPxQ signed) = f.key (lenPxQ true)

theorem C13_slide_odp_signed_partial (T : OdfTags) (D : OdpSlideTags) (hD : D.ok T = true) (signed : Bool)
    (items : List OdpItem) (hok : items.all (OdpItem.ok T D) = true)
    (hs : SignsAgree signed (items.filterMap OdpItem.frame?)) :
    odpSlideTables T D (lenPxQ signed) ratLt (pageNode T D items) =
      (sortBy (lexLt ratLt) (OdpFrame.key (lenPxQ true)) (items.filterMap OdpItem.frame?)).filterMap OdpFrame.grid := by
  rw [odp_slide_tables T D (.of_ok hD) _ _ items hok]
  rw [sortBy_congr (lexLt ratLt) (OdpFrame.key (lenPxQ signed)) (OdpFrame.key (lenPxQ true)) _ hs]

/-- with a reader that knows the sign there is nothing to exclude -/
theorem C13_slide_odp_signed_fixed (fs : List OdpFrame) : SignsAgree true fs := fun _ _ => rfl

example : SignsAgree false (examplePage.filterMap OdpItem.frame?) := by
  intro f hf
  simp only [examplePage, List.filterMap_cons, OdpItem.frame?, List.filterMap_nil, List.mem_cons, List.not_mem_nil,
    or_false] at hf
  rcases hf with rfl | rfl | rfl | rfl <;> decide +kernel

/-- two tables, the first in the file at y = −1 cm, the second at y = −2 cm (higher on the slide) -/
def negativePage : List OdpItem :=
  [.frame ⟨some ['-', '1', 'c', 'm'], none, .table (0, [[[⟨['l', 'o', 'w'], []⟩]]])⟩,
   .frame ⟨some ['-', '2', 'c', 'm'], none, .table (0, [[[⟨['h', 'i', 'g', 'h'], []⟩]]])⟩]

/-- counterexample to the full statement: with the unsigned reader both offsets are 0 and the tables stay in
    document order; by their true offsets the second table comes first (and does, with the signed reader) -/
theorem C13_slide_odp_negative_counterexample :
    odpSlideTables S2T.Gen.Tables.odp S2T.Gen.TablesSlide.odp (lenPxQ false) ratLt
        (pageNode S2T.Gen.Tables.odp S2T.Gen.TablesSlide.odp negativePage) = [[[['l', 'o', 'w']]], [[['h', 'i', 'g', 'h']]]]
    ∧ (sortBy (lexLt ratLt) (OdpFrame.key (lenPxQ true)) (negativePage.filterMap OdpItem.frame?)).filterMap OdpFrame.grid
        = [[[['h', 'i', 'g', 'h']]], [[['l', 'o', 'w']]]]
    ∧ odpSlideTables S2T.Gen.Tables.odp S2T.Gen.TablesSlide.odp (lenPxQ true) ratLt
        (pageNode S2T.Gen.Tables.odp S2T.Gen.TablesSlide.odp negativePage) = [[[['h', 'i', 'g', 'h']]], [[['l', 'o', 'w']]]] := by
  refine ⟨?_, by decide +kernel, ?_⟩
  · rw [odp_slide_tables _ _ (.of_ok gen_slide_odp_ok) _ _ _ (by decide +kernel)]
    decide +kernel
  · rw [odp_slide_tables _ _ (.of_ok gen_slide_odp_ok) _ _ _ (by decide +kernel)]
    decide +kernel

end S2T.C13.Slide
