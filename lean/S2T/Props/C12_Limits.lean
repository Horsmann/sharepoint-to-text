import S2T.Lemmas.OdsSheets
import S2T.Lemmas.Limits
import S2T.Lemmas.Bounds
import S2T.Gen.C12Consts
/-!
# C12 — explicit limits, archive members, ODS repeat expansion, XML parse sites

The comparison operators and constants come from the translator (`S2T.Gen.C12Consts`), so an
off-by-one at a limit site (`>` ↦ `>=`), a changed constant, or a dropped argument re-decides
`gen_ops_documented` / `gen_constants` / `sevenzip_passes_members`.
-/
namespace S2T.C12.Limits
open S2T.Limits S2T.Bounds
open S2T.Gen.C12Consts

/-- every explicit-limit test in the source compares the documented operands with `>` -/
theorem gen_ops_documented : Ops.ofSites limitSites = some Ops.documented := by decide +kernel

theorem gen_constants :
    max7zFileSize = 100 * 2 ^ 20 ∧ maxMemorySize = 10 * 2 ^ 20 ∧ configMaxMemorySize = maxMemorySize ∧
    maxArchiveFileSize = 50 * 2 ^ 20 ∧ readFileDefaultLimit = 100 * 2 ^ 20 := by decide

/-- `read_file` refuses ⇔ the limit is enabled (> 0) and the file is larger than it -/
theorem read_file_limit (limit : Int) (size : Nat) :
    readFileRejects Ops.documented limit size = true ↔ (limit > 0 ∧ (size : Int) > limit) := by
  simp [readFileRejects, Ops.documented, Cmp.eval]

/-- 0 (or a negative value) disables the check -/
theorem read_file_zero_disables (limit : Int) (h : limit ≤ 0) (size : Nat) :
    readFileRejects Ops.documented limit size = false := by
  simp [readFileRejects, Ops.documented, Cmp.eval]; omega
-- the hypothesis `h` can be met
example : (0 : Int) ≤ 0 := by decide

/-- a 7z archive is refused ⇔ it is larger than 100 MiB -/
theorem sevenzip_limit (size : Nat) :
    sevenZipRejects Ops.documented max7zFileSize size = true ↔ size > 100 * 2 ^ 20 := by
  simp [sevenZipRejects, Ops.documented, Cmp.eval, max7zFileSize]; omega

/-- ZIP / TAR / 7z: a member is skipped ⇔ its declared size exceeds the per-member limit -/
theorem member_skipped_iff (k : Kind) (limit declared : Nat) :
    memberSkipped Ops.documented k limit declared = true ↔ declared > limit := by
  simp [memberSkipped_documented]

/-- ZIP / TAR: only members within the limit are handed to `zf.read` / `tf.extractfile` -/
theorem members_read_within_limit (k : Kind) (limit : Nat) (ds : List Nat) :
    membersRead Ops.documented k limit ds = ds.filter (· ≤ limit) := by
  simp only [membersRead, memberSkipped_documented, ← decide_not, Nat.not_lt]

/-- the repaired source hands the filtered member list to the extraction step -/
theorem sevenzip_passes_members : sevenZipExtractallKeywords.contains "members" = true := by decide

theorem neededOutput_le (f : SzFolder) (off : Nat) (acc : Option Nat) (hacc : ∀ a, acc = some a → a ≤ off) :
    ∀ n, neededOutput f off acc = some n → n ≤ off + (f.map (·.declared)).sum := by
  induction f generalizing off acc with
  | nil => intro n h; simp [neededOutput] at h; have := hacc n h; simp; omega
  | cons e rest ih =>
    intro n h
    simp only [neededOutput] at h
    have := ih (off + e.declared) _ (by intro a ha; split at ha <;> simp_all <;> omega) n h
    simp; omega

theorem neededOutput_none (f : SzFolder) (off : Nat) (h : ∀ e ∈ f, e.wanted = false) :
    neededOutput f off none = none := by
  induction f generalizing off with
  | nil => rfl
  | cons e rest ih =>
    simp only [neededOutput]
    have he := h e (by simp)
    simp [he]
    exact ih _ (fun x hx => h x (by simp [hx]))

/-- REPAIRED code: whatever is written to the temp directory is a member that passed the filters -/
theorem sevenzip_fixed_writes_only_wanted (f : SzFolder) :
    ∀ s ∈ (extractFolder true f).written, ∃ e ∈ f, e.wanted = true ∧ e.declared = s := by
  intro s hs
  unfold extractFolder at hs
  simp only [↓reduceIte] at hs
  split at hs
  · simp at hs
  · simp at hs
    obtain ⟨e, ⟨he, hw⟩, hd⟩ := hs
    exact ⟨e, he, hw, hd⟩

/-- … hence no oversize member is ever written (documented operators, every limit) -/
theorem sevenzip_fixed_never_writes_oversize (limit : Nat) (entries : List (Nat × Bool)) :
    ∀ s ∈ (extractFolder true (entries.map (fun e => markWanted Ops.documented limit e.1 e.2))).written, s ≤ limit := by
  intro s hs
  obtain ⟨e, he, hw, rfl⟩ := sevenzip_fixed_writes_only_wanted _ s hs
  obtain ⟨⟨a, b⟩, _, rfl⟩ := List.mem_map.1 he
  simp only [markWanted, memberSkipped_documented, Bool.and_eq_true, Bool.not_eq_true', decide_eq_false_iff_not] at hw
  exact Nat.le_of_not_lt hw.2

/-- REPAIRED code: a folder none of whose members passed the filters is not decoded at all -/
theorem sevenzip_fixed_skips_unwanted_folder (f : SzFolder) (h : ∀ e ∈ f, e.wanted = false) :
    (extractFolder true f).decoded = none ∧ (extractFolder true f).written = [] := by
  unfold extractFolder
  simp [neededOutput_none f 0 h]
-- the hypothesis `h` can be met
example : ∀ e ∈ ([⟨11534336, false⟩] : SzFolder), e.wanted = false := by decide

/-- REPAIRED code: the empty-file loop creates only entries that passed the filters -/
theorem sevenzip_fixed_empty_only_wanted (es : List SzFile) :
    (emptyWritten true es).length = (es.filter (·.wanted)).length ∧
    ((∀ e ∈ es, e.wanted = false) → emptyWritten true es = []) := by
  refine ⟨by simp [emptyWritten], ?_⟩
  intro h
  simp only [emptyWritten, ↓reduceIte, List.map_eq_nil_iff, List.filter_eq_nil_iff]
  intro e he; simp [h e he]
-- the premise of the second half can be met
example : ∀ e ∈ ([⟨0, false⟩] : List SzFile), e.wanted = false := by decide

/-- REPAIRED code: the decoder output is bounded, by the declared sizes up to the last wanted member -/
theorem sevenzip_fixed_decode_bounded (f : SzFolder) :
    (extractFolder true f).bounded = true ∧
    ∀ n, (extractFolder true f).decoded = some n → n ≤ (f.map (·.declared)).sum := by
  unfold extractFolder
  simp only [↓reduceIte]
  split
  · simp
  · rename_i n hn
    refine ⟨rfl, ?_⟩
    intro m hm
    simp at hm
    subst hm
    have := neededOutput_le f 0 none (by simp) n hn
    simpa using this

/-- one member per folder (non-solid archive): skipped ⇒ neither decoded nor written -/
theorem sevenzip_fixed_nonsolid_skip (limit declared : Nat) (keep : Bool) (h : declared > limit) :
    extractFolder true [markWanted Ops.documented limit declared keep] = ⟨none, true, []⟩ := by
  simp [extractFolder, markWanted, memberSkipped_documented, h, neededOutput]
-- the hypothesis `h` can be met
example : (11534336 : Nat) > 10485760 := by decide

/-
FULL STATEMENT (false before fix-7z-skip-members.patch, and still false after it for SOLID folders):
  a skipped member is never decompressed into memory or onto disk.
-/
/-- UNFIXED code: an 11 MiB member that the filter skipped is decoded (unbounded) and written -/
theorem sevenzip_unfixed_counterexample :
    extractFolder false [markWanted Ops.documented maxMemorySize 11534336 true] = ⟨some 11534336, false, [11534336]⟩ := by
  decide

/-- REPAIRED code, solid folder: an oversize member stored BEFORE a wanted one still passes through memory
    (it is not written).  Open known finding `7z.solid-oversize-member-decoded`. -/
theorem sevenzip_fixed_solid_counterexample :
    extractFolder true [markWanted Ops.documented maxMemorySize 11534336 true, markWanted Ops.documented maxMemorySize 5 true]
      = ⟨some 11534341, true, [5]⟩ := by decide

/-- the member-type guard of the current source lets regular members through and nothing else
    (hard links, symbolic links, directories, devices / FIFOs are skipped before the size test) -/
theorem gen_tar_guard : ∀ k : TarKind, acceptOfTable tarGuardAccepts k = onlyReg k := by
  intro k; cases k <;> decide

/-- in the current source the size test stands before the `read()` of the member's handle, the type guard before the
    `extractfile` call, and the function calls neither `extract` nor `extractall` -/
theorem gen_tar_order :
    eventBefore tarLoopEvents "size-test" "read" = true ∧ eventBefore tarLoopEvents "type-guard" "extractfile" = true ∧
    tarBypassCalls = [] := by decide +kernel

/-- the hypothesis is the function under `tarLoopDelivered`'s `filterMap` at `Ops.documented`, `onlyReg`, `sizeTestFirst = true`: the form in which
    `List.mem_filterMap` and `sum_filterMap_le` hand a member over -/
private theorem tar_member_read {limit : Nat} {m : TarMember} {n : Nat}
    (h : (if onlyReg m.kind && !(true && memberSkipped Ops.documented .tar limit m.size) then m.delivers else none) = some n) :
    m.kind = .reg ∧ m.size ≤ limit ∧ m.delivers = some n := by
  split at h
  · rename_i hc
    simp only [memberSkipped_documented, Bool.and_eq_true, Bool.not_eq_true', Bool.true_and, decide_eq_false_iff_not] at hc
    exact ⟨by cases hk : m.kind <;> simp [onlyReg, hk] at hc ⊢, Nat.le_of_not_lt hc.2, h⟩
  · cases h

/-- under the documented guard every byte string the loop reads into memory is within the per-member limit,
    for every member list (links with any header size, pointing anywhere) -/
theorem tar_delivered_within_limit (limit : Nat) (ms : List TarMember) (h : TarFaithful ms) :
    ∀ n ∈ tarLoopDelivered Ops.documented onlyReg true limit ms, n ≤ limit := by
  intro n hn
  obtain ⟨m, hm, hd⟩ := List.mem_filterMap.1 hn
  obtain ⟨hk, hs, hd⟩ := tar_member_read hd
  exact Nat.le_trans (h m hm hk n hd) hs
-- the hypothesis `TarFaithful ms` can be met, link members included
example : TarFaithful [⟨11534336, .reg, some 11534336⟩, ⟨0, .hardlink, some 11534336⟩, ⟨7, .symlink, none⟩, ⟨5, .reg, some 5⟩] := by
  intro m hm hk n hd
  simp at hm
  rcases hm with rfl | rfl | rfl | rfl <;> simp_all

/-- … the same on the guard table, the comparison operators and the event order the translator read from the
    current source -/
theorem tar_gen_delivered_within_limit (limit : Nat) (ms : List TarMember) (h : TarFaithful ms) :
    ∀ o, Ops.ofSites limitSites = some o →
      ∀ n ∈ tarLoopDelivered o (acceptOfTable tarGuardAccepts) (eventBefore tarLoopEvents "size-test" "read") limit ms, n ≤ limit := by
  intro o ho
  rw [gen_ops_documented] at ho
  cases ho
  have hacc : acceptOfTable tarGuardAccepts = onlyReg := funext gen_tar_guard
  rw [hacc, gen_tar_order.1]
  exact tar_delivered_within_limit limit ms h

/-- … and the loop never reads more than the archive's uncompressed payload in total (no member is read twice) -/
theorem tar_delivered_total_le_payload (limit : Nat) (ms : List TarMember) (h : TarFaithful ms) :
    (tarLoopDelivered Ops.documented onlyReg true limit ms).sum ≤ tarPayload ms := by
  rw [tarPayload_eq]
  exact sum_filterMap_le _ _ ms fun m hm n hn => by
    obtain ⟨hk, _, hd⟩ := tar_member_read hn
    rw [if_pos hk]
    exact h m hm hk n hd

/-
FULL STATEMENT for a loop that lets link members through (false): every chunk read is within the limit.
-/
/-- guard `member.isreg() or member.islnk()`: the link's own header says 0 bytes, so it passes the size test,
    and its handle delivers the 11 MiB member it points at -/
theorem tar_hardlink_counterexample :
    let ms : List TarMember := [⟨11534336, .reg, some 11534336⟩, ⟨0, .hardlink, some 11534336⟩]
    tarLoopDelivered Ops.documented (fun k => onlyReg k || decide (k = .hardlink)) true maxMemorySize ms = [11534336] ∧
    11534336 > maxMemorySize ∧ tarPayload ms = 11534336 := by decide

/-- the same through a symbolic link, and k links to one IN-limit member multiply the bytes read by k
    (3 links to a 10 MiB member: 40 MiB read from a 10 MiB payload) -/
theorem tar_symlink_counterexample :
    let ms : List TarMember := [⟨10485760, .reg, some 10485760⟩, ⟨0, .symlink, some 10485760⟩, ⟨0, .symlink, some 10485760⟩, ⟨0, .symlink, some 10485760⟩]
    (tarLoopDelivered Ops.documented (fun k => onlyReg k || decide (k = .symlink)) true maxMemorySize ms).sum = 4 * tarPayload ms := by decide

/-- a loop that reads the handle before it tests the size delivers the oversize member itself -/
theorem tar_read_before_size_test_counterexample :
    tarLoopDelivered Ops.documented onlyReg false maxMemorySize [⟨11534336, .reg, some 11534336⟩] = [11534336] := by decide

theorem rowValues_length_le (R : Nat) (hR : 100 ≤ R) (cells : List OdsCell)
    (h : ∀ c ∈ cells, c.isNone = true ∨ c.rep ≤ R) : (rowValues cells).length ≤ R * cells.length := by
  unfold rowValues
  refine Nat.le_trans (length_flatMap_le_mul R _ (fun _ => 1) cells fun c hc => ?_) (Nat.le_of_eq (by rw [List.map_const', List.sum_replicate_nat, Nat.mul_one]))
  split
  · simp; omega
  · rename_i hn
    rcases h c hc with hc | hc
    · simp [hc] at hn ⊢; omega
    · simp; omega

/-
FULL STATEMENT (false on the current source):
  theorem ods_cells_bounded (rows) : sheetCells rows ≤ K * xmlLen … rows          for a fixed K
Two independent mechanisms break it: a repeat attribute on a NON-empty cell / row is expanded without a cap
(`ods_repeat_amplification_witness`), and every row is padded to the widest row (`ods_padding_quadratic_witness`).
What holds (exact excluding hypothesis: no non-empty cell carries a repeat above R): the cells
materialised by the cell loop are at most R per cell element.
-/
theorem ods_materialised_partial (R : Nat) (hR : 100 ≤ R) (rows : List OdsRow)
    (h : ∀ r ∈ rows, ∀ c ∈ r.cells, c.isNone = true ∨ c.rep ≤ R) :
    materialised rows ≤ R * (rows.map (·.cells.length)).sum :=
  sum_map_le_mul R _ _ rows fun r hr => rowValues_length_le R hR r.cells (h r hr)
-- the hypothesis `h` can be met (R = 100)
example : ∀ r ∈ [(⟨3, [⟨100, true, 0⟩, ⟨2, false, 1⟩]⟩ : OdsRow)], ∀ c ∈ r.cells, c.isNone = true ∨ c.rep ≤ 100 := by decide

/-- the caps on empty runs: an empty cell repeated more than 100 times in an empty row repeated more than 100 times
    materialises one cell and leaves an empty sheet -/
theorem ods_empty_repeat_capped (n m : Int) (hn : n > 100) (hm : m > 100) :
    sheetShape [⟨m, [⟨n, true, 0⟩]⟩] = (0, 0) ∧ materialised [⟨m, [⟨n, true, 0⟩]⟩] = 1 := by
  simp [sheetShape, rawRows, rowValues, trimRows, materialised, hn, hm]
-- the hypotheses `hn`, `hm` can be met
example : (5000 : Int) > 100 := by decide

/-! "irrespective of repeat counts": for the three kinds of empty run the format has, the cells the model materialises do not depend on the declared
repeat count once it is above the cap (covered cells: for no count at all). -/

private theorem rowValues_append (a b : List OdsCell) : rowValues (a ++ b) = rowValues a ++ rowValues b := by
  simp [rowValues]

private theorem rawRows_append (a b : List OdsRow) : rawRows (a ++ b) = rawRows a ++ rawRows b := by
  simp [rawRows]

/-- an empty `table:table-cell` run anywhere in a row: one placeholder cell whatever the count -/
theorem ods_empty_cell_run_independent (n m : Int) (hn : n > 100) (hm : m > 100) (tl : Nat) (pre post : List OdsCell) :
    rowValues (pre ++ ⟨n, true, tl⟩ :: post) = rowValues (pre ++ ⟨m, true, tl⟩ :: post) := by
  rw [rowValues_append, rowValues_append]
  congr 1
  simp [rowValues, hn, hm]

/-- a repeated row all of whose cells are empty, anywhere in the sheet: one row whatever the count -/
theorem ods_empty_row_run_independent (n m : Int) (hn : n > 100) (hm : m > 100) (cells : List OdsCell)
    (hempty : (rowValues cells).all id = true) (pre post : List OdsRow) :
    rawRows (pre ++ ⟨n, cells⟩ :: post) = rawRows (pre ++ ⟨m, cells⟩ :: post) := by
  rw [rawRows_append, rawRows_append]
  congr 1
  have h1 : n > 100 ∧ (rowValues cells).all id = true := ⟨hn, hempty⟩
  have h2 : m > 100 ∧ (rowValues cells).all id = true := ⟨hm, hempty⟩
  simp only [rawRows, List.flatMap_cons, if_pos h1, if_pos h2]
-- the hypothesis `hempty` can be met
example : (rowValues [⟨1, true, 0⟩, ⟨500, true, 0⟩]).all id = true := by decide

/-- a `table:covered-table-cell` run: never visited, for every count (no cap involved) -/
theorem ods_covered_run_independent (n m : Int) (pre post : List OdsChild) :
    childCells (pre ++ .covered n :: post) = childCells (pre ++ .covered m :: post) := by
  simp [childCells, OdsChild.cell?]

/-- … hence the sheet and the number of materialised cells are the same for every covered count -/
theorem ods_covered_sheet_independent (n m : Int) (rr : Int) (pre post : List OdsChild) (before after : List OdsRowC) :
    sheetShapeC (before ++ ⟨rr, pre ++ .covered n :: post⟩ :: after) = sheetShapeC (before ++ ⟨rr, pre ++ .covered m :: post⟩ :: after) ∧
    materialisedC (before ++ ⟨rr, pre ++ .covered n :: post⟩ :: after) = materialisedC (before ++ ⟨rr, pre ++ .covered m :: post⟩ :: after) := by
  simp [sheetShapeC, materialisedC, OdsRowC.toRow, ods_covered_run_independent n m pre post]

/-- the three sheets of the harness's repeat-independence oracle, for ALL counts above the cap: same shape -/
theorem ods_oracle_shapes_independent (n m : Int) (hn : n > 100) (hm : m > 100) :
    sheetShape [⟨1, [⟨n, true, 0⟩, ⟨1, false, 1⟩]⟩] = sheetShape [⟨1, [⟨m, true, 0⟩, ⟨1, false, 1⟩]⟩] ∧
    sheetShape [⟨n, [⟨1, true, 0⟩]⟩, ⟨1, [⟨1, false, 1⟩]⟩] = sheetShape [⟨m, [⟨1, true, 0⟩]⟩, ⟨1, [⟨1, false, 1⟩]⟩] ∧
    sheetShapeC [⟨1, [.covered n, .cell ⟨1, false, 1⟩]⟩] = sheetShapeC [⟨1, [.covered m, .cell ⟨1, false, 1⟩]⟩] := by
  refine ⟨?_, ?_, ?_⟩
  · have := ods_empty_cell_run_independent n m hn hm 0 [] [⟨1, false, 1⟩]
    simp only [List.nil_append] at this
    simp [sheetShape, rawRows, this]
  · have := ods_empty_row_run_independent n m hn hm [⟨1, true, 0⟩] (by decide) [] [⟨1, [⟨1, false, 1⟩]⟩]
    simp only [List.nil_append] at this
    simp [sheetShape, this]
  · exact (ods_covered_sheet_independent n m 1 [] [.cell ⟨1, false, 1⟩] [] []).1
-- the hypotheses `hn`, `hm` can be met
example : (2000 : Int) > 100 ∧ (200 : Int) > 100 := by decide

/-- 300 rows × 5000 columns = 1 500 000 cells from one cell element … -/
theorem ods_repeat_amplification_witness :
    sheetShape (repeatSheet 300 5000) = (300, 5000) ∧ sheetCells (repeatSheet 300 5000) = 1500000 := by
  have h := sheetShape_repeatSheet 300 5000 (by decide) (by decide)
  refine ⟨h, ?_⟩
  rw [sheetCells, h]
  decide

/-- … whose size grows only with the number of digits -/
theorem ods_repeat_size (env rt et tt : Nat) (r c : Nat) :
    xmlLen env rt et tt (repeatSheet r c) = env + (rt + digits r + (tt + 1 + digits c + 0)) + 0 := by
  have h1 : ¬ ((r : Int) < 0) := by omega
  have h2 : ¬ ((c : Int) < 0) := by omega
  simp [xmlLen, repeatSheet, intLen, h1, h2]

/-- no repeat attribute above 1, yet the output is quadratic: 201 rows × 200 columns from 400 cell elements -/
theorem ods_padding_quadratic_witness :
    sheetShape (staircaseSheet 200) = (201, 200) ∧ (staircaseSheet 200).length = 201 ∧
    ((staircaseSheet 200).map (·.cells.length)).sum = 400 :=
  ⟨sheetShape_staircaseSheet 200 (by decide), staircaseSheet_length 200, staircaseSheet_cells 200⟩

/-- every XML parser entry point called by the package is defusedxml's -/
theorem xml_sites_defused : ∀ s ∈ xmlParseSites, ("defusedxml".toList.isPrefixOf s.2.2.2.toList) = true := by decide +kernel

/-- (not vacuous: there is such a call site) -/
theorem xml_sites_nonempty : xmlParseSites ≠ [] := by decide

/-- and no module imports another XML *parser* package (the `xml.etree` imports are used for types,
    `find`/`iter` and serialisation only — no parser entry point is called through them, see above) -/
theorem xml_imports_known :
    ∀ i ∈ xmlImports, i.2.2 = "xml.etree.ElementTree" ∨ i.2.2 = "xml.etree.ElementTree.Element" ∨ i.2.2 = "defusedxml.ElementTree" := by
  decide +kernel

end S2T.C12.Limits
