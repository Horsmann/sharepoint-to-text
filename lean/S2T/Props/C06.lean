import S2T.Model.Observe
import S2T.Gen.Effects
import S2T.Lemmas.StrTable
import S2T.Props.C06_History
import S2T.Props.C06_Input
import S2T.Props.C06_Ambient
import S2T.Props.C06_Observers
import S2T.Props.C06_Cells
import S2T.Props.C06_Sched
/-!
# C06 — determinism, purity, idempotent observation

The library's results are plain dataclass trees; observation can only interfere through
(a) hash-seed dependent iteration order, (b) writes to shared state inside observer methods,
(c) stream positions of binary payloads, (d) writes to the caller's input buffer, (e) address / hash dependent values,
and process-global state left behind by earlier extractions (part `C06_History`: containers bound at module or class
level, their aliases and escapes, caches, rebinds).  The other parts: `C06_Input` (d, over an alphabet with mutators),
`C06_Ambient` (clock and other ambient reads), `C06_Observers` (arguments of observers), `C06_Cells` (exhaustible and
address-keyed cells), `C06_Sched` (schedules, process settings).
For each channel the translator emits a closed-world inventory from the current source
(`S2T.Gen.Effects`); the kernel re-decides that every inventoried site is one the theorems below
account for, and the theorems show the accounted-for sites are unobservable.
-/
namespace S2T.C06
open S2T.Observe S2T.Gen.Effects

/-- `sorted(a_set)`: the result does not depend on the iteration order of the set
    (two iteration orders of one set are permutations of each other). -/
theorem sorted_order_free {α} (le : α → α → Bool)
    (trans : ∀ a b c, le a b → le b c → le a c) (total : ∀ a b, le a b || le b a)
    (antisymm : ∀ a b, le a b → le b a → a = b)
    (l₁ l₂ : List α) (h : l₁.Perm l₂) : l₁.mergeSort le = l₂.mergeSort le := by
  apply List.Perm.eq_of_pairwise (le := fun a b => le a b = true)
  · intro a b _ _ hab hba; exact antisymm a b hab hba
  · exact List.pairwise_mergeSort trans total l₁
  · exact List.pairwise_mergeSort trans total l₂
  · exact ((List.mergeSort_perm l₁ le).trans h).trans (List.mergeSort_perm l₂ le).symm

/-- `list(a_set)` is NOT order free (a `styles` list of the DOCX / ODT extractors built that way depends on the hash seed). -/
theorem list_of_set_order_dependent : ∃ l₁ l₂ : List Nat, l₁.Perm l₂ ∧ l₁ ≠ l₂ :=
  ⟨[1, 2], [2, 1], by decide, by decide⟩

/-- `any(p(x) for x in a_set)` / early-return loops over a set are order free -/
theorem any_order_free {α} (p : α → Bool) (l₁ l₂ : List α) (h : l₁.Perm l₂) : l₁.any p = l₂.any p :=
  h.any_eq

private theorem kwargs_lookup {κ β} [DecidableEq κ] (f : κ → Option β) (l : List κ) (k : κ) :
    (l.filterMap (fun x => (f x).map (fun v => (x, v)))).lookup k = if k ∈ l then f k else none := by
  induction l with
  | nil => simp
  | cons x xs ih =>
    by_cases hk : k = x
    · subst hk
      cases hfx : f k <;> simp [hfx, ih]
    · have : (k == x) = false := by simpa using hk
      cases hfx : f x <;> simp [hfx, ih, hk, List.lookup_cons, this]

/-- building keyword arguments from a set of distinct field names: the resulting lookup function
    does not depend on the order -/
theorem kwargs_order_free {κ β} [DecidableEq κ] (f : κ → Option β) (l₁ l₂ : List κ) (h : l₁.Perm l₂) (k : κ) :
    ((l₁.filterMap (fun x => (f x).map (fun v => (x, v)))).lookup k).isSome
      = ((l₂.filterMap (fun x => (f x).map (fun v => (x, v)))).lookup k).isSome := by
  simp only [kwargs_lookup, h.mem_iff]

/-- reviewed order-consuming sites: (function, kind, expression); why each is order free stands beside it -/
def reviewedOrderSites : List (String × String × String) := [
  ("_should_skip_file", "for", "NESTED_ARCHIVE_EXTENSIONS"),   -- early `return True` on first match = any(...)  (any_order_free)
  ("_deserialize_dataclass", "for", "field_names")             -- fills **kwargs by field name                   (kwargs_order_free)
]

/-- **C06 (order), decided on the current source**: every place where a set is consumed in
    iteration order is one of the reviewed, provably order-free sites. (`sorted(set)` is not listed
    by the translator: `sorted_order_free`.) -/
theorem order_sites_reviewed :
    setToOrdered.all (fun s => reviewedOrderSites.contains (s.2.1, s.2.2.1, s.2.2.2)) = true := by decide +kernel

/-- effects the model accounts for: rewinding a payload stream before handing it out, and the two
    legacy property *setters* of ImageMetadata (setters are not observers) -/
def allowedObserverEffects : List (String × String × String) := [
  ("get_bytes", "call", "self.data.seek"),
  ("iterate_supported_attachments", "call", "attachment.data.seek"),
  ("image_index", "store", "self.image_number"),
  ("unit_index", "store", "self.unit_number")
]

/-- **C06 (read-only observers), decided on the current source**: no observer method of any result,
    unit, image or table class stores into, or calls a mutator on, state reachable from `self`,
    other than rewinding a payload stream.  (A store into `image.unit_name` inside `OdtContent.iterate_units` fails it.) -/
theorem observer_effects_allowed :
    observerEffects.all (fun e => allowedObserverEffects.contains (e.2.1, e.2.2.1, e.2.2.2)) = true := by decide +kernel

theorem step_content (s : Stream) (op : Op) : (step s op).2.content = s.content := by
  cases op <;> simp [step, readK]

theorem run_content (s : Stream) (ops : List Op) : (run s ops).2.content = s.content := by
  induction ops generalizing s with
  | nil => rfl
  | cons op ops ih => simp only [run]; rw [ih]; exact step_content s op

/-- **C06 (idempotent observation)**: after ANY sequence of observer calls and caller reads/seeks,
    `to_json()` returns what it returned at the beginning, and `get_bytes()` hands out the complete
    payload positioned at 0 — whatever positions the history left behind. -/
theorem C06_payload_history_free (s : Stream) (ops : List Op) :
    (step (run s ops).2 .toJson).1 = (step s .toJson).1 ∧
    (step (run s ops).2 .getBytes).1 = .bytes s.content ∧
    (step (run s ops).2 .getBytes).2.pos = 0 := by
  simp [step, run_content]

/-- observing twice in a row gives the same answer (for the position-independent observers) -/
theorem C06_observers_idempotent (s : Stream) (op : Op) (h : op = .getBytes ∨ op = .toJson ∨ op = .getvalue) :
    (step (step s op).2 op).1 = (step s op).1 := by
  rcases h with rfl | rfl | rfl <;> simp [step]

def readOnlyStreamMethods : List String :=
  ["file_like.getbuffer", "file_like.getvalue", "file_like.read", "file_like.seek", "file_like.tell",
   "file_like.readinto", "file_like.readline", "file_like.seekable", "file_like.readable"]

/-- **C06 (input untouched), decided on the current source**: the only methods ever called on the
    caller's stream are read-only ones -/
theorem input_methods_readonly : inputMethods.all readOnlyStreamMethods.contains = true := by
  -- decided on character lists, as in `C06_History` ("the tie")
  rw [StrTable.all_contains_map StrTable.toList_inj]
  simp -index only [inputMethods, readOnlyStreamMethods, List.map_cons, List.map_nil, String.toList_ofList]
  decide +kernel

/-- consumers the stream is handed to: the package's own readers (the inventory follows the stream INTO them:
    parameters, local aliases and `self.<attr>` holding it are scanned for method calls as well) and
    third-party openers, all in read mode -/
def reviewedConsumers : List String := [
  "OOXMLZipContext", "PdfReader", "SevenZipFile", "ZipContext", "_DocReader", "_DocxContext", "_EpubContext",
  "_OdpContext", "_OdsContext", "_OdtContext", "_PptxContext", "_detect_archive_type_optimized",
  "_extract_from_7z_optimized", "_extract_from_tar_optimized", "_extract_from_zip_optimized",
  "_extract_ppt_content_structured", "_open_pdf_reader", "_read_doc", "_read_docx", "_read_eml_format_mail",
  "_read_epub", "_read_html", "_read_mbox_format_mail", "_read_mhtml", "_read_msg_format_mail", "_read_odf",
  "_read_odg", "_read_odp", "_read_ods", "_read_odt", "_read_pdf", "_read_plain_text", "_read_ppt", "_read_pptx",
  "_read_rtf", "_read_xls", "_read_xlsx", "_should_skip_images", "is_odf_encrypted", "is_ooxml_encrypted",
  "is_ppt_encrypted", "is_xls_encrypted", "load_workbook", "olefile.OleFileIO", "olefile.isOleFile", "open_zipfile",
  "super().__init__", "tarfile.open", "zipfile.ZipFile", "zipfile.is_zipfile",
  -- reached through aliases (`self._file`, `source_file`) into the 7z reader:
  "SevenZipReader", "hasattr", "self._decompress_folder", "self._reader.extractall"]

theorem input_consumers_reviewed : inputPassedTo.all reviewedConsumers.contains = true := by
  rw [StrTable.all_contains_map StrTable.toList_inj]
  simp -index only [inputPassedTo, reviewedConsumers, List.map_cons, List.map_nil, String.toList_ofList]
  decide +kernel

/-- the read-only alphabet leaves the content of the caller's buffer unchanged, for every call sequence -/
theorem C06_input_untouched (s : Stream) (ops : List Op) : (run s ops).2.content = s.content :=
  run_content s ops

def reviewedIdUses : List String := ["id(node)", "id(omath)", "id(member)", "id(file_info)", "id(self._files[file_idx])"]   -- keys of per-call caches / identity sets over objects that stay alive (tree nodes, the 7z reader's FileInfo list: membership only)
theorem id_uses_reviewed : idHashUses.all (fun u => reviewedIdUses.contains u.2) = true := by decide +kernel

example : (run ⟨[1, 2, 3, 4], 0⟩ [.getBytes, .read 3, .toJson, .seek 9, .readAll]).2.pos = 9 := by decide
example : (run ⟨[1, 2, 3, 4], 0⟩ [.getBytes, .read 3]).1 = [.bytes [1, 2, 3, 4], .bytes [1, 2, 3]] := by decide
example : [3, 1, 2].mergeSort (fun a b => decide (a ≤ b)) = [2, 3, 1].mergeSort (fun a b => decide (a ≤ b)) :=
  sorted_order_free _ (by intro a b c; simp; omega) (by intro a b; simp; omega) (by intro a b; simp; omega) _ _ (by decide)
example : setToOrdered.length ≥ 1 ∧ observerEffects.length ≥ 1 ∧ inputMethods.length ≥ 3 := by decide

end S2T.C06
