import S2T.Model.Images
/-!
# C14 — the unit view and the document view show the same images (and tables)

`iterate_units()` of the page / slide / sheet result types copies the per-page / slide / sheet lists;
`iterate_images()` / `iterate_tables()` concatenate the same lists.  For all stored contents.
-/
namespace S2T.C14.Views
open S2T.Images

/-- **C14_views** (PdfContent, PptxContent, OdpContent): the images of the units, concatenated in unit order,
    are exactly `iterate_images()` -/
theorem C14_views_images {I T} (stores : List (UnitStore I T)) :
    (unitsView stores).flatMap (·.1) = imagesView stores := by
  simp [unitsView, imagesView, List.flatMap_map]

/-- … and the tables of the units are exactly `iterate_tables()` -/
theorem C14_views_tables {I T} (stores : List (UnitStore I T)) :
    (unitsView stores).flatMap (·.2) = tablesView stores := by
  simp [unitsView, tablesView, List.flatMap_map]

/-- every image and table reachable from a unit is reachable from the document -/
theorem C14_views_inclusion {I T} (stores : List (UnitStore I T)) (u : List I × List T) (hu : u ∈ unitsView stores) :
    (∀ i ∈ u.1, i ∈ imagesView stores) ∧ (∀ t ∈ u.2, t ∈ tablesView stores) := by
  simp only [unitsView, List.mem_map] at hu
  obtain ⟨s, hs, rfl⟩ := hu
  constructor
  · intro i hi; simp only [imagesView, List.mem_flatMap]; exact ⟨s, hs, hi⟩
  · intro t ht; simp only [tablesView, List.mem_flatMap]; exact ⟨s, hs, ht⟩

/-- XlsxContent, OdsContent: same for the images … -/
theorem C14_views_sheet_images {I} (sheets : List (SheetStore I)) :
    (sheetUnitsView sheets).flatMap (·.1) = sheetImagesView sheets := by
  simp [sheetUnitsView, sheetImagesView, List.flatMap_map]

/-- … while for the tables the unit view shows the sheets that have rows and `iterate_tables()` shows every sheet:
    the unit view is the document view without the empty tables (so: included, and equal when no sheet is empty) -/
theorem C14_views_sheet_tables {I} (sheets : List (SheetStore I)) :
    (sheetUnitsView sheets).flatMap (·.2) = (sheetTablesView sheets).filter (· ≠ 0) := by
  induction sheets with
  | nil => rfl
  | cons s r ih =>
    simp only [sheetUnitsView, sheetTablesView, List.map_cons, List.flatMap_cons, List.filter_cons] at ih ⊢
    by_cases h : s.rows = 0 <;> simp [h, ih]

theorem C14_views_sheet_tables_nonempty {I} (sheets : List (SheetStore I)) (h : ∀ s ∈ sheets, s.rows ≠ 0) :
    (sheetUnitsView sheets).flatMap (·.2) = sheetTablesView sheets := by
  rw [C14_views_sheet_tables, List.filter_eq_self]
  intro x hx
  simp only [sheetTablesView, List.mem_map] at hx
  obtain ⟨s, hs, rfl⟩ := hx
  simpa using h s hs

example : ∀ s ∈ [SheetStore.mk [1, 2] 3, SheetStore.mk ([] : List Nat) 1], s.rows ≠ 0 := by decide

/-- the difference, on the model: a sheet without rows is a table of the document but of no unit -/
theorem views_empty_sheet_counterexample :
    (sheetUnitsView [SheetStore.mk ([] : List Nat) 0]).flatMap (·.2) = [] ∧ sheetTablesView [SheetStore.mk ([] : List Nat) 0] = [0] := by
  decide

end S2T.C14.Views
