import S2T.Model.C02Mail
import S2T.Lemmas.OoxmlWords
import S2T.Gen.C02Mail
import S2T.Gen.Ooxml
/-!
# C02 (part 'mail') — the text/plain body of an e-mail

For every body (any number of lines; every line = leading blanks, words, trailing blanks - which covers soft-wrapped
format=flowed lines with or without DelSp, space-stuffed lines, the signature separator, fixed bodies with stray
blanks) and EVERY Content-Type parameter list, the words of `get_full_text()` are exactly the words of the lines, in
order: two words the source separates by a blank and a line break are never one word.  `gen_body_reads` re-decides on
every run that the body path of the current source reads nothing of a part but its payload, type, charset, file name
and Content-Disposition - a new parameter read (`get_param("format")`, `get_param("delsp")`, …) breaks it.
-/
namespace S2T.C02.Mail
open S2T.C02.Ooxml

theorem gen_notes_empty : S2T.Gen.C02Mail.notes = [] := by decide

/-- the functions of the mbox body path -/
theorem gen_body_callees : S2T.Gen.C02Mail.bodyCallees = ["_is_attachment_part", "_iter_message_parts", "get_body_content"] := by
  decide

/-- everything the body path calls on a message part / on the payload: transfer decoding, charset decoding (with the
    utf-8 fallback), type, charset, multipart test, and the two attachment tests.  No `get_param`, no `get_params`, no
    `replace` / `split` / `rstrip` of the decoded text. -/
theorem gen_body_reads : S2T.Gen.C02Mail.bodyReads =
    [("decode", ""), ("decode", "utf-8"), ("get", "Content-Disposition"), ("get_content_charset", ""),
     ("get_content_type", ""), ("get_filename", ""), ("get_payload", ""), ("is_multipart", "")] := by
  decide

/-- `EmailContent.__post_init__` strips subject and plain body and does nothing else -/
theorem gen_post_init : S2T.Gen.C02Mail.postInit = [("subject", "strip"), ("body_plain", "strip")] := by decide

variable {ws : Char → Bool}

/-- a word: not empty, no white space in it -/
def IsWord (ws : Char → Bool) (w : Str) : Prop := w ≠ [] ∧ ∀ c ∈ w, ws c = false

def LineOk (ws : Char → Bool) (l : Line) : Prop := AllWs ws l.pre ∧ AllWs ws l.trail ∧ ∀ w ∈ l.words, IsWord ws w

theorem words_lineText (hsp : ws ' ' = true) (l : Line) (h : LineOk ws l) : words ws (lineText l) = l.words := by
  obtain ⟨hp, ht, hwds⟩ := h
  rw [lineText, List.append_assoc, words_allws_append _ _ hp, words_append_allws _ _ ht,
    words_join_char hsp, words_eq_tokens, Tok.flatMap_tokens_of_tokens hwds]

theorem body_words (hsp : ws ' ' = true) (nl : Str) (hne : nl ≠ []) (hnl : AllWs ws nl) (ls : List Line)
    (h : ∀ l ∈ ls, LineOk ws l) : words ws (renderBody nl ls) = ls.flatMap (·.words) := by
  rw [renderBody, words_join _ hne hnl, List.flatMap_map]
  exact List.flatMap_congr fun l hl => words_lineText hsp l (h l hl)

/-- **Mail body fidelity.**  For every body, every Content-Type parameter list and every HTML alternative: the words
    of `get_full_text()` are the words of the body lines, each once, in order, never fused across a line break
    (soft or hard), and nothing of the HTML alternative - provided the body has a word at all (else the HTML body is
    the documented fallback). -/
theorem C02_mail_fidelity (hsp : ws ' ' = true) (nl : Str) (hnn : nl ≠ []) (hnl : AllWs ws nl) (params : List (Str × Str))
    (html : Str) (ls : List Line) (h : ∀ l ∈ ls, LineOk ws l) (hne : ls.flatMap (·.words) ≠ []) :
    words ws (fullText ws params (renderBody nl ls) html) = ls.flatMap (·.words) := by
  have hb : words ws (strip ws (renderBody nl ls)) = ls.flatMap (·.words) := by
    rw [words_strip_ws, body_words hsp nl hnn hnl ls h]
  have hn : (strip ws (renderBody nl ls)).isEmpty = false := by
    cases hs : strip ws (renderBody nl ls) with
    | nil => rw [hs] at hb; exact absurd hb.symm hne
    | cons _ _ => rfl
  simp only [fullText, bodyPlain, hn, Bool.false_eq_true, if_false]
  rw [words_strip_ws]
  exact hb

/-- the parameters are not read: any two parameter lists give the same full text -/
theorem C02_mail_params_irrelevant (ws : Char → Bool) (p q : List (Str × Str)) (payload html : Str) :
    fullText ws p payload html = fullText ws q payload html := rfl

/-- the hypotheses are satisfiable non-trivially: a format=flowed; delsp=no body with a soft-wrapped first line,
    a space-stuffed second line and the signature separator -/
example : let ls : List Line := [⟨[], ["A1".toList, "B2".toList], [' ']⟩, ⟨[' '], ["From".toList, "C3".toList], []⟩,
                                 ⟨[], ["--".toList], [' ']⟩]
    (∀ l ∈ ls, LineOk S2T.Gen.Ooxml.isPySpace l) ∧
    words S2T.Gen.Ooxml.isPySpace (fullText S2T.Gen.Ooxml.isPySpace [("format".toList, "flowed".toList), ("delsp".toList, "no".toList)]
      (renderBody ['\r', '\n'] ls) []) = ["A1".toList, "B2".toList, "From".toList, "C3".toList, "--".toList] := by
  refine ⟨?_, by decide +kernel⟩
  intro l hl
  simp only [List.mem_cons, List.not_mem_nil, or_false] at hl
  rcases hl with rfl | rfl | rfl <;> refine ⟨?_, ?_, ?_⟩ <;> simp [AllWs, IsWord] <;> decide

end S2T.C02.Mail
