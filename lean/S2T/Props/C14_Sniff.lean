import S2T.Model.Images
import S2T.Gen.Images
/-!
# C14 — "its pixel size when the file declares one"

For **every** width and height in the range of the format's header fields and **every** continuation of the
file, the dimension sniffers return the declared pixel size: PNG (IHDR), GIF (logical screen), BMP (info
header, bottom-up or top-down), JPEG (first start-of-frame segment after any sequence of well-formed
non-frame segments).  The three copies of `_get_image_pixel_dimensions` are one function.
-/
namespace S2T.C14.Sniff
open S2T.Images

def be16 (v : Nat) : Bytes := [v / 256 % 256, v % 256]
def be32 (v : Nat) : Bytes := [v / 16777216 % 256, v / 65536 % 256, v / 256 % 256, v % 256]
def le16 (v : Nat) : Bytes := [v % 256, v / 256 % 256]
def le32 (v : Nat) : Bytes := [v % 256, v / 256 % 256, v / 65536 % 256, v / 16777216 % 256]

/-- PNG: signature, IHDR chunk length + type (any 8 bytes are accepted there by the sniffer), width, height -/
def pngHeader (m : Bytes) (w h : Nat) : Bytes := pngSig ++ m ++ be32 w ++ be32 h
/-- GIF: `GIF87a` / `GIF89a`, logical screen width and height -/
def gifHeader (sig : Bytes) (w h : Nat) : Bytes := sig ++ le16 w ++ le16 h
/-- BMP: `BM`, 16 bytes (file size, reserved, data offset, header size), width, height field (two's complement) -/
def bmpHeader (m : Bytes) (w hField : Nat) : Bytes := [0x42, 0x4D] ++ m ++ le32 w ++ le32 hField

/-- a JPEG marker segment: FF, marker, 2-byte length (counting itself), payload -/
structure Seg where
  marker : Nat
  payload : Bytes

def Seg.enc (s : Seg) : Bytes := 0xFF :: s.marker :: be16 (s.payload.length + 2) ++ s.payload

/-- a segment the walk must step over: not a frame header, not EOI/SOS, representable length -/
def Seg.skippable (sof stop : List Nat) (s : Seg) : Prop :=
  sof.contains s.marker = false ∧ stop.contains s.marker = false ∧ s.payload.length + 2 < 65536

/-- start-of-frame segment: precision, height, width, then component data `tail` -/
def sofSeg (m p w h : Nat) (tail : Bytes) : Bytes :=
  0xFF :: m :: be16 (7 + tail.length) ++ p :: be16 h ++ be16 w ++ tail

theorem be16_hi_lo (v : Nat) (hv : v < 65536) : (v / 256 % 256) * 256 + v % 256 = v := by omega
theorem leInt_le16 (v : Nat) (hv : v < 65536) : leInt (le16 v) = v := by
  simp only [leInt, le16, Nat.mul_zero, Nat.add_zero]; rw [Nat.mul_comm, Nat.add_comm]; exact be16_hi_lo v hv
theorem leInt_le32 (v : Nat) (hv : v < 4294967296) : leInt (le32 v) = v := by
  simp only [leInt, le32]; omega

/-- big-endian is little-endian of the bytes in reverse (`be16 v`, `be32 v` are `le16 v`, `le32 v` reversed) -/
theorem beInt_reverse (l : Bytes) : beInt l.reverse = leInt l := by
  induction l with
  | nil => rfl
  | cons x r ih =>
    simp only [leInt, ← ih, beInt, List.reverse_cons, List.foldl_append, List.foldl, Nat.mul_comm, Nat.add_comm]

theorem beInt_be32 (v : Nat) (hv : v < 4294967296) : beInt (be32 v) = v :=
  (beInt_reverse (le32 v)).trans (leInt_le32 v hv)
theorem beInt_be16 (v : Nat) (hv : v < 65536) : beInt (be16 v) = v :=
  (beInt_reverse (le16 v)).trans (leInt_le16 v hv)

/-- **PNG**: any file that starts with a PNG header declaring w × h is reported as w × h (0 ↦ None) -/
theorem sniff_png (scan : Bytes → Option Nat × Option Nat) (m0 m1 m2 m3 m4 m5 m6 m7 w h : Nat) (rest : Bytes)
    (hw : w < 4294967296) (hh : h < 4294967296) :
    sniffWith scan (pngHeader [m0, m1, m2, m3, m4, m5, m6, m7] w h ++ rest) = (orNone w, orNone h) := by
  -- here and below: the skipped bytes are separate variables `m0 …` so that the header is a list of known length, on which
  -- `simp [slice, …]` computes; the input is named `d` so that `sniffWith` stays folded while the slices and tests it looks at
  -- are computed once, on the concrete header (`subst hd` inside the `have`)
  generalize hd : pngHeader [m0, m1, m2, m3, m4, m5, m6, m7] w h ++ rest = d
  have ⟨e1, e2, e3, e4, e5⟩ : slice d 16 20 = be32 w ∧ slice d 20 24 = be32 h ∧ pngSig.isPrefixOf d = true
      ∧ 24 ≤ d.length ∧ d ≠ [] := by
    subst hd; simp [slice, pngHeader, pngSig, be32, List.isPrefixOf]
  unfold sniffWith
  rw [if_neg e5, if_pos ⟨e3, e4⟩, e1, e2, beInt_be32 w hw, beInt_be32 h hh]

/-- **GIF** (both signatures) -/
theorem sniff_gif (scan : Bytes → Option Nat × Option Nat) (sig : Bytes) (hs : sig = gif87 ∨ sig = gif89) (w h : Nat) (rest : Bytes)
    (hw : w < 65536) (hh : h < 65536) :
    sniffWith scan (gifHeader sig w h ++ rest) = (orNone w, orNone h) := by
  generalize hd : gifHeader sig w h ++ rest = d
  have ⟨e1, e2, e3, e4, e5, e6⟩ : slice d 6 8 = le16 w ∧ slice d 8 10 = le16 h ∧ d.take 6 = sig ∧ 10 ≤ d.length
      ∧ d ≠ [] ∧ ¬ (pngSig.isPrefixOf d = true ∧ 24 ≤ d.length) := by
    subst hd; rcases hs with rfl | rfl <;> simp [slice, gifHeader, gif87, gif89, le16, pngSig, List.isPrefixOf]
  unfold sniffWith
  rw [if_neg e5, if_neg e6, e3, if_pos ⟨hs, e4⟩, e1, e2, leInt_le16 w hw, leInt_le16 h hh]

/-- the height field of a BMP: `h` for a bottom-up bitmap, `2^32 - h` (two's complement of -h) for a top-down one -/
def bmpHeightField (h : Nat) (topDown : Bool) : Nat := if topDown ∧ h ≠ 0 then 4294967296 - h else h

private theorem bmpHeightField_read (h : Nat) (topDown : Bool) (hh : h < 2147483648) :
    absSigned32 (leInt (le32 (bmpHeightField h topDown))) = h := by
  rw [leInt_le32 _ (by unfold bmpHeightField; split <;> omega)]
  unfold absSigned32 bmpHeightField
  by_cases hc : topDown = true ∧ h ≠ 0
  · rw [if_pos hc]; have := hc.2; split <;> omega
  · rw [if_neg hc]; split <;> omega

/-- **BMP**, bottom-up and top-down -/
theorem sniff_bmp (scan : Bytes → Option Nat × Option Nat)
    (m0 m1 m2 m3 m4 m5 m6 m7 m8 m9 m10 m11 m12 m13 m14 m15 w h : Nat) (topDown : Bool) (rest : Bytes)
    (hw : w < 2147483648) (hh : h < 2147483648) :
    sniffWith scan (bmpHeader [m0, m1, m2, m3, m4, m5, m6, m7, m8, m9, m10, m11, m12, m13, m14, m15] w (bmpHeightField h topDown) ++ rest)
      = (orNone w, orNone h) := by
  generalize hd : bmpHeader [m0, m1, m2, m3, m4, m5, m6, m7, m8, m9, m10, m11, m12, m13, m14, m15] w (bmpHeightField h topDown) ++ rest = d
  have ⟨e1, e2, e3, e4, e5, e6, e7⟩ : slice d 18 22 = le32 w ∧ slice d 22 26 = le32 (bmpHeightField h topDown) ∧ d.take 2 = [0x42, 0x4D]
      ∧ 26 ≤ d.length ∧ d ≠ [] ∧ ¬ (pngSig.isPrefixOf d = true ∧ 24 ≤ d.length)
      ∧ ¬ ((d.take 6 = gif87 ∨ d.take 6 = gif89) ∧ 10 ≤ d.length) := by
    subst hd; simp [slice, bmpHeader, le32, pngSig, gif87, gif89, List.isPrefixOf]
  have hwa : absSigned32 w = w := by unfold absSigned32; simp [hw]
  unfold sniffWith
  rw [if_neg e5, if_neg e6, if_neg e7, e3, if_pos ⟨rfl, e4⟩, e1, e2, leInt_le32 w (by omega), bmpHeightField_read h topDown hh, hwa]

/-- a frame marker with its segment complete answers with the two fields behind the precision byte, any other segment is stepped over -/
private theorem jpegScanA_seg (sof stop : List Nat) (m n : Nat) (body : Bytes) (hst : stop.contains m = false) (hn : n + 2 < 65536) :
    jpegScanA sof stop (0xFF :: m :: be16 (n + 2) ++ body)
      = if sof.contains m = true ∧ n ≤ body.length then (orNone (beInt (slice body 3 5)), orNone (beInt (slice body 1 3)))
        else jpegScanA sof stop (body.drop n) := by
  have hlen := be16_hi_lo _ hn
  simp only [be16, List.cons_append, List.nil_append]
  rw [jpegScanA, if_neg (by decide), if_neg (by rw [hst]; exact Bool.false_ne_true)]
  simp only [hlen]
  rw [if_neg (by omega), show 2 + (n + 2) = n + 4 by omega]
  simp [slice]

theorem jpegScanA_skip (sof stop : List Nat) (s : Seg) (hs : s.skippable sof stop) (l : Bytes) :
    jpegScanA sof stop (s.enc ++ l) = jpegScanA sof stop l := by
  obtain ⟨h1, h2, h3⟩ := hs
  rw [Seg.enc, List.append_assoc, jpegScanA_seg sof stop _ _ _ h2 h3, if_neg (by rw [h1]; simp), List.drop_left]

theorem jpegScanA_skips (sof stop : List Nat) (segs : List Seg) (hs : ∀ s ∈ segs, s.skippable sof stop) (l : Bytes) :
    jpegScanA sof stop (segs.flatMap Seg.enc ++ l) = jpegScanA sof stop l := by
  induction segs with
  | nil => simp
  | cons s r ih =>
    simp only [List.flatMap_cons, List.append_assoc]
    rw [jpegScanA_skip sof stop s (hs s (by simp)), ih (fun x hx => hs x (by simp [hx]))]

theorem jpegScanA_sof (sof stop : List Nat) (m p w h : Nat) (tail rest : Bytes)
    (hm : sof.contains m = true) (hst : stop.contains m = false) (hl : 7 + tail.length < 65536)
    (hw : w < 65536) (hh : h < 65536) :
    jpegScanA sof stop (sofSeg m p w h tail ++ rest) = (orNone w, orNone h) := by
  simp only [sofSeg, List.append_assoc]
  rw [show 7 + tail.length = 5 + tail.length + 2 by omega, jpegScanA_seg sof stop _ _ _ hst (by omega),
    if_pos ⟨hm, by simp [be16]; omega⟩]
  simp only [slice, be16, List.cons_append, List.nil_append, List.drop_succ_cons, List.drop_zero, List.take_succ_cons,
    List.take_zero, beInt, List.foldl, Nat.zero_mul, Nat.zero_add]
  rw [be16_hi_lo w hw, be16_hi_lo h hh]

/-- **JPEG**: SOI, any number of well-formed non-frame segments (APPn, DQT, DHT, COM, …), then the frame header
    declaring w × h: reported as w × h, whatever follows -/
theorem sniff_jpeg (sof stop : List Nat) (segs : List Seg) (hs : ∀ s ∈ segs, s.skippable sof stop)
    (m p w h : Nat) (tail rest : Bytes)
    (hm : sof.contains m = true) (hst : stop.contains m = false) (hl : 7 + tail.length < 65536)
    (hw : w < 65536) (hh : h < 65536) :
    sniffA sof stop ([0xFF, 0xD8] ++ segs.flatMap Seg.enc ++ sofSeg m p w h tail ++ rest) = (orNone w, orNone h) := by
  unfold sniffA sniffWith
  simp only [List.cons_append, List.nil_append, reduceCtorEq, if_false]
  rw [if_neg (by simp [pngSig, List.isPrefixOf]), if_neg (by simp [gif87, gif89]), if_neg (by simp), if_pos (by simp [List.isPrefixOf])]
  simp only [List.drop_succ_cons, List.drop_zero, List.append_assoc]
  rw [jpegScanA_skips sof stop segs hs, jpegScanA_sof sof stop m p w h tail rest hm hst hl hw hh]

/-- the hypotheses are met by the generated tables and an ordinary JFIF prefix (APP0, DQT, DHT before SOF0) -/
example : (∀ s ∈ [Seg.mk 0xE0 [74, 70, 73, 70, 0], Seg.mk 0xDB [0, 1, 2], Seg.mk 0xC4 [0]],
      s.skippable S2T.Gen.Images.sof_docx S2T.Gen.Images.stop_docx)
    ∧ S2T.Gen.Images.sof_docx.contains 0xC0 = true ∧ S2T.Gen.Images.stop_docx.contains 0xC0 = false := by
  refine ⟨?_, by decide, by decide⟩
  intro s hs
  simp at hs
  rcases hs with rfl | rfl | rfl <;> exact ⟨by decide, by decide, by decide⟩

theorem jpegScanA_short (sof stop : List Nat) (l : Bytes) (h : l.length < 4) : jpegScanA sof stop l = (none, none) := by
  fun_cases jpegScanA sof stop l
  case case6 => rfl
  all_goals exact absurd h (by simp)

/-- the pptx copy (a cut-short frame segment ends the walk) and the docx/xlsx copy (it is stepped over, which leaves
    fewer than four bytes) return the same answer on every byte string -/
theorem jpegScanB_eq_A (sof stop : List Nat) (l : Bytes) : jpegScanB sof stop l = jpegScanA sof stop l := by
  -- along the recursion of `jpegScanA`: in every case `jpegScanB` takes the same branch, except at a cut-short frame segment
  -- (the bare `simp only` opens `let length := …` of the definition, so that the next test is on `len`)
  fun_induction jpegScanA sof stop l with
  | case1 b0 b1 b2 b3 rest h ih => rw [jpegScanB, if_pos h]; exact ih
  | case2 b0 b1 b2 b3 rest h hs => rw [jpegScanB, if_neg h, if_pos hs]
  | case3 b0 b1 b2 b3 rest h hs len hl => rw [jpegScanB, if_neg h, if_neg hs]; simp only; rw [if_pos hl]
  | case4 b0 b1 b2 b3 rest h hs len hl hsof =>
    rw [jpegScanB, if_neg h, if_neg hs]; simp only; rw [if_neg hl, if_pos hsof.1, if_pos hsof.2, if_pos hsof]
  | case5 b0 b1 b2 b3 rest h hs len hl hsof ih =>
    rw [jpegScanB, if_neg h, if_neg hs]; simp only; rw [if_neg hl, if_neg hsof]
    split
    · rename_i hm
      have hcut : ¬ 2 + len ≤ (b0 :: b1 :: b2 :: b3 :: rest).length := fun hc => hsof ⟨hm, hc⟩
      rw [if_neg hcut, jpegScanA_short]
      simp only [List.length_drop]; omega
    · exact ih
  | case6 l hl =>
    unfold jpegScanB
    split
    · exact absurd rfl (hl _ _ _ _ _)
    · rfl

/-- **C14_dims (copies)**: `_get_image_pixel_dimensions` of pptx = of docx = of xlsx, on every input -/
theorem sniffB_eq_sniffA (sof stop : List Nat) (d : Bytes) : sniffB sof stop d = sniffA sof stop d := by
  unfold sniffB sniffA sniffWith
  simp only [jpegScanB_eq_A]

/-- the marker tables of the four sniffers — read off the behaviour of the current functions by the translator
    (a marker is a frame marker when a segment carrying it is answered with its size, a stop marker when the walk
    ends there) — are the same set, and it is the set of JPEG start-of-frame markers (C0–CF without DHT C4, JPG C8,
    DAC CC); the stop markers of the three extractor copies are EOI and SOS -/
theorem gen_marker_tables :
    S2T.Gen.Images.sof_docx = [0xC0, 0xC1, 0xC2, 0xC3, 0xC5, 0xC6, 0xC7, 0xC9, 0xCA, 0xCB, 0xCD, 0xCE, 0xCF]
    ∧ S2T.Gen.Images.sof_xlsx = S2T.Gen.Images.sof_docx ∧ S2T.Gen.Images.sof_pptx = S2T.Gen.Images.sof_docx
    ∧ S2T.Gen.Images.sof_util = S2T.Gen.Images.sof_docx
    ∧ S2T.Gen.Images.stop_docx = [0xD9, 0xDA] ∧ S2T.Gen.Images.stop_xlsx = [0xD9, 0xDA] ∧ S2T.Gen.Images.stop_pptx = [0xD9, 0xDA]
    ∧ S2T.Gen.Images.png_signature = pngSig := by decide

/-- the sniffers of the source, instantiated -/
def sniffDocx := sniffA S2T.Gen.Images.sof_docx S2T.Gen.Images.stop_docx
def sniffXlsx := sniffA S2T.Gen.Images.sof_xlsx S2T.Gen.Images.stop_xlsx
def sniffPptx := sniffB S2T.Gen.Images.sof_pptx S2T.Gen.Images.stop_pptx

theorem C14_dims_copies (d : Bytes) : sniffPptx d = sniffDocx d ∧ sniffXlsx d = sniffDocx d := by
  obtain ⟨_, sofXlsx, sofPptx, _, stopDocx, stopXlsx, stopPptx, _⟩ := gen_marker_tables
  unfold sniffPptx sniffDocx sniffXlsx
  rw [sniffB_eq_sniffA, sofXlsx, sofPptx, stopDocx, stopXlsx, stopPptx]
  exact ⟨rfl, rfl⟩

/-- `ImageMetadata` keeps a positive size and turns 0 / None into None -/
theorem metaDim_orNone (v : Nat) : metaDim (orNone v) = orNone v := by
  unfold metaDim orNone; split <;> simp [*]

/-- before fix-09 `XlsxImage.get_metadata` evaluated `self.width > 0` on the `None` the sniffer returns for a file whose
    size it does not know (TIFF, EMF, …): `TypeError` instead of metadata.  Full statement (false then):
    `∀ x, metaDimXlsxOld x = .ok (metaDim x)`. -/
def metaDimXlsxOld : Option Nat → Except String (Option Nat)
  | none => .error "TypeError: '>' not supported between instances of 'NoneType' and 'int'"
  | some v => .ok (orNone v)

theorem xlsx_old_counterexample_unknown_size :
    sniffXlsx [0x49, 0x49, 0x2A, 0x00, 8, 0, 0, 0] = (none, none)
    ∧ ∃ e, metaDimXlsxOld (sniffXlsx [0x49, 0x49, 0x2A, 0x00, 8, 0, 0, 0]).1 = .error e := by
  have h : sniffXlsx [0x49, 0x49, 0x2A, 0x00, 8, 0, 0, 0] = (none, none) := by decide +kernel
  exact ⟨h, by rw [h]; exact ⟨_, rfl⟩⟩

/-- what did hold: pictures whose size the sniffer finds -/
theorem xlsx_old_partial_known_size (v : Nat) : metaDimXlsxOld (some v) = .ok (metaDim (some v)) := rfl

theorem util_png (jp : Bytes → Option Nat × Option Nat) (l0 l1 l2 l3 w h : Nat) (rest : Bytes)
    (hw : w < 4294967296) (hh : h < 4294967296) :
    utilDims jp 0 (pngHeader [l0, l1, l2, l3, 0x49, 0x48, 0x44, 0x52] w h ++ rest) = (some (w : Int), some (h : Int)) := by
  generalize hd : pngHeader [l0, l1, l2, l3, 0x49, 0x48, 0x44, 0x52] w h ++ rest = d
  have ⟨e0, e1, e2, e4⟩ : slice d 12 16 = [0x49, 0x48, 0x44, 0x52] ∧ slice d 16 20 = be32 w ∧ slice d 20 24 = be32 h
      ∧ 24 ≤ d.length := by
    subst hd; simp [slice, pngHeader, pngSig, be32]
  unfold utilDims
  rw [if_pos ⟨rfl, e4⟩, e0, if_pos rfl, e1, e2, beInt_be32 w hw, beInt_be32 h hh]

theorem util_gif (jp : Bytes → Option Nat × Option Nat) (sig : Bytes) (hs : sig.length = 6) (w h : Nat) (rest : Bytes)
    (hw : w < 65536) (hh : h < 65536) :
    utilDims jp 3 (gifHeader sig w h ++ rest) = (some (w : Int), some (h : Int)) := by
  match sig, hs with
  | [s0, s1, s2, s3, s4, s5], _ =>
    generalize hd : gifHeader [s0, s1, s2, s3, s4, s5] w h ++ rest = d
    have ⟨e1, e2, e4⟩ : slice d 6 8 = le16 w ∧ slice d 8 10 = le16 h ∧ 10 ≤ d.length := by
      subst hd; simp [slice, gifHeader, le16]
    unfold utilDims
    rw [if_neg (by simp), if_neg (by simp), if_neg (by simp), if_pos ⟨rfl, e4⟩, e1, e2, leInt_le16 w hw, leInt_le16 h hh]

theorem util_bmp (jp : Bytes → Option Nat × Option Nat)
    (m0 m1 m2 m3 m4 m5 m6 m7 m8 m9 m10 m11 m12 m13 m14 m15 w h : Nat) (topDown : Bool) (rest : Bytes)
    (hw : w < 2147483648) (hh : h < 2147483648) :
    utilDims jp 2 (bmpHeader [m0, m1, m2, m3, m4, m5, m6, m7, m8, m9, m10, m11, m12, m13, m14, m15] w (bmpHeightField h topDown) ++ rest)
      = (some (w : Int), some (h : Int)) := by
  generalize hd : bmpHeader [m0, m1, m2, m3, m4, m5, m6, m7, m8, m9, m10, m11, m12, m13, m14, m15] w (bmpHeightField h topDown) ++ rest = d
  have ⟨e1, e2, e3, e4⟩ : slice d 18 22 = le32 w ∧ slice d 22 26 = le32 (bmpHeightField h topDown) ∧ d.take 2 = [0x42, 0x4D] ∧ 26 ≤ d.length := by
    subst hd; simp [slice, bmpHeader, le32]
  unfold utilDims
  rw [if_neg (by simp), if_neg (by simp), if_pos ⟨rfl, e4⟩, e3, if_pos rfl, e1, e2, leInt_le32 w (by omega), bmpHeightField_read h topDown hh]
  simp [signed32, hw]

end S2T.C14.Sniff
