import S2T.Lemmas.Iface
import S2T.Props.C04_Copies
import S2T.Gen.Iface
import S2T.Props.C04_Src
import S2T.Props.C04_Streams
import S2T.Props.C04_StreamSites
import S2T.Props.C04_OptText
import S2T.Props.C04_Values
/-!
# C04 — every result honours the common interface, for any input

Statement (fixed): every yielded result, and every unit, image and table reachable from it, honours the common
interface whatever the input was: text accessors return str that is well-formed Unicode (encodable as UTF-8),
unit and image numbers are positive integers, get_bytes() returns a readable binary stream positioned at 0 whose
length equals the reported size, get_dim() equals the shape of get_table(), and get_metadata() reports file name,
extension and folder derived from the path argument (all None when no path was given).  Calling these accessors
never raises, and the textual document properties stored in the file are reported unchanged in the metadata object.

What is proved here, clause by clause (models in `S2T/Model/Iface.lean`; inventories regenerated from the source
into `S2T/Gen/Iface.lean` on every run, so the `decide`d statements are re-decided when the source changes):

* (i)   `get_dim() = shape(get_table())` for the two ways the six table classes compute them, all tables;
* (ii)  every constructor call site of the package gives a unit / image number that is a 1-based enumerate
        variable, a counter incremented before use, `nonneg + 1`, a copy of such a field, a positive constant
        (or `None` where the interface allows it) — and each of those forms is ≥ 1 for all runs;
* (iii) `get_bytes()` is at position 0, holds exactly `size_bytes` bytes for what the constructor sites build,
        also after the caller consumed a previously returned (shared) stream;
* (iv)  `populate_from_path`: nothing for `None`; name / suffix / parent of `PurePosixPath` otherwise, with
        their characteristic properties (incl. `archive!/member`);
* (v)   the RTF `\uN` decoding with the surrogate repair yields well-formed text for all inputs; the unrepaired
        decoding (the code before `fix-rtf-surrogates.patch`) does not — counterexample theorem;
* (vi)  the OOXML / ODF document-property readers are the identity on the element text.

Not theorems (only tied by the correspondence / the oracle of `harness/props/c04.py`): that no accessor of the 47
classes raises on the objects the 21 extractors really build, and that fields hold values of their declared types.
-/
namespace S2T.C04
open S2T.Iface

-- (i) tables

/-- the shape of a table: number of rows, and the length of a longest row (0 for no rows) -/
def IsShape {α : Type} (t : List (List α)) (d : Dim) : Prop :=
  d.rows = t.length ∧ (∀ r ∈ t, r.length ≤ d.columns) ∧ (t = [] → d.columns = 0) ∧ (t ≠ [] → ∃ r ∈ t, r.length = d.columns)

/-- `get_dim()` is the shape of `get_table()` for the classes whose table is `self.data`, any rows (ragged included) -/
theorem C04_dim_is_shape {α : Type} (data : List (List α)) : IsShape data (dimOfData data) :=
  ⟨rfl, maxLen_ge data, fun h => by subst h; rfl, maxLen_attained data⟩

/-- the shape is unique: whatever satisfies the specification is what `get_dim()` returns -/
theorem C04_shape_unique {α : Type} (t : List (List α)) (d : Dim) (h : IsShape t d) : d = dimOfData t := by
  obtain ⟨h1, h2, h3, h4⟩ := h
  cases d with | mk r c =>
  simp only [dimOfData, Dim.mk.injEq]
  refine ⟨h1, ?_⟩
  by_cases ht : t = []
  · subst ht; exact h3 rfl
  · obtain ⟨r1, hr1, hl1⟩ := h4 ht
    obtain ⟨r2, hr2, hl2⟩ := maxLen_attained t ht
    have a := maxLen_ge t r1 hr1
    have b := h2 r2 hr2
    simp only at hl1 b
    omega

example : IsShape [[1], [2, 3, 4], []] (⟨3, 3⟩ : Dim) := by
  refine ⟨rfl, by decide, by decide, fun _ => ⟨[2, 3, 4], by decide, rfl⟩⟩

theorem C04_dim_empty {α : Type} : dimOfData ([] : List (List α)) = ⟨0, 0⟩ := rfl

/-- a rectangular table with `c` columns reports `(len, c)` -/
theorem C04_dim_rect {α : Type} (t : List (List α)) (c : Nat) (h : ∀ r ∈ t, r.length = c) (hne : t ≠ []) :
    dimOfData t = ⟨t.length, c⟩ := by
  simp [dimOfData, maxLen_rect t c h hne]

example : (∀ r ∈ [[1, 2, 3], [4, 5, 6]], r.length = 3) ∧ [[1, 2, 3], [4, 5, 6]] ≠ ([] : List (List Nat)) := by decide
example : dimOfData [[1], [2, 3, 4], []] = ⟨3, 3⟩ := by decide

/-- `XlsSheet.get_table()` is rectangular: the header row and one row per record, each as long as the header -/
theorem C04_xls_table_rect {κ ν : Type} [DecidableEq κ] (first : List (κ × ν)) (rest : List (List (κ × ν))) :
    (xlsGetTable (first :: rest)).length = rest.length + 2 ∧
    ∀ r ∈ xlsGetTable (first :: rest), r.length = first.length := by
  refine ⟨by simp [xlsGetTable], ?_⟩
  intro r hr
  unfold xlsGetTable at hr
  simp only [List.mem_cons, List.mem_map] at hr
  rcases hr with h | ⟨row, _, h⟩
  · rw [h]; simp
  · rw [← h]; simp

/-- `XlsSheet.get_dim()` for any records: `(0,0)` without data, else `(records + 1, keys of the first record)` -/
theorem C04_xls_dim {κ ν : Type} [DecidableEq κ] (data : List (List (κ × ν))) :
    IsShape (xlsGetTable data) (xlsGetDim data) ∧
    (data = [] → xlsGetDim data = ⟨0, 0⟩) ∧
    (∀ first rest, data = first :: rest → xlsGetDim data = ⟨rest.length + 2, first.length⟩) := by
  refine ⟨C04_dim_is_shape _, fun h => by subst h; rfl, ?_⟩
  intro first rest h
  subst h
  have hr := C04_xls_table_rect first rest
  have hne : xlsGetTable (first :: rest) ≠ [] := by simp [xlsGetTable]
  rw [xlsGetDim, C04_dim_rect _ first.length hr.2 hne, hr.1]

example : xlsGetDim [[("a", 1), ("b", 2)], [("b", 5)]] = ⟨3, 2⟩ := by decide

/-- every table class of `data_types` is one of the two modelled forms (a new class breaks this) -/
theorem C04_table_classes_modelled :
    ∀ e ∈ S2T.Gen.Iface.accessors, e.1 = Role.table → (tableKind e.2.1).isSome = true := by decide +kernel

/-- every class implementing a protocol defines every accessor of that protocol itself -/
theorem C04_accessors_complete :
    ∀ e ∈ S2T.Gen.Iface.accessors, ∀ a ∈ requiredAccessors e.1, a ∈ e.2.2 := by decide +kernel

theorem C04_inventory_notes_empty : S2T.Gen.Iface.notes = [] := by decide

-- (ii) unit and image numbers are positive

/-- what the accessors report: `image_number` is always a stored field; an image's `unit_number` is a stored
field, a stored field passed only when positive, or `None`; a unit's `unit_number` is a stored field or a positive constant -/
theorem C04_reported_numbers :
    (∀ ic ∈ S2T.Gen.Iface.imageClasses,
      (match ic.imageNumber with | .field _ => true | _ => false) = true ∧
      (match ic.unitNumber with | .field _ | .fieldIfPos _ | .none => true | _ => false) = true) ∧
    (∀ u ∈ S2T.Gen.Iface.unitClasses, (match u.2 with | .field _ => true | .const k => decide (1 ≤ k) | _ => false) = true) := by
  decide

/-- every constructor / `dataclasses.replace` call site of the package sets each such field by an expression of
an accepted kind (1-based enumerate, counter incremented before use, `nonneg + 1`, copy of a number field, positive
constant, modelled helper, `None` only for an image's optional unit number) -/
theorem C04_number_sites_ok : ∀ s ∈ S2T.Gen.Iface.numberSites, siteOk s = true := by decide +kernel

/-- the values of the accepted kinds, for all runs: a 1-based `enumerate` variable -/
theorem C04_enumerate_positive {α : Type} (start : Nat) (xs : List α) (h : 1 ≤ start) :
    ∀ p ∈ enumerateFrom start xs, 1 ≤ p.1 :=
  fun p hp => Nat.le_trans h (enumerateFrom_ge xs start p hp)

/-- … it numbers consecutively from `start` -/
theorem C04_enumerate_consecutive {α : Type} (start : Nat) (xs : List α) :
    (enumerateFrom start xs).map (·.1) = List.range' start xs.length := by
  simp [enumerateFrom_eq_zipIdx, Function.comp_def, List.zipIdx_map_snd]

/-- … a counter started at `c ≥ 0` and incremented before each use, whatever elements are skipped -/
theorem C04_counter_positive {α : Type} (keep : α → Bool) (c : Nat) (xs : List α) :
    ∀ n ∈ counterLoop keep c xs, 1 ≤ n := fun n hn => by have := counterLoop_gt keep xs c n hn; omega

/-- … `_get_page_for_position` (1-based page of an RTF position) -/
theorem C04_page_positive (position : Nat) (breaks : List Nat) : 1 ≤ getPageForPosition position breaks 1 :=
  getPageForPosition_ge position breaks 1

/-- … a stored slide number reported only when positive (`PptImage`): never a non-positive unit number -/
theorem C04_report_if_pos (n m : Int) (h : reportIfPos n = some m) : 1 ≤ m := by
  unfold reportIfPos at h; split at h
  · cases h; omega
  · cases h

example : enumerateFrom 1 ['a', 'b'] = [(1, 'a'), (2, 'b')] := by decide
example : counterLoop (fun n => n % 2 == 0) 0 [1, 2, 3, 4] = [1, 2] := by decide
example : reportIfPos 3 = some 3 ∧ reportIfPos 0 = none := by decide

-- (iii) `get_bytes()`

/-- position 0, for every image object in every state of its stored stream -/
theorem C04_bytes_at_zero (im : Image) : (getBytes im).1.pos = 0 := by
  unfold getBytes; cases im.payload <;> rfl

/-- the stream holds exactly `size_bytes` bytes for everything the constructor sites build -/
theorem C04_bytes_length (kind : PayloadKind) (v : Option (List Nat)) :
    (getBytes (mkImage kind v)).1.content.length = (mkImage kind v).sizeBytes := by
  cases v with
  | none => rfl
  | some b => cases kind <;> rfl

/-- reading the returned stream yields the whole payload -/
theorem C04_bytes_read_all (im : Image) : ((getBytes im).1.read).1 = payloadBytes im.payload := by
  unfold getBytes; cases h : im.payload <;> simp [Stream.read, Stream.seek0, payloadBytes]

/-- after the caller consumed any part of a previously returned stream, `get_bytes()` is at 0 with the same content -/
theorem C04_bytes_after_read (im : Image) (k : Nat) : (getBytes (consume im k)).1 = (getBytes im).1 := by
  unfold getBytes consume; cases h : im.payload <;> simp [Stream.seek0, h]

/-- `get_bytes()` changes neither the reported size nor the payload -/
theorem C04_bytes_pure (im : Image) :
    (getBytes im).2.sizeBytes = im.sizeBytes ∧ payloadBytes (getBytes im).2.payload = payloadBytes im.payload := by
  unfold getBytes; cases h : im.payload <;> simp [payloadBytes, Stream.seek0, h]

/-- every constructor call site of a size-reporting image class sets `size_bytes = len(payload)` of the payload
it stores, copies both from one image, or sets neither -/
theorem C04_size_sites_ok :
    ∀ s ∈ S2T.Gen.Iface.sizeSites, (match s.kind with | .other _ => false | _ => true) = true := by decide +kernel

/-- the payload field of every image class is `bytes` or a stored stream (the two forms `getBytes` models) -/
theorem C04_payload_kinds : ∀ ic ∈ S2T.Gen.Iface.imageClasses, ic.payloadKind ≠ PayloadKind.otherKind := by decide +kernel

example : (getBytes (consume (mkImage .stream (some [1, 2, 3])) 2)).1 = ⟨[1, 2, 3], 0⟩ := by decide

-- (iii-b) pictures of the legacy PPT / XLS streams (OfficeArt BLIP records)

/-- the constants of the modelled pipeline are the ones of the current source (record types, metafile / DIB types,
secondary-UID instances, file signatures in the order `detect_image_type` tries them) -/
theorem C04_blip_constants :
    S2T.Gen.Iface.blipTypes = blipTypes ∧ S2T.Gen.Iface.blipEmf = blipEmf ∧ S2T.Gen.Iface.blipWmf = blipWmf ∧
    S2T.Gen.Iface.blipDib = blipDib ∧ S2T.Gen.Iface.blipSecondUid = blipSecondUid ∧
    S2T.Gen.Iface.imageSignatures = imageSignatures := by decide +kernel

/-- wrapping a DIB: the BMP file is the DIB behind a 14-byte `BM` header — 14 bytes longer than what was in the record -/
theorem C04_wrap_dib_length (d b : List Nat) (h : wrapDibAsBmp d = some b) :
    b.length = d.length + 14 ∧ b.drop 14 = d ∧ b.take 2 = [0x42, 0x4D] := by
  unfold wrapDibAsBmp at h
  split at h
  · cases h
  · split at h
    · cases h
    · simp only at h
      split at h
      · cases h
      · cases h
        refine ⟨by simp [le32], by simp [le32], by simp [le32]⟩

/-- what a record's stored payload is: the bytes behind the BLIP header, or (DIB records the sniffer does not know)
their BMP wrapping; never empty -/
theorem C04_blip_payload_cases (r : BlipRec) (ct : String) (p : List Nat) (h : blipPayload r = some (ct, p)) :
    p ≠ [] ∧ (p = r.data.drop (blipHeaderSize r.inst) ∨
      (r.recType = blipDib ∧ wrapDibAsBmp (r.data.drop (blipHeaderSize r.inst)) = some p)) := by
  unfold blipPayload at h
  split at h
  · cases h                          -- not a BLIP type, or no more than 17 bytes
  · simp only at h
    split at h
    · cases h                        -- nothing behind the header
    · rename_i hlen
      have hne : r.data.drop (blipHeaderSize r.inst) ≠ [] :=
        List.ne_nil_of_length_pos (by rw [List.length_drop]; omega)
      split at h
      · cases h; exact ⟨hne, Or.inl rfl⟩         -- the sniffer knows the format
      · split at h
        · cases h; exact ⟨hne, Or.inl rfl⟩       -- EMF
        · split at h
          · cases h; exact ⟨hne, Or.inl rfl⟩     -- WMF
          · split at h
            · rename_i hd                       -- DIB: the BMP wrapping, if there is one
              cases hw : wrapDibAsBmp (r.data.drop (blipHeaderSize r.inst)) with
              | none => rw [hw] at h; cases h
              | some b =>
                rw [hw] at h
                simp only [Option.map_some, Option.some.injEq, Prod.mk.injEq] at h
                obtain ⟨_, rfl⟩ := h
                exact ⟨List.ne_nil_of_length_pos (by rw [(C04_wrap_dib_length _ _ hw).1]; omega), Or.inr ⟨hd, rfl⟩⟩
            · cases h                           -- any other type the sniffer does not know

private theorem blipAux_ok (recs : List BlipRec) : ∀ (seen : List (List Nat)) (n : Nat), ∀ bi ∈ blipImagesAux seen n recs,
    n + 1 ≤ bi.index ∧ ∃ r ∈ recs, ∃ p, blipPayload r = some (bi.contentType, p) ∧ bi.image = mkImage .bytes (some p) := by
  induction recs with
  | nil => intro seen n bi h; simp [blipImagesAux] at h
  | cons r rs ih =>
    intro seen n bi h
    unfold blipImagesAux at h
    split at h
    · obtain ⟨a, r', hr', hp⟩ := ih seen n bi h
      exact ⟨a, r', List.mem_cons_of_mem _ hr', hp⟩
    · rename_i ct p hp
      split at h
      · obtain ⟨a, r', hr', hp'⟩ := ih seen n bi h
        exact ⟨a, r', List.mem_cons_of_mem _ hr', hp'⟩
      · rcases List.mem_cons.mp h with rfl | h'
        · exact ⟨Nat.le_refl _, r, List.mem_cons_self, p, hp, rfl⟩
        · obtain ⟨a, r', hr', hp'⟩ := ih (p :: seen) (n + 1) bi h'
          exact ⟨by omega, r', List.mem_cons_of_mem _ hr', hp'⟩

/-- every picture the loop stores, for every record sequence: its number is ≥ 1, `get_bytes()` is at position 0
and holds exactly `size_bytes` bytes — the payload of one of the records **as stored** (after the DIB wrapping) -/
theorem C04_blip_images_ok (recs : List BlipRec) : ∀ bi ∈ blipImages recs,
    1 ≤ bi.index ∧ (getBytes bi.image).1.pos = 0 ∧ (getBytes bi.image).1.content.length = bi.image.sizeBytes ∧
    ∃ r ∈ recs, ∃ p, blipPayload r = some (bi.contentType, p) ∧ (getBytes bi.image).1.content = p := by
  intro bi h
  obtain ⟨hi, r, hr, p, hp, him⟩ := blipAux_ok recs [] 0 bi h
  refine ⟨by omega, C04_bytes_at_zero _, ?_, r, hr, p, hp, ?_⟩
  · rw [him]; exact C04_bytes_length .bytes (some p)
  · rw [him]; rfl

private theorem blipAux_indices (recs : List BlipRec) : ∀ (seen : List (List Nat)) (n : Nat),
    (blipImagesAux seen n recs).map (·.index) = List.range' (n + 1) (blipImagesAux seen n recs).length := by
  induction recs with
  | nil => intro seen n; simp [blipImagesAux]
  | cons r rs ih =>
    intro seen n
    unfold blipImagesAux
    split
    · exact ih seen n
    · split
      · exact ih seen n
      · simp only [List.map_cons, List.length_cons, List.range'_succ, ih]

/-- the pictures are numbered 1, 2, 3, … without gaps (skipped and duplicate records take no number) -/
theorem C04_blip_indices_consecutive (recs : List BlipRec) :
    (blipImages recs).map (·.index) = List.range' 1 (blipImages recs).length := blipAux_indices recs [] 0

/-- a 2×2 24-bpp DIB behind a 17-byte BLIP header (the shape no fixture has) -/
def dibWitness : BlipRec :=
  ⟨0xF01F, 0x7A8, List.replicate 17 0x11 ++ [40, 0, 0, 0, 2, 0, 0, 0, 2, 0, 0, 0, 1, 0, 24, 0] ++ List.replicate 24 0 ++ List.replicate 16 7⟩

/-- why the size must be taken from the payload AS STORED: for a DIB record the bytes in the record are 14 fewer
than what `get_bytes()` returns (a `size_bytes` recorded before the wrapping would be wrong by 14) -/
theorem C04_blip_raw_size_counterexample :
    (dibWitness.data.drop (blipHeaderSize dibWitness.inst)).length = 56 ∧
    (blipImages [dibWitness]).map (fun bi => (bi.index, bi.contentType, bi.image.sizeBytes)) = [(1, "image/bmp", 70)] := by decide +kernel

example : (blipImages [⟨0xF01E, 0x6E0, List.replicate 17 0 ++ [0x89, 0x50, 0x4E, 0x47, 0x0D, 0x0A, 0x1A, 0x0A, 1]⟩,
    ⟨0xF01E, 0x6E0, List.replicate 17 1 ++ [0x89, 0x50, 0x4E, 0x47, 0x0D, 0x0A, 0x1A, 0x0A, 1]⟩,
    ⟨0xF01A, 0x3D4, List.replicate 17 0 ++ [1, 2, 3]⟩]).map (fun bi => (bi.index, bi.contentType, bi.image.sizeBytes)) =
    [(1, "image/png", 9), (2, "image/x-emf", 3)] := by decide +kernel

-- (iv) metadata from the path

/-- no path: nothing is set (all five fields stay `None` on a fresh metadata object) -/
theorem C04_path_none (host : Host) : populateFromPath host {} none = {} ∧
    ∀ m, populateFromPath host m none = m := ⟨rfl, fun _ => rfl⟩

/-- a path: file name, extension and folder are pathlib's `name`, `suffix`, `parent`; when the host does not have
the path (or cannot probe it) `file_path` / `folder_path` are the path and its parent as given -/
theorem C04_path_fields (host : Host) (m : FileMeta) (s : Str) :
    let r := populateFromPath host m (some s)
    r.filename = some (parsePath s).name ∧ r.fileExtension = some (parsePath s).suffix ∧
    (host (parsePath s).str = none → r.filePath = some (parsePath s).str) ∧
    (host (parsePath s).parent.str = none → r.folderPath = some (parsePath s).parent.str) ∧
    r.detectedEncoding = m.detectedEncoding := by
  refine ⟨rfl, rfl, ?_, ?_, rfl⟩ <;> (intro h; simp [populateFromPath, h])

/-- the file name never contains a separator -/
theorem C04_name_no_slash (s : Str) : '/' ∉ (parsePath s).name := name_eq_relName s ▸ relName_no_slash s

/-- the file name is the last component: for `<anything>/m` (so for `archive.zip!/dir/m` too) it is `m` -/
theorem C04_name_last_component (pre m : Str) (h1 : '/' ∉ m) (h2 : m ≠ []) (h3 : m ≠ ['.']) :
    (parsePath (pre ++ '/' :: m)).name = m :=
  (name_eq_relName _).trans (relName_last pre m h1 h2 h3)

/-- … and a bare relative name is its own file name -/
theorem C04_name_bare (m : Str) (h1 : '/' ∉ m) (h2 : m ≠ []) (h3 : m ≠ ['.']) : (parsePath m).name = m :=
  (name_eq_relName _).trans (relName_single m h1 h2 h3)

example : '/' ∉ "b.txt".toList ∧ "b.txt".toList ≠ [] ∧ "b.txt".toList ≠ ['.'] := by decide

/-- the extension: empty, or the part of the name from its last dot — which is neither the first nor the last
character of the name — so it starts with a dot, has at least one more character and no second dot -/
theorem C04_suffix_spec (name : Str) :
    suffixOf name = [] ∨
    (∃ stem, stem ≠ [] ∧ name = stem ++ suffixOf name) ∧ (suffixOf name).head? = some '.' ∧
      2 ≤ (suffixOf name).length ∧ '.' ∉ (suffixOf name).tail := by
  unfold suffixOf
  cases h : rfindDot name with
  | none => left; rfl
  | some i =>
    simp only
    split
    · rename_i hi
      right
      have sp := rfindDot_spec name i h
      refine ⟨⟨name.take i, ?_, (List.take_append_drop i name).symm⟩, sp.2.1, ?_, sp.2.2⟩
      · exact List.ne_nil_of_length_pos (by rw [List.length_take]; omega)
      · rw [List.length_drop]; omega
    · left; rfl

/-- the separator `str()` puts between the parent's components and the name -/
def sepAfter : List Str → Str
  | [] => []
  | _ => ['/']

/-- `str(parent)` and the name make up `str(path)` again -/
theorem C04_parent_and_name (tail : List Str) (h : tail ≠ []) :
    joinSlash tail = joinSlash tail.dropLast ++ sepAfter tail.dropLast ++ tail.getLast?.getD [] := by
  induction tail with
  | nil => exact absurd rfl h
  | cons x xs ih =>
    cases xs with
    | nil => simp [joinSlash, sepAfter]
    | cons y ys =>
      have ih' := ih (by simp)
      have e1 : (x :: y :: ys).dropLast = x :: (y :: ys).dropLast := by simp [List.dropLast]
      have e2 : (x :: y :: ys).getLast? = (y :: ys).getLast? := by simp [List.getLast?_cons_cons]
      rw [e1, e2]
      cases hd : (y :: ys).dropLast with
      | nil =>
        rw [hd] at ih'
        simp only [joinSlash, sepAfter, List.nil_append] at ih' ⊢
        rw [ih']; simp
      | cons z zs =>
        rw [hd] at ih'
        simp only [joinSlash, sepAfter] at ih' ⊢
        rw [ih']; simp

example : (parsePath "a.zip!/dir/b.tar.gz".toList).name = "b.tar.gz".toList ∧
    (parsePath "a.zip!/dir/b.tar.gz".toList).suffix = ".gz".toList ∧
    (parsePath "a.zip!/dir/b.tar.gz".toList).parent.str = "a.zip!/dir".toList := by decide +kernel
example : (parsePath "//a//b/./c/".toList).str = "//a/b/c".toList ∧ (parsePath "///a".toList).str = "/a".toList ∧
    (parsePath "".toList).str = ".".toList ∧ (parsePath ".hidden".toList).suffix = [] ∧
    (parsePath "x.".toList).suffix = [] := by decide

-- (iv-b) a history of calls in one process

/-- every call of a history is answered from the host as it is at that call and from that call's path argument:
nothing an earlier call saw or computed is carried over -/
theorem C04_path_history (calls : List PathCall) (i : Nat) (h : i < calls.length) :
    (runPathCalls calls)[i]? = some (populateFromPath calls[i].host {} calls[i].path) := by
  simp [runPathCalls, h]

/-- … so the answer to a call does not depend on what was called before it -/
theorem C04_path_history_independent (pre pre' : List PathCall) (c : PathCall) :
    (runPathCalls (pre ++ [c])).getLast? = (runPathCalls (pre' ++ [c])).getLast? := by
  simp [runPathCalls]

/-- tie of that shape to the source: no function reachable from `populate_from_path` is decorated (memoised,
wrapped) or writes module-level state -/
theorem C04_path_stateless :
    ∀ f ∈ S2T.Gen.Iface.stateSites, f.onMetadataPath = true → f.decorators = [] ∧ f.globalsWritten = [] := by decide +kernel

/-- … `populate_from_path` itself is in that inventory -/
theorem C04_path_inventory_nonempty :
    (S2T.Gen.Iface.stateSites.any fun f => f.name == "populate_from_path" && f.onMetadataPath) = true := by decide +kernel

/-- … and no memoised function of the package asks the file system or the working directory (its value is a
function of its arguments, so remembering it cannot make a result depend on an earlier call) -/
theorem C04_memo_host_free :
    ∀ f ∈ S2T.Gen.Iface.stateSites, f.decorators ≠ [] → f.touchesHost = false ∧ f.onMetadataPath = false := by decide +kernel

/-- … and every function of the package that writes module-level state is one of the reviewed ones (a new
hand-written cache or remembered directory anywhere in the package breaks this), none of which consults the host -/
theorem C04_state_writers_reviewed :
    ∀ f ∈ S2T.Gen.Iface.stateSites, f.globalsWritten ≠ [] →
      (f.file, f.name) ∈ reviewedStateWriters ∧ f.touchesHost = false ∧ f.onMetadataPath = false := by decide +kernel

/-- model of the defect class this excludes: the folder looked up through a process-wide cache keyed by the parent string -/
def populateCached (cache : List (Str × Str)) (host : Host) (s : Str) : FileMeta × List (Str × Str) :=
  let p := parsePath s
  let key := p.parent.str
  match cache.find? (·.1 == key) with
  | some e => ({ populateFromPath host {} (some s) with folderPath := some e.2 }, cache)
  | none =>
    let v := (host key).getD key
    ({ populateFromPath host {} (some s) with folderPath := some v }, (key, v) :: cache)

/-- the same relative path under two working directories: the cached variant reports the FIRST directory for the
second call, the code as modelled reports the folder of the file it was given -/
theorem C04_path_cached_counterexample :
    let h1 : Host := fun s => if s = "data".toList then some "/w/first/data".toList else if s = "data/r.txt".toList then some "/w/first/data/r.txt".toList else none
    let h2 : Host := fun s => if s = "data".toList then some "/w/second/data".toList else if s = "data/r.txt".toList then some "/w/second/data/r.txt".toList else none
    let (_, c1) := populateCached [] h1 "data/r.txt".toList
    (populateCached c1 h2 "data/r.txt".toList).1.folderPath = some "/w/first/data".toList ∧
    (populateFromPath h2 {} (some "data/r.txt".toList)).folderPath = some "/w/second/data".toList ∧
    (populateFromPath h2 {} (some "data/r.txt".toList)).filePath = some "/w/second/data/r.txt".toList := by decide +kernel

-- (v) well-formed Unicode

/-- the surrogate repair yields text encodable as UTF-8, for every string of code points -/
theorem C04_combine_wellFormed (l : CPs) (h : ∀ c ∈ l, c < 0x110000) : wellFormed (combineSurrogates l) = true := by
  rw [combineSurrogates_eq_combineSur, wellFormed, List.all_eq_true]
  intro x hx
  exact scalar_of_not_surrogate (S2T.Units.combineSur_lt l h x hx) (S2T.Units.combineSur_no_sur l x hx)

/-- the repair leaves well-formed text alone (it removes or alters nothing that was fine) -/
theorem C04_combine_identity (l : CPs) (h : wellFormed l = true) : combineSurrogates l = l := by
  rw [combineSurrogates_eq_combineSur]
  refine S2T.Units.combineSur_id l fun x hx => ?_
  have := List.all_eq_true.mp h x hx
  simp only [scalar, Bool.and_eq_true, Bool.not_eq_true'] at this
  exact this.2

/-- a high surrogate followed by a low one becomes the one character UTF-16 means by them -/
theorem C04_combine_pair (c d : Nat) (rest : CPs) (hc : isHigh c = true) (hd : isLow d = true) :
    combineSurrogates (c :: d :: rest) = (0x10000 + (c - 0xD800) * 0x400 + (d - 0xDC00)) :: combineSurrogates rest := by
  rw [combineSurrogates, if_pos (by simp [hc, hd])]

example : isHigh 0xD83D = true ∧ isLow 0xDE00 = true ∧ combineSurrogates [0xD83D, 0xDE00] = [0x1F600] := by decide
example : (∀ c ∈ [0x41, 0xD83D, 0xD83D, 0xDE00, 0xDC00, 0x10FFFF], c < 0x110000) ∧
    combineSurrogates [0x41, 0xD83D, 0xD83D, 0xDE00, 0xDC00, 0x10FFFF] = [0x41, 0xFFFD, 0x1F600, 0xFFFD, 0x10FFFF] := by decide
example : wellFormed [0x41, 0x1F600, 0xFFFD] = true := by decide
example : (∀ u ∈ [0x41, 0xD83D], u < 65536) ∧ decodeUtf16Replace [0x41, 0xD83D] true = [0x41, 0xFFFD] ∧
    decodeUtf16Replace [0x41] true = [0x41, 0xFFFD] := by decide

/-- RTF `\uN` (any signed parameters): the fixed decoding is well-formed for all inputs -/
theorem C04_rtf_units_wellFormed (units : List Int) : wellFormed (decodeUnits units) = true := by
  apply C04_combine_wellFormed
  intro c hc
  simp only [decodeUnitsRaw, List.mem_map] at hc
  obtain ⟨n, _, rfl⟩ := hc
  have := uParamToUnit_lt n; omega

/-- the escape passes of the fixed `_strip_rtf_simple` (`\uN` → repair → `\'hh`) are well-formed for every text
of code points, whatever counts as a decimal digit -/
theorem C04_rtf_escapes_wellFormed (dig : DigitVal) (text : CPs) (h : ∀ c ∈ text, c < 0x110000) :
    wellFormed (decodeEscapes dig text) = true := by
  unfold decodeEscapes
  apply subHex_wellFormed
  apply C04_combine_wellFormed
  exact subUnicode_bound dig 0x110000 (by decide) text h

/-- `bytes.decode("utf-16-le", "replace")` (legacy PPT/DOC text, and the codec the repair uses) is well-formed -/
theorem C04_utf16_replace_wellFormed (units : List Nat) (odd : Bool) (h : ∀ u ∈ units, u < 65536) :
    wellFormed (decodeUtf16Replace units odd) = true := by
  unfold decodeUtf16Replace
  rw [wellFormed_append, C04_combine_wellFormed units (fun c hc => by have := h c hc; omega)]
  simp only [Bool.true_and]
  -- what is appended for an odd byte count is `[]` or `[0xFFFD]`
  generalize (odd && !(match units.getLast? with | some u => isHigh u | none => false)) = b
  cases b <;> decide

/-- what every later stage does to the text (strip, split, join, substitute ASCII): well-formedness is kept by
taking sub-sequences and by concatenation -/
theorem C04_wellFormed_closed (a b : CPs) :
    (wellFormed (a ++ b) = (wellFormed a && wellFormed b)) ∧ (a.Sublist b → wellFormed b = true → wellFormed a = true) :=
  ⟨wellFormed_append a b, fun h hb => by
    simp only [wellFormed, List.all_eq_true] at *
    exact fun x hx => hb x (h.subset hx)⟩

/-- the constants the RTF stripper inserts (SPECIAL_CHARS) are scalar values -/
theorem C04_rtf_constants_scalar : ∀ c ∈ S2T.Gen.Iface.rtfSpecialCodePoints, scalar c = true := by decide +kernel

/-
FULL-STRENGTH STATEMENT for the code BEFORE `fix-rtf-surrogates.patch` (false there):
  theorem C04_rtf_units_wellFormed_raw (units : List Int) : wellFormed (decodeUnitsRaw units) = true
-/
/-- the unrepaired decoding is well-formed when no parameter denotes a surrogate code unit -/
theorem C04_rtf_units_raw_partial (units : List Int) (h : ∀ n ∈ units, isSurrogate (uParamToUnit n) = false) :
    wellFormed (decodeUnitsRaw units) = true := by
  simp only [wellFormed, decodeUnitsRaw, List.all_map, List.all_eq_true, Function.comp]
  intro n hn
  exact scalar_of_not_surrogate (by have := uParamToUnit_lt n; omega) (h n hn)

example : ∀ n ∈ [(233 : Int), -4000, 8364], isSurrogate (uParamToUnit n) = false := by decide

/-- counterexample on the model of the unfixed code: `{\rtf1 \u-10179?\u-8704?}` -/
theorem C04_rtf_raw_counterexample :
    decodeUnitsRaw [-10179, -8704] = [0xD83D, 0xDE00] ∧ wellFormed (decodeUnitsRaw [-10179, -8704]) = false ∧
    decodeUnits [-10179, -8704] = [0x1F600] := by decide

/-- … and through the escape pass on the document text itself -/
theorem C04_rtf_raw_counterexample_text :
    wellFormed (decodeEscapesRaw asciiDigit ("\\u-10179?\\u-8704?".toList.map Char.toNat)) = false ∧
    decodeEscapes asciiDigit ("\\u-10179?\\u-8704?".toList.map Char.toNat) = [0x1F600] := by decide

-- (vi) document properties

/-- the reader puts the element text itself into the field (no trimming, no re-encoding), the default otherwise -/
theorem C04_md_passthrough (root : Xml) (tag dflt : String) :
    (∀ t, getElementText root tag = some t → readField root tag dflt = t) ∧
    (getElementText root tag = none → readField root tag dflt = dflt) := by
  constructor
  · intro t h; simp [readField, h]
  · intro h; simp [readField, h]

/-- … and the element read is the first child with that tag: its text comes out unchanged -/
theorem C04_md_first_child (tag t : String) (pre post ch : List Xml) (rt : String) (rtext : Option String)
    (hpre : ∀ c ∈ pre, (c.tag == tag) = false) (ht : t.isEmpty = false) (dflt : String) :
    readField (.node rt rtext (pre ++ Xml.node tag (some t) ch :: post)) tag dflt = t := by
  have hf : Xml.find (.node rt rtext (pre ++ Xml.node tag (some t) ch :: post)) tag = some (Xml.node tag (some t) ch) := by
    simp only [Xml.find, Xml.children]
    rw [List.find?_append]
    have : pre.find? (fun c => c.tag == tag) = none := by
      rw [List.find?_eq_none]; intro c hc; simp [hpre c hc]
    rw [this]; simp [Xml.tag]
  simp [readField, getElementText, hf, Xml.text, ht]

example : readField (.node "cp:coreProperties" none [.node "dc:creator" (some "me") [], .node "dc:title" (some " A  title ") []])
    "dc:title" = " A  title " := by decide

/-- every property reader found in the source (DOCX / PPTX core.xml, ODF meta.xml) assigns the element text as it is -/
theorem C04_md_rows_identity : ∀ r ∈ S2T.Gen.Iface.metadataMaps, r.post = Post.ident := by decide +kernel

/-- the elements that hold title, creator, subject, description and keywords in core.xml (Clark notation) and in
ODF meta.xml (prefixed, resolved by the reader's namespace map) -/
def expectedTags : List (String × List String) := [
  ("docx", ["{http://purl.org/dc/elements/1.1/}title", "{http://purl.org/dc/elements/1.1/}creator",
            "{http://purl.org/dc/elements/1.1/}subject", "{http://purl.org/dc/elements/1.1/}description",
            "{http://schemas.openxmlformats.org/package/2006/metadata/core-properties}keywords"]),
  ("pptx", ["{http://purl.org/dc/elements/1.1/}title", "{http://purl.org/dc/elements/1.1/}creator",
            "{http://purl.org/dc/elements/1.1/}subject", "{http://purl.org/dc/elements/1.1/}description",
            "{http://schemas.openxmlformats.org/package/2006/metadata/core-properties}keywords"]),
  ("odf", ["dc:title", "dc:creator", "dc:subject", "dc:description", "meta:keyword"])]

/-- title, author/creator, subject, keywords and description/comments are read, from the right element, by each
of the three reader families -/
theorem C04_md_rows_cover :
    ∀ e ∈ expectedTags, ∀ tag ∈ e.2,
      (S2T.Gen.Iface.metadataMaps.any fun r => r.fmt == e.1 && r.tag == tag) = true := by decide +kernel

end S2T.C04
