import S2T.Lemmas.TablesXml
import S2T.Lemmas.TablesSheet
import S2T.Lemmas.TablesOds
import S2T.Lemmas.TablesOdsExact
import S2T.Lemmas.TablesHtml
import S2T.Lemmas.TablesEpub
import S2T.Gen.Tables
import S2T.Gen.HtmlSkip
import S2T.Props.C13_Rtf
import S2T.Props.C13_RtfLayout
import S2T.Props.C13_Slide
import S2T.Props.C13_Src
import S2T.Props.C13_Xml
/-!
# C13 — tables come back with their shape and every cell in place

Statement: a table with r rows and c columns in the source (word-processing, presentation,
spreadsheet, HTML or EPUB) is returned by `iterate_tables()` as an r × c grid whose cell (i,j) holds
exactly the text or value of source cell (i,j); tables arrive in source order and none is lost,
merged with a neighbour or invented.  Typed spreadsheet values keep their value (numbers, booleans,
dates as ISO strings), and `get_dim()` reports (r, c).

How it is stated here.  A source document is an abstract value (`Blk`: paragraphs and tables, a
cell holding blocks again); `Blk.tables` is what the statement asks for: the tables in document
order, each as the grid of its own rows × its own cells, each cell the text of the paragraphs in
it.  `docxBody`, `odtBody`, `odpTableNode`, `pptxFrame` write such a value as the element tree
the format prescribes (with the usual property / grid / column children around); the theorems say
that the modelled walker applied to the written tree returns exactly `Blk.tables` — for every
document, every size, every nesting depth.  The tag names come from the source
(`S2T.Gen.Tables`), the side conditions on them are decidable and re-decided on every run.
-/
namespace S2T.C13
open S2T.Tables
open S2T.HtmlSkip (Str)

theorem gen_notes_empty : S2T.Gen.Tables.notes = [] := by decide
theorem gen_ods_caps : S2T.Gen.Tables.odsCaps.cell > 0 ∧ S2T.Gen.Tables.odsCaps.row > 0 := by decide
theorem gen_docx_ok : S2T.Gen.Tables.docx.ok = true := by
  decide_chars DocxTags.ok docxNoise wNs S2T.Gen.Tables.docx
theorem gen_odt_ok : S2T.Gen.Tables.odt.ok = true := by
  decide_chars OdfTags.ok odfXT spanTag colTag officeText textNs tableNs S2T.Gen.Tables.odt
theorem gen_odp_ok : S2T.Gen.Tables.odp.ok = true := by
  decide_chars OdfTags.ok odfXT spanTag colTag officeText textNs tableNs S2T.Gen.Tables.odp
theorem gen_pptx_ok : S2T.Gen.Tables.pptx.ok = true := by
  decide_chars PptxTags.ok PptxTags.pairs pGraphicFrame pNvPr aGraphic aTblPr aTblGrid aBodyPr aTcPr aPPr aRPr aNs
    S2T.Gen.Tables.pptx
theorem gen_html_ok : S2T.Gen.Tables.html.ok = true := by
  decide_chars HtmlTags.ok hP hB hTable hThead hTbody hTr hTd hRoot hHtml hHead hBody S2T.Gen.Tables.html
theorem gen_epub_ok : S2T.Tables.Epub.usedTags.all (fun t => !S2T.Gen.HtmlSkip.epubTables.remove.contains t) = true :=
  Xml.gen_epub_ok

/-- the grid of a table has the table's own rows and, in row i, that row's own cells; cell (i,j)
    is the text of source cell (i,j) -/
theorem C13_grid_shape {α : Type} (ct : List α → Str) (rows : Rows α) :
    (gridOf ct rows).length = rows.length ∧
    ∀ i j : Nat, ((gridOf ct rows)[i]?.bind (fun (row : List Str) => row[j]?)) =
      (rows[i]?.bind (fun (row : List (List (Blk α))) => row[j]?)).map (fun cell => ct (cellParas cell)) := by
  refine ⟨by simp [gridOf], ?_⟩
  intro i j
  simp only [gridOf, List.getElem?_map]
  cases rows[i]? with
  | none => rfl
  | some row => simp [List.getElem?_map]

/-- a table comes first, then the tables inside its cells, row by row and cell by cell: document order;
    none lost, none invented (one grid per source table) -/
theorem C13_order {α : Type} (ct : List α → Str) (h : Nat) (rows : Rows α) :
    Blk.tables ct (.tbl h rows) =
      gridOf ct rows :: rows.flatMap (fun row => row.flatMap (fun cell => cell.flatMap (Blk.tables ct))) :=
  tablesBy_tbl _ h rows

/-- DOCX, every document (any number / size of tables, ragged rows, empty and multi-paragraph cells,
    adjacent tables, tables inside cells to any depth, header rows): `_extract_tables_from_context`
    returns exactly the document's tables. -/
theorem C13_grid_docx (T : DocxTags) (hT : T.ok = true) (doc : List (Blk DocxPara)) :
    docxTables T (docxBody T doc) = doc.flatMap (Blk.tables docxCellSpec) :=
  docx_tables T (.of_ok hT) doc

theorem C13_grid_docx_gen (doc : List (Blk DocxPara)) :
    docxTables S2T.Gen.Tables.docx (docxBody S2T.Gen.Tables.docx doc) = doc.flatMap (Blk.tables docxCellSpec) :=
  docx_tables _ (.of_ok gen_docx_ok) doc

example : ∃ doc : List (Blk DocxPara), (doc.flatMap (Blk.tables docxCellSpec)).length = 2 :=
  ⟨[.tbl 0 [[[.para ["a".toList], .tbl 0 [[[.para ["x".toList]]]]], []]]], by decide⟩

/-- ODT, every document whose tables have at least one row and whose rows have at least one cell
    (tables 1..R × 1..C; the extractor drops cell-less rows and row-less tables by design):
    `_extract_tables` returns exactly the document's tables, nested ones included, header rows
    (`table:table-header-rows`) in place. -/
theorem C13_grid_odt (T : OdfTags) (hT : T.ok = true) (doc : List (Blk OdfPara)) (hp : doc.all Blk.proper = true) :
    odtTables T (odtBody T doc) = doc.flatMap (Blk.tables odfCellSpec) :=
  odt_tables T (.of_ok hT) doc hp

theorem C13_grid_odt_gen (doc : List (Blk OdfPara)) (hp : doc.all Blk.proper = true) :
    odtTables S2T.Gen.Tables.odt (odtBody S2T.Gen.Tables.odt doc) = doc.flatMap (Blk.tables odfCellSpec) :=
  odt_tables _ (.of_ok gen_odt_ok) doc hp

example : ([.tbl 1 [[[.para ⟨"a".toList, [.tab "b".toList]⟩, .tbl 0 [[[.para ⟨[], []⟩]]]], []], [[]]]] : List (Blk OdfPara)).all Blk.proper = true := by
  decide

/-- ODP, every table with non-empty rows: `_extract_table` returns it (header rows first, as written) -/
theorem C13_grid_odp (T : OdfTags) (hT : T.ok = true) (t : OdpTable) (hne : t.2.all (fun row => !row.isEmpty) = true) :
    odpTable T (odpTableNode T t) = t.2.map (fun row => row.map odfCellSpec) :=
  odp_table T (.of_ok hT) t hne

theorem C13_grid_odp_gen (t : OdpTable) (hne : t.2.all (fun row => !row.isEmpty) = true) :
    odpTable S2T.Gen.Tables.odp (odpTableNode S2T.Gen.Tables.odp t) = t.2.map (fun row => row.map odfCellSpec) :=
  odp_table _ (.of_ok gen_odp_ok) t hne

example : ((1, [[[⟨"h".toList, []⟩]], [[⟨"a".toList, []⟩, ⟨"b".toList, []⟩]]]) : OdpTable).2.all (fun row => !row.isEmpty) = true := by decide

/-! ## PPTX

Full statement (false on the current code, kept visible):
  `pptxFrameTable T (pptxFrame T t) = some (t.map (fun row => row.map pptxCellSpec))`
The extractor strips the cell text (`.strip()`), so a cell whose text starts or ends with white
space (a leading space, a trailing empty paragraph, a trailing `<a:br/>`) comes back shorter.
Open known finding `pptx.cell-outer-whitespace-stripped`. -/

/-- what the code does, for every table: shape and placement exact, each cell text stripped -/
theorem C13_grid_pptx_stripped (T : PptxTags) (hT : T.ok = true) (t : PptxTable) :
    pptxFrameTable T (pptxFrame T t) = some (t.map (fun row => row.map (fun cell => pyStrip (pptxCellSpec cell)))) :=
  pptx_frame T hT t

/-- every cell text without outer white space -/
def PptxTrimmed (t : PptxTable) : Prop := ∀ row ∈ t, ∀ cell ∈ row, pyStrip (pptxCellSpec cell) = pptxCellSpec cell

theorem C13_grid_pptx_partial (T : PptxTags) (hT : T.ok = true) (t : PptxTable) (ht : PptxTrimmed t) :
    pptxFrameTable T (pptxFrame T t) = some (t.map (fun row => row.map pptxCellSpec)) := by
  rw [pptx_frame T hT t]
  exact congrArg some (List.map_congr_left fun row hrow => List.map_congr_left fun cell hcell => ht row hrow cell hcell)

theorem C13_grid_pptx_gen (t : PptxTable) (ht : PptxTrimmed t) :
    pptxFrameTable S2T.Gen.Tables.pptx (pptxFrame S2T.Gen.Tables.pptx t) = some (t.map (fun row => row.map pptxCellSpec)) :=
  C13_grid_pptx_partial _ gen_pptx_ok t ht

example : PptxTrimmed [[[[.run "a b".toList, .br, .field "1".toList], [.run "x".toList]], []]] := by
  intro row hrow cell hcell
  simp only [List.mem_cons, List.not_mem_nil, or_false] at hrow
  subst hrow
  simp only [List.mem_cons, List.not_mem_nil, or_false] at hcell
  rcases hcell with rfl | rfl <;> decide

/-- counterexample to the full statement: the cell " a" comes back as "a" -/
theorem C13_pptx_counterexample :
    pptxFrameTable S2T.Gen.Tables.pptx (pptxFrame S2T.Gen.Tables.pptx [[[[.run " a".toList]]]]) = some [["a".toList]]
    ∧ pptxCellSpec [[.run " a".toList]] = " a".toList := by
  constructor
  · rw [pptx_frame _ gen_pptx_ok]; decide
  · decide

/-- `get_dim()` of an r × c table (r ≥ 1) is (r, c) — the same function for TableData, XlsxSheet,
    OdsSheet, OdtTable, RtfTable and (through `get_table()`) XlsSheet -/
theorem C13_dim {α : Type} (data : List (List α)) (c : Nat) (hne : data ≠ []) (h : ∀ row ∈ data, row.length = c) :
    getDim data = (data.length, c) := by
  cases data with
  | nil => exact absurd rfl hne
  | cons r _ =>
    exact congrArg _ (List.foldl_max_eq _ _ c (fun row hr => Nat.le_of_eq (h row hr)) List.mem_cons_self (h r List.mem_cons_self))

/-- ragged tables: the row count and the longest row -/
theorem C13_dim_ragged {α : Type} (data : List (List α)) :
    (getDim data).1 = data.length ∧ (∀ row ∈ data, row.length ≤ (getDim data).2) :=
  ⟨rfl, List.le_foldl_max_of_mem List.length data 0⟩

example : ([[1, 2, 3], [4, 5, 6]] : List (List Nat)) ≠ [] ∧ ∀ row ∈ ([[1, 2, 3], [4, 5, 6]] : List (List Nat)), row.length = 3 := by
  decide

/-! ## XLSX

Full statement (false on the current code, kept visible):
  `Xlsx.sheetData rows strOf = (Xlsx.usedRange rows).map (fun row => row.map Xlsx.getCellValue)`
A first row with exactly one meaningful cell in a sheet wider than one column is taken for a table
name and dropped (`_is_table_name_row`; pinned by the library's own test on
`empty_row_columns.xlsx`).  Open known finding `xlsx.single-value-first-row-dropped`. -/

/-- XLSX, every row list openpyxl can hand over: unless the first used row is taken for a table
    name, the sheet's table is its used range (rows up to the last row with data, columns up to the
    last column with data), cell by cell through `_get_cell_value` -/
theorem C13_xlsx_partial (rows : VGrid) (strOf : Nat → Str)
    (hname : ∀ first rest, Xlsx.usedRange rows = first :: rest → Xlsx.isTableNameRow (Xlsx.headersOf first strOf) = false) :
    Xlsx.sheetData rows strOf = (Xlsx.usedRange rows).map (fun row => row.map Xlsx.getCellValue) := by
  unfold Xlsx.sheetData
  rw [Xlsx.readSheetData_eq]
  cases h : Xlsx.usedRange rows with
  | nil => rfl
  | cons first rest => simp [hname first rest h]

/-- an r × c grid with data in its last row and last column is its own used range, so it comes back r × c -/
theorem C13_xlsx_tight (g : VGrid) (c : Nat) (strOf : Nat → Str) (hne : g ≠ []) (hrect : ∀ row ∈ g, row.length = c)
    (hrow : (g.getLast hne).any Xlsx.isCellNonEmpty = true)
    (hcol : ∃ row ∈ g, ∃ hr : row ≠ [], Xlsx.isCellNonEmpty (row.getLast hr) = true)
    (hname : ∀ first rest, g = first :: rest → Xlsx.isTableNameRow (Xlsx.headersOf first strOf) = false) :
    Xlsx.sheetData g strOf = g.map (fun row => row.map Xlsx.getCellValue) := by
  have hu : Xlsx.usedRange g = g := crop_id _ g c hne hrect hrow hcol
  have := C13_xlsx_partial g strOf (by rw [hu]; exact hname)
  rw [hu] at this
  exact this

/-- typed values keep their value; dates and times become their ISO string -/
theorem C13_xlsx_typed :
    (∀ i, Xlsx.getCellValue (.int i) = .int i) ∧ (∀ r, Xlsx.getCellValue (.flt r) = .flt r) ∧
    (∀ b, Xlsx.getCellValue (.bool b) = .bool b) ∧ (∀ s, Xlsx.getCellValue (.str s) = .str s) ∧
    (∀ iso, Xlsx.getCellValue (.dt iso) = .str iso) ∧ Xlsx.getCellValue .none = .none :=
  ⟨fun _ => rfl, fun _ => rfl, fun _ => rfl, fun _ => rfl, fun _ => rfl, rfl⟩

/-! Stored rows of DIFFERENT lengths (a worksheet part without `<dimension>` whose rows store different numbers of
cells: openpyxl's read-only reader then yields tuples of different lengths).  Short rows are filled up (`padTake`), so the
used range is a rectangle for EVERY row list; without the filling the table is ragged (a row shorter than
`get_dim().columns`, an empty stored row as `[]`): fixed known finding `xlsx.ragged-rows-not-rectangular`, fix `xlsx-ragged-rows`. -/

/-- XLSX, any stored row lengths: the used range is r × c with r = the last row holding a value and c = the last column
    holding a value in one of these rows -/
theorem C13_xlsx_rect (rows : VGrid) :
    (Xlsx.usedRange rows).length = Xlsx.findLastDataRow rows ∧
    ∀ row ∈ Xlsx.usedRange rows, row.length = Xlsx.findLastDataColumn (rows.take (Xlsx.findLastDataRow rows)) :=
  ⟨crop_length _ rows, crop_rect _ rows⟩

/-- … cell (i, j) of it is the stored cell (i, j) — an empty cell where row i stores fewer than j + 1 cells -/
theorem C13_xlsx_cell_at (rows : VGrid) (i j : Nat) (hi : i < Xlsx.findLastDataRow rows)
    (hj : j < Xlsx.findLastDataColumn (rows.take (Xlsx.findLastDataRow rows))) :
    ((Xlsx.usedRange rows)[i]?.bind (fun row => row[j]?)) = some ((rows[i]?.bind (fun row => row[j]?)).getD Val.none) :=
  crop_cell _ rows i j hi hj

/-- … and no stored value is lost or moved: a non-empty stored cell (i, j) is cell (i, j) of the used range, however
    short the other rows are (the column count is the maximum over the rows, not what the shortest row allows) -/
theorem C13_xlsx_none_lost (rows : VGrid) (i j : Nat) (row : List Val) (v : Val) (hr : rows[i]? = some row)
    (hv : row[j]? = some v) (hne : Xlsx.isCellNonEmpty v = true) :
    ((Xlsx.usedRange rows)[i]?.bind (fun row => row[j]?)) = some v := by
  obtain ⟨hi, hj⟩ := data_inside _ rows i j row v hr hv hne
  rw [Xlsx.usedRange_eq_crop, crop_cell _ rows i j hi hj, hr]
  simp [hv]

/-- the range is tight on the right: unless it has no column, the column count is attained — some kept row has its last
    value in that column (for the range itself, in the words "last row / last column holds a value": `S2T.Tables.crop_lastRow`,
    `crop_lastCol` at `isCellNonEmpty`) -/
theorem C13_xlsx_tight_ragged (rows : VGrid) (h : 0 < Xlsx.findLastDataColumn (rows.take (Xlsx.findLastDataRow rows))) :
    ∃ row ∈ rows.take (Xlsx.findLastDataRow rows),
      Xlsx.lastIdx Xlsx.isCellNonEmpty row = Xlsx.findLastDataColumn (rows.take (Xlsx.findLastDataRow rows)) := by
  rcases List.foldl_max_attained _ (rows.take (Xlsx.findLastDataRow rows)) 0 with h0 | h1
  · exact absurd h0 (Nat.ne_of_gt h)
  · exact h1

/-- cutting without filling up (`rows = [row[:last_col] for row in rows]`, the code without fix `xlsx-ragged-rows`): stored
    rows of 4 and 2 cells and a stored row without cells give rows of 4, 2 and 0 cells — not a 4-column grid, and
    shorter than `get_dim().columns` = 4 (fixed known finding `xlsx.ragged-rows-not-rectangular`) -/
theorem C13_xlsx_legacy_ragged_counterexample :
    let rows : VGrid := [[.str "id".toList, .str "name".toList, .str "qty".toList, .str "ok".toList],
      [.int 1, .str "apple".toList], [], [.int 2, .none, .none, .bool true]]
    (rows.take (Xlsx.findLastDataRow rows)).map (fun row => row.take (Xlsx.findLastDataColumn (rows.take (Xlsx.findLastDataRow rows))))
      = [[.str "id".toList, .str "name".toList, .str "qty".toList, .str "ok".toList], [.int 1, .str "apple".toList], [],
         [.int 2, .none, .none, .bool true]]
    ∧ Xlsx.usedRange rows
      = [[.str "id".toList, .str "name".toList, .str "qty".toList, .str "ok".toList], [.int 1, .str "apple".toList, .none, .none],
         [.none, .none, .none, .none], [.int 2, .none, .none, .bool true]] := by
  constructor <;> decide

/-- stored rows of 4, 2, 4, 3 and 0 cells (trailing empty cells not stored) and a trailing stored row without values:
    a 4 × 4 table, every value in place -/
example :
    Xlsx.sheetData [[.str "id".toList, .str "name".toList, .str "qty".toList, .str "ok".toList],
        [.int 1, .str "apple".toList], [.int 2, .str "pear".toList, .flt "12.5".toList, .bool true],
        [.int 3, .str "plum".toList, .int 7], []] (fun _ => [])
      = [[.str "id".toList, .str "name".toList, .str "qty".toList, .str "ok".toList],
        [.int 1, .str "apple".toList, .none, .none], [.int 2, .str "pear".toList, .flt "12.5".toList, .bool true],
        [.int 3, .str "plum".toList, .int 7, .none]] := by decide

example : ∃ (g : VGrid) (hne : g ≠ []), (g.getLast hne).any Xlsx.isCellNonEmpty = true
    ∧ Xlsx.isTableNameRow (Xlsx.headersOf (g.head hne) (fun _ => "1".toList)) = false :=
  ⟨[[.int 1, .none, .dt "2024-01-02".toList], [.none, .str "x".toList, .bool true]], by decide, by decide, by decide⟩

/-- counterexample to the full statement: the 2 × 2 sheet [["Title", None], [1, 2]] comes back 1 × 2 -/
theorem C13_xlsx_counterexample :
    Xlsx.sheetData [[.str "Title".toList, .none], [.int 1, .int 2]] (fun _ => []) = [[.int 1, .int 2]]
    ∧ Xlsx.usedRange [[.str "Title".toList, .none], [.int 1, .int 2]] = [[.str "Title".toList, .none], [.int 1, .int 2]] := by
  constructor <;> decide

/-! ## ODS (`_extract_sheet`: repeat expansion with capped empty runs, trimming, padding)

The source sheet is the plain expansion `Ods.expand` of the run-length encoded rows and cells
(`number-rows-repeated`, `number-columns-repeated`); the typed value of a cell is
`_extract_cell_value`'s answer (a parameter here).  `Ods.Caps` are the two literals of the source
(`cell_repeat > 100`, `row_repeat > 100`, generated).

Full statement (false on the current code, kept visible):
  theorem C13_ods_cells (rows : List Ods.RRow) (i j : Nat) :
      Ods.cellAt (Ods.sheetData C rows) i j = Ods.cellAt (Ods.expand rows) i j
An empty cell repeated more than 100 times is collapsed to one empty cell and a row without data
repeated more than 100 times to one row, so everything behind such a run moves left / up.  Keeping the
width of a gap in front of a value is no repair: it lets a 600-byte sheet allocate tens of gigabytes
(C12).  Open known finding `ods.empty-repeat-shifts-cells`. -/

/-- the exact excluding hypothesis (`C13_ods_gap_exact`): no collapsed run of empty cells has a value
    behind it in its row, and no collapsed run of rows without data has a row with data below it
    (trailing runs — what spreadsheet programs write to fill the sheet — are allowed) -/
def NoWideGap (C : Ods.Caps) (rows : List Ods.RRow) : Prop := Ods.noGapRows C rows = true

instance (C : Ods.Caps) (rows : List Ods.RRow) : Decidable (NoWideGap C rows) := by unfold NoWideGap; infer_instance

/-- ODS, every sheet without a wide gap in front of data (any repeats otherwise): the cell at (i, j) of
    the returned table is the source cell at (i, j), and wherever the returned table has no cell the
    source sheet is empty -/
theorem C13_ods_cells_partial (C : Ods.Caps) (rows : List Ods.RRow) (h : NoWideGap C rows) (i j : Nat) :
    Ods.cellAt (Ods.sheetData C rows) i j = Ods.cellAt (Ods.expand rows) i j :=
  Ods.sheetData_cells C rows h i j

/-- ODS, shape: without a wide gap in front of data the returned table IS the used range of the source sheet —
    the plain expansion cut after the last row holding data (`trimRows`) and after the last column holding
    data (`lastDataCol`), shorter rows padded with empty cells: r × c, no row or column lost or invented -/
theorem C13_ods_table_partial (C : Ods.Caps) (rows : List Ods.RRow) (h : NoWideGap C rows) :
    Ods.sheetData C rows =
      (Ods.trimRows (Ods.expand rows)).map (Ods.padRow (Ods.lastDataCol (Ods.trimRows (Ods.expand rows)))) :=
  Ods.sheetData_usedRange C rows h

/-- the hypothesis is exact (for caps ≥ 1): every cell is in place if and only if there is no wide gap in front
    of data — with one, some cell of the returned table differs from the source cell at the same position -/
theorem C13_ods_gap_exact (C : Ods.Caps) (hcell : C.cell > 0) (hrow : C.row > 0) (rows : List Ods.RRow) :
    NoWideGap C rows ↔ ∀ i j, Ods.cellAt (Ods.sheetData C rows) i j = Ods.cellAt (Ods.expand rows) i j := by
  constructor
  · exact Ods.sheetData_cells C rows
  · intro h
    apply Ods.noGapRows_of_gridEq C hcell hrow rows
    rw [Ods.sheetData_eq_sheetOf] at h
    exact Ods.gridEq_trans (fun i j => (Ods.sheetOf_cells (Ods.rawRows C rows) i j).symm) h

/-- … for the two caps read from the current source -/
theorem C13_ods_gap_exact_gen (rows : List Ods.RRow) :
    NoWideGap S2T.Gen.Tables.odsCaps rows ↔
      ∀ i j, Ods.cellAt (Ods.sheetData S2T.Gen.Tables.odsCaps rows) i j = Ods.cellAt (Ods.expand rows) i j :=
  C13_ods_gap_exact _ gen_ods_caps.1 gen_ods_caps.2 rows

/-- the returned table is always an r × c rectangle that ends at the last row and the last column *of
    the collected rows* holding data.  ("… of the source sheet" holds under `NoWideGap`: `C13_ods_table_partial`;
    it fails without it: `C13_ods_counterexample`.) -/
theorem C13_ods_shape_partial (C : Ods.Caps) (rows : List Ods.RRow) :
    (∃ w, (∀ row ∈ Ods.sheetData C rows, row.length = w) ∧
      (w > 0 → Ods.sheetData C rows ≠ [] → ∃ row ∈ Ods.sheetData C rows, Ods.getV row (w - 1) ≠ Val.none)) ∧
    (∀ row, (Ods.sheetData C rows).getLast? = some row → row.all (· == Val.none) = false) := by
  rw [Ods.sheetData_eq_sheetOf]
  obtain ⟨w, hw⟩ := Ods.sheetOf_rect (Ods.rawRows C rows)
  exact ⟨⟨w, hw, fun h1 h2 => Ods.sheetOf_last_col _ w h1 hw h2⟩, fun row h => Ods.sheetOf_last_row _ row h⟩

/-- a sheet as LibreOffice writes it (values, a short gap, then 1000 empty columns and 1 000 000 empty
    rows to fill the sheet) has no wide gap in front of data -/
example : NoWideGap S2T.Gen.Tables.odsCaps
    [(1, [(1, .str "a".toList), (100, .none), (2, .int 7), (1000, .none)]), (100, [(1003, .none)]),
     (1, [(1, .bool true), (1002, .none)]), (1000000, [(1003, .none)])] := by
  unfold NoWideGap; decide +kernel

/-- the counterexample sheet below has a wide gap in front of data -/
example : ¬ NoWideGap S2T.Gen.Tables.odsCaps
    [(1, [(1, .str "a".toList), (150, .none), (1, .str "b".toList)]), (120, [(152, .none)]), (1, [(1, .str "c".toList)])] := by
  decide +kernel

/-- counterexample to the full statement — row [a, empty × 150, b], empty row × 120, row [c]: the sheet
    is 122 × 152 with b at (0, 151) and c at (121, 0); it comes back 3 × 3 with b at (0, 2) and c at (2, 0) -/
theorem C13_ods_counterexample :
    Ods.sheetData S2T.Gen.Tables.odsCaps
        [(1, [(1, .str "a".toList), (150, .none), (1, .str "b".toList)]), (120, [(152, .none)]), (1, [(1, .str "c".toList)])]
      = [[.str "a".toList, .none, .str "b".toList], [.none, .none, .none], [.str "c".toList, .none, .none]]
    ∧ Ods.cellAt (Ods.expand [(1, [(1, .str "a".toList), (150, .none), (1, .str "b".toList)]), (120, [(152, .none)]),
        (1, [(1, .str "c".toList)])]) 0 151 = .str "b".toList
    ∧ Ods.cellAt (Ods.expand [(1, [(1, .str "a".toList), (150, .none), (1, .str "b".toList)]), (120, [(152, .none)]),
        (1, [(1, .str "c".toList)])]) 121 0 = .str "c".toList := by
  refine ⟨by decide +kernel, by decide +kernel, by decide +kernel⟩

/-! ## XLS

Full statement (false on the current code, kept visible):
  `Xls.getTable (Xls.sheetData (first :: rest)) = first.map (Val.str ·.hdr) :: rest.map (·.map (·.native))`
`XlsSheet.data` is a list of dicts keyed by the header texts: two columns with the same header text
(or two empty headers) collide, and a sheet with a header row only has no dict to take the headers
from.  Open known findings `xls.duplicate-header-collision`, `xls.header-only-sheet-empty`. -/

theorem C13_xls_partial (first : List Xls.Cell) (rest : List (List Xls.Cell)) (hne : rest ≠ [])
    (hnd : (first.map (·.hdr)).Nodup) (hlen : ∀ row ∈ rest, row.length = first.length) :
    Xls.getTable (Xls.sheetData (first :: rest)) =
      (first.map (fun c => Val.str c.hdr)) :: rest.map (fun row => row.map (·.native)) :=
  Xls.getTable_sheetData first rest hne hnd hlen

example : (([⟨.str "a".toList, "a".toList⟩, ⟨.int 1, "1".toList⟩] : List Xls.Cell).map (·.hdr)).Nodup := by decide

/-- two columns headed "a": the first column's values are lost, the table is 2 × 1 instead of 2 × 2 -/
theorem C13_xls_counterexample_duplicate :
    Xls.getTable (Xls.sheetData [[⟨.str "a".toList, "a".toList⟩, ⟨.str "a".toList, "a".toList⟩], [⟨.int 1, "1".toList⟩, ⟨.int 2, "2".toList⟩]])
      = [[.str "a".toList], [.int 2]] := by decide

/-- a sheet with a header row only comes back empty -/
theorem C13_xls_counterexample_header_only :
    Xls.getTable (Xls.sheetData [[⟨.str "a".toList, "a".toList⟩, ⟨.str "b".toList, "b".toList⟩]]) = [] := by decide

/-! ## HTML (`_HtmlTextExtractor` on the tree `_HtmlTreeBuilder` builds)

`Blk.htables`: the page's tables in document order (a table, then the tables inside its cells), each
as its own rows × its own cells; the text of a cell is its content with the paragraphs, rows and cells
inside it kept apart and white space normalised (`hcellText`). -/

/-- HTML, every written page whose table rows have at least one cell (nesting to any depth, header
    rows in `<thead>`, inline markup inside paragraphs): `extract()` registers exactly the page's tables -/
theorem C13_grid_html (H : HtmlTags) (hH : H.ok = true) (doc : List (Blk HPara)) (hp : doc.all Blk.rowsProper = true) :
    htmlTables H (htmlRoot doc) = doc.flatMap Blk.htables :=
  html_tables H (.of_ok hH) doc hp

theorem C13_grid_html_gen (doc : List (Blk HPara)) (hp : doc.all Blk.rowsProper = true) :
    htmlTables S2T.Gen.Tables.html (htmlRoot doc) = doc.flatMap Blk.htables :=
  html_tables _ (.of_ok gen_html_ok) doc hp

/-- a table comes first, then the tables inside its cells -/
theorem C13_html_order (h : Nat) (rows : Rows HPara) :
    Blk.htables (.tbl h rows) = rows.map (fun row => row.map hcellText) ::
      rows.flatMap (fun row => row.flatMap (fun cell => cell.flatMap Blk.htables)) :=
  tablesBy_tbl _ h rows

example : ([.tbl 1 [[[.para ⟨"a".toList, [("b".toList, "c".toList)]⟩, .tbl 0 [[[.para ⟨"x".toList, []⟩], []]]]], [[]]]] : List (Blk HPara)).all
    Blk.rowsProper = true := by decide

/-- two paragraphs in a cell stay two words; a nested table's cells stay apart inside the outer cell -/
example : hcellText [.para ⟨"a".toList, []⟩, .para ⟨" b ".toList, [("c".toList, [])]⟩] = "a b c".toList
    ∧ hcellText [.para ⟨"A".toList, []⟩, .tbl 0 [[[.para ⟨"x".toList, []⟩], [.para ⟨"y".toList, []⟩]]]] = "A x y".toList := by
  decide

/-! ## EPUB (`_XhtmlTextExtractor`, the event machine modelled in `S2T.Model.HtmlSkip`)

Full statement (false on the current code, kept visible): the tables collected for the handler calls
of a written chapter are the chapter's tables, nested ones included, each cell the words of its
paragraphs.  Two open known findings: `epub.nested-table-lost` (one current table only: a table
inside a cell resets it, the enclosing table is never returned) and
`epub.cell-inline-markup-spaced` (the text chunks of a cell are joined with a space). -/

/-- EPUB, every written chapter without tables inside cells and with one text chunk per paragraph
    (tables 1..R × 1..C, header rows in `<thead>` with `<th>` cells, multi-paragraph and empty cells):
    after the handler calls of the chapter — passed through the skip gate of C17 — the collected
    tables are the chapter's tables in order, each cell the words of its paragraphs -/
theorem C13_grid_epub_partial (T : S2T.HtmlSkip.Tables) (block : List Str)
    (hT : S2T.Tables.Epub.usedTags.all (fun t => !T.remove.contains t) = true)
    (doc : List S2T.Tables.Epub.EBlk) (hp : doc.all S2T.Tables.Epub.EBlk.proper = true) :
    (S2T.HtmlSkip.run T (S2T.HtmlSkip.Epub.down block) (S2T.HtmlSkip.init S2T.HtmlSkip.Epub.initState)
      (S2T.Tables.Epub.chapterEvents doc)).down.tables = doc.flatMap S2T.Tables.Epub.EBlk.tables :=
  S2T.Tables.Epub.tables_chapter T block hT doc hp

example : ([.para "t".toList, .tbl (1, [[["h".toList]], [["a".toList, "b".toList], []]])] : List S2T.Tables.Epub.EBlk).all
    S2T.Tables.Epub.EBlk.proper = true := by decide

/-- tables collected by the EPUB machine for a sequence of handler calls (tables generated from the source) -/
def epubTablesOf (evs : List S2T.HtmlSkip.Ev) : List Grid :=
  (S2T.HtmlSkip.run S2T.Gen.HtmlSkip.epubTables (S2T.HtmlSkip.Epub.down S2T.Gen.HtmlSkip.epubBlock)
    (S2T.HtmlSkip.init S2T.HtmlSkip.Epub.initState) evs).down.tables

private def op (t : String) : S2T.HtmlSkip.Ev := .start t.toList []
private def cl (t : String) : S2T.HtmlSkip.Ev := .end_ t.toList
private def tx (t : String) : S2T.HtmlSkip.Ev := .data t.toList

/-- `<table><tr><td><p>A</p><table><tr><td>x</td><td>y</td></tr></table></td><td>B</td></tr></table>`:
    only the inner table comes back -/
theorem C13_epub_counterexample_nested :
    epubTablesOf [op "table", op "tr", op "td", op "p", tx "A", cl "p",
        op "table", op "tr", op "td", tx "x", cl "td", op "td", tx "y", cl "td", cl "tr", cl "table",
      cl "td", op "td", tx "B", cl "td", cl "tr", cl "table"] = [[["x".toList, "y".toList]]] := by decide +kernel

/-- `<td>H<b>2</b>O</td>` comes back as "H 2 O" -/
theorem C13_epub_counterexample_inline :
    epubTablesOf [op "table", op "tr", op "td", tx "H", op "b", tx "2", cl "b", tx "O", cl "td", cl "tr", cl "table"]
      = [[["H 2 O".toList]]] := by decide +kernel

theorem C13_grid_epub_gen (doc : List S2T.Tables.Epub.EBlk) (hp : doc.all S2T.Tables.Epub.EBlk.proper = true) :
    epubTablesOf (S2T.Tables.Epub.chapterEvents doc) = doc.flatMap S2T.Tables.Epub.EBlk.tables :=
  S2T.Tables.Epub.tables_chapter _ _ gen_epub_ok doc hp

end S2T.C13
