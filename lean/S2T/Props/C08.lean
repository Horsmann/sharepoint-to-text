import S2T.Lemmas.Encryption
import S2T.Lemmas.Guard
import S2T.Lemmas.Bits
import S2T.Lemmas.Chars
import S2T.Gen.Encryption
import S2T.Gen.Wrappers
import S2T.Props.C08_PdfCrypt
import S2T.Props.C08_PdfData
/-!
# C08 — Encrypted input is rejected as encrypted, plain input never is

Statement (fixed): a password-protected or encrypted input of any supported container kind
(OOXML wrapped in OLE, ODF with an encrypted manifest, PDF needing a non-empty password, legacy
DOC/XLS/PPT, encrypted ZIP or 7z archives, DRM-protected EPUB) is rejected with the
file-encrypted error before any content is returned, through every entry point.  An input that
is not encrypted is never rejected as encrypted, and a PDF encrypted with the empty user password
extracts the same content as its unencrypted original.

What is proved here (for ALL inputs of the stated parameter types — lists, trees, directories of
any size): for every detector, *exactly* which inputs it flags, in terms of the container facts the
specifications name (marker streams, FILEPASS record, FIB bit, flag bit 0, AES coder id,
`encryption-data` element, `EncryptedData` / rights.xml); that the flagging decision is taken
before the first `yield` in every wrapper; and that nothing else reaches the encrypted error in
the modelled archive paths.  Constants are generated from the source (`S2T.Gen.Encryption`), the
decidable `…Ok` predicates are re-decided by the kernel on every run.

Three parts of the full statement were FALSE on the unmodified source and are proved for the
repaired code (fix patches: odf-manifest-elements, zip-unsupported-method-not-encrypted,
7z-encrypted-header); the counterexample theorems at the end show the legacy behaviour on the model,
their witnesses are replayed on the real code by the harness (`known_witnesses`).  (A fourth, an AES-128 PDF read in a
fresh process, is in `Props/C08_PdfCrypt.lean`: `C08_pdf_named_filter_guard_counterexample`.)

Not proved (parameters): bytes → OLE directory / ZIP infolist / 7z folders / XML tree / PDF
decrypt result are third-party parsers; the tie of this model to the code is the correspondence run.
-/
namespace S2T.C08
open S2T.Enc

abbrev K : Consts := S2T.Gen.Encryption.consts

theorem gen_notes_empty : S2T.Gen.Encryption.notes = [] := by decide

/-! ## Spec constants ([MS-OFFCRYPTO] §2.3, [MS-PPT] §2.1.5, [MS-XLS] §2.4.117, [MS-DOC] §2.5.1, APPNOTE §4.4.4,
7zFormat.txt / 7-Zip Methods.txt, ODF 1.2 part 3 §4.8, OCF 3.2 §4.2.6) -/

def specOleMarkers : List Str := ["encryptioninfo".toList, "encryptedpackage".toList, "dataspaces".toList]
def specPptExtra : List Str := ["encryptedsummary".toList, "encryptedsummaryinformation".toList]
def specXlsStreams : List Str := ["workbook".toList, "book".toList]
def specOdfTag : Str := "{urn:oasis:names:tc:opendocument:xmlns:manifest:1.0}encryption-data".toList
def specEpubEncPath : Str := "META-INF/encryption.xml".toList
def specEpubRightsPath : Str := "META-INF/rights.xml".toList
def specEpubTag : Str := "{http://www.w3.org/2001/04/xmlenc#}EncryptedData".toList

/-- `is_ooxml_encrypted` flags exactly the OLE files whose root directory has an entry named
    (case-insensitively) like one of the marker names. -/
theorem C08_ole (C : Consts) (dir : OleDir) :
    isOoxmlEncrypted C (some dir) = true ↔ ∃ m ∈ C.oleMarkers, ∃ e ∈ dir, lower e.1 = lower m := by
  simp only [isOoxmlEncrypted, hasOleEncryptionStream, oleExists, List.any_eq_true, beq_iff_eq]

/-- something that is not an OLE file (e.g. a plain OOXML ZIP) is never flagged -/
theorem C08_ole_plain (C : Consts) : isOoxmlEncrypted C none = false ∧ isPptEncrypted C none = false := ⟨rfl, rfl⟩

theorem C08_ppt (C : Consts) (dir : OleDir) :
    isPptEncrypted C (some dir) = true ↔ ∃ m ∈ C.oleMarkers ++ C.pptExtra, ∃ e ∈ dir, lower e.1 = lower m := by
  simp only [isPptEncrypted, hasOleEncryptionStream, oleExists, Bool.or_eq_true, List.any_eq_true, beq_iff_eq,
    List.mem_append, or_and_right, exists_or]

/-- the source's marker tables are the specification's names -/
def OleOk (C : Consts) : Bool :=
  C.oleMarkers.map lower == specOleMarkers && C.pptExtra.map lower == specPptExtra
  && C.xlsStreams.map lower == specXlsStreams && C.filepassId == 0x2F

theorem gen_ole_ok : OleOk K = true := by
  decide_chars OleOk K S2T.Gen.Encryption.consts specOleMarkers specPptExtra specXlsStreams

/-- What `OleOk` decides, as far as the theorems read it. -/
private structure OleFacts (C : Consts) : Prop where
  markers : C.oleMarkers.map lower = specOleMarkers
  pptExtra : C.pptExtra.map lower = specPptExtra

private theorem OleOk.facts {C : Consts} (h : OleOk C = true) : OleFacts C := by
  simp only [OleOk, Bool.and_eq_true, beq_iff_eq] at h
  exact ⟨h.1.1.1, h.1.1.2⟩

private theorem marker_iff (ms : List Str) (dir : OleDir) :
    (∃ m ∈ ms, ∃ e ∈ dir, lower e.1 = lower m) ↔ ∃ e ∈ dir, lower e.1 ∈ ms.map lower := by
  simp only [List.mem_map]
  constructor
  · rintro ⟨m, hm, e, he, h⟩; exact ⟨e, he, m, hm, h.symm⟩
  · rintro ⟨e, he, m, hm, h⟩; exact ⟨m, hm, e, he, h.symm⟩

/-- On the current source: an OLE container is rejected as encrypted OOXML iff it has a root entry
    EncryptionInfo / EncryptedPackage / DataSpaces (any letter case). -/
theorem C08_ole_spec {C : Consts} (hC : OleOk C = true) (dir : OleDir) :
    isOoxmlEncrypted C (some dir) = true ↔ ∃ e ∈ dir, lower e.1 ∈ specOleMarkers := by
  rw [C08_ole, ← (OleOk.facts hC).markers, marker_iff]

theorem C08_ppt_spec {C : Consts} (hC : OleOk C = true) (dir : OleDir) :
    isPptEncrypted C (some dir) = true ↔ ∃ e ∈ dir, lower e.1 ∈ specOleMarkers ++ specPptExtra := by
  rw [C08_ppt, ← (OleOk.facts hC).markers, ← (OleOk.facts hC).pptExtra, ← List.map_append, marker_iff]

example : isOoxmlEncrypted K (some [("encryptedPACKAGE".toList, some [1, 2, 3]), ("x".toList, none)]) = true := by
  decide_chars K S2T.Gen.Encryption.consts
example : isOoxmlEncrypted K (some [("WordDocument".toList, some [1]), ("\u0006DataSpaces".toList, none)]) = false := by
  decide_chars K S2T.Gen.Encryption.consts
example : isPptEncrypted K (some [("PowerPoint Document".toList, some []), ("EncryptedSummary".toList, some [])]) = true := by
  decide_chars K S2T.Gen.Encryption.consts

/-- The scan over a well-framed BIFF record stream (any number of records, any payloads, followed
    by fewer than 4 stray bytes) answers exactly "some record has the wanted id" — it terminates
    (the definition is by well-founded recursion on the remaining length) and is position-independent. -/
theorem C08_filepass (fid : Nat) (rs : List Rec) (hok : ∀ r ∈ rs, r.Ok) (junk : List Nat) (hj : junk.length < 4) :
    scan fid (serialize rs ++ junk) = rs.any (fun r => r.id == fid) := by
  rw [scan_serialize_append fid rs hok, scan_short fid junk hj, Bool.or_false]

/-- … and whatever follows a FILEPASS record cannot hide it, whatever precedes it (well-framed) cannot either -/
theorem C08_filepass_anywhere (fid : Nat) (pre : List Rec) (hok : ∀ r ∈ pre, r.Ok) (p : List Nat) (hp : p.length < 65536)
    (hf : fid < 65536) (post : List Nat) :
    scan fid (serialize pre ++ (Rec.ser ⟨fid, p⟩ ++ post)) = true := by
  rw [scan_serialize_append fid pre hok, scan_rec_append fid ⟨fid, p⟩ ⟨hf, hp⟩]
  simp

example : (∀ r ∈ [Rec.mk 0x809 [0, 6, 5, 0], Rec.mk 0x2F [1, 0, 1, 0], Rec.mk 0x0A []], r.Ok) := by
  intro r hr; simp at hr; rcases hr with h | h | h <;> subst h <;> simp [Rec.Ok]
example : scan 0x2F (serialize [Rec.mk 0x809 [0, 6, 5, 0], Rec.mk 0x2F [1, 0, 1, 0], Rec.mk 0x0A []] ++ [7]) = true := by
  -- `scan` is by well-founded recursion and does not evaluate; `scanS` is its structural twin (here and below)
  rw [scan_eq_scanS]; decide
example : scan 0x2F (serialize [Rec.mk 0x809 [0x2F, 0, 0, 0], Rec.mk 0x0A []]) = false := by
  rw [scan_eq_scanS]; decide

/-- `is_xls_encrypted` answers True exactly when the first existing workbook stream scans positive -/
theorem C08_xls (C : Consts) (dir : OleDir) :
    isXlsEncrypted C (some dir) = .enc true ↔
      ∃ n data, firstExisting dir C.xlsStreams = some n ∧ oleFind dir n = some (some data) ∧ scan C.filepassId data = true := by
  simp only [isXlsEncrypted]
  cases hfe : firstExisting dir C.xlsStreams with
  | none => simp
  | some n =>
    cases hof : oleFind dir n with
    | none => simp [hof]
    | some v =>
      cases v with
      | none => simp [hof]
      | some data => simp [hof]

theorem C08_xls_plain (C : Consts) : isXlsEncrypted C none = .enc false := rfl

example : isXlsEncrypted K (some [("Workbook".toList, some (serialize [⟨0x809, [0, 6]⟩, ⟨0x2F, [0, 0]⟩]))]) = .enc true := by
  rw [C08_xls]
  exact ⟨"Workbook".toList, serialize [⟨0x809, [0, 6]⟩, ⟨0x2F, [0, 0]⟩], by decide, by decide, by rw [scan_eq_scanS]; decide⟩

def FibOk (C : Consts) : Bool :=
  C.fibFlagsOffset == 0x0A && C.fibEncryptedFlag == 2 ^ 8 && decide (C.fibFlagsOffset + 2 ≤ C.minDocSize)
  && C.fibMagics == [0xA5EC, 0xA5DC]

theorem gen_fib_ok : FibOk K = true := by decide

/-- A WordDocument stream is rejected as encrypted iff it is long enough, carries a Word FIB magic,
    and bit 8 (fEncrypted) of the little-endian flags word at offset 0x0A is set.  The flags word lies
    inside the minimum size, so the test never reads beyond the data. -/
theorem C08_fib {C : Consts} (hC : FibOk C = true) (wd : List Nat) :
    docCheck C (some wd) = .encrypted ↔
      C.minDocSize ≤ wd.length ∧ (le16At wd 0 = 0xA5EC ∨ le16At wd 0 = 0xA5DC) ∧ (le16At wd 0x0A).testBit 8 = true := by
  simp only [FibOk, Bool.and_eq_true, beq_iff_eq, decide_eq_true_eq] at hC
  obtain ⟨⟨⟨ho, hf⟩, hm⟩, hg⟩ := hC
  rw [docCheck_encrypted_iff, hg, hf, ho, and_two_pow_ne_zero, List.mem_cons, List.mem_singleton]
  -- the flags word lies inside the minimum size, so a stream that long is not empty
  exact and_iff_right_of_imp fun h => List.ne_nil_of_length_pos (by omega)

-- a 512-byte FIB with magic 0xA5EC and flags 0x0100 (encrypted) / 0xFEFF (every bit but 8); elaborating the 500-element
-- `replicate` literal is what needs the recursion depth
set_option maxRecDepth 8000 in
example : docCheck K (some ([0xEC, 0xA5] ++ List.replicate 8 0 ++ [0x00, 0x01] ++ List.replicate 500 0)) = .encrypted := by decide +kernel
set_option maxRecDepth 8000 in
example : docCheck K (some ([0xEC, 0xA5] ++ List.replicate 8 0 ++ [0xFF, 0xFE] ++ List.replicate 500 0)) = .proceed := by decide +kernel

def ZipOk (C : Consts) : Bool :=
  C.zipEncMask == 1
  && readFailure C .notImplemented != .encrypted && readFailure C .badZip != .encrypted
  && readFailure C .other != .encrypted && readFailure C .runtimeError == .encrypted

theorem gen_zip_ok : ZipOk K = true := by decide +kernel

/-- What `ZipOk` decides, as far as the theorems read it. -/
private structure ZipFacts (C : Consts) : Prop where
  mask : C.zipEncMask = 1
  notImplemented : readFailure C .notImplemented ≠ .encrypted
  badZip : readFailure C .badZip ≠ .encrypted
  other : readFailure C .other ≠ .encrypted

private theorem ZipOk.facts {C : Consts} (h : ZipOk C = true) : ZipFacts C := by
  simp only [ZipOk, Bool.and_eq_true, beq_iff_eq, bne_iff_ne, ne_eq] at h
  obtain ⟨⟨⟨⟨hm, hni⟩, hbz⟩, hot⟩, _⟩ := h
  exact ⟨hm, hni, hbz, hot⟩

/-- member `i` is a non-directory entry with general-purpose flag bit 0 set -/
def ZEnc (i : ZInfo) : Prop := i.isDir = false ∧ i.flagBits % 2 = 1

private theorem zipPass1_none {C : Consts} (h : C.zipEncMask = 1) (infos : List ZInfo) :
    zipPass1 C infos = none ↔ ∃ i ∈ infos, ZEnc i := by
  simp only [zipPass1_none_iff, h, Nat.and_one_is_mod, ne_eq, Nat.mod_two_ne_zero, ZEnc]

/-- An archive with an encrypted member — at any position, skipped/hidden or not, readable or
    not — is rejected as encrypted and NOTHING has been yielded before. -/
theorem C08_zip_encrypted {C : Consts} (hC : ZipOk C = true) (infos : List ZInfo) (h : ∃ i ∈ infos, ZEnc i) :
    zipExtract C (some infos) = (0, .encrypted) := by
  simp [zipExtract, (zipPass1_none (ZipOk.facts hC).mask infos).mpr h]

/-- A ZIP none of whose non-directory members has flag bit 0 set, and whose reads do not raise the
    "password required" RuntimeError, never ends with the encrypted error — whatever else goes wrong
    (unsupported compression method, bad CRC, any other exception). -/
theorem C08_zip_plain {C : Consts} (hC : ZipOk C = true) (infos : List ZInfo)
    (hp : ∀ i ∈ infos, ¬ ZEnc i) (hr : ∀ i ∈ infos, i.read ≠ .runtimeError) :
    (zipExtract C (some infos)).2 ≠ .encrypted := by
  have ok := ZipOk.facts hC
  unfold zipExtract
  simp only
  cases h1 : zipPass1 C infos with
  | none =>
    obtain ⟨i, hi, he⟩ := (zipPass1_none ok.mask infos).mp h1
    exact absurd he (hp i hi)
  | some todo =>
    simp only
    intro hcon
    obtain ⟨i, hi, hnd, hf⟩ := zipPass2_encrypted C todo hcon
    have hmem := zipPass1_some_sub C infos todo h1 i hi
    cases hrd : i.read with
    | data => exact hnd hrd
    | runtimeError => exact hr i hmem hrd
    | notImplemented => rw [hrd] at hf; exact ok.notImplemented hf
    | badZip => rw [hrd] at hf; exact ok.badZip hf
    | other => rw [hrd] at hf; exact ok.other hf

/-- With zipfile's documented behaviour (the "password required" RuntimeError is raised only for
    members whose flag bit 0 is set): rejected as encrypted ⇔ some non-directory member has bit 0. -/
theorem C08_zipflag {C : Consts} (hC : ZipOk C = true) (infos : List ZInfo)
    (hz : ∀ i ∈ infos, i.read = .runtimeError → ZEnc i) :
    (zipExtract C (some infos)).2 = .encrypted ↔ ∃ i ∈ infos, ZEnc i := by
  constructor
  · intro h
    apply Classical.byContradiction
    intro hne
    have hp : ∀ i ∈ infos, ¬ ZEnc i := fun i hi he => hne ⟨i, hi, he⟩
    exact C08_zip_plain hC infos hp (fun i hi hr => hp i hi (hz i hi hr)) h
  · intro h; rw [C08_zip_encrypted hC infos h]

/-- something `zipfile.ZipFile` refuses to open is a failed extraction, not an encrypted one -/
theorem C08_zip_unopenable (C : Consts) : zipExtract C none = (0, .failed) := rfl

/-- hidden member with bit 0 after two readable ones: rejected, nothing yielded -/
example : zipExtract K (some [⟨false, 0, false, false, .data, 1⟩, ⟨true, 1, false, false, .data, 0⟩,
    ⟨false, 0x0808, false, false, .data, 2⟩, ⟨false, 9, true, false, .runtimeError, 0⟩]) = (0, .encrypted) := by decide
/-- deflate64 member in a plain archive: the first member's content, then a failed (not encrypted) extraction -/
example : zipExtract K (some [⟨false, 0, false, false, .data, 1⟩, ⟨false, 2, false, false, .notImplemented, 0⟩]) = (1, .failed) := by decide
example : (∀ i ∈ [ZInfo.mk false 0 false false .data 1, ⟨true, 1, false, false, .data, 0⟩], ¬ ZEnc i) := by
  intro i hi; simp at hi; rcases hi with h | h <;> subst h <;> simp [ZEnc]

def SzOk (C : Consts) : Bool :=
  C.aesPrefix == [0x06, 0xF1, 0x07] && C.szHeaderEncDetected
  && !C.aesPrefix.isPrefixOf C.coderCopy && !C.aesPrefix.isPrefixOf C.coderLzma
  && !C.aesPrefix.isPrefixOf C.coderLzma2 && !C.aesPrefix.isPrefixOf C.coderBcj

theorem gen_sz_ok : SzOk K = true := by decide

/-- What `SzOk` decides, fact by fact. -/
private structure SzFacts (C : Consts) : Prop where
  aesPrefix : C.aesPrefix = [0x06, 0xF1, 0x07]
  headerEnc : C.szHeaderEncDetected = true
  copy : C.aesPrefix.isPrefixOf C.coderCopy = false
  lzma : C.aesPrefix.isPrefixOf C.coderLzma = false
  lzma2 : C.aesPrefix.isPrefixOf C.coderLzma2 = false
  bcj : C.aesPrefix.isPrefixOf C.coderBcj = false

private theorem SzOk.facts {C : Consts} (h : SzOk C = true) : SzFacts C := by
  simp only [SzOk, Bool.and_eq_true, beq_iff_eq, Bool.not_eq_true'] at h
  obtain ⟨⟨⟨⟨⟨hp, hd⟩, h1⟩, h2⟩, h3⟩, h4⟩ := h
  exact ⟨hp, hd, h1, h2, h3, h4⟩

/-- coder id starts with 06 F1 07 (7-Zip's AES family; 06 F1 07 01 = AES-256 + SHA-256) -/
def IsAes (c : Coder) : Prop := [0x06, 0xF1, 0x07] <+: c

theorem C08_7z {C : Consts} (hC : SzOk C = true) (folders : List (List Coder)) :
    needsPassword C folders = true ↔ ∃ f ∈ folders, ∃ c ∈ f, IsAes c := by
  simp only [needsPassword, List.any_eq_true, (SzOk.facts hC).aesPrefix, List.isPrefixOf_iff_prefix, IsAes]

/-- On each of the four ids `_apply_decoder` decodes both sides are false, since none of them starts with the AES
    prefix.  The chain of `if`s is walked by `by_cases` and `rw`: `split` elaborates the rest of the chain again in
    every branch. -/
private theorem applyDecoder_enc {C : Consts} (hC : SzOk C = true) (l : Bool) (c : Coder) :
    applyDecoder C l c = .encrypted ↔ IsAes c := by
  have ok := SzOk.facts hC
  rw [IsAes, ← ok.aesPrefix, ← List.isPrefixOf_iff_prefix, applyDecoder]
  by_cases e1 : c = C.coderCopy
  · rw [if_pos e1, e1, ok.copy]; decide
  rw [if_neg e1]
  by_cases e2 : c = C.coderLzma
  · rw [if_pos e2, e2, ok.lzma]; cases l <;> decide
  rw [if_neg e2]
  by_cases e3 : c = C.coderLzma2
  · rw [if_pos e3, e3, ok.lzma2]; cases l <;> decide
  rw [if_neg e3]
  by_cases e4 : c = C.coderBcj
  · rw [if_pos e4, e4, ok.bcj]; decide
  rw [if_neg e4]
  by_cases e5 : C.aesPrefix.isPrefixOf c = true
  · rw [if_pos e5, e5]; decide
  · rw [if_neg e5, Bool.eq_false_iff.mpr e5]; decide

/-- An archive with an AES coder in a data folder (header readable), or whose encoded header's
    folder ends with the AES coder (the coder applied first to the packed bytes — the layout 7-Zip
    writes for `-mhe=on`), is rejected as encrypted. -/
theorem C08_7z_encrypted {C : Consts} (hC : SzOk C = true) (l : Bool) (a : SzArchive) :
    ((a.headerCoders = none ∨ ∃ cs, a.headerCoders = some cs ∧ decodeFolder C l cs = .ok) ∧
        (∃ f ∈ a.folders, ∃ c ∈ f, IsAes c))
      ∨ (∃ pre c, a.headerCoders = some (pre ++ [c]) ∧ IsAes c) →
    szOpen C l a = .encrypted := by
  rintro (⟨hh, hf⟩ | ⟨pre, c, hh, hc⟩)
  · have hn := (C08_7z hC a.folders).mpr hf
    unfold szOpen
    rcases hh with hh | ⟨cs, hh, hok⟩
    · simp [hh, hn]
    · simp [hh, hok, hn]
  · unfold szOpen
    have : decodeFolder C l (pre ++ [c]) = .encrypted := by
      unfold decodeFolder
      simp only [List.isEmpty_iff, List.append_eq_nil_iff, List.cons_ne_self, and_false, if_false,
        List.reverse_append, List.reverse_cons, List.reverse_nil, List.nil_append, List.cons_append,
        decodeFolder.go, (applyDecoder_enc hC l c).mpr hc]
    simp [hh, this, (SzOk.facts hC).headerEnc]

/-- An archive without any AES coder (neither in the header folder nor in a data folder) is never
    rejected as encrypted. -/
theorem C08_7z_plain {C : Consts} (hC : SzOk C = true) (l : Bool) (a : SzArchive)
    (hh : ∀ cs, a.headerCoders = some cs → ∀ c ∈ cs, ¬ IsAes c)
    (hf : ∀ f ∈ a.folders, ∀ c ∈ f, ¬ IsAes c) :
    szOpen C l a ≠ .encrypted := by
  have hn : needsPassword C a.folders = false := by
    cases h : needsPassword C a.folders with
    | false => rfl
    | true => obtain ⟨f, hf', c, hc, ha⟩ := (C08_7z hC a.folders).mp h; exact absurd ha (hf f hf' c hc)
  unfold szOpen
  cases hhc : a.headerCoders with
  | none => simp [hn]
  | some cs =>
    simp only
    cases hdc : decodeFolder C l cs with
    | ok => simp [hn]
    | bad => simp
    | encrypted =>
      exfalso
      unfold decodeFolder at hdc
      split at hdc
      · cases hdc
      · obtain ⟨c, hc, ha⟩ := decodeFolder_go_encrypted hdc
        exact hh cs hhc c (List.mem_reverse.mp hc) ((applyDecoder_enc hC l c).mp ha)

def SzReaderOk (C : Consts) : Bool := C.szAskPure && C.szFoldersLastWriteWins

/-- the current source: `needs_password` is a pure function of `self._folders`, `_folders` is plainly re-assigned -/
theorem gen_sz_reader_ok : SzReaderOk K = true := by decide

private theorem run_append (C : Consts) (r : SzReader) (a b : List SzEv) :
    SzReader.run C r (a ++ b) = SzReader.run C (SzReader.run C r a) b := by
  induction a generalizing r with
  | nil => rfl
  | cons e es ih => cases e <;> simp [SzReader.run, ih]

private theorem run_asks {C : Consts} (h : C.szAskPure = true) (r : SzReader) (n : Nat) :
    SzReader.run C r (List.replicate n .ask) = r := by
  induction n with
  | zero => rfl
  | succ n ih => simp [List.replicate, SzReader.run, SzReader.ask, h, ih]

/-- For EVERY parse / ask history `before` (the folder of a compressed EncodedHeader parsed first, additional streams,
    `needs_password()` asked early by the parser or anybody else, any number of times), once the streams info with folders
    `fs` has been parsed the reader answers `needsPassword fs` — to every later question.  With `C08_7z`: an AES coder in a
    data folder is reported however the header was stored. -/
theorem C08_7z_reader_history {C : Consts} (hC : SzReaderOk C = true) (before : List SzEv) (fs : List (List Coder)) (asks : Nat) :
    szVerdict C (before ++ [.parsed fs] ++ List.replicate asks .ask) = needsPassword C fs := by
  simp only [SzReaderOk, Bool.and_eq_true] at hC
  obtain ⟨hpure, hlast⟩ := hC
  unfold szVerdict
  rw [run_append, run_append, run_asks hpure]
  simp [SzReader.run, SzReader.parsed, SzReader.ask, hpure, hlast]

theorem C08_7z_reader_encrypted {C : Consts} (hC : SzOk C = true) (hR : SzReaderOk C = true) (before : List SzEv)
    (fs : List (List Coder)) (asks : Nat) (f : List Coder) (hf : f ∈ fs) (c : Coder) (hc : c ∈ f) (ha : IsAes c) :
    szVerdict C (before ++ [.parsed fs] ++ List.replicate asks .ask) = true := by
  rw [C08_7z_reader_history hR]
  exact (C08_7z hC fs).mpr ⟨f, hf, c, hc, ha⟩

example : szVerdict K [.parsed [[[0x03, 0x01, 0x01]]], .ask, .parsed [[[0x21], [0x06, 0xF1, 0x07, 0x01]]]] = true := by decide

/-- class "memoised needs_password": one early question (while only the folder of the compressed header is known) freezes
    the answer, the AES coder of the data folders is never seen -/
theorem C08_7z_memo_counterexample :
    szVerdict { K with szAskPure := false } [.parsed [[[0x03, 0x01, 0x01]]], .ask, .parsed [[[0x21], [0x06, 0xF1, 0x07, 0x01]]]] = false := by decide

/-- class "first streams info wins" (`if not self._folders:` / extend-once): the header's own folder hides the data folders -/
theorem C08_7z_first_write_counterexample :
    szVerdict { K with szFoldersLastWriteWins := false } [.parsed [[[0x03, 0x01, 0x01]]], .parsed [[[0x06, 0xF1, 0x07, 0x01]]]] = false := by decide

example : szOpen K true ⟨none, [[[0x21]], [[0x21], [0x06, 0xF1, 0x07, 0x01]]]⟩ = .encrypted := by decide
example : szOpen K false ⟨some [[0x21], [0x06, 0xF1, 0x07, 0x01]], []⟩ = .encrypted := by decide
example : szOpen K true ⟨some [[0x21]], [[[0x03, 0x01, 0x01]], [[0x00]]]⟩ = .done := by decide
example : IsAes [0x06, 0xF1, 0x07, 0x01] := ⟨[1], rfl⟩

def OdfOk (C : Consts) : Bool := C.odfEncTag == some specOdfTag

theorem gen_odf_ok : OdfOk K = true := by
  decide_chars OdfOk K S2T.Gen.Encryption.consts specOdfTag

/-- For every well-formed manifest: the package is rejected as encrypted iff the manifest tree contains
    a `manifest:encryption-data` element (sound AND complete).  The answer does not depend on the
    manifest's text, so member names, attribute values and comments cannot trigger it. -/
theorem C08_odf {C : Consts} (hC : OdfOk C = true) (text : Str) (t : Xml) :
    isOdfEncrypted C ⟨true, some (text, some t)⟩ = true ↔ specOdfTag ∈ t.elems := by
  simp only [OdfOk, beq_iff_eq] at hC
  simp only [isOdfEncrypted, hC, Bool.not_true, Bool.false_eq_true, if_false]
  exact Xml.anyTag_iff specOdfTag t

/-- not a ZIP, or no manifest member: never flagged -/
theorem C08_odf_plain (C : Consts) (m : Option (Str × Option Xml)) :
    isOdfEncrypted C ⟨false, m⟩ = false ∧ isOdfEncrypted C ⟨true, none⟩ = false := ⟨rfl, rfl⟩

/-- the manifest of a real encrypted package: file-entry / encryption-data / algorithm -/
example : isOdfEncrypted K ⟨true, some ([], some (.node "{urn:oasis:names:tc:opendocument:xmlns:manifest:1.0}manifest".toList
    [.node "{urn:oasis:names:tc:opendocument:xmlns:manifest:1.0}file-entry".toList
      [.node "{urn:oasis:names:tc:opendocument:xmlns:manifest:1.0}encryption-data".toList
        [.node "{urn:oasis:names:tc:opendocument:xmlns:manifest:1.0}algorithm".toList []]]]))⟩ = true := by
  decide_chars K S2T.Gen.Encryption.consts

/-- the confirmed witness of the legacy defect is accepted: manifest text naming a member
    `Pictures/encryption-data.png`, tree without any encryption-data element -/
def odfWitnessText : Str := "<manifest:file-entry manifest:full-path=\"Pictures/encryption-data.png\" manifest:media-type=\"image/png\"/>".toList
def odfWitnessTree : Xml := .node "{urn:oasis:names:tc:opendocument:xmlns:manifest:1.0}manifest".toList
  [.node "{urn:oasis:names:tc:opendocument:xmlns:manifest:1.0}file-entry".toList [],
   .node "{urn:oasis:names:tc:opendocument:xmlns:manifest:1.0}file-entry".toList []]
example : isOdfEncrypted K ⟨true, some (odfWitnessText, some odfWitnessTree)⟩ = false := by
  decide_chars K S2T.Gen.Encryption.consts odfWitnessText odfWitnessTree

def EpubOk (C : Consts) : Bool :=
  C.epubEncPath == specEpubEncPath && C.epubRightsPath == specEpubRightsPath && C.epubEncTag == specEpubTag

theorem gen_epub_ok : EpubOk K = true := by
  decide_chars EpubOk K S2T.Gen.Encryption.consts specEpubEncPath specEpubRightsPath specEpubTag

/-- An EPUB is rejected as DRM-protected iff it has META-INF/rights.xml, or its
    META-INF/encryption.xml parses and has an `enc:EncryptedData` element below the root. -/
theorem C08_epub {C : Consts} (hC : EpubOk C = true) (i : EpubInput) :
    isEpubEncrypted C i = true ↔
      (specEpubEncPath ∈ i.names ∧ ∃ tag cs, i.encXml = some (.node tag cs) ∧ specEpubTag ∈ Xml.elemsL cs)
      ∨ specEpubRightsPath ∈ i.names := by
  simp only [EpubOk, Bool.and_eq_true, beq_iff_eq] at hC
  obtain ⟨⟨h1, h2⟩, h3⟩ := hC
  simp only [isEpubEncrypted, h1, h2, h3, Bool.or_eq_true, Bool.and_eq_true, List.contains_iff_mem]
  cases i.encXml with
  | none => simp
  | some t => simp only [Xml.anyDescendant_iff, Option.some.injEq]

example : isEpubEncrypted K ⟨["mimetype".toList, "META-INF/encryption.xml".toList],
    some (.node "{urn:oasis:names:tc:opendocument:xmlns:container}encryption".toList
      [.node "{http://www.w3.org/2001/04/xmlenc#}EncryptedData".toList []])⟩ = true := by
  decide_chars K S2T.Gen.Encryption.consts
/-- an empty encryption.xml, or one that does not parse, does not make the book "encrypted" -/
example : isEpubEncrypted K ⟨["META-INF/encryption.xml".toList], some (.node "{urn:oasis:names:tc:opendocument:xmlns:container}encryption".toList [])⟩ = false := by
  decide_chars K S2T.Gen.Encryption.consts
example : isEpubEncrypted K ⟨["META-INF/encryption.xml".toList], none⟩ = false := by
  decide_chars K S2T.Gen.Encryption.consts
example : isEpubEncrypted K ⟨["META-INF/rights.xml".toList], none⟩ = true := by
  decide_chars K S2T.Gen.Encryption.consts

/-! ### the verdict does not depend on what the entries SAY (methods, keys, references, order)

`encryption.xml` (EPUB) and the manifest (ODF) carry, besides the element that marks the package as encrypted, a
description of HOW: `EncryptionMethod/@Algorithm`, key information, cipher references, checksum and key-derivation
attributes.  A protected package may mix entries (a DRM-protected book that also ships an obfuscated font; an ODF package
with AES-256 or an algorithm the library has never heard of): it is protected all the same.  The attributed detectors
(`isEpubEncryptedA`, `isOdfEncryptedA`: the model the correspondence runs on the attributed trees of generated packages)
are functions of the tag skeleton. -/

/-- attributes, text, and therefore the algorithms named, are irrelevant to the EPUB verdict -/
theorem C08_epub_content_irrelevant (C : Consts) (names : List Str) (t₁ t₂ : XmlA) (h : t₁.skeleton = t₂.skeleton) :
    isEpubEncryptedA C names (some t₁) = isEpubEncryptedA C names (some t₂) := by
  simp only [isEpubEncryptedA, Option.map_some, h]

/-- an `EncryptedData` element below the root of encryption.xml: rejected — whatever `Algorithm` its `EncryptionMethod`
    (or that of ANY OTHER entry, e.g. a font-obfuscation entry next to it) names, in any order, at any depth -/
theorem C08_epub_any_method {C : Consts} (hC : EpubOk C = true) (names : List Str) (tag : Str) (attrs : List (Str × Str))
    (text : Str) (cs : List XmlA) (hp : specEpubEncPath ∈ names) (hd : specEpubTag ∈ Xml.elemsL (XmlA.skeletonL cs)) :
    isEpubEncryptedA C names (some (.node tag attrs text cs)) = true := by
  unfold isEpubEncryptedA
  exact (C08_epub hC ⟨names, some (.node tag (XmlA.skeletonL cs))⟩).mpr (Or.inl ⟨hp, tag, _, rfl, hd⟩)

/-- attributes and text are irrelevant to the ODF verdict; an `encryption-data` element anywhere: rejected, whatever
    algorithm / checksum / key derivation it declares -/
theorem C08_odf_content_irrelevant {C : Consts} (hC : OdfOk C = true) (text : Str) (t : XmlA) :
    isOdfEncryptedA C true (some (text, some t)) = true ↔ specOdfTag ∈ t.skeleton.elems := by
  unfold isOdfEncryptedA
  exact C08_odf hC text t.skeleton

/-- a DRM-protected book that also declares an obfuscated font (entry order: font first) -/
def epubDrmPlusFont : XmlA :=
  .node "{urn:oasis:names:tc:opendocument:xmlns:container}encryption".toList [] []
    [.node "{http://www.w3.org/2001/04/xmlenc#}EncryptedData".toList [("Id".toList, "EDfont".toList)] []
       [.node "{http://www.w3.org/2001/04/xmlenc#}EncryptionMethod".toList
          [("Algorithm".toList, "http://www.idpf.org/2008/embedding".toList)] [] []],
     .node "{http://www.w3.org/2001/04/xmlenc#}EncryptedData".toList [("Id".toList, "ED1".toList)] []
       [.node "{http://www.w3.org/2001/04/xmlenc#}EncryptionMethod".toList
          [("Algorithm".toList, "http://www.w3.org/2001/04/xmlenc#aes128-cbc".toList)] [] []]]

example : isEpubEncryptedA K ["META-INF/encryption.xml".toList] (some epubDrmPlusFont) = true := by
  decide_chars K S2T.Gen.Encryption.consts epubDrmPlusFont

/-- the class of defects: a detector that EXEMPTS a package as soon as some entry names a "harmless" algorithm -/
def isEpubEncryptedExempting (C : Consts) (harmless : List Str) (names : List Str) (enc : Option XmlA) : Bool :=
  isEpubEncryptedA C names enc &&
    !(match enc with
      | some t => (t.attrValues "Algorithm".toList).any (fun a => harmless.contains a)
      | none => false)

/-- the same book without the font entry -/
def epubDrmOnly : XmlA :=
  .node "{urn:oasis:names:tc:opendocument:xmlns:container}encryption".toList [] []
    [.node "{http://www.w3.org/2001/04/xmlenc#}EncryptedData".toList [("Id".toList, "ED1".toList)] []
       [.node "{http://www.w3.org/2001/04/xmlenc#}EncryptionMethod".toList
          [("Algorithm".toList, "http://www.w3.org/2001/04/xmlenc#aes128-cbc".toList)] [] []]]

/-- … extracts the DRM-protected book with an obfuscated font, and is indistinguishable from the detector on a book with
    DRM entries only -/
theorem C08_epub_exemption_counterexample :
    isEpubEncryptedExempting K ["http://www.idpf.org/2008/embedding".toList] ["META-INF/encryption.xml".toList]
      (some epubDrmPlusFont) = false ∧
    isEpubEncryptedA K ["META-INF/encryption.xml".toList] (some epubDrmPlusFont) = true ∧
    isEpubEncryptedExempting K ["http://www.idpf.org/2008/embedding".toList] ["META-INF/encryption.xml".toList]
      (some epubDrmOnly) = true := by
  decide_chars K S2T.Gen.Encryption.consts isEpubEncryptedExempting epubDrmPlusFont epubDrmOnly

/-- every answer `reader.decrypt(…)` can give: it raised (`none`) or one of pypdf's `PasswordType` members
    (the inventory is read from the installed pypdf on every run) -/
def PdfOutcome (C : Consts) (d : Option Nat) : Prop := d = none ∨ ∃ p ∈ C.pdfPasswordTypes, d = some p.2

/-- decidable: the password tried is the empty one; the value assigned when `decrypt` raises makes the test true;
    pypdf's outcome inventory names NOT_DECRYPTED as 0 and gives every other outcome another value; the translated
    test — whatever its spelling in the source — agrees with "`== 0`" on every outcome of the inventory -/
def PdfOk (C : Consts) : Bool :=
  C.pdfPassword == [] && C.pdfExcRejects
    && C.pdfPasswordTypes.contains ("NOT_DECRYPTED", 0)
    && C.pdfPasswordTypes.all (fun p => (p.1 == "NOT_DECRYPTED") == (p.2 == 0))
    && C.pdfPasswordTypes.all (fun p => C.pdfTest.eval p.2 == (p.2 == 0))

theorem gen_pdf_ok : PdfOk K = true := by decide

/-- What `PdfOk` decides, as far as the theorems read it; `p` ranges over pypdf's outcome inventory. -/
private structure PdfFacts (C : Consts) : Prop where
  excRejects : C.pdfExcRejects = true
  name : ∀ p ∈ C.pdfPasswordTypes, (p.1 == "NOT_DECRYPTED") = (p.2 == 0)
  test : ∀ p ∈ C.pdfPasswordTypes, C.pdfTest.eval p.2 = (p.2 == 0)

private theorem PdfOk.facts {C : Consts} (h : PdfOk C = true) : PdfFacts C := by
  simp only [PdfOk, Bool.and_eq_true, List.all_eq_true, beq_iff_eq] at h
  exact ⟨h.1.1.1.2, h.1.2, h.2⟩

/-- `read_pdf` raises the encrypted error iff the reader says "encrypted" and trying the EMPTY
    password does not open it (returns NOT_DECRYPTED = 0, or raises) — for every answer `decrypt` can give.
    In particular a PDF that the empty password opens (as user password or as owner password) is not rejected. -/
theorem C08_pdf {C : Consts} (hC : PdfOk C = true) (isEnc : Bool) (d : Option Nat) (hd : PdfOutcome C d) :
    pdfRejects C isEnc d = true ↔ isEnc = true ∧ (d = none ∨ d = some 0) := by
  rcases hd with rfl | ⟨p, hp, rfl⟩
  · simp [pdfRejects, (PdfOk.facts hC).excRejects]
  · simp [pdfRejects, (PdfOk.facts hC).test p hp]

/-- over pypdf's own outcome inventory: of all the ways `decrypt('')` can answer, exactly NOT_DECRYPTED is
    rejected — a file the empty password opens as the USER *or* as the OWNER password (pypdf tries the owner
    password first, so a file whose two passwords are both empty reports OWNER_PASSWORD) is extracted. -/
theorem C08_pdf_password_types {C : Consts} (hC : PdfOk C = true) (p : String × Nat) (hp : p ∈ C.pdfPasswordTypes) :
    pdfRejects C true (some p.2) = (p.1 == "NOT_DECRYPTED") := by
  simp only [pdfRejects, Bool.true_and, (PdfOk.facts hC).test p hp, (PdfOk.facts hC).name p hp]

/-- the inventory is the one the theorems are meant for: three outcomes, owner and user among them -/
theorem gen_pdf_outcomes :
    ((K.pdfPasswordTypes.map (·.1)).contains "OWNER_PASSWORD" && (K.pdfPasswordTypes.map (·.1)).contains "USER_PASSWORD"
      && K.pdfPasswordTypes.length == 3) = true := by decide

example : PdfOutcome K (some 2) := Or.inr ⟨("OWNER_PASSWORD", 2), by decide, rfl⟩
example : pdfRejects K true (some 1) = false ∧ pdfRejects K true (some 2) = false ∧ pdfRejects K true (some 0) = true
    ∧ pdfRejects K true none = true ∧ pdfRejects K false none = false := by decide

/-- the strict reading (the test is literally equivalent to `== 0` for EVERY natural number, decided on `0 … bound`
    of the translated test and extended by `PdfTest.eval_stable`) -/
def PdfStrict (C : Consts) : Bool :=
  C.pdfPassword == [] && C.pdfExcRejects
    && (List.range (C.pdfTest.bound + 1)).all (fun v => C.pdfTest.eval v == (v == 0))

/-- … under which the statement holds for results of any size, not only pypdf's three.  (Not tied to the generated
    constants: a spelling such as `not in (USER_PASSWORD, OWNER_PASSWORD)` is correct on every outcome but not strict.) -/
theorem C08_pdf_all_results {C : Consts} (hC : PdfStrict C = true) (isEnc : Bool) (d : Option Nat) :
    pdfRejects C isEnc d = true ↔ isEnc = true ∧ (d = none ∨ d = some 0) := by
  simp only [PdfStrict, Bool.and_eq_true] at hC
  obtain ⟨⟨_, hexc⟩, htest⟩ := hC
  have ht := PdfTest.eval_eq_isZero _ htest
  cases d with
  | none => simp [pdfRejects, hexc]
  | some n => simp [pdfRejects, ht n]

example : PdfStrict { K with pdfTest := .eq 0 } = true ∧ PdfStrict { K with pdfTest := .lt 1 } = true
    ∧ PdfStrict { K with pdfTest := .not .truthy } = true := by decide

/-- why the owner outcome matters: a decision that lets only USER_PASSWORD through (`decrypt_result is not
    PasswordType.USER_PASSWORD`, handler default NOT_DECRYPTED) fails `PdfOk` and rejects the PDF whose empty
    password is reported as the owner password — although no password is needed to open it. -/
theorem C08_pdf_user_only_counterexample :
    PdfOk { K with pdfTest := .ne 1 } = false ∧ pdfRejects { K with pdfTest := .ne 1 } true (some 2) = true := by decide

/-- `PdfOk` judges the meaning on pypdf's outcomes, not the spelling -/
example : PdfOk { K with pdfTest := .not (.mem [1, 2]) } = true ∧ PdfStrict { K with pdfTest := .not (.mem [1, 2]) } = false
    ∧ PdfOk { K with pdfTest := .and (.ne 1) (.ne 2) } = true ∧ PdfOk { K with pdfTest := .ge 2 } = false
    ∧ PdfOk { K with pdfExcRejects := false } = false := by decide

open S2T.Guard

/-- the container kinds whose wrapper carries an explicit detector test -/
def guardedWrappers : List String :=
  ["read_docx", "read_xlsx", "read_pptx", "read_xls", "read_ppt", "read_odt", "read_ods", "read_odp",
   "read_odg", "read_odf", "read_epub"]

def noStuck (_ : String) : Bool := false

/-- every one of them is a registered extractor and the translator found its guard -/
theorem C08_guards_cover :
    guardedWrappers.all (fun w => (S2T.Gen.Wrappers.extractorWrappers.map (·.1)).contains w
      && (S2T.Gen.Encryption.guards.map (·.1)).contains w) = true := by decide +kernel

def guardsOk : Bool :=
  S2T.Gen.Encryption.guards.all (fun g =>
    match S2T.Gen.Wrappers.extractorWrappers.lookup g.1 with
    | none => false
    | some s =>
      hasGuard g.2 (guardify s) && noYield (· == g.2) noStuck (guardify s)
        && guardRaises (· == g.2) "ExtractionFileEncryptedError" (guardify s))

theorem gen_guards_ok : guardsOk = true := by decide +kernel

/-- In each of the 11 guarded wrappers: whenever the detector test answers True, NO execution of the
    wrapper — whatever any parser call does, whichever exceptions fly — performs a `yield`.  (That the
    statement under the test is `raise ExtractionFileEncryptedError` is the `guardRaises` conjunct of `guardsOk`,
    decided in `gen_guards_ok`; it is not part of this conclusion.) -/
theorem C08_before_content (w tag : String) (s : S2T.Wrapper.Stmt)
    (hg : (w, tag) ∈ S2T.Gen.Encryption.guards)
    (hs : S2T.Gen.Wrappers.extractorWrappers.lookup w = some s)
    (n : Nat) (o : Out) (hrun : Run (· == tag) noStuck (guardify s) n o) : n = 0 := by
  have h := gen_guards_ok
  simp only [guardsOk, List.all_eq_true] at h
  have h' := h (w, tag) hg
  simp only [hs, Bool.and_eq_true] at h'
  obtain ⟨⟨_, hny⟩, _⟩ := h'
  exact (run_sound hrun).of_noYield hny

/-- DOC has no separate detector call: the FIB test sits inside `doc.read()`.  Whenever that call
    raises (as `C08_fib` says it does for an encrypted stream) nothing is yielded. -/
theorem C08_before_content_doc (n : Nat) (o : Out)
    (hrun : Run (fun _ => false) (· == "stmt:doc.read()") (guardify S2T.Gen.Wrappers.read_doc) n o) : n = 0 :=
  (run_sound hrun).of_noYield (by decide)

/-- PDF: the decision is taken on local values (no call in the tests), so the skeleton cannot link
    it to the raise; but every execution of `read_pdf` that ends with an exception — in particular
    with the encrypted error — has yielded nothing. -/
theorem C08_before_content_pdf (encT stuck : String → Bool) (n : Nat)
    (hrun : Run encT stuck (guardify S2T.Gen.Wrappers.read_pdf) n .raised) : n = 0 :=
  (run_sound hrun).of_quiet (by decide) rfl

/-- the hypotheses are satisfiable: executions of the shapes used above exist (miniature skeleton
    of the same form: seek; if test: raise; parse; yield — test answers True, the error leaves) -/
example : Run (· == "test:t") noStuck
    (guardify (.try_ (.seq (.atom "stmt:seek" false) (.seq (.seq (.atom "test:t" false) (.ite (.raise_ "ExtractionFileEncryptedError") (.atom "skip" true))) (.seq (.atom "stmt:parse" false) .yield_)))
      [(["ExtractionError"], .reraise)] (.atom "skip" true))) 0 .raised :=
  Run.tryCaught (h := .reraise) (k := 0) (m := 0) (o' := .normal)
    (Run.seqGo (n := 0) (m := 0) (Run.atomOk rfl) (Run.seqStop (Run.ifTrue rfl Run.raise_) (by decide)))
    (List.mem_cons_self ..) Run.reraise (Run.atomOk rfl)
/-- … and without the assumption the same skeleton can yield (the analysis is not vacuous) -/
example : noYield (fun _ => false) noStuck
    (guardify (.seq (.seq (.atom "test:t" false) (.ite (.raise_ "E") (.atom "skip" true))) .yield_)) = false := by decide

/-- Legacy ODF test (text markers only, `odfEncTag = none`): the plain package whose manifest lists a
    member `Pictures/encryption-data.png` is flagged although its tree has no encryption-data element.
    Full-strength `C08_odf` is false for those constants. -/
theorem C08_legacy_odf_counterexample :
    isOdfEncrypted { K with odfEncTag := none } ⟨true, some (odfWitnessText, some odfWitnessTree)⟩ = true
    ∧ specOdfTag ∉ odfWitnessTree.elems := by
  decide_chars K S2T.Gen.Encryption.consts odfWitnessText odfWitnessTree specOdfTag

/-- Legacy ZIP read handler (`except RuntimeError` alone — NotImplementedError is a RuntimeError): a plain
    archive with a member stored with an unsupported method (e.g. deflate64) ends "encrypted", after
    having yielded the first member's content.  `C08_zip_plain` is false for those constants. -/
theorem C08_legacy_zip_counterexample :
    zipExtract { K with zipReadHandlers := [("RuntimeError", "ExtractionFileEncryptedError")] }
      (some [⟨false, 0, false, false, .data, 1⟩, ⟨false, 0, false, false, .notImplemented, 0⟩]) = (1, .encrypted) := by decide

/-- Legacy 7z path (`Bad7zFile` for an AES coder met while decoding the header → "Invalid 7z archive"):
    a header-encrypted archive is a *failed* extraction, not an encrypted one. -/
theorem C08_legacy_7z_counterexample :
    szOpen { K with szHeaderEncDetected := false } true ⟨some [[0x21], [0x06, 0xF1, 0x07, 0x01]], []⟩ = .failed := by decide

end S2T.C08
