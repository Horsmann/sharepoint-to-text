import S2T.Model.Images
import S2T.Lemmas.Opc
import S2T.Lemmas.Chars
import S2T.Gen.Images
/-!
# C14 — "however the package references it": reference resolution

Every resolver of the image paths agrees with `Spec.Opc.opcResolve` (RFC 3986 §5.2 for path-only
references) for **all** source directories and **all** targets; the laws `norm_*` pin the specification
itself down.  The functions these resolvers replaced (`…Old`) are kept with their counterexamples.
-/
namespace S2T.C14.Resolve
open S2T.Spec.Opc S2T.Images

theorem splitSlash_ne_nil (s : Str) : splitSlash s ≠ [] := splitSlash_eq s ▸ List.splitOn_ne_nil '/' s

theorem splitSlash_append (a b : Str) : splitSlash (a ++ '/' :: b) = splitSlash a ++ splitSlash b := by
  simp only [splitSlash_eq, List.splitOn_append_cons_self]

theorem joinSlash_splitSlash (s : Str) : joinSlash (splitSlash s) = s := by
  rw [splitSlash_eq, joinSlash_eq, List.intercalate_splitOn]

theorem joinSlash_append (a b : List Str) (ha : a ≠ []) (hb : b ≠ []) :
    joinSlash (a ++ b) = joinSlash a ++ '/' :: joinSlash b := by
  induction a with
  | nil => exact absurd rfl ha
  | cons s t ih =>
    cases t with
    | nil =>
      cases b with
      | nil => exact absurd rfl hb
      | cons b1 b2 => simp [joinSlash]
    | cons t1 t2 =>
      have := ih (by simp)
      simp only [List.cons_append] at this ⊢
      simp [joinSlash, this]

/-- `normSegs` continues where it stopped -/
theorem normSegs_append (acc xs ys : List Str) :
    normSegs acc (xs ++ ys) = normSegs (normSegs acc xs).reverse ys := by
  fun_induction normSegs acc xs with
  | case1 acc => simp
  | case2 acc r ih => rw [List.cons_append, normSegs, if_pos rfl, ih]
  | case3 acc s r h1 h2 ih => rw [List.cons_append, normSegs, if_neg h1, if_pos h2, ih]
  | case4 acc s r h1 h2 ih => rw [List.cons_append, normSegs, if_neg h1, if_neg h2, ih]

/-- **clean result**: the resolved name has no empty, `.` or `..` segment -/
theorem normSegs_clean (acc l : List Str) (hacc : ∀ s ∈ acc, isName s = true) :
    ∀ s ∈ normSegs acc l, isName s = true := by
  fun_induction normSegs acc l with
  | case1 acc => simpa using hacc
  | case2 acc r ih => exact ih fun s hs => hacc s (List.mem_of_mem_tail hs)
  | case3 acc s r h1 h2 ih => exact ih hacc
  | case4 acc s r h1 h2 ih =>
    refine ih fun x hx => ?_
    rcases List.mem_cons.mp hx with rfl | hx
    · simp only [isName, Bool.and_eq_true, decide_eq_true_eq]
      exact ⟨⟨fun e => h2 (Or.inl e), fun e => h2 (Or.inr e)⟩, h1⟩
    · exact hacc x hx

theorem norm_clean (l : List Str) : ∀ s ∈ norm l, isName s = true :=
  normSegs_clean [] l (by simp)

/-- **names are kept**: a list of proper names is its own normal form -/
theorem normSegs_names (acc l : List Str) (hl : ∀ s ∈ l, isName s = true) :
    normSegs acc l = acc.reverse ++ l := by
  induction l generalizing acc with
  | nil => simp [normSegs]
  | cons x r ih =>
    have hx := hl x (by simp)
    simp only [isName, Bool.and_eq_true, decide_eq_true_eq] at hx
    unfold normSegs
    rw [if_neg hx.2, if_neg (by simp [hx.1.1, hx.1.2])]
    rw [ih _ (fun s hs => hl s (by simp [hs]))]
    simp

theorem norm_noDots (l : List Str) (hl : ∀ s ∈ l, isName s = true) : norm l = l := by
  simpa [norm] using normSegs_names [] l hl

/-- **`name/..` cancels** anywhere in the reference (RFC 3986 §5.2.4 step 2C) -/
theorem norm_cancel (xs ys : List Str) (s : Str) (hs : isName s = true) :
    norm (xs ++ s :: dotdot :: ys) = norm (xs ++ ys) := by
  simp only [isName, Bool.and_eq_true, decide_eq_true_eq] at hs
  unfold norm
  rw [normSegs_append, normSegs_append [] xs ys]
  generalize (normSegs [] xs).reverse = acc
  rw [normSegs, if_neg hs.2, if_neg (by simp [hs.1.1, hs.1.2]), normSegs, if_pos rfl]
  simp

/-- **`.` and empty segments disappear** anywhere (step 2B / doubled slashes) -/
theorem norm_skip (xs ys : List Str) (s : Str) (hs : s = [] ∨ s = dot) :
    norm (xs ++ s :: ys) = norm (xs ++ ys) := by
  unfold norm
  rw [normSegs_append, normSegs_append [] xs ys]
  generalize (normSegs [] xs).reverse = acc
  have h1 : s ≠ dotdot := by rcases hs with rfl | rfl <;> simp [dot, dotdot]
  rw [normSegs, if_neg h1, if_pos hs]

/-- **`..` at the package root disappears** (the root has no parent) -/
theorem norm_root_dotdot (ys : List Str) : norm (dotdot :: ys) = norm ys := by
  simp [norm, normSegs]

theorem opc_absolute (d d' t : Str) (ht : isAbsolute t = true) : opcResolve d t = opcResolve d' t := by
  simp [opcResolve, ht]

theorem opc_plain (d t : Str) (ht : isAbsolute t = false)
    (hd : ∀ s ∈ splitSlash d, isName s = true) (hs : ∀ s ∈ splitSlash t, isName s = true) :
    opcResolve d t = d ++ '/' :: t := by
  simp only [opcResolve, ht, Bool.false_eq_true, if_false]
  rw [norm_noDots (splitSlash d ++ splitSlash t)
    (by intro s h; rcases List.mem_append.mp h with h | h; exact hd s h; exact hs s h)]
  rw [← splitSlash_append, joinSlash_splitSlash]

example : opcResolve "ppt/slides".toList "../media/image1.png".toList = "ppt/media/image1.png".toList := by
  decide_chars
example : opcResolve "ppt/slides".toList "/ppt/media/i.png".toList = "ppt/media/i.png".toList := by
  decide_chars
example : opcResolve "ppt/slides".toList "media/../../media/i.png".toList = "ppt/media/i.png".toList := by
  decide_chars
example : opcResolve "word".toList "./media//a.png".toList = "word/media/a.png".toList := by
  decide_chars
example : ∀ s ∈ splitSlash "media/a.png".toList, isName s = true := by
  decide_chars

theorem popLoop_eq_normSegs (res l : List Str) : popLoop res l = normSegs res l := by
  fun_induction popLoop res l with
  | case1 res => rfl
  | case2 r ih => rw [ih, normSegs, if_pos rfl]; rfl
  | case3 r a t ih => rw [ih, normSegs, if_pos rfl]; rfl
  | case4 res p r h1 h2 ih => rw [ih, normSegs, if_neg h1, if_neg (fun h => h.elim h2.1 h2.2)]
  | case5 res p r h1 h2 ih =>
    rw [ih, normSegs, if_neg h1, if_pos (Decidable.or_iff_not_imp_left.mpr fun e => Decidable.byContradiction fun e' => h2 ⟨e, e'⟩)]

/-- **C14_opc** — `zip_utils.resolve_part_target` is OPC resolution, for every source directory and target. -/
theorem C14_opc_resolve_part_target (d t : Str) : resolvePartTarget d t = opcResolve d t := by
  unfold resolvePartTarget opcResolve startsSlash isAbsolute norm
  split
  · rw [popLoop_eq_normSegs]
  · rw [popLoop_eq_normSegs, splitSlash_append]

/-- PPTX: the member read for a picture is the OPC resolution of the relationship target against the slide's directory -/
theorem C14_opc_pptx (slidePath t : Str) : pptxImagePath slidePath t = opcResolve (dirOf slidePath) t :=
  C14_opc_resolve_part_target _ _

/-- DOCX: … against `word/` (the directory of `word/document.xml`) -/
theorem C14_opc_docx (t : Str) : docxImagePath t = opcResolve "word".toList t :=
  C14_opc_resolve_part_target _ _

/-- XLSX: sheet → drawing (against `xl/worksheets/`) and drawing → image (against the drawing's directory) -/
theorem C14_opc_xlsx_drawing (t : Str) : xlsxDrawingPath t = opcResolve "xl/worksheets".toList t :=
  C14_opc_resolve_part_target _ _
theorem C14_opc_xlsx_image (t drawing : Str) : xlsxImagePath t drawing = opcResolve (dirOf drawing) t :=
  C14_opc_resolve_part_target _ _

/-- the directory of `dir/name` is `dir` (so `dirOf "ppt/slides/slide1.xml" = "ppt/slides"` for every such name) -/
theorem dirOf_join (dir name : Str) (hn : '/' ∉ name) : dirOf (dir ++ '/' :: name) = dir := by
  unfold dirOf
  rw [splitSlash_append, splitSlash_eq name, List.splitOn_eq_singleton hn, List.dropLast_concat, joinSlash_splitSlash]

/-- EPUB: manifest hrefs are resolved against the OPF directory (`opfDir` = `dir ++ "/"`, or `""` at the root) -/
theorem C14_opc_epub (dir href : Str) : epubResolve (dir ++ ['/']) href = opcResolve dir href := by
  unfold epubResolve opcResolve startsSlash isAbsolute norm
  rw [popLoop_eq_normSegs]
  split
  · simp
  · rw [show dir ++ ['/'] ++ href = dir ++ '/' :: href by simp, splitSlash_append]

/-- from the package root a relative target and an absolute one designate the same member -/
private theorem opc_root (t : Str) : opcResolve [] t = joinSlash (norm (splitSlash t)) := by
  unfold opcResolve
  split
  · rfl
  · exact congrArg joinSlash (norm_skip [] (splitSlash t) [] (Or.inl rfl))

theorem C14_opc_epub_root (href : Str) : epubResolve [] href = opcResolve [] href := by
  rw [opc_root, epubResolve, popLoop_eq_normSegs, ite_self]
  rfl

/-- a reference stays inside the package: no `..` reaches above the root -/
def staysInside : List Str → List Str → Bool
  | _, [] => true
  | res, p :: r =>
    if p = dotdot then (match res with | [] => false | _ :: t => staysInside t r)
    else if p ≠ [] ∧ p ≠ dot then staysInside (p :: res) r
    else staysInside res r

private theorem odfLoop_eq (res l : List Str) :
    odfLoop res l = if staysInside res l = true then some (popLoop res l) else none := by
  fun_induction odfLoop res l with
  | case1 res => rfl
  | case2 r => rfl
  | case3 r a t ih => simp only [staysInside, popLoop, ↓reduceIte, ih]
  | case4 res p r h1 h2 ih => simp only [staysInside, popLoop, if_neg h1, if_pos h2, ih]
  | case5 res p r h1 h2 ih => simp only [staysInside, popLoop, if_neg h1, if_neg h2, ih]

/-- ODF (odt / odp / ods / odg): a package-relative `xlink:href` that stays inside the package designates the
    member OPC-style resolution from the package root gives (`./Pictures/a.png`, `Pictures/x/../a.png`, …) -/
theorem C14_opc_odf (href : Str) (hrel : isAbsolute href = false) (hin : staysInside [] (splitSlash href) = true) :
    odfResolve href = opcResolve [] href := by
  rw [opc_root, odfResolve, show startsSlash href = false from hrel, odfLoop_eq, if_pos hin, popLoop_eq_normSegs]
  rfl

/-- … and a reference that leaves the package (`../linked.png`, `/abs.png`: a linked file, not a member) is left alone -/
theorem C14_odf_outside (href : Str) (h : isAbsolute href = true ∨ staysInside [] (splitSlash href) = false) :
    odfResolve href = href := by
  unfold odfResolve startsSlash
  unfold isAbsolute at h
  rcases h with h | h
  · simp [h]
  · split
    · rfl
    · rw [odfLoop_eq, h]; rfl

example : isAbsolute "./Pictures/a.png".toList = false ∧ staysInside [] (splitSlash "./Pictures/a.png".toList) = true := by
  decide_chars
example : staysInside [] (splitSlash "../linked/a.png".toList) = false := by
  decide_chars
example : odfResolve "./Pictures/a.png".toList = "Pictures/a.png".toList := by
  decide_chars

/-! ## the functions before the fixes: the full-strength statement was false

    ∀ d t, pptxNormalizeOld d t = opcResolve d t          -- FALSE (absolute and mixed `..` targets)
    ∀ t, docxImagePathOld t = opcResolve "word" t          -- FALSE (absolute and parent-relative targets)
    ∀ t, xlsxImagePathOld t = opcResolve "xl/drawings" t   -- FALSE (sub-directories of media, sibling files)
    ∀ t, xlsxDrawingPathOld t = opcResolve "xl/worksheets" t   -- FALSE (`../../xl/drawings/…`)
    ∀ d h, epubResolveOld (d ++ "/") h = opcResolve d h    -- FALSE (`../images/a.png`)
    ∀ h, id h = opcResolve "" h   (ODF hrefs used verbatim) -- FALSE (`./Pictures/a.png`)
-/

/-- the old PPTX resolver glued an absolute target under the slide directory (the recorded defect) -/
theorem pptx_old_counterexample_absolute :
    pptxNormalizeOld "ppt/slides".toList "/ppt/media/i.png".toList = "ppt/slides/ppt/media/i.png".toList
    ∧ opcResolve "ppt/slides".toList "/ppt/media/i.png".toList = "ppt/media/i.png".toList := by
  decide_chars

theorem pptx_old_counterexample_mixed :
    pptxNormalizeOld "ppt/slides".toList "media/../../media/i.png".toList = "ppt/slides/media/media/i.png".toList
    ∧ opcResolve "ppt/slides".toList "media/../../media/i.png".toList = "ppt/media/i.png".toList := by
  decide_chars

theorem docx_old_counterexample :
    docxImagePathOld "/word/media/a.png".toList = "word//word/media/a.png".toList
    ∧ opcResolve "word".toList "/word/media/a.png".toList = "word/media/a.png".toList
    ∧ docxImagePathOld "../media/a.png".toList = "word/../media/a.png".toList
    ∧ opcResolve "word".toList "../media/a.png".toList = "media/a.png".toList := by
  decide_chars

theorem xlsx_old_counterexample :
    xlsxImagePathOld "../media/sub/a.png".toList = "xl/media/a.png".toList
    ∧ opcResolve "xl/drawings".toList "../media/sub/a.png".toList = "xl/media/sub/a.png".toList
    ∧ xlsxImagePathOld "a.png".toList = "xl/media/a.png".toList
    ∧ opcResolve "xl/drawings".toList "a.png".toList = "xl/drawings/a.png".toList
    ∧ xlsxDrawingPathOld "../../xl/drawings/d.xml".toList = "xl/../xl/drawings/d.xml".toList
    ∧ opcResolve "xl/worksheets".toList "../../xl/drawings/d.xml".toList = "xl/drawings/d.xml".toList := by
  decide_chars

theorem epub_old_counterexample :
    epubResolveOld "OEBPS/".toList "../images/a.png".toList = "OEBPS/../images/a.png".toList
    ∧ opcResolve "OEBPS".toList "../images/a.png".toList = "images/a.png".toList := by
  decide_chars

theorem odf_old_counterexample :
    opcResolve [] "./Pictures/a.png".toList = "Pictures/a.png".toList ∧ "./Pictures/a.png".toList ≠ "Pictures/a.png".toList := by
  decide_chars

/-- what the old PPTX resolver did get right: relative targets made of proper names -/
theorem pptx_old_partial (d t : Str) (ht : isAbsolute t = false)
    (hd : ∀ s ∈ splitSlash d, isName s = true) (hs : ∀ s ∈ splitSlash t, isName s = true) :
    pptxNormalizeOld d t = opcResolve d t := by
  rw [opc_plain d t ht hd hs]
  unfold pptxNormalizeOld startsSlash
  unfold isAbsolute at ht
  have hnd : ¬ dotdot ∈ splitSlash t := fun hc => by
    have := hs dotdot hc
    simp [isName] at this
  simp [ht, hnd]

/-- what the old DOCX concatenation did get right: the same targets -/
theorem docx_old_partial (t : Str) (ht : isAbsolute t = false) (hs : ∀ s ∈ splitSlash t, isName s = true) :
    docxImagePathOld t = opcResolve "word".toList t := by
  rw [opc_plain _ t ht (by decide_chars) hs]
  simp [docxImagePathOld]

example : isAbsolute "media/image1.png".toList = false ∧ (∀ s ∈ splitSlash "media/image1.png".toList, isName s = true)
    ∧ (∀ s ∈ splitSlash "ppt/slides".toList, isName s = true) := by
  decide_chars

/-- the extension → MIME tables of the three OOXML extractors give the raster types their registered names -/
def rasterOk (table : List (Str × Str)) : Bool :=
  lookupStr "png".toList table == some "image/png".toList
  && lookupStr "jpg".toList table == some "image/jpeg".toList
  && lookupStr "jpeg".toList table == some "image/jpeg".toList
  && lookupStr "gif".toList table == some "image/gif".toList
  && lookupStr "bmp".toList table == some "image/bmp".toList

theorem gen_ctype_tables_ok :
    rasterOk S2T.Gen.Images.ctype_docx = true ∧ rasterOk S2T.Gen.Images.ctype_pptx = true
    ∧ rasterOk S2T.Gen.Images.ctype_xlsx = true := by
  decide_chars rasterOk S2T.Gen.Images.ctype_docx S2T.Gen.Images.ctype_pptx S2T.Gen.Images.ctype_xlsx

theorem gen_notes_empty : S2T.Gen.Images.notes = [] := by decide

/-- a target ending in `.<ext>` (no later dot, any letter case) gets the table's type for the lower-cased extension -/
theorem ctype_of_ext (table : List (Str × Str)) (stem ext : Str) (m : Str) (hdot : '.' ∉ ext)
    (hm : lookupStr (lowerAscii ext) table = some m) :
    ctypeByTarget table (stem ++ '.' :: ext) = m := by
  have : afterLastDot (stem ++ '.' :: ext) = ext := by
    unfold afterLastDot
    rw [List.takeWhile_ne_reverse_append '.' stem ext hdot, List.reverse_reverse]
  simp [ctypeByTarget, this, hm]

example : ctypeByTarget S2T.Gen.Images.ctype_pptx "../media/Image1.PNG".toList = "image/png".toList := by
  decide_chars S2T.Gen.Images.ctype_pptx
example : ctypeByTarget S2T.Gen.Images.ctype_docx "media/x.webp".toList = "image/webp".toList := by
  decide_chars S2T.Gen.Images.ctype_docx
example : ctypeXlsx S2T.Gen.Images.ctype_xlsx "image1.jpeg".toList = "image/jpeg".toList := by
  decide_chars S2T.Gen.Images.ctype_xlsx

end S2T.C14.Resolve
