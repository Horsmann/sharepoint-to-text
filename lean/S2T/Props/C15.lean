import S2T.Lemmas.Chars
import S2T.Lemmas.Patch
import S2T.Lemmas.CacheConc
import S2T.Model.AesPatch
import S2T.Model.TempScope
import S2T.Model.Cells
import S2T.Gen.GlobalWrites
import S2T.Props.C15_Conc
import S2T.Props.C15_Settings
import S2T.Props.C15_Suspend
import S2T.Props.C15_Reuse
/-!
# C15 — Isolation: results independent of history and of concurrent work

Statement (fixed): the result of extracting a document does not depend on what the process extracted
before or is extracting concurrently in other threads; after any sequence or interleaving of extractions,
including failed ones, the process-global state the library touches (patched third-party functions,
module-level configuration and caches that influence results, temporary files, open handles) is back to
what it was.

Parts:
* the patch / extract / restore critical section (`S2T.Patch`), any number of threads, any schedule;
* the memo caches are transparent for every history (`S2T.Cache`);
* the one-way AES provider patch (`S2T.AesPatch`): results do not depend on it; it is NOT undone
     (open known finding `aes.provider-patch-not-restored`, `_partial` + counterexample);
* the temporary directory of the 7z generator under every consumer behaviour (`S2T.TempScope`);
* closed world: every global write found in the current source is one of the cells above;
* the further parts, numbered §6–§12 in their own heads: `Props/C15_Conc.lean`, `C15_Settings.lean`, `C15_Suspend.lean`, `C15_Reuse.lean`.
-/
namespace S2T.C15
open S2T.Patch S2T.Patch.Pc

/-- the state reached by `k` threads under the schedule `sched` (any list of thread ids) -/
abbrev reached (k : Nat) (sched : List Nat) : St := Fixed.run (init k) sched

theorem patch_invariant (k : Nat) (sched : List Nat) : Inv (reached k sched) := inv_run (inv_init k) sched

/-- No thread is inside a section (each is not yet in, or finished — normally or by an exception in its
    body) ⇒ pypdf's function is the original, the user count is 0, nothing is saved, the lock is free. -/
theorem patch_restored (k : Nat) (sched : List Nat)
    (idle : ∀ x ∈ (reached k sched).thr, x.pc = probe ∨ x.pc = acqIn ∨ x.pc = done) :
    (reached k sched).F = 0 ∧ (reached k sched).users = 0 ∧ (reached k sched).saved = [] ∧ (reached k sched).lock = none := by
  have I := patch_invariant k sched
  -- here and below: from now on only the invariant speaks of the reached state, so it becomes a variable (`omega` and `simp`
  -- then see `s.F`, `s.users` as atoms and never open the run)
  generalize reached k sched = s at *
  have z : ∀ S, S probe = false → S acqIn = false → S done = false → num S s.thr = 0 := fun S h1 h2 h3 =>
    num_eq_zero fun a ha => by rcases idle a ha with e | e | e <;> rw [e] <;> assumption
  obtain ⟨count, saved, _, _⟩ := I
  rw [z inLock rfl rfl rfl, z counted rfl rfl rfl, z pending rfl rfl rfl] at count
  rw [z atWrap rfl rfl rfl] at saved
  have hu : s.users = 0 := by omega
  have hF : s.F = 0 := by omega
  refine ⟨hF, hu, ?_, ?_⟩
  · rw [saved, if_neg (by omega)]
  · cases hl : s.lock with
    | none => rfl
    | some h => rw [hl] at count; cases count.1  -- `count.1 : 0 = (some h).isSome.toNat`, that is `0 = 1`

/-- corollary in the wording of the property: after all extractions are over -/
theorem patch_restored_all_done (k : Nat) (sched : List Nat) (h : allDone (reached k sched) = true) :
    (reached k sched).F = 0 := by
  refine (patch_restored k sched ?_).1
  intro x hx
  have := List.all_eq_true.mp h x hx
  exact Or.inr (Or.inr (by simpa using this))

/-- While any thread is inside its section (its `extract_text` is running), exactly one wrapper is
    installed over the original — whatever the other threads are doing. -/
theorem patch_depth_inside (k : Nat) (sched : List Nat) (t : Nat) (h : pcOf (reached k sched) t = body) :
    (reached k sched).F = 1 := by
  have I := patch_invariant k sched
  generalize reached k sched = s at *
  unfold pcOf at h
  split at h
  · rename_i x hx
    have := num_pos (S := counted) (List.mem_of_getElem? hx) (by rw [h]; rfl)
    have := I.count
    omega
  · cases h

/-- every extraction that has run so far saw depth exactly 1 -/
theorem patch_seen_depth (k : Nat) (sched : List Nat) : ∀ o ∈ (reached k sched).obs, o.2 = 1 :=
  (patch_invariant k sched).seen

/-- the wrapper is never nested, at any time -/
theorem patch_never_nested (k : Nat) (sched : List Nat) : (reached k sched).F ≤ 1 :=
  (patch_invariant k sched).F_le_one

/-- mutual exclusion of the two locked regions -/
theorem patch_mutex (k : Nat) (sched : List Nat) :
    cnt (reached k sched).thr testIn + cnt (reached k sched).thr save + cnt (reached k sched).thr wrap
    + cnt (reached k sched).thr incr + cnt (reached k sched).thr relIn + cnt (reached k sched).thr decr
    + cnt (reached k sched).thr testOut + cnt (reached k sched).thr restore + cnt (reached k sched).thr relOut ≤ 1 := by
  rw [cnt_inLock, (patch_invariant k sched).mutex]
  exact Bool.toNat_le _

/-- no deadlock: as long as some thread is not finished, some thread can take a step -/
theorem patch_no_deadlock (k : Nat) (sched : List Nat) (h : allDone (reached k sched) = false) :
    ∃ t, Fixed.step (reached k sched) t ≠ reached k sched := by
  have I := patch_invariant k sched
  generalize reached k sched = s at *
  -- the thread to run: the one in the locked region if the lock is taken, any unfinished thread otherwise
  have pick : ∃ x ∈ s.thr, x.pc ≠ done ∧ (x.pc = acqIn ∨ x.pc = acqOut → s.lock = none) := by
    cases hl : s.lock with
    | none =>
      obtain ⟨x, hx, hp⟩ := List.all_eq_false.mp h
      exact ⟨x, hx, by simpa using hp, fun _ => rfl⟩
    | some _ =>
      have m := I.mutex
      rw [hl] at m
      obtain ⟨x, hx, hi⟩ := List.countP_pos_iff.mp (show num inLock s.thr > 0 by rw [m]; exact Nat.one_pos)
      exact ⟨x, hx, fun e => (by rw [e] at hi; cases hi), fun e => by rcases e with e | e <;> rw [e] at hi <;> cases hi⟩
  obtain ⟨x, hx, hd, hl⟩ := pick
  obtain ⟨t, ht⟩ := List.mem_iff_getElem?.mp hx
  exact ⟨t, step_ne ht hd hl⟩

example : allDone (reached 3 [0,0,0,0,0,0,0,0,0,0,0,0,0, 1,1,1,1,1,1,1,1,1,1,1,1,1, 2,2,2,2,2,2,2,2,2,2,2,2,2]) = true := by decide
/-- a genuinely overlapping schedule: three threads inside the section at the same time -/
example : let s := reached 3 [0,0,0,0,0,0,0, 1,1,1,1,1, 2,2,2,2,2]
    pcOf s 0 = body ∧ pcOf s 1 = body ∧ pcOf s 2 = body ∧ s.F = 1 ∧ s.users = 3 := by decide
/-- A.enter B.enter A.exit B.exit on the fixed code -/
example : let s := reached 2 [0,0,0,0,0,0,0, 1,1,1,1,1, 0,0,0,0,0,0, 1,1,1,1,1,1]
    allDone s = true ∧ s.F = 0 ∧ s.obs = [(0, 1), (1, 1)] := by decide

/-! ## the code before fix-charmap-patch-lock.patch

Full-strength statements, FALSE for the legacy protocol:
  `∀ k sched, allDone (Legacy.run (init k) sched) → (Legacy.run (init k) sched).F = 0`
  `∀ k sched, ∀ o ∈ (Legacy.run (init k) sched).obs, o.2 = 1` -/

/-- A.enter B.enter A.exit B.exit: pypdf's function stays wrapped for the rest of the process … -/
theorem legacy_not_restored :
    ∃ sched, allDone (Legacy.run (init 2) sched) = true ∧ (Legacy.run (init 2) sched).F ≠ 0 :=
  ⟨[0,0,0, 1,1,1, 0,0, 1,1], by decide⟩

/-- … and inside their sections A ran under two wrappers and B under none (its digits are not repaired). -/
theorem legacy_depth_violated :
    ∃ sched, (Legacy.run (init 2) sched).obs = [(0, 2), (1, 0)] :=
  ⟨[0,0,0, 1,1,1, 0,0, 1,1], by decide⟩

/-- what remains true of the legacy code: a single section restores what it found (no overlap). -/
theorem legacy_restored_partial (f : Nat) :
    let s0 : St := { init 1 with F := f }
    (Legacy.run s0 [0,0,0,0,0]).F = f ∧ (Legacy.run s0 [0,0,0,0,0]).obs = [(0, f + 1)] ∧ allDone (Legacy.run s0 [0,0,0,0,0]) = true := by
  simp [Legacy.run, Legacy.step, init, allDone]

open S2T.Cache

/-- one call of an LRU-cached function returns what the function returns, and keeps the cache honest -/
theorem cache_lru_transparent {K V E} [DecidableEq K] (cap : Nat) (f : K → Except E V) (c : Cache K V) (k : K)
    (hc : Consistent f c) : (lruGet cap f c k).1 = f k ∧ Consistent f (lruGet cap f c k).2 :=
  lruGet_spec cap f c k hc

/-- `_get_round_keys` / every `lru_cache` site: for every history `h` of earlier calls (hits, misses,
    evictions, failed calls), the cached function returns `f k`. -/
theorem cache_lru_history_independent {K V E} [DecidableEq K] (cap : Nat) (f : K → Except E V) (h : List K) (k : K) :
    (lruGet cap f (lruRun cap f [] h) k).1 = f k :=
  (lruGet_spec cap f _ k (lruRun_consistent cap f [] (by intro kv hkv; cases hkv) h)).1

example : Consistent (fun k : Nat => if k < 3 then Except.ok (ε := Unit) (k * 2) else .error ()) [(1, 2), (2, 4)] := by
  intro kv h; simp at h; rcases h with h | h <;> subst h <;> rfl
/-- eviction really happens (capacity 4, five keys) and a failed call stores nothing -/
example : (lruRun 4 (fun k : Nat => if k < 9 then Except.ok (ε := Unit) (k * 2) else .error ()) [] [0,1,2,3,0,4,9]).map (·.1)
    = [2,3,0,4] := by decide

/-- `_ttf_get_glyph_features` after fix-font-cache-key.patch (the cache `_FONT_CACHE` is read and filled by its callee
    `_ttf_parse_font`), for every history of (font, glyph ids) calls -/
theorem cache_font_history_independent {K P G V} [DecidableEq K] (parse : K → P) (feat : K → P → G → V)
    (h : List (K × G)) (k : K) (g : G) :
    (FontFixed.get parse feat (FontFixed.run parse feat [] h) k g).1 = feat k (parse k) g :=
  CacheConc.Keyed.fontFixed_run_eq parse feat [] h ▸ CacheConc.Keyed.history id (fun _ _ e => e) parse feat h k g

/-- Full-strength statement FALSE for the legacy `_FONT_CACHE`
    (`∀ h k g, (FontLegacy.get gfun (run h) k g).1 = gfun k g`): the second caller of a font gets the
    features of the first caller's glyph ids. -/
theorem cache_font_legacy_counterexample :
    let gfun : Nat → List Nat → List Nat := fun _font gids => gids        -- "features of exactly the requested glyphs"
    let c1 := (FontLegacy.get gfun [] 7 [0]).2
    (FontLegacy.get gfun c1 7 [1, 2]).1 ≠ gfun 7 [1, 2] := by decide

/-- `_get_type_registry`: whatever was asked before, the registry returned is the scan of `data_types` -/
theorem cache_registry_transparent {K V} (scan : List (K × V)) (n : Nat) :
    (registryGet scan (Nat.repeat (fun c => (registryGet scan c).2) n [])).1 = scan := by
  -- the registry cell is empty or holds the scan, and from both `registryGet` returns the scan
  have h : ∀ c : List (K × V), c = [] ∨ c = scan →
      (registryGet scan c).1 = scan ∧ ((registryGet scan c).2 = [] ∨ (registryGet scan c).2 = scan) := by
    rintro c (rfl | rfl) <;> unfold registryGet <;> split <;> simp_all
  have inv : ∀ n, Nat.repeat (fun c => (registryGet scan c).2) n [] = [] ∨ Nat.repeat (fun c => (registryGet scan c).2) n [] = scan := by
    intro n
    induction n with
    | zero => exact Or.inl rfl
    | succ m ih => exact (h _ ih).2
  exact (h _ (inv n)).1

open S2T.AesPatch

/-- the result of extracting a PDF does not depend on whether the process has patched pypdf before -/
theorem aes_result_history_independent (p : Provider) (s s' : AesPatch.St) (d : Doc) :
    (Fixed.extract p s d).1 = (Fixed.extract p s' d).1 := by
  obtain ⟨b⟩ := s; obtain ⟨b'⟩ := s'; obtain ⟨e, pw⟩ := d
  cases p <;> cases b <;> cases b' <;> cases e <;> cases pw <;> decide

/-- … hence in any sequence every document gets the result it gets alone in a fresh process -/
theorem aes_sequence_independent (p : Provider) (s : AesPatch.St) (ds : List Doc) :
    (Fixed.runSeq p s ds).1 = ds.map (fun d => (Fixed.extract p ⟨false⟩ d).1) := by
  induction ds generalizing s with
  | nil => rfl
  | cons d r ih =>
    simp only [Fixed.runSeq, List.map_cons]
    rw [ih, aes_result_history_independent p s ⟨false⟩ d]

/-- FALSE before fix-aes-fallback-eager.patch: an AES-128 document with an empty user password fails in a
    fresh process and succeeds once any AES-256 document has been opened. -/
theorem aes_legacy_counterexample :
    (Legacy.extract .fallback ⟨false⟩ ⟨.aesV4, true⟩).1 = .failed ∧
    (Legacy.extract .fallback (Legacy.extract .fallback ⟨false⟩ ⟨.aesV5, true⟩).2 ⟨.aesV4, true⟩).1 = .ok := by decide

/-- patching twice is patching once, and extracting the same document again changes neither its result nor the state -/
theorem aes_patch_idempotent (p : Provider) (s : AesPatch.St) (d : Doc) :
    (patch p (patch p s).2) = (patch p s) ∧
    (Fixed.extract p (Fixed.extract p s d).2 d) = ((Fixed.extract p s d).1, (Fixed.extract p s d).2) := by
  obtain ⟨b⟩ := s; obtain ⟨e, pw⟩ := d
  cases p <;> cases b <;> cases e <;> cases pw <;> decide

/-- Full-strength statement `∀ p s d, (Fixed.extract p s d).2 = s` is FALSE (open known finding
    `aes.provider-patch-not-restored`): the first encrypted PDF leaves pypdf's fallback provider patched. -/
theorem aes_state_not_restored : (Fixed.extract .fallback ⟨false⟩ ⟨.rc4, true⟩).2 ≠ ⟨false⟩ := by decide

/-- what holds: the state changes only on the fallback provider, only for an encrypted document, only the
    first time — and only in the direction unpatched → patched. -/
theorem aes_state_restored_partial (p : Provider) (s : AesPatch.St) (d : Doc)
    (h : p = .native ∨ d.enc = .none ∨ s.patched = true) : (Fixed.extract p s d).2 = s := by
  obtain ⟨b⟩ := s; obtain ⟨e, pw⟩ := d
  cases p <;> cases b <;> cases e <;> cases pw <;> simp at h <;> decide

example : (Provider.fallback = .native ∨ (Doc.mk .aesV5 true).enc = .none ∨ (AesPatch.St.mk true).patched = true) := by decide

theorem aes_state_monotone (p : Provider) (s : AesPatch.St) (d : Doc) :
    s.patched = true → (Fixed.extract p s d).2.patched = true := by
  obtain ⟨b⟩ := s; obtain ⟨e, pw⟩ := d
  cases p <;> cases b <;> cases e <;> cases pw <;> decide

open S2T.TempScope

/-- whatever `extractall` does, whatever the members do and however the consumer ends the generator
    (exhausts it, closes it after k members, throws into it), the set of live temporary directories is
    what it was. -/
theorem temp_scope_restored (live : List Nat) (fresh : Nat) (fails : Bool) (members : List Bool) (c : Consumer) :
    (run7z live fresh fails members c).2 = live := by
  simp [run7z]

/-- the three consumer behaviours really differ in what they get out of the generator -/
example : (run7z [] 0 false [true, true, false, true] .exhaust).1 = .raised 2 ∧
          (run7z [] 0 false [true, true, true] (.closeAfter 1)).1 = .closed 1 ∧
          (run7z [] 0 false [true, true, true] (.throwAfter 2)).1 = .raised 2 ∧
          (run7z [] 0 true [true] .exhaust).1 = .raised 0 := by decide

open S2T.Cells S2T.Gen.GlobalWrites

/-- every global write site in the package is accounted for by one of the models -/
theorem inventory_accounted : ∀ s ∈ sites, (account s).isSome = true := by
  decide_chars sites account isAesSite explicit

/-- … and every writer the models talk about still exists in the source -/
theorem inventory_no_stale : ∀ a ∈ explicit, a.1 ∈ sites := by
  decide_chars sites explicit

/-- every module-level container that some function writes is owned by a model; the others are never written -/
theorem inventory_mutables_owned : ∀ m ∈ mutables, hasWriter sites m = true → (m.1, m.2.1) ∈ ownedMutables := by
  decide_chars sites mutables hasWriter ownedMutables

/-- side conditions the models rely on -/
theorem inventory_side_conditions :
    notes = [] ∧
    patchTargets.length = 1 ∧                                       -- one patched cell (pypdf < 6.6)
    (∀ t ∈ tempSites, t.2.2.2 = "with".toList) ∧                     -- temp dirs only as `with` scopes
    configCallers = [] ∧                                            -- no package code rebinds `_config`
    (∀ l ∈ lruSites, l.2.2 > 0) ∧                                    -- bounded LRU caches
    roundKeyCacheMax > 0 ∧
    (∃ m ∈ mutables, m.2.1 = "_CHAR_MAP_PATCH_LOCK".toList) ∧        -- the patch cell has its lock
    aesCells.length = (sites.filter isAesSite).length := by
  decide_chars sites mutables tempSites

end S2T.C15
