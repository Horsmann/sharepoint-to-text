import S2T.Model.ArchiveHistory
import S2T.Lemmas.History
import S2T.Gen.ModState
/-!
# C10 (process history) — a member comes out as itself whatever was read before in the process

`Props/C10.lean` proves the statement for ONE call of `read_archive` (a function of the archive and its path).
The module keeps state between calls; this part proves that the state is unobservable: a read run against the store
any history of earlier reads left behind returns what it returns in a fresh process, and the member loops, written
with the cache questions where the source has them, are the pure model of `ArchiveLoop.lean` when the router answers.

The tie (`archive_*` theorems): decided on the CURRENT source from the generated inventory `S2T.Gen.ModState` —
in archive_extractor.py and util/sevenzip.py the only things that outlive a call are the three `lru_cache`s and
the `_config` object rebound by `configure_archive_extraction`; every module-level container holds no inner mutable
container and is only read.  A new cell (a result cache, a remembered path, a "seen" set) breaks these theorems;
`entry_cache_history_dependent` shows what such a cell does.
-/
namespace S2T.C10History
open S2T.SevenZip (Bytes Str)
open S2T.ArchiveLoop S2T.History S2T.ArchiveHistory S2T.Gen.ModState

/-- **the store is unobservable**: run against any sound store, a read returns its fresh-process result and leaves a
    sound store -/
theorem prog_memo {ε ρ α} (R : Router ε ρ) (p : Prog ε α) (st : Store ε) (hs : StoreSound R st) :
    (runMemo R p st).1 = runPure R p ∧ StoreSound R (runMemo R p st).2 := by
  induction p generalizing st with
  | ret a => exact ⟨rfl, hs⟩
  | askSup k g ih =>
    obtain ⟨hv, hs'⟩ := memoGet_spec R.supported R.keepSup st.sup hs.1 k
    simp only [runMemo, runPure]
    rw [hv]
    exact ih _ _ ⟨hs', hs.2⟩
  | askExt k g ih =>
    obtain ⟨hv, hs'⟩ := memoGet_spec R.getExt R.keepExt st.ext hs.2 k
    simp only [runMemo, runPure]
    rw [hv]
    exact ih _ _ ⟨hs.1, hs'⟩

theorem empty_sound {ε ρ} (R : Router ε ρ) : StoreSound R Store.empty := by
  constructor
  · intro kv h; simp [Store.empty] at h
  · intro kv h; simp [Store.empty] at h

/-- the store after a history of reads -/
def afterReads {ε ρ α} (R : Router ε ρ) (st : Store ε) (hist : List (Prog ε α)) : Store ε :=
  after (fun st q => runMemo R q st) st hist

theorem afterReads_sound {ε ρ α} (R : Router ε ρ) (hist : List (Prog ε α)) (st : Store ε) (hs : StoreSound R st) :
    StoreSound R (afterReads R st hist) :=
  after_inv _ _ (fun st q hs => (prog_memo R q st hs).2) hs hist

/-- **C10 (history free)**: whatever archives were read before in the process — any number, any container type, any
    members, fully or partially (a prefix of a read asks a prefix of its questions: also a program) — a read returns
    what it returns in a fresh process -/
theorem C10_history_free {ε ρ α β} (R : Router ε ρ) (hist : List (Prog ε β)) (p : Prog ε α) :
    (runMemo R p (afterReads R Store.empty hist)).1 = runPure R p :=
  (prog_memo R p _ (afterReads_sound R hist _ (empty_sound R))).1

/-- … and the outputs of a whole batch are the fresh-process outputs, read by read -/
theorem C10_batch_outputs {ε ρ α} (R : Router ε ρ) (reads : List (Prog ε α)) (st : Store ε) (hs : StoreSound R st) :
    outputs (fun st q => runMemo R q st) st reads = reads.map (runPure R) :=
  outputs_inv _ _ (fun st q hs => (prog_memo R q st hs).2) _ (fun st q hs => (prog_memo R q st hs).1) hs reads

theorem runPure_bind {ε ρ α β} (R : Router ε ρ) (p : Prog ε α) (f : α → Prog ε β) :
    runPure R (p.bind f) = runPure R (f (runPure R p)) := by
  induction p with
  | ret a => rfl
  | askSup k g ih => simp only [Prog.bind, runPure]; exact ih _
  | askExt k g ih => simp only [Prog.bind, runPure]; exact ih _

section loops
variable {ε ρ : Type} (R : Router ε ρ) (c : Consts)

theorem shouldSkip_prog_pure (filename basename : Str) :
    runPure R (shouldSkipP R c filename basename) = shouldSkip (envOf R c) filename basename := by
  unfold shouldSkipP shouldSkip envOf
  -- `runPure` goes through the `if`s (`apply_ite`); the two sides then agree case by case
  simp only [apply_ite (runPure R), runPure]
  cases (basename.head? == some 46 || (s "__MACOSX/").isPrefixOf filename) <;> cases R.supported basename <;>
    cases c.nested.any (fun e => e.isSuffixOf (R.lower basename)) <;> rfl

theorem processEntry_prog_pure (ap : Option Str) (filename : Str) (data : Bytes) (basename : Str) :
    runPure R (processEntryP R c ap filename data basename) = processEntry (envOf R c) ap filename data basename := by
  unfold processEntryP processEntry
  rw [apply_ite (runPure R)]
  rfl

theorem tar_prog_pure (ap : Option Str) (ms : List TarMember) :
    runPure R (readTarP R c ap ms) = readTar (envOf R c) ap ms := by
  induction ms with
  | nil => rfl
  | cons m rest ih =>
    unfold readTarP readTar
    cases m.read <;>
      simp only [apply_ite (runPure R), runPure_bind, shouldSkip_prog_pure, processEntry_prog_pure, ih, runPure] <;> rfl

theorem zipScan_prog_pure (infos : List ZipInfo) :
    runPure R (zipScanP R c infos) = zipScan (envOf R c) infos := by
  induction infos with
  | nil => rfl
  | cons i rest ih =>
    unfold zipScanP zipScan
    simp only [apply_ite (runPure R), runPure_bind, shouldSkip_prog_pure, ih, runPure]
    cases zipScan (envOf R c) rest <;> rfl

theorem zipLoop_prog_pure (ap : Option Str) (l : List ZipInfo) :
    runPure R (zipLoopP R c ap l) = zipLoop (envOf R c) ap l := by
  induction l with
  | nil => rfl
  | cons i rest ih =>
    unfold zipLoopP zipLoop
    cases i.read <;> simp only [apply_ite (runPure R), runPure_bind, processEntry_prog_pure, ih, runPure] <;> rfl

theorem zip_prog_pure (ap : Option Str) (infos : List ZipInfo) :
    runPure R (readZipP R c ap infos) = readZip (envOf R c) ap infos := by
  unfold readZipP readZip
  rw [runPure_bind, zipScan_prog_pure]
  cases zipScan (envOf R c) infos with
  | error e => rfl
  | ok l => exact zipLoop_prog_pure R c ap l

open S2T.SevenZip in
theorem sevenFilter_prog_pure (fs : List FileInfo) (i : Nat) :
    runPure R (sevenFilterP R c fs i) = sevenFilter (envOf R c) fs i := by
  induction fs generalizing i with
  | nil => rfl
  | cons f rest ih =>
    unfold sevenFilterP sevenFilter
    simp only [apply_ite (runPure R), runPure_bind, shouldSkip_prog_pure, ih, runPure]
    rfl

open S2T.SevenZip in
theorem sevenLoop_prog_pure (ap : Option Str) (writes : List (Str × Bytes)) (fs : List FileInfo) :
    runPure R (sevenLoopP R c ap writes fs) = sevenLoop (envOf R c) ap writes fs := by
  induction fs with
  | nil => rfl
  | cons f rest ih =>
    unfold sevenLoopP sevenLoop
    cases readBack writes f.filename with
    | none => exact ih
    | some b => simp only [runPure_bind, processEntry_prog_pure, ih, runPure]

open S2T.SevenZip in
theorem seven_prog_pure (ap : Option Str) (file : Bytes) (parse : Bytes → Except Err S2T.SevenZip.R)
    (needsPw : S2T.SevenZip.R → Bool)
    (extract : Bytes → S2T.SevenZip.R → Option (List Nat) → Except Err (List (Str × Bytes))) :
    runPure R (read7zP R c ap file parse needsPw extract) = read7z (envOf R c) ap file parse needsPw extract := by
  unfold read7zP read7z
  rw [apply_ite (runPure R)]
  cases parse file with
  | error e => cases e <;> rfl
  | ok r =>
    simp only [apply_ite (runPure R), runPure_bind, sevenFilter_prog_pure]
    cases extract file r (some ((sevenFilter (envOf R c) r.files 0).map (·.1))) <;>
      simp only [runPure_bind, sevenLoop_prog_pure, runPure] <;> rfl

end loops

/-- a router: names ending in `t` are supported, the extractor is identified by the length of the base name, a
    result is its label; the caches evict everything older on every store -/
def exRouter : Router Nat Str :=
  { supported := fun b => b.getLast? == some 116, getExt := fun b => b.length, isReadArchive := fun e => e == 0,
    run := fun _ _ p => ([p], false), lower := id, keepSup := fun _ => false, keepExt := fun _ => false }

def exConsts : Consts :=
  { signatures := [], tarMagicOffset := 257, tarMagic := [117, 115, 116, 97, 114], nested := [s ".zip"],
    maxArchiveFileSize := 100, maxMemorySize := 50, max7zFileSize := 1000 }

def exMember : TarMember := { name := s "docs/a.txt", isReg := true, size := 2, read := .data [104, 105] }

/-- the same member read first under `v1.tar`, then under `v2.tar`: the second read finds both
    caches filled (the store is NOT the empty one) and still labels the member with its own archive -/
example :
    let first := readTarP exRouter exConsts (some (s "v1.tar")) [exMember]
    let st := afterReads exRouter Store.empty [first]
    st.sup = [(s "a.txt", true)] ∧ st.ext = [(s "a.txt", 5)]
    ∧ (runMemo exRouter (readTarP exRouter exConsts (some (s "v2.tar")) [exMember]) st).1 = [s "v2.tar!/docs/a.txt"] := by
  decide +kernel

/-- a process-wide cache of finished member results keyed by (member name, bytes): the member `readme.txt` of the
    archive read second, under `v2.tar`, comes out labelled with the archive it was first seen in -/
theorem entry_cache_history_dependent :
    ∃ (a b name : Str) (data : Bytes),
      (entryCached (entryCached [] (some a) name data).2 (some b) name data).1 ≠ (entryCached [] (some b) name data).1 :=
  ⟨s "v1.zip", s "v2.tar", s "readme.txt", [104, 105], by decide +kernel⟩

/-- … while read a second time under the SAME path (the first read starting from the empty cache) it is labelled
    correctly: single-archive cases cannot see such a cell -/
theorem entry_cache_same_path_silent (a name : Str) (data : Bytes) (tbl₀ : List ((Str × Bytes) × List Str))
    (h : tbl₀ = []) :
    (entryCached (entryCached tbl₀ (some a) name data).2 (some a) name data).1 = [fullPath (some a) name] := by
  subst h  -- the cache the first read starts from is the empty one: both reads then evaluate
  simp [entryCached, List.lookup]

/-- the files an archive read runs through before it reaches the member extractors -/
def archiveFiles : List String :=
  ["parsing/extractors/archive_extractor.py", "parsing/extractors/util/sevenzip.py"]

def inArchive (f : String) : Bool := archiveFiles.contains f

/-- the memoised functions the model's `Store` / `Prog` account for (`_get_router_functions` is nullary: its one
    value is the pair of router functions, the `Router` of the model) -/
def reviewedMemos : List (String × String × String) :=
  [("parsing/extractors/archive_extractor.py", "_get_file_extractor_cached", "lru_cache"),
   ("parsing/extractors/archive_extractor.py", "_get_router_functions", "lru_cache"),
   ("parsing/extractors/archive_extractor.py", "_is_supported_file_cached", "lru_cache")]

/-- the one global that is rebound: by the explicit settings call, never by a read (limits = `Consts`) -/
def reviewedRebinds : List (String × String × String) :=
  [("parsing/extractors/archive_extractor.py", "configure_archive_extraction", "_config")]

/-- every module- / class-level mutable container of the archive files holds no inner mutable container … -/
theorem archive_tables_are_constants :
    (mutables.filter (fun m => inArchive m.1)).all (fun m => !m.2.2.2) = true := by decide +kernel

/-- … that is only ever read: no write, alias, hand-over or return of such an object anywhere in these files -/
theorem archive_tables_never_escape : escapes.filter (fun e => inArchive e.1) = [] := by decide +kernel

theorem archive_memos_reviewed : (memos.filter (fun m => inArchive m.1)).all reviewedMemos.contains = true := by decide +kernel

theorem archive_rebinds_reviewed : (rebinds.filter (fun m => inArchive m.1)).all reviewedRebinds.contains = true := by
  decide +kernel

theorem archive_no_mutable_defaults : mutableDefaults.filter (fun m => inArchive m.1) = [] := by decide +kernel

theorem archive_no_attr_stores : attrStores.filter (fun m => inArchive m.1) = [] := by decide +kernel

theorem archive_modstate_clean : notes = [] := by decide +kernel

end S2T.C10History
