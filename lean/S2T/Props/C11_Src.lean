import S2T.Lemmas.Py
import S2T.Lemmas.ZipBomb
import S2T.Gen.PyZipBomb
/-!
# C11 (source tie) — the translated `validate_zipfile` IS the hand model `S2T.ZipBomb.validate`

`S2T.Gen.PyZipBomb` is regenerated from the current text of `zip_bomb.py` on every run
(`tools/gen/pyfun.py`, construct by construct).  The theorems below say that the translated
functions equal the hand model all C11 theorems are about — for every limit setting, every list of
entries of any length, every outcome of `zf.infolist()`, including WHICH `raise` statement fires.

Modelling facts the statement makes explicit:
* a `ZipInfo` is `(filename, file_size, compress_size, is_dir())` with sizes in `Nat`; the model's
  `Entry` forgets the file name (`entryOf`);
* the `k`-th `raise ExtractionZipBombError` of the function (source order) is the model's `k`-th `Reason`;
* `ratio = file_size / compressed_size` (a float used only in the message) raises `OverflowError` in
  CPython when the quotient is not a finite double.  The hand model does not have this outcome, so the
  equality needs `FloatSafe lim` (both size limits below 2^1023 — the documented defaults are 2^30 and
  2^32); `float_overflow_counterexample` shows the difference for larger limits.  FINDING about the model
  (unbounded `Nat` sizes/limits), not about the source for real ZIP fields (< 2^64).
* `_ratio_exceeds`: translated with `limit : Ratio` (a finite limit, the model's hypothesis); its
  `except (AttributeError, OverflowError, ValueError)` fallback for inf/nan is unreachable then and is
  not translated (the generated docstring says so).
-/
namespace S2T.C11.Src
open S2T.Py S2T.ZipBomb S2T.Gen.PyZipBomb

/-- the translator understood every construct of the whitelisted functions -/
theorem gen_py_notes_empty : S2T.Gen.PyZipBomb.notes = [] := by decide

/-- the functions this file ties (a renamed / removed function breaks this) -/
theorem gen_py_translated :
    S2T.Gen.PyZipBomb.translated = ["_is_directory", "_ratio_exceeds", "validate_zipfile"] := by decide

def entryOf (i : ZipInfo) : Entry := ⟨i.fileSize, i.compressSize, i.isDir⟩

/-- ordinal of the `raise` statement in `validate_zipfile` (source order) for each model reason -/
def siteOf : Reason → Nat
  | .inspectFailed => 0 | .tooManyEntries => 1 | .entryTooLarge => 2 | .entryZeroCompressed => 3
  | .entryRatio => 4 | .totalTooLarge => 5 | .totalZeroCompressed => 6 | .totalRatio => 7

def excOf (r : Reason) : Exc := exc_ExtractionZipBombError "validate_zipfile" (siteOf r)

/-- a model outcome in the translated function's monad -/
def lift {α β} (f : α → β) : Except Reason α → M β
  | .ok a => pure (f a)
  | .error r => throw (excOf r)

@[simp] theorem lift_ok {α β} (f : α → β) (a : α) : lift f (.ok a) = Except.ok (f a) := rfl
@[simp] theorem lift_error {α β} (f : α → β) (r : Reason) : (lift f (.error r) : M β) = Except.error (excOf r) := rfl

/-- both size limits are far below the largest finite double -/
def FloatSafe (lim : Limits) : Prop := lim.maxSingle < fmax ∧ lim.maxTotal < fmax

example : FloatSafe S2T.Gen.ZipBomb.defaultLimits := by
  -- exponents are compared, since the elaborator does not evaluate `2 ^ 1023` (`fmax`) for `decide`
  have h : (2:Nat) ^ 33 ≤ 2 ^ 1023 := Nat.pow_le_pow_right (by decide) (by decide)
  constructor <;> (simp only [fmax]; exact Nat.lt_of_lt_of_le (by decide) h)

/-- `_is_directory(info)` is `info.is_dir()` -/
theorem is_directory_eq (i : ZipInfo) : _is_directory i = i.isDir := by
  simp [_is_directory]

/-- `_ratio_exceeds(a, b, limit)` is the model's exact cross-multiplication test -/
theorem ratio_exceeds_eq (a b : Nat) (L : Ratio) : _ratio_exceeds a b L = ratioExceeds a b L := by
  simp only [_ratio_exceeds, ratioExceeds, asIntegerRatio, Id.run, pure]
  apply decide_eq_decide.mpr
  constructor <;> intro h
  · have : ((L.num * b : Nat) : Int) < ((a * L.den : Nat) : Int) := by push_cast; omega
    exact_mod_cast this
  · have : ((L.num * b : Nat) : Int) < ((a * L.den : Nat) : Int) := by exact_mod_cast h
    push_cast at this; omega

/-- if the body of the `for info in infos:` loop is the model's `step`, the loop is the model's `loop` -/
theorem forIn_loop (lim : Limits) (f : ZipInfo → Int × Int → M (ForInStep (Int × Int)))
    (hf : ∀ i (tu tc : Nat), f i ((tu : Int), (tc : Int)) =
      lift (fun p => ForInStep.yield ((p.1 : Int), (p.2 : Int))) (step lim tu tc (entryOf i)))
    (infos : List ZipInfo) (tu tc : Nat) :
    forIn infos ((tu : Int), (tc : Int)) f
      = lift (fun p => ((p.1 : Int), (p.2 : Int))) (loop lim tu tc (infos.map entryOf)) := by
  induction infos generalizing tu tc with
  | nil => simp [loop, lift]
  | cons i is ih =>
    simp only [List.forIn_cons, hf, List.map_cons, loop]
    cases hs : step lim tu tc (entryOf i) with
    | error r => simp [lift]
    | ok p => obtain ⟨a, b⟩ := p; simp [lift, ih]

/-- below `fmax`, behind the zero guard, the quotient computed for the message cannot raise -/
private theorem truediv_bind_safe {β} (x y : Nat) (k : FloatV → M β) (hy : y ≠ 0) (hx : x < fmax) :
    (truediv x y >>= k) = k ⟨x, y⟩ := by
  rw [truediv_bind, if_neg (by omega), if_neg (not_overflows _ _ (by omega) (by omega) (by omega))]

/-- **the translated `validate_zipfile` is the hand model** when `zf.infolist()` returns `infos`:
    same acceptance, and on rejection the same `raise` statement. -/
theorem validate_zipfile_eq (lim : Limits) (src : Option Str) (infos : List ZipInfo) (hs : FloatSafe lim) :
    validate_zipfile ⟨pure infos⟩ lim src = lift id (validate lim (some (infos.map entryOf))) := by
  -- the loop starts at the literal `(0, 0)` of the translated text: `forIn_loop` at zero totals, casts of `0` evaluated
  have h0 := fun f hf => forIn_loop lim f hf infos 0 0
  simp only [Int.natCast_zero] at h0
  obtain ⟨hs1, hs2⟩ := hs
  unfold validate_zipfile
  -- `simp` runs the `try` around `infolist()` and the binds of pure values; what is left is the entry-count test, the
  -- `forIn` over `infos` with the loop body as a chain of `if`s, and the block after the loop
  -- (`+instances`: as in Lemmas/Py, DESIGN §2.6)
  simp +instances
  -- `h0` turns the `forIn` into the model's `loop`; its hypothesis (the body is the model's `step`) is the second goal
  rw [h0]
  -- in both, comparisons of casts become comparisons in `Nat`, then the cases of the model
  · simp only [validate, len, List.length_map, Int.ofNat_lt]
    by_cases hlen : lim.maxEntries < infos.length
    · rw [if_pos hlen, if_pos hlen]; rfl
    rw [if_neg hlen, if_neg hlen]
    cases hl : loop lim 0 0 (infos.map entryOf) with
    | error r => rfl
    | ok p =>
      obtain ⟨tu, tc⟩ := p
      have hle : tu ≤ lim.maxTotal := by
        obtain ⟨_, h, e⟩ := (loop_zero_ok_iff lim _ _).mp hl
        cases e; exact h
      simp only [finish, lift_ok, M.ok_bind, ratio_exceeds_eq, Int.natCast_pos, Int.natCast_nonpos_iff]
      by_cases hp : 0 < tu
      · by_cases hc : tc = 0
        · simp [hp, hc, excOf, siteOf]
        · simp [hp, hc, truediv_bind_safe _ _ _ hc (show tu < fmax by omega), excOf, siteOf, apply_ite (lift _)]
      · simp [hp]
  · intro i tu tc
    dsimp only [step, entryOf, intOfInt]
    simp only [is_directory_eq, ratio_exceeds_eq, apply_ite (lift _), lift_ok, lift_error, excOf, siteOf,
      ← Int.natCast_add, Int.ofNat_lt, Int.natCast_pos, Int.natCast_nonpos_iff]
    by_cases hd : i.isDir = true
    · rw [if_pos hd, if_pos hd]
    by_cases h1 : lim.maxSingle < i.fileSize
    · rw [if_neg hd, if_neg hd, if_pos h1, if_pos h1]
    by_cases hp : 0 < i.fileSize
    · by_cases hc : i.compressSize = 0
      · simp [hd, h1, hp, hc]
      · simp [hd, h1, hp, hc, truediv_bind_safe _ _ _ hc (show i.fileSize < fmax by omega)]
    · simp [hd, h1, hp]

/-- `zf.infolist()` raising any `Exception` is the first `raise` (`inspectFailed`), whatever the limits -/
theorem validate_zipfile_inspect_failed (lim : Limits) (src : Option Str) (e : Exc)
    (he : e.isa "Exception" = true) :
    validate_zipfile ⟨throw e⟩ lim src = lift id (validate lim none) := by
  unfold validate_zipfile
  simp [he, validate, excOf, siteOf]

/-- … and what is not an `Exception` (KeyboardInterrupt, …) propagates unchanged: the `except Exception`
    clause does not swallow it. -/
theorem validate_zipfile_base_exception (lim : Limits) (src : Option Str) (e : Exc)
    (he : e.isa "Exception" = false) :
    validate_zipfile ⟨throw e⟩ lim src = throw e := by
  unfold validate_zipfile
  simp [he]

/-- the argument of the hand model: the outcome of `zf.infolist()` -/
def infolistOf (zf : ZipFile) : Option (List Entry) :=
  match zf.infolist with
  | .ok infos => some (infos.map entryOf)
  | .error _ => none

/-- **C11 source tie.** For every `ZipFile` whose `infolist()` returns a list or raises an `Exception`,
    every limit setting within the float range and every `source`, the translated function is the hand
    model. -/
theorem validate_zipfile_is_model (zf : ZipFile) (lim : Limits) (src : Option Str) (hs : FloatSafe lim)
    (hz : ∀ e, zf.infolist = .error e → e.isa "Exception" = true) :
    validate_zipfile zf lim src = lift id (validate lim (infolistOf zf)) := by
  obtain ⟨il⟩ := zf
  cases il with
  | ok infos => exact validate_zipfile_eq lim src infos hs
  | error e => exact validate_zipfile_inspect_failed lim src e (hz e rfl)

example : ∃ zf : ZipFile, ∀ e, zf.infolist = .error e → e.isa "Exception" = true :=
  ⟨⟨pure [⟨"a".toList, 10, 1, false⟩]⟩, by intro e h; cases h⟩

def bigLim : Limits := ⟨1, 2 ^ 1100, 2 ^ 1100, ⟨2 ^ 1100, 1⟩, ⟨2 ^ 1100, 1⟩⟩
def bigInfos : List ZipInfo := [⟨"a".toList, 2 ^ 1030, 1, false⟩]

-- for the `decide +kernel` of `float_overflow_counterexample` below
local instance : DecidableEq (M Unit)
  | .ok _, .ok _ => isTrue rfl
  | .error a, .error b => if h : a = b then isTrue (by rw [h]) else isFalse (by intro h'; cases h'; exact h rfl)
  | .ok _, .error _ => isFalse (by intro h; cases h)
  | .error _, .ok _ => isFalse (by intro h; cases h)

/-- with limits beyond the float range the source raises `OverflowError` from `file_size / compressed_size`
    (a value only used in a message) where the hand model accepts: a 2^1030-byte entry under 2^1100 limits. -/
theorem float_overflow_counterexample :
    validate_zipfile ⟨pure bigInfos⟩ bigLim none = .error overflowError
    ∧ validate bigLim (some (bigInfos.map entryOf)) = .ok () := by
  constructor
  · decide +kernel
  · decide +kernel

end S2T.C11.Src
