import S2T.Lemmas.TablesEpubXml
import S2T.Gen.HtmlSkip
/-!
# C13, EPUB chapters in XML form (empty elements written as `<t/>`)

EPUB content documents are XHTML: every XML serializer writes an element without content as the empty-element
tag (`<td/>`, `<th/>`, `<p/>`), and `HTMLParser` then makes ONE call `handle_startendtag` instead of
`handle_starttag` + `handle_endtag`.  `Props/C13.lean : C13_grid_epub_gen` is about chapters in which every
element has a start and an end tag; here the same statement is proved for EVERY XML form of the chapter
(`XmlForm`: any choice of the adjacent pairs `<t></t>` written as `<t/>`), through the modelled
`handle_startendtag` of `_XhtmlTextExtractor` (`S2T.HtmlSkip.handleStartendtag`, compared with the real method on
every run: the harness writes these forms and records the real handler calls).
-/
namespace S2T.C13.Xml
open S2T.Tables S2T.Tables.Epub
open S2T.HtmlSkip (Str Item Ev events)

def epubTablesOf (evs : List Ev) : List Grid :=
  (S2T.HtmlSkip.run S2T.Gen.HtmlSkip.epubTables (S2T.HtmlSkip.Epub.down S2T.Gen.HtmlSkip.epubBlock)
    (S2T.HtmlSkip.init S2T.HtmlSkip.Epub.initState) evs).down.tables

theorem gen_epub_ok : usedTags.all (fun t => !S2T.Gen.HtmlSkip.epubTables.remove.contains t) = true := by decide

/-- every XML form of a written chapter (any of its empty cells / rows / paragraphs written as `<t/>`): the tables
    come back r × c in order, an empty cell as "" at its place -/
theorem C13_epub_xml_form (doc : List EBlk) (hp : doc.all EBlk.proper = true) (written : List Item)
    (hw : XmlForm (chapterItems doc) written) :
    epubTablesOf (events written) = doc.flatMap EBlk.tables :=
  tables_chapter_xml _ _ gen_epub_ok doc hp written hw

/-- what the harness writes (`collapse mask`) is such a form, for every mask -/
theorem C13_epub_xml_writer (mask : List Bool) (items : List Item) : XmlForm items (collapse mask items) := by
  -- a pair written `<t/>` (mask `true`) is `.empty`; every other case keeps its first item, or the pair
  fun_induction collapse mask items <;> first
    | exact .nil
    | exact xmlForm_refl _
    | (rename_i ih; subst_vars; exact .empty _ _ ih)
    | (rename_i ih; exact .keep _ (.keep _ ih))
    | (rename_i ih; exact .keep _ ih)

theorem C13_epub_xml_gen (doc : List EBlk) (hp : doc.all EBlk.proper = true) (mask : List Bool) :
    epubTablesOf (events (collapse mask (chapterItems doc))) = doc.flatMap EBlk.tables :=
  C13_epub_xml_form doc hp _ (C13_epub_xml_writer mask _)

/-- the form with no `<t/>` is the chapter of `C13_grid_epub_gen` -/
theorem C13_epub_xml_none (doc : List EBlk) : events (collapse [] (chapterItems doc)) = chapterEvents doc := by
  rw [collapse_nil]; rfl

/-- the hypotheses are satisfiable and the forms are not vacuous: a 2 × 2 table with two empty cells, both written `<td/>`:
    the handler calls contain `handle_startendtag("td")` and the grid keeps "" at (0,1) and (1,0) -/
theorem C13_epub_xml_witness :
    let doc : List EBlk := [.tbl (0, [[["a".toList], []], [[], ["b".toList]]])]
    doc.all EBlk.proper = true ∧
    (events (collapse [true, true] (chapterItems doc))).contains (.startend "td".toList []) = true ∧
    epubTablesOf (events (collapse [true, true] (chapterItems doc)))
      = [[["a".toList, []], [[], "b".toList]]] := by decide +kernel

/-- what the property loses if `<t/>` does not reach the cell logic (a `handle_startendtag` that leaves the table state
    alone): the empty cells vanish and the later cells shift left -/
theorem C13_epub_xml_skipped_startend_counterexample :
    let doc : List EBlk := [.tbl (0, [[["a".toList], []], [[], ["b".toList]]])]
    epubTablesOf ((events (collapse [true, true] (chapterItems doc))).filter
      (fun e => match e with | .startend _ _ => false | _ => true)) = [[["a".toList], ["b".toList]]] := by decide +kernel

end S2T.C13.Xml
