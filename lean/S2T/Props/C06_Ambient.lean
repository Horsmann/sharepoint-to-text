import S2T.Model.CoreDates
import S2T.Spec.C06Ambient
import S2T.Gen.Ambient
import S2T.Lemmas.StrTable
/-!
# C06 (ambient inputs) — the result does not depend on the wall clock

Two parts.  (1) A closed world of the places where the package reads anything that is not the input (clock, zone,
randomness, process identity, temporary names, file-system state): `ambient_reads_reviewed`.  (2) The one place where
a THIRD-PARTY parser reads the clock on the extractor's behalf: openpyxl substitutes the current time for dates the
core-properties part does not state.  `dates_stated` shows the XLSX metadata dates are what the package states — for
every package and every clock — provided the extractor's guard looks at the part openpyxl reads; `guard_mismatch_clock_dependent` and
`guard_mismatch_stale_clock_dependent` show that the condition is necessary: on every package where the guard's part states
a creation date and the library's part is absent, or states none, two clocks give two results; the `*_tied` theorems decide the
condition on the current source and the installed openpyxl.
-/
namespace S2T.C06Ambient
open S2T.CoreDates S2T.Spec.C06Ambient S2T.Gen.Ambient

/-- **C06 (clock, XLSX dates)**: if the guard looks at the part the library reads, the reported dates are the stated
    ones — whatever the clock says -/
theorem dates_stated (guardPart : Pkg → String) (libPart : String) (h : ∀ pkg, guardPart pkg = libPart)
    (pkg : Pkg) (now : String) : dates guardPart libPart pkg now = stated libPart pkg := by
  unfold dates dateGuard libProps stated
  rw [h pkg]
  cases hp : pkg libPart with
  | none => simp
  | some c =>
    cases hc : c.created <;> cases hm : c.modified <;> simp [hc, hm]

theorem dates_clock_free (guardPart : Pkg → String) (libPart : String) (h : ∀ pkg, guardPart pkg = libPart)
    (pkg : Pkg) (now₁ now₂ : String) : dates guardPart libPart pkg now₁ = dates guardPart libPart pkg now₂ := by
  rw [dates_stated guardPart libPart h, dates_stated guardPart libPart h]

/-- … and the condition is necessary: on ANY package where the guard's part states a creation date and the library's
    part does not exist, two different clocks give two different results -/
theorem guard_mismatch_clock_dependent (guardPart : Pkg → String) (libPart : String) (pkg : Pkg) (c : Core) (d : String)
    (hg : pkg (guardPart pkg) = some c) (hc : c.created = some d) (hl : pkg libPart = none)
    (now₁ now₂ : String) (hn : now₁ ≠ now₂) :
    dates guardPart libPart pkg now₁ ≠ dates guardPart libPart pkg now₂ := by
  unfold dates dateGuard libProps
  simp only [hg, hl, hc, Option.isSome_some, if_true]
  intro h
  exact hn (congrArg Prod.fst h)

/-- the same when the library's part exists but does not state the date (a stale docProps/core.xml) -/
theorem guard_mismatch_stale_clock_dependent (guardPart : Pkg → String) (libPart : String) (pkg : Pkg) (c c' : Core) (d : String)
    (hg : pkg (guardPart pkg) = some c) (hc : c.created = some d) (hl : pkg libPart = some c') (hc' : c'.created = none)
    (now₁ now₂ : String) (hn : now₁ ≠ now₂) :
    dates guardPart libPart pkg now₁ ≠ dates guardPart libPart pkg now₂ := by
  unfold dates dateGuard libProps
  simp only [hg, hl, hc, hc', Option.isSome_some, if_true, Option.getD_none]
  intro h
  exact hn (congrArg Prod.fst h)

/-- a guard that follows the package relationship to the core-properties part (System.IO.Packaging layout:
    `<guid>.psmdcp`, no docProps/core.xml): the reported dates are the time of the extraction -/
theorem relationship_guard_clock_dependent :
    ∃ (relTarget : Pkg → String) (pkg : Pkg),
      dates relTarget "docProps/core.xml" pkg "2026-01-01T00:00:00" ≠ dates relTarget "docProps/core.xml" pkg "2031-05-06T07:08:09" :=
  ⟨fun _ => "package/services/metadata/core-properties/0f5c.psmdcp",
   ofList [("package/services/metadata/core-properties/0f5c.psmdcp", ⟨some "2021-03-04T05:06:07", some "2021-03-05T08:09:10"⟩)],
   by decide⟩

theorem ambient_translation_clean : notes = [] := by decide

/-- the guard reads exactly one part, named by a string literal, and it is the part openpyxl reads -/
theorem guard_reads_lib_part_tied : guardReads = [libCorePart] := by decide

/-- openpyxl reads the core properties through its constant ARC_CORE only -/
theorem lib_reads_by_constant_tied : libReadsByConstant = true := by decide

/-- every DocumentProperties field openpyxl fills from the clock is reported only under the guard for the element of
    the same name, and is read nowhere else in `_extract_metadata_from_workbook` -/
theorem now_fields_guarded_tied :
    libNowFields.all (fun f => guardedFields.any (fun g => g.2.1 == f && g.2.2 == f)) = true
      ∧ guardedFields.all (fun g => g.2.1 == g.2.2) = true ∧ unguardedNowUses = [] ∧ libNowFields ≠ [] := by decide +kernel

/-- hence, for the guard and the library part of the CURRENT source: the XLSX dates are the stated ones for every
    package and every clock -/
theorem C06_xlsx_dates_clock_free (pkg : Pkg) (now₁ now₂ : String) :
    dates (fun _ => guardReads.headD "") libCorePart pkg now₁ = dates (fun _ => guardReads.headD "") libCorePart pkg now₂ :=
  dates_clock_free _ _ (fun _ => by rw [guard_reads_lib_part_tied]; rfl) pkg now₁ now₂

/-- **C06 (ambient inputs sealed)**: every read of clock / zone / randomness / process identity / temporary names /
    file-system state in the package is a reviewed one -/
theorem ambient_reads_reviewed :
    ambientReads.all (fun r => reviewedAmbient.any (fun x => x.1 == r)) = true := by
  -- decided on character lists, as in `C06_History` ("the tie")
  simp only [StrTable.any_beq]
  rw [StrTable.all_contains_map StrTable.chars4_inj]
  simp -index only [ambientReads, reviewedAmbient, List.map_cons, List.map_nil, Prod.map_apply, String.toList_ofList]
  decide +kernel

example : dates (fun _ => "docProps/core.xml") "docProps/core.xml"
    (ofList [("docProps/core.xml", ⟨some "2021-03-04T05:06:07", none⟩)]) "NOW" = ("2021-03-04T05:06:07", "") := by decide
example : libProps "docProps/core.xml" (ofList []) "NOW" = ("NOW", "NOW") := by decide
example : ambientReads.length ≥ 3 ∧ libNowFields.length = 2 := by decide

end S2T.C06Ambient
