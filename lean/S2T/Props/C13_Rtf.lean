import S2T.Lemmas.TablesRtfLayout
import S2T.Gen.TablesRtf
/-!
# C13 for RTF — `_RtfParser._extract_tables` / `_extract_table_cells` / `_strip_rtf_simple`

A source document is an abstract value: leading paragraphs, then tables (rows of cells, a cell = its paragraphs),
each followed by paragraphs (`docOf`).  `docRtf` writes it in the token language word processors write
(`\trowd \cellxN… \pard\intbl text \par text \cell … \row`, non-ASCII characters as `\uN?`).  The extractor is the
model `extractTables` (regular expressions as matchers for exactly the patterns of the current source, tied by
`gen_rtf_patterns`).  What must come back: `tableSpec t` for every table, in order — the grid of the table's own rows ×
own cells, cell (i,j) = the paragraphs of source cell (i,j) joined by newlines (`C13_rtf_cell_at`); for an r × c table
that is exactly r × c (`C13_rtf_rect`).

Full statement (false on the current code, kept visible):
  theorem C13_rtf (lead ts …) : extractTables P (docRtf (docOf lead ts)) = ts.map (fun tp => tableSpec tp.1)
Two tables come back as ONE table unless the text between them is long enough for the row-grouping heuristic
(more than `rawGap` = 100 characters of RTF and more than `textGap` = 20 characters of text).  Open known finding
`rtf.adjacent-tables-merged`; `C13_rtf_partial` has the exact excluding hypothesis (`Separated`, exact by
`C13_rtf_separated_exact`), `C13_rtf_behaviour` says what comes back for ANY gaps, `C13_rtf_counterexample_adjacent`
is the committed witness.  Further open findings with counterexample theorems: a table inside a cell
(`\nestcell … \nestrow`), 64 hexadecimal digits in a cell, backslash / braces in a cell.
-/
namespace S2T.C13.Rtf
open S2T.Tables S2T.Tables.Rtf
open S2T.HtmlSkip (Str)

theorem gen_rtf_notes_empty : S2T.Gen.TablesRtf.notes = [] := by decide
/-- the patterns (text and flags) of the current source are the ones the matchers of the model were written for -/
theorem gen_rtf_patterns : S2T.Gen.TablesRtf.patterns = expectedPatterns := by rfl
/-- `SPECIAL_CHARS` starts with `par ↦ "\n"`, no keyword of it is or starts with `trowd / cellx / pard / intbl`,
    and the raw-gap literal is at least 1 -/
theorem gen_rtf_params_ok : paramsOk S2T.Gen.TablesRtf.params = true := by decide +kernel
/-- `[a-z]` under IGNORECASE matches exactly the code points `isCtlAlpha` accepts -/
theorem gen_rtf_ctl_alpha :
    S2T.Gen.TablesRtf.ctlAlpha = (List.range 8500).filter (fun n => isCtlAlpha (Char.ofNat n)) := by
  -- the table is ascending, its members are accepted (checked one by one), and each range of `isCtlAlpha` lies in it
  refine eq_filter_range (by decide) (by decide +kernel) (fun n hn hp => ?_)
  have e : ∀ c d : Char, (c ≤ d) = (c.toNat ≤ d.toNat) := fun _ _ => rfl
  simp only [isCtlAlpha, isAsciiAlpha, e, toNat_ofNat (Nat.lt_trans hn (by decide)),
    Bool.or_eq_true, Bool.and_eq_true, decide_eq_true_eq, beq_iff_eq] at hp
  rcases hp with (((h | h) | h) | h) | h
  · rcases h with h | h
    · exact mem_of_between (by decide +kernel) h.1 h.2
    · exact mem_of_between (by decide +kernel) h.1 h.2
  · exact h ▸ by decide
  · exact h ▸ by decide
  · exact h ▸ by decide
  · exact h ▸ by decide
/-- `\s` (= `str.isspace`, what `strip()` removes) matches exactly the code points `isPySpace` accepts -/
theorem gen_rtf_spaces :
    S2T.Gen.TablesRtf.spaces = (List.range 12300).filter (fun n => isPySpace (Char.ofNat n)) := by
  refine eq_filter_range (by decide) (by decide +kernel) (fun n hn hp => ?_)
  simp only [isPySpace, S2T.HtmlSkip.Epub.isPySpace, toNat_ofNat (Nat.lt_trans hn (by decide)),
    Bool.or_eq_true, Bool.and_eq_true, decide_eq_true_eq] at hp
  rcases hp with (((((((((h | h) | h) | h) | h) | h) | h) | h) | h) | h) | h
  · exact mem_of_between (by decide) h.1 h.2
  · exact mem_of_between (by decide) h.1 h.2
  · exact h ▸ by decide
  · exact h ▸ by decide
  · exact h ▸ by decide
  · exact mem_of_between (by decide) h.1 h.2
  · exact h ▸ by decide
  · exact h ▸ by decide
  · exact h ▸ by decide
  · exact h ▸ by decide
  · exact h ▸ by decide
/-- `\w` and `\d` on ASCII -/
theorem gen_rtf_ascii_classes :
    S2T.Gen.TablesRtf.asciiWord.toList = ((List.range 128).map Char.ofNat).filter (isWord S2T.Gen.TablesRtf.params) ∧
    S2T.Gen.TablesRtf.asciiDigits.toList = ((List.range 128).map Char.ofNat).filter isDigit := by
  decide_chars S2T.Gen.TablesRtf.asciiWord S2T.Gen.TablesRtf.asciiDigits
theorem gen_rtf_ignorable : S2T.Gen.TablesRtf.ignorable.map String.toList = ignorablePrefixes := by rfl

/-- a table of the theorems: at least one row, every row at least one cell, every cell plain paragraphs -/
def tableOk (t : RTable) : Bool := !t.isEmpty && t.all (fun r => !r.isEmpty && r.all plainCell)

theorem of_tableOk {t : RTable} (h : tableOk t = true) : TableOk t := by
  simp only [tableOk, Bool.and_eq_true, Bool.not_eq_true', List.all_eq_true] at h
  refine ⟨by intro he; subst he; simp at h, ?_⟩
  intro r hr
  obtain ⟨h1, h2⟩ := h.2 r hr
  exact ⟨by intro he; subst he; simp at h1, h2⟩

/-- the document: tables ok, the text around them free of backslash and braces -/
def docOk (lead : List Str) (ts : List (RTable × List Str)) : Bool :=
  lead.all plainText && ts.all (fun tp => tableOk tp.1 && tp.2.all plainText)

/-- all the gaps of `gtsOf g ts` make the row-grouping heuristic start a new table -/
def sepFrom (P : Params) : Str → List (RTable × List Str) → Bool
  | _, [] => true
  | g, tp :: rest => breaks P g && sepFrom P (gapAfter tp.2) rest

/-- the exact excluding hypothesis: the text between any two consecutive tables is more than `rawGap` characters of
    RTF and, stripped, more than `textGap` characters of text -/
def Separated (P : Params) : List (RTable × List Str) → Bool
  | [] => true
  | tp :: rest => sepFrom P (gapAfter tp.2) rest

/-- the cells of a written row: as many as the row has, cell j = the text of source cell j -/
theorem C13_rtf_cells (P : Params) (hP : paramsOk P = true) (r : RRow) (hne : r ≠ []) (hr : ∀ c ∈ r, plainCell c = true) :
    extractCells P (rowRtf r) = r.map cellSpec := by
  exact extractCells_row P (paramsOk_specials hP) r hne hr

/-- cell (i, j) of the grid is the text of source cell (i, j) -/
theorem C13_rtf_cell_at (t : RTable) (i j : Nat) :
    ((gridSpec t)[i]?.bind (fun (row : List Str) => row[j]?)) = (t[i]?.bind (fun (row : RRow) => row[j]?)).map cellSpec := by
  simp only [gridSpec, List.getElem?_map]
  cases t[i]? with
  | none => rfl
  | some row => simp [List.getElem?_map]

/-- an r × c table comes back r × c (`_save_table` pads only ragged tables) -/
theorem C13_rtf_rect (t : RTable) (c : Nat) (h : ∀ r ∈ t, r.length = c) :
    tableSpec t = gridSpec t ∧ (tableSpec t).length = t.length ∧ ∀ row ∈ tableSpec t, row.length = c := by
  have hg : ∀ row ∈ gridSpec t, row.length = c :=
    List.forall_mem_map.mpr fun x hx => (List.length_map _).trans (h x hx)
  have h1 : tableSpec t = gridSpec t := saveTable_rect _ c hg
  exact ⟨h1, by simp [h1, gridSpec], h1 ▸ hg⟩

private theorem docOk_withNl {P : Params} (hP : paramsOk P = true) {lead : List Str} {ts : List (RTable × List Str)}
    (h : docOk lead ts = true) :
    (∀ p ∈ lead, plainText p = true) ∧ (∀ tp ∈ ts, tp.1 ≠ []) ∧
      ∀ tp ∈ ts.map (fun tp => (withNl tp.1, tp.2)), STableOk P tp.1 ∧ ∀ p ∈ tp.2, plainText p = true := by
  simp only [docOk, Bool.and_eq_true, List.all_eq_true] at h
  refine ⟨h.1, fun tp htp => (of_tableOk (h.2 tp htp).1).ne, fun tp' h' => ?_⟩
  obtain ⟨x, hx, rfl⟩ := List.mem_map.mp h'
  exact ⟨sTableOk_sep P (sepOk_nl hP) (of_tableOk (h.2 x hx).1), (h.2 x hx).2⟩

/-- RTF, every document of plain tables and plain text, ANY text between the tables: `_extract_tables` returns what
    `groupTables` says — the tables in order, each cell in place, a table glued to its predecessor exactly where the
    text between them does not satisfy the heuristic (`breaks`) -/
theorem C13_rtf_behaviour (P : Params) (hP : paramsOk P = true) (lead : List Str) (tp : RTable × List Str)
    (rest : List (RTable × List Str)) (hd : docOk lead (tp :: rest) = true) :
    extractTables P (docRtf (docOf lead (tp :: rest))) = groupTables P [] (gtsOf (header ++ parasRtf lead) (tp :: rest)) := by
  obtain ⟨hlead, hne, hts⟩ := docOk_withNl hP hd
  rw [← docRtfS_withNl, extractTables_docRtfS P hP lead _ hlead hts, gtsOfS_withNl _ _ hne]

theorem allBreak_gtsOf (P : Params) : ∀ (ts : List (RTable × List Str)) (g : Str),
    (gtsOf g ts).all (fun gt => breaks P gt.1) = sepFrom P g ts
  | [], _ => rfl
  | tp :: rest, g => by simp [gtsOf, sepFrom, allBreak_gtsOf P rest]

private theorem tail_gtsOf (P : Params) (g : Str) : ∀ (ts : List (RTable × List Str)),
    (gtsOf g ts).tail.all (fun gt => breaks P gt.1) = Separated P ts
  | [] => rfl
  | _ :: rest => allBreak_gtsOf P rest _

/-- RTF, PARTIAL: when the text between consecutive tables satisfies the heuristic, every table comes back, in
    source order, none lost, merged or invented, every cell in place -/
theorem C13_rtf_partial (P : Params) (hP : paramsOk P = true) (lead : List Str) (ts : List (RTable × List Str))
    (hne : ts ≠ []) (hd : docOk lead ts = true) (hs : Separated P ts = true) :
    extractTables P (docRtf (docOf lead ts)) = ts.map (fun tp => tableSpec tp.1) := by
  obtain ⟨hlead, hne', hts⟩ := docOk_withNl hP hd
  rw [← docRtfS_withNl, extractTables_separated P hP lead _ hlead hts
    (by rw [gtsOfS_withNl _ _ hne', tail_gtsOf]; exact hs), List.map_map]
  exact List.map_congr_left (fun tp _ => congrArg tableSpec (rowsOfS_withNl tp.1))

/-- … with the patterns, `SPECIAL_CHARS` and the two literals of the current source -/
theorem C13_rtf_gen (lead : List Str) (ts : List (RTable × List Str)) (hne : ts ≠ []) (hd : docOk lead ts = true)
    (hs : Separated S2T.Gen.TablesRtf.params ts = true) :
    extractTables S2T.Gen.TablesRtf.params (docRtf (docOf lead ts)) = ts.map (fun tp => tableSpec tp.1) :=
  C13_rtf_partial _ gen_rtf_params_ok lead ts hne hd hs

/-- the hypothesis is exact: as many tables come back as the document has if and only if the tables are `Separated`
    (otherwise fewer: some table has been glued to its predecessor) -/
theorem C13_rtf_separated_exact (P : Params) (hP : paramsOk P = true) (lead : List Str) (ts : List (RTable × List Str))
    (hne : ts ≠ []) (hd : docOk lead ts = true) :
    (extractTables P (docRtf (docOf lead ts))).length = ts.length ↔ Separated P ts = true := by
  obtain ⟨hlead, hne', hts⟩ := docOk_withNl hP hd
  rw [← docRtfS_withNl, ← tail_gtsOf P (header ++ parasRtf lead), ← gtsOfS_withNl _ _ hne',
    ← extractTables_length_iff P hP lead _ hlead hts, List.length_map]

private def longPara : Str :=
  "between the tables there is a paragraph that is clearly longer than one hundred and twenty characters, so that the row grouping heuristic sees a break here.".toList

example : docOk ["before".toList]
      [([[["a".toList], ["b c".toList, "Ünï €".toList]], [["1".toList], []]], [longPara]),
       ([[["x-y".toList]]], ["after".toList])] = true
    ∧ Separated S2T.Gen.TablesRtf.params
      [([[["a".toList], ["b c".toList, "Ünï €".toList]], [["1".toList], []]], [longPara]),
       ([[["x-y".toList]]], ["after".toList])] = true := by
  -- character lists for the kernel (see Lemmas/Chars)
  -- (`rw` one literal at a time: the list of `longPara` is too deep for `simp`)
  unfold longPara
  repeat rw [String.toList_ofList]
  constructor <;> decide +kernel

/-- `rtf.adjacent-tables-merged`: a 2 × 2 table, the paragraph "between", a 2 × 1 table come back as ONE 4 × 2 table -/
theorem C13_rtf_counterexample_adjacent :
    extractTables S2T.Gen.TablesRtf.params (docRtf (docOf ["before".toList]
      [([[["a".toList], ["b".toList]], [["c".toList], ["d".toList]]], ["between".toList]),
       ([[["e".toList]], [["f".toList]]], ["after".toList])]))
      = [[["a".toList, "b".toList], ["c".toList, "d".toList], ["e".toList, []], ["f".toList, []]]]
    ∧ Separated S2T.Gen.TablesRtf.params
      [([[["a".toList], ["b".toList]], [["c".toList], ["d".toList]]], ["between".toList]),
       ([[["e".toList]], [["f".toList]]], ["after".toList])] = false :=
  ⟨(C13_rtf_behaviour _ gen_rtf_params_ok _ _ _ (by decide +kernel)).trans (by decide +kernel), by decide +kernel⟩

/-- `rtf.nested-table-flattened`: a 1 × 2 table whose first cell holds the paragraph A, a 1 × 2 table (x, y) and the
    paragraph A2, written with `\nestcell … {\*\nesttableprops\trowd … \nestrow}`: the inner table is not returned,
    its cells land in the outer cell, and the `\trowd` of the nested table properties invents a second row -/
theorem C13_rtf_counterexample_nested :
    extractTables S2T.Gen.TablesRtf.params
      ("{\\rtf1\\ansi \\trowd\\cellx100\\cellx200 \\pard\\intbl A\\par \\pard\\intbl\\itap2 x\\nestcell y\\nestcell {\\*\\nesttableprops\\trowd\\cellx50\\cellx100\\nestrow}{\\nonesttables\\par}\\pard\\intbl A2\\cell \\pard\\intbl B\\cell \\row\n}").toList
      = [[["A\nx y A2".toList, "B".toList], ["A2".toList, "B".toList]]] := by
  decide_chars

/-- `rtf.cell-hex-run-dropped`: a cell holding 64 hexadecimal digits (a SHA-256 digest) comes back empty -/
theorem C13_rtf_counterexample_hex :
    extractTables S2T.Gen.TablesRtf.params (docRtf (docOf []
      [([[["0123456789abcdef0123456789abcdef0123456789abcdef0123456789abcdef".toList]]], [])])) = [[[[]]]] := by
  decide_chars docRtf header

/-- `rtf.cell-backslash-brace-mangled`: the cell `C:\temp` (written `C:\\temp`) comes back as `C:\`,
    the cell `a{b}` (written `a\{b\}`) as `a\b\` -/
theorem C13_rtf_counterexample_backslash :
    extractTables S2T.Gen.TablesRtf.params (docRtf (docOf []
      [([[["C:\\temp".toList], ["a{b}".toList]]], [])])) = [[["C:\\".toList, "a\\b\\".toList]]] := by
  decide_chars docRtf header

end S2T.C13.Rtf
