import S2T.Lemmas.AesModes
import S2T.Lemmas.AesKatFips
import S2T.Lemmas.AesKatEcb128
import S2T.Lemmas.AesKatEcb192
import S2T.Lemmas.AesKatEcb256
import S2T.Lemmas.AesKatCbc128
import S2T.Lemmas.AesKatCbc192
import S2T.Lemmas.AesKatCbc256
import S2T.Gen.Aes
import S2T.Props.C20_Src
import S2T.Props.C20_Tables
import S2T.Props.C20_Reentrant
/-!
# C20 — the built-in AES equals FIPS-197 AES in ECB/CBC for every key and block

Statement: *The built-in AES used to open AES-encrypted PDFs when no crypto library is installed computes exactly
FIPS-197 AES with 128-, 192- and 256-bit keys in ECB and CBC mode for every key, IV and block-aligned message;
decryption inverts encryption, and the stream wrapper prepends a fresh IV, pads on encryption and removes exactly
that padding on decryption. Wrong key or data lengths are rejected with ValueError.*

The theorems are generic: for every table set `T` with `TablesOk T` (all 8×256 table entries and the 15 `_RCON` entries are
the FIPS-197 functions), every key of 16/24/32 bytes, every IV of 16 bytes, every list of 16-byte blocks / every message of
any length.  `TablesOk` of the tables regenerated from the current source is `C20_tables` (`Props/C20_Tables.lean`);
`C20_src_modes`, `C20_src_wrapper` are the generic theorems (about the hand model) at those tables, `C20_src_functions`,
`C20_src_inverse`, `C20_src_lengths_reject` are about the translated functions.
Quantifiers are unbounded (lists of any length); `decide +kernel` is used only on finite domains and closed terms: the
256 bytes (the generated tables compared as lists, the byte facts of the specification), the eight basis bytes on which
the entries of the MixColumns matrix products (`Lemmas/AesBytes`) and `_gf_mul` for each factor of a multiplication
table (`Props/C20_Tables.lean`) are checked, the 15 round-constant indices, the
generated inventory of `Props/C20_Reentrant.lean`, and closed known-answer computations.
-/
namespace S2T.C20
open S2T.Aes S2T.AesL S2T.Spec

/-! validation of the specification: FIPS-197 and SP 800-38A known answers (the cipher / encrypt direction of every
vector is evaluated by the kernel; the inverse direction follows from it, because decryption inverts encryption).  The keys
of Appendix C are written `List.range 16 / 24 / 32`, which unfold to the literal lists `Kat.c1_cipher` … are stated with. -/

theorem C20_kat_fips197_appendix_C :
    Fips197.aesEnc (List.range 16) [0x00,0x11,0x22,0x33,0x44,0x55,0x66,0x77,0x88,0x99,0xaa,0xbb,0xcc,0xdd,0xee,0xff]
      = [0x69,0xc4,0xe0,0xd8,0x6a,0x7b,0x04,0x30,0xd8,0xcd,0xb7,0x80,0x70,0xb4,0xc5,0x5a] ∧
    Fips197.aesEnc (List.range 24) [0x00,0x11,0x22,0x33,0x44,0x55,0x66,0x77,0x88,0x99,0xaa,0xbb,0xcc,0xdd,0xee,0xff]
      = [0xdd,0xa9,0x7c,0xa4,0x86,0x4c,0xdf,0xe0,0x6e,0xaf,0x70,0xa0,0xec,0x0d,0x71,0x91] ∧
    Fips197.aesEnc (List.range 32) [0x00,0x11,0x22,0x33,0x44,0x55,0x66,0x77,0x88,0x99,0xaa,0xbb,0xcc,0xdd,0xee,0xff]
      = [0x8e,0xa2,0xb7,0xca,0x51,0x67,0x45,0xbf,0xea,0xfc,0x49,0x90,0x4b,0x49,0x60,0x89] :=
  ⟨Kat.c1_cipher, Kat.c2_cipher, Kat.c3_cipher⟩

theorem C20_kat_fips197_appendix_C_inverse :
    Fips197.aesDec (List.range 16) [0x69,0xc4,0xe0,0xd8,0x6a,0x7b,0x04,0x30,0xd8,0xcd,0xb7,0x80,0x70,0xb4,0xc5,0x5a]
      = [0x00,0x11,0x22,0x33,0x44,0x55,0x66,0x77,0x88,0x99,0xaa,0xbb,0xcc,0xdd,0xee,0xff] ∧
    Fips197.aesDec (List.range 24) [0xdd,0xa9,0x7c,0xa4,0x86,0x4c,0xdf,0xe0,0x6e,0xaf,0x70,0xa0,0xec,0x0d,0x71,0x91]
      = [0x00,0x11,0x22,0x33,0x44,0x55,0x66,0x77,0x88,0x99,0xaa,0xbb,0xcc,0xdd,0xee,0xff] ∧
    Fips197.aesDec (List.range 32) [0x8e,0xa2,0xb7,0xca,0x51,0x67,0x45,0xbf,0xea,0xfc,0x49,0x90,0x4b,0x49,0x60,0x89]
      = [0x00,0x11,0x22,0x33,0x44,0x55,0x66,0x77,0x88,0x99,0xaa,0xbb,0xcc,0xdd,0xee,0xff] :=
  ⟨Kat.c1_invCipher, Kat.c2_invCipher, Kat.c3_invCipher⟩

/-- FIPS-197 Appendix B (cipher example) and Appendix A.1–A.3 (last word of each key schedule) -/
theorem C20_kat_fips197_appendix_A_B :
    Fips197.aesEnc Kat.key128 [0x32,0x43,0xf6,0xa8,0x88,0x5a,0x30,0x8d,0x31,0x31,0x98,0xa2,0xe0,0x37,0x07,0x34]
      = [0x39,0x25,0x84,0x1d,0x02,0xdc,0x09,0xfb,0xdc,0x11,0x85,0x97,0x19,0x6a,0x0b,0x32] ∧
    (Fips197.keyExpansion Kat.key128).getD 43 [] = [0xb6, 0x63, 0x0c, 0xa6] ∧
    (Fips197.keyExpansion Kat.key192).getD 51 [] = [0x01, 0x00, 0x22, 0x02] ∧
    (Fips197.keyExpansion Kat.key256).getD 59 [] = [0x70, 0x6c, 0x63, 0x1e] :=
  ⟨Kat.b_cipher, Kat.a1_lastWord, Kat.a2_lastWord, Kat.a3_lastWord⟩

/-- SP 800-38A F.1.1–F.1.6: ECB-AES128/192/256 Encrypt and Decrypt, four blocks each -/
theorem C20_kat_sp800_38a_ecb :
    Fips197.ecbEncrypt Kat.key128 Kat.pt = Kat.ecb128 ∧ Fips197.ecbDecrypt Kat.key128 Kat.ecb128 = Kat.pt ∧
    Fips197.ecbEncrypt Kat.key192 Kat.pt = Kat.ecb192 ∧ Fips197.ecbDecrypt Kat.key192 Kat.ecb192 = Kat.pt ∧
    Fips197.ecbEncrypt Kat.key256 Kat.pt = Kat.ecb256 ∧ Fips197.ecbDecrypt Kat.key256 Kat.ecb256 = Kat.pt :=
  ⟨Kat.ecb128_encrypt, Kat.ecb128_decrypt, Kat.ecb192_encrypt, Kat.ecb192_decrypt, Kat.ecb256_encrypt,
   Kat.ecb256_decrypt⟩

/-- SP 800-38A F.2.1–F.2.6: CBC-AES128/192/256 Encrypt and Decrypt, four blocks each -/
theorem C20_kat_sp800_38a_cbc :
    Fips197.cbcEncrypt Kat.key128 Kat.iv Kat.pt = Kat.cbc128 ∧ Fips197.cbcDecrypt Kat.key128 Kat.iv Kat.cbc128 = Kat.pt ∧
    Fips197.cbcEncrypt Kat.key192 Kat.iv Kat.pt = Kat.cbc192 ∧ Fips197.cbcDecrypt Kat.key192 Kat.iv Kat.cbc192 = Kat.pt ∧
    Fips197.cbcEncrypt Kat.key256 Kat.iv Kat.pt = Kat.cbc256 ∧ Fips197.cbcDecrypt Kat.key256 Kat.iv Kat.cbc256 = Kat.pt :=
  ⟨Kat.cbc128_encrypt, Kat.cbc128_decrypt, Kat.cbc192_encrypt, Kat.cbc192_decrypt, Kat.cbc256_encrypt,
   Kat.cbc256_decrypt⟩

/-- the spec's `ginv` is the multiplicative inverse in GF(2⁸), its S-box and inverse S-box are mutually inverse
    bijections of the bytes -/
theorem C20_spec_sbox_algebra :
    (∀ a, a < 256 → a ≠ 0 → Fips197.gmul a (Fips197.ginv a) = 1) ∧ Fips197.ginv 0 = 0 ∧
    (∀ a, a < 256 → Fips197.invSbox (Fips197.sbox a) = a) ∧ (∀ a, a < 256 → Fips197.sbox (Fips197.invSbox a) = a) :=
  ⟨gmul_ginv, ginv_zero, invSbox_sbox, sbox_invSbox⟩

section generic
variable {T : Tables}

/-- every round function of the code is the FIPS-197 transformation, on every 16-byte state -/
theorem C20_round_functions (hT : TablesOk T) {s k : List Nat} (hs : Block s) (hk : Block k) :
    subBytes T s = Fips197.subBytes s ∧ invSubBytes T s = Fips197.invSubBytes s ∧
    shiftRows s = Fips197.shiftRows s ∧ invShiftRows s = Fips197.invShiftRows s ∧
    mixColumns T s = Fips197.mixColumns s ∧ invMixColumns T s = Fips197.invMixColumns s ∧
    addRoundKey s k = Fips197.addRoundKey s k :=
  ⟨(subBytes_keeps hT).eq hs, (invSubBytes_keeps hT).eq hs, shiftRows_eq hs.1, invShiftRows_eq hs.1, (mixColumns_keeps hT).eq hs,
   (invMixColumns_keeps hT).eq hs, addRoundKey_eq hs.1 hk.1⟩

/-- the FIPS-197 transformations map 16-byte blocks to 16-byte blocks (hence, by `C20_round_functions`, so do the round
    functions of the code, and no table index ever leaves 0..255) -/
theorem C20_round_functions_closed {s k : List Nat} (hs : Block s) (hk : Block k) :
    Block (Fips197.subBytes s) ∧ Block (Fips197.invSubBytes s) ∧ Block (Fips197.shiftRows s) ∧
    Block (Fips197.invShiftRows s) ∧ Block (Fips197.mixColumns s) ∧ Block (Fips197.invMixColumns s) ∧
    Block (Fips197.addRoundKey s k) :=
  ⟨subBytes_block hs, invSubBytes_block hs, shiftRows_block hs, invShiftRows_block hs, mixColumns_block hs,
   invMixColumns_block hs, addRoundKey_block hs hk⟩

/-- `_expand_key` = FIPS-197 KeyExpansion for Nk = 4, 6, 8: the Nr+1 round keys -/
theorem C20_expand (hT : TablesOk T) {key : List Nat} (hk : KeyOk key) :
    expandKey T key = .ok ((List.range (Fips197.Nr key + 1)).map (Fips197.roundKey (Fips197.keyExpansion key))) :=
  expandKey_eq hT hk

/-- `_aes_encrypt_block(block, _expand_key(key))` = FIPS-197 Cipher -/
theorem C20_encrypt_block (hT : TablesOk T) {key b : List Nat} (hk : KeyOk key) (hb : Block b) :
    (expandKey T key >>= fun rks => encryptBlock T b rks) = .ok (Fips197.aesEnc key b) := by
  rw [expandKey_eq hT hk]; exact encryptBlock_eq hT hk hb

/-- `_aes_decrypt_block(block, _expand_key(key))` = FIPS-197 InvCipher -/
theorem C20_decrypt_block (hT : TablesOk T) {key b : List Nat} (hk : KeyOk key) (hb : Block b) :
    (expandKey T key >>= fun rks => decryptBlock T b rks) = .ok (Fips197.aesDec key b) := by
  rw [expandKey_eq hT hk]; exact decryptBlock_eq hT hk hb

/-- FIPS-197 InvCipher inverts Cipher for every key and block (specification level) -/
theorem C20_spec_inverse {key b : List Nat} (hk : KeyOk key) (hb : Block b) :
    Fips197.aesDec key (Fips197.aesEnc key b) = b := aesDec_aesEnc hk hb

/-- block decryption of the code inverts its block encryption, for every key and block -/
theorem C20_inverse (hT : TablesOk T) {key b : List Nat} (hk : KeyOk key) (hb : Block b) :
    ∃ rks c, expandKey T key = .ok rks ∧ encryptBlock T b rks = .ok c ∧ Block c ∧ decryptBlock T c rks = .ok b := by
  refine ⟨_, Fips197.aesEnc key b, expandKey_eq hT hk, encryptBlock_eq hT hk hb, aesEnc_block hk hb, ?_⟩
  have := decryptBlock_eq hT hk (aesEnc_block hk hb)
  rw [aesDec_aesEnc hk hb] at this
  exact this

/-- every block-aligned byte string is a list of blocks, so `aesEcbEncrypt_eq`, `aesEcbDecrypt_eq`, `aesCbcEncrypt_eq`,
    `aesCbcDecrypt_eq` (Lemmas/AesModes.lean) cover every accepted message -/
theorem C20_block_aligned {d : List Nat} (hd : IsBytes d) (hl : d.length % 16 = 0) :
    ∃ bs, Blocks bs ∧ bs.flatten = d := by
  obtain ⟨bs, h1, h2, _⟩ := exists_blocks (d.length / 16) d (by omega) hd
  exact ⟨bs, h1, h2⟩

/-- ECB decryption inverts ECB encryption: every key, every block-aligned message -/
theorem C20_ecb_inverse (hT : TablesOk T) {key d : List Nat} (hk : KeyOk key) (hd : IsBytes d) (hl : d.length % 16 = 0) :
    ∃ c, aesEcbEncrypt T key d = .ok c ∧ c.length = d.length ∧ IsBytes c ∧ aesEcbDecrypt T key c = .ok d := by
  obtain ⟨bs, h1, rfl⟩ := C20_block_aligned hd hl
  have hc := ecbEncrypt_blocks hk h1
  refine ⟨_, aesEcbEncrypt_eq hT hk h1, ?_, isBytes_flatten hc, ?_⟩
  · rw [length_flatten_blocks hc, length_flatten_blocks h1]; simp [Fips197.ecbEncrypt]
  · rw [aesEcbDecrypt_eq hT hk hc, ecbDecrypt_ecbEncrypt hk h1]

/-- CBC decryption inverts CBC encryption: every key, IV and block-aligned message -/
theorem C20_cbc_inverse (hT : TablesOk T) {key iv d : List Nat} (hk : KeyOk key) (hiv : Block iv) (hd : IsBytes d)
    (hl : d.length % 16 = 0) :
    ∃ c, aesCbcEncrypt T key iv d = .ok c ∧ IsBytes c ∧ aesCbcDecrypt T key iv c = .ok d := by
  obtain ⟨bs, h1, rfl⟩ := C20_block_aligned hd hl
  have hc := cbcEncrypt_blocks hk bs iv hiv h1
  refine ⟨_, aesCbcEncrypt_eq hT hk hiv h1, isBytes_flatten hc, ?_⟩
  rw [aesCbcDecrypt_eq hT hk hiv hc, cbcDecrypt_cbcEncrypt hk bs iv hiv h1]

/-- `_pkcs7_unpad` removes exactly what `_pkcs7_pad` appended; the padded length is the next multiple of 16 -/
theorem C20_pkcs7 (m : List Nat) :
    pkcs7Unpad (pkcs7Pad m 16) 16 = .ok m ∧ (pkcs7Pad m 16).length = 16 * (m.length / 16 + 1) ∧
    pkcs7Pad m 16 = Fips197.pkcs7Pad 16 m :=
  ⟨pkcs7Unpad_pad m (by decide), pkcs7Pad_length m, rfl⟩

/-- `CryptAES.encrypt` = IV ‖ CBC(key, IV, PKCS#7(m)) for the IV it drew -/
theorem C20_wrapper_encrypt (hT : TablesOk T) {key iv m : List Nat} (hk : KeyOk key) (hiv : Block iv) (hm : IsBytes m) :
    ∃ bs, Blocks bs ∧ bs.flatten = Fips197.pkcs7Pad 16 m ∧ bs.length = m.length / 16 + 1 ∧
      cryptAesEncrypt T key iv m = .ok (iv ++ (Fips197.cbcEncrypt key iv bs).flatten) :=
  cryptAesEncrypt_eq hT hk hiv hm

/-- `CryptAES.decrypt (CryptAES.encrypt m) = m` for every key, every drawn IV and every message length;
    the ciphertext starts with the IV and is 16 + 16·(⌊len/16⌋+1) bytes long -/
theorem C20_wrapper (hT : TablesOk T) {key iv m : List Nat} (hk : KeyOk key) (hiv : Block iv) (hm : IsBytes m) :
    ∃ c, cryptAesEncrypt T key iv m = .ok c ∧ c.take 16 = iv ∧ c.length = 16 + 16 * (m.length / 16 + 1) ∧
      cryptAesDecrypt T key c = .ok m :=
  cryptAes_roundtrip hT hk hiv hm

/-- wrong key / IV / data lengths are rejected with ValueError — whatever the tables and the byte values -/
theorem C20_lengths_reject (T : Tables) (key iv data : List Nat) :
    ((data.length % 16 ≠ 0 ∨ (key.length ≠ 16 ∧ key.length ≠ 24 ∧ key.length ≠ 32)) →
      aesEcbEncrypt T key data = .error .valueError ∧ aesEcbDecrypt T key data = .error .valueError) ∧
    ((iv.length ≠ 16 ∨ data.length % 16 ≠ 0 ∨ (key.length ≠ 16 ∧ key.length ≠ 24 ∧ key.length ≠ 32)) →
      aesCbcEncrypt T key iv data = .error .valueError ∧ aesCbcDecrypt T key iv data = .error .valueError) := by
  constructor
  · intro h
    unfold aesEcbEncrypt aesEcbDecrypt
    by_cases hd : data.length % 16 ≠ 0
    · simp [hd]
    · rcases h with h | h
      · exact absurd h hd
      · simp [expandKey_bad T h]
  · intro h
    unfold aesCbcEncrypt aesCbcDecrypt
    by_cases hi : iv.length ≠ 16
    · simp [hi]
    · by_cases hd : data.length % 16 ≠ 0
      · simp [hd]
      · rcases h with h | h | h
        · exact absurd h hi
        · exact absurd h hd
        · simp [expandKey_bad T h]

/-- …and nothing else is: with good lengths all four functions succeed (exactness of the rejection) -/
theorem C20_lengths_accept (hT : TablesOk T) {key iv d : List Nat} (hk : KeyOk key) (hiv : Block iv) (hd : IsBytes d)
    (hl : d.length % 16 = 0) :
    (∃ c, aesEcbEncrypt T key d = .ok c) ∧ (∃ c, aesEcbDecrypt T key d = .ok c) ∧
    (∃ c, aesCbcEncrypt T key iv d = .ok c) ∧ (∃ c, aesCbcDecrypt T key iv d = .ok c) := by
  obtain ⟨bs, h1, rfl⟩ := C20_block_aligned hd hl
  exact ⟨⟨_, aesEcbEncrypt_eq hT hk h1⟩, ⟨_, aesEcbDecrypt_eq hT hk h1⟩, ⟨_, aesCbcEncrypt_eq hT hk hiv h1⟩,
    ⟨_, aesCbcDecrypt_eq hT hk hiv h1⟩⟩

/-- `_get_round_keys(key)` answers exactly like `_expand_key(key)` after any history of calls: the invariant
    "every cached entry is `_expand_key` of its key" holds for the empty cache and is preserved, and the cache
    never exceeds its bound -/
theorem C20_cache (T : Tables) (n : Nat) (cache : Cache) (key : List Nat) (hc : CacheOk T cache) :
    (getRoundKeys T n cache key).1 = expandKey T key ∧ CacheOk T (getRoundKeys T n cache key).2 ∧
    (cache.length ≤ n → (getRoundKeys T n cache key).2.length ≤ n) :=
  getRoundKeys_spec T n cache key hc

theorem C20_cache_empty (T : Tables) : CacheOk T [] := by intro e he; cases he

end generic

/-- the code as it is now: ECB and CBC, both directions, equal SP 800-38A over FIPS-197 AES -/
theorem C20_src_modes {key iv : List Nat} {bs : List (List Nat)} (hk : KeyOk key) (hiv : Block iv) (hbs : Blocks bs) :
    aesEcbEncrypt S2T.Gen.Aes.tables key bs.flatten = .ok (Fips197.ecbEncrypt key bs).flatten ∧
    aesEcbDecrypt S2T.Gen.Aes.tables key bs.flatten = .ok (Fips197.ecbDecrypt key bs).flatten ∧
    aesCbcEncrypt S2T.Gen.Aes.tables key iv bs.flatten = .ok (Fips197.cbcEncrypt key iv bs).flatten ∧
    aesCbcDecrypt S2T.Gen.Aes.tables key iv bs.flatten = .ok (Fips197.cbcDecrypt key iv bs).flatten :=
  ⟨aesEcbEncrypt_eq C20_tables hk hbs, aesEcbDecrypt_eq C20_tables hk hbs, aesCbcEncrypt_eq C20_tables hk hiv hbs,
   aesCbcDecrypt_eq C20_tables hk hiv hbs⟩

/-- the code as it is now: the stream wrapper round-trips every message under every key and IV -/
theorem C20_src_wrapper {key iv m : List Nat} (hk : KeyOk key) (hiv : Block iv) (hm : IsBytes m) :
    ∃ c, cryptAesEncrypt S2T.Gen.Aes.tables key iv m = .ok c ∧ c.take 16 = iv ∧
      c.length = 16 + 16 * (m.length / 16 + 1) ∧ cryptAesDecrypt S2T.Gen.Aes.tables key c = .ok m :=
  C20_wrapper C20_tables hk hiv hm

example : KeyOk (List.range 16) ∧ KeyOk (List.range 24) ∧ KeyOk ((List.range 32).map (· + 200)) := by decide
example : Block [0x6b,0xc1,0xbe,0xe2,0x2e,0x40,0x9f,0x96,0xe9,0x3d,0x7e,0x11,0x73,0x93,0x17,0x2a] := by decide
example : Blocks Kat.pt ∧ Kat.pt.length = 4 := by decide
example : IsBytes [1, 2, 3, 255] ∧ IsBytes ([] : List Nat) := by decide
example : ∃ d : List Nat, IsBytes d ∧ d.length % 16 = 0 ∧ d ≠ [] := ⟨List.replicate 32 7, by decide⟩
example : CacheOk S2T.Gen.Aes.tables [] := C20_cache_empty _
/-- a non-empty consistent cache -/
example : ∃ rks, CacheOk S2T.Gen.Aes.tables [(List.range 16, rks)] := by
  refine ⟨specRoundKeys (List.range 16), ?_⟩
  intro e he
  simp only [List.mem_singleton] at he
  subst he
  exact C20_expand C20_tables (by decide)
/-- the rejection hypotheses: a 15-byte key, a 17-byte message -/
example : ([] : List Nat).length % 16 = 0 ∧ (List.range 15).length ≠ 16 ∧ (List.range 17).length % 16 ≠ 0 := by decide

/-! the translated source functions themselves (end to end): `C20_src_modes`, `C20_src_wrapper` are about the hand model at the
generated tables; `Props/C20_Src.lean` proves the functions re-translated from `_pypdf_aes_fallback.py` on every run equal to
that model.  Composed here: `aes_ecb_encrypt`, `aes_ecb_decrypt`, `aes_cbc_encrypt`, `aes_cbc_decrypt` **as the source has
them now** compute SP 800-38A over FIPS-197 AES, invert each other, and reject wrong lengths with `ValueError` only. -/
section src
open S2T.Py S2T.Gen.PyAes S2T.C20.Src

/-- **C20 at the source level.** The four mode functions re-translated from `_pypdf_aes_fallback.py` on every run compute
    SP 800-38A ECB / CBC over FIPS-197 AES: every key of 16/24/32 bytes, every IV block, every list of blocks. -/
theorem C20_src_functions {key iv : List Nat} {bs : List (List Nat)} (hk : KeyOk key) (hiv : Block iv) (hbs : Blocks bs) :
    aes_ecb_encrypt key bs.flatten = .ok (Fips197.ecbEncrypt key bs).flatten ∧
    aes_ecb_decrypt key bs.flatten = .ok (Fips197.ecbDecrypt key bs).flatten ∧
    aes_cbc_encrypt key iv bs.flatten = .ok (Fips197.cbcEncrypt key iv bs).flatten ∧
    aes_cbc_decrypt key iv bs.flatten = .ok (Fips197.cbcDecrypt key iv bs).flatten := by
  have hd := isBytes_flatten hbs
  obtain ⟨h1, h2, h3, h4⟩ := C20_src_modes hk hiv hbs
  exact ⟨liftV_eq_ok (aes_ecb_encrypt_eq hk.2 hd) h1, liftV_eq_ok (aes_ecb_decrypt_eq hk.2 hd) h2,
    liftV_eq_ok (aes_cbc_encrypt_eq hk.2 hiv.2 hd) h3, liftV_eq_ok (aes_cbc_decrypt_eq hk.2 hiv.2 hd) h4⟩

/-- **C20 at the source level (inverse).** On the translated functions, decryption undoes encryption: every
    key, every IV block, every block-aligned byte string. -/
theorem C20_src_inverse {key iv d : List Nat} (hk : KeyOk key) (hiv : Block iv) (hd : IsBytes d)
    (hl : d.length % 16 = 0) :
    (∃ c, aes_ecb_encrypt key d = .ok c ∧ aes_ecb_decrypt key c = .ok d) ∧
    (∃ c, aes_cbc_encrypt key iv d = .ok c ∧ aes_cbc_decrypt key iv c = .ok d) := by
  obtain ⟨c, h1, _, hc, h2⟩ := C20_ecb_inverse C20_tables hk hd hl
  obtain ⟨c', h3, hc', h4⟩ := C20_cbc_inverse C20_tables hk hiv hd hl
  exact ⟨⟨c, liftV_eq_ok (aes_ecb_encrypt_eq hk.2 hd) h1, liftV_eq_ok (aes_ecb_decrypt_eq hk.2 hc) h2⟩,
    ⟨c', liftV_eq_ok (aes_cbc_encrypt_eq hk.2 hiv.2 hd) h3, liftV_eq_ok (aes_cbc_decrypt_eq hk.2 hiv.2 hc') h4⟩⟩

private theorem ite_cls {c : Prop} [Decidable c] {a b : Py.Exc} {s : String} (ha : a.cls = s) (hb : b.cls = s) :
    (if c then a else b).cls = s := by split <;> assumption

/-- **C20 at the source level (rejection).** With a wrong data, key or IV length the translated functions raise
    `ValueError` and nothing else, whatever the byte values. -/
theorem C20_src_lengths_reject {key iv data : List Nat} (hk : IsBytes key) (hiv : IsBytes iv) (hd : IsBytes data) :
    ((data.length % 16 ≠ 0 ∨ (key.length ≠ 16 ∧ key.length ≠ 24 ∧ key.length ≠ 32)) →
      (∃ e, aes_ecb_encrypt key data = .error e ∧ e.cls = "ValueError") ∧
      (∃ e, aes_ecb_decrypt key data = .error e ∧ e.cls = "ValueError")) ∧
    ((iv.length ≠ 16 ∨ data.length % 16 ≠ 0 ∨ (key.length ≠ 16 ∧ key.length ≠ 24 ∧ key.length ≠ 32)) →
      (∃ e, aes_cbc_encrypt key iv data = .error e ∧ e.cls = "ValueError") ∧
      (∃ e, aes_cbc_decrypt key iv data = .error e ∧ e.cls = "ValueError")) := by
  obtain ⟨hE, hC⟩ := C20_lengths_reject S2T.Gen.Aes.tables key iv data
  have cls : ∀ fn bf, (ecbExc fn bf key data).cls = "ValueError" := by
    intro fn bf; unfold ecbExc; exact ite_cls rfl (ite_cls rfl rfl)
  have cls2 : ∀ fn bf, (cbcExc fn bf key iv data).cls = "ValueError" := by
    intro fn bf; unfold cbcExc; exact ite_cls rfl (ite_cls rfl (ite_cls rfl rfl))
  constructor
  · intro h
    obtain ⟨h1, h2⟩ := hE h
    exact ⟨⟨_, liftV_eq_error (aes_ecb_encrypt_eq hk hd) h1, cls _ _⟩,
      ⟨_, liftV_eq_error (aes_ecb_decrypt_eq hk hd) h2, cls _ _⟩⟩
  · intro h
    obtain ⟨h1, h2⟩ := hC h
    exact ⟨⟨_, liftV_eq_error (aes_cbc_encrypt_eq hk hiv hd) h1, cls2 _ _⟩,
      ⟨_, liftV_eq_error (aes_cbc_decrypt_eq hk hiv hd) h2, cls2 _ _⟩⟩

example : aes_ecb_encrypt (List.range 24) Kat.pt.flatten = .ok (Fips197.ecbEncrypt (List.range 24) Kat.pt).flatten :=
  (C20_src_functions (iv := List.replicate 16 0) (by decide) (by decide) (by decide)).1
example : ∃ e, aes_cbc_decrypt (List.range 15) (List.range 16) (List.range 32) = .error e ∧ e.cls = "ValueError" :=
  ((C20_src_lengths_reject (by decide) (by decide) (by decide)).2 (Or.inr (Or.inr (by decide)))).2
end src

end S2T.C20
