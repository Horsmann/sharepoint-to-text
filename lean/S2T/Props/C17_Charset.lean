import S2T.Model.HtmlCharset
import S2T.Lemmas.Chars
/-!
# C17 (encoding prescan) — OPEN finding `html.charset-sniffed-in-removed-content`

`read_html` looks for `<meta … charset=…>` with a byte regex in the first 8 KiB of the file before anything is parsed,
so the regex also sees the CONTENT of comments and of removed elements.  A comment / script / noscript that mentions a
`<meta charset=…>` therefore changes how every visible non-ASCII character of the document is decoded: the removed
markup does take something else with it.  The full-strength statement

  `sniff (pre ++ hidden ++ post) = sniff (pre ++ post)`   for every comment / removed element `hidden`

is FALSE on the current source (`charset_cex_comment`, `charset_cex_script`, `charset_cex_noscript`; replayed on the
real code by the harness witness `charset-in-comment`).  What holds is the partial statement below.
-/
namespace S2T.C17.Charset
open S2T.HtmlCharset

/-- no `<meta` (any case) anywhere in the text -/
def NoMeta (t : List Char) : Prop := ∀ i, startsCI kwMeta (t.drop i) = false

theorem search_none_of_noMeta : ∀ t, NoMeta t → search t = none := by
  intro t
  induction t with
  | nil => intro _; rfl
  | cons c r ih =>
    intro h
    have h0 : startsCI kwMeta (c :: r) = false := by simpa using h 0
    have hr : NoMeta r := fun i => by simpa using h (i + 1)
    simp [search, h0, ih hr]

/-- PARTIAL: removing a comment / removed element `hidden` leaves what `search` finds alone when neither the document
    nor the document without it mentions `<meta` at all (then nothing is sniffed and UTF-8 is used); stated for `search` on the
    whole text, of which `sniff` reads the first 8192 characters.  This is the only
    exclusion-free class: as soon as a `<meta` occurs in `hidden` the counterexamples below apply, and one in `pre`
    can have its attribute run extended into `hidden` (`charset_cex_run_into_comment`). -/
theorem charset_partial (pre hidden post : List Char)
    (h1 : NoMeta (pre ++ hidden ++ post)) (h2 : NoMeta (pre ++ post)) :
    search (pre ++ hidden ++ post) = search (pre ++ post) := by
  rw [search_none_of_noMeta _ h1, search_none_of_noMeta _ h2]

/-- `NoMeta` is decidable by looking at every suffix -/
theorem noMeta_of_check (t : List Char)
    (h : (List.range (t.length + 1)).all (fun i => !startsCI kwMeta (t.drop i)) = true) : NoMeta t := by
  intro i
  by_cases hi : i < t.length + 1
  · have := List.all_eq_true.mp h i (List.mem_range.mpr hi)
    simpa using this
  · have : t.drop i = [] := List.drop_eq_nil_of_le (by omega)
    rw [this]; rfl

-- the hypotheses of `charset_partial` are satisfiable by a document with a comment and a removed element
example : NoMeta ("<p>caf\xc3\xa9".toList ++ "<!-- x --><script>y</script>".toList ++ "</p>".toList) ∧
    NoMeta ("<p>caf\xc3\xa9".toList ++ "</p>".toList) := by
  -- the literals as character lists, by the rewrite `decide_chars` uses (`S2T/Lemmas/Chars.lean`)
  simp -index only [String.toList_ofList]
  exact ⟨noMeta_of_check _ (by decide +kernel), noMeta_of_check _ (by decide +kernel)⟩

def wPre : List Char := "<html><head>".toList
def wPost : List Char := "</head><body><p>caf\xc3\xa9</p></body></html>".toList

/-- a comment that mentions a meta declaration decides the encoding of the whole document -/
theorem charset_cex_comment :
    sniff (wPre ++ "<!-- <meta charset=\"latin-1\"> -->".toList ++ wPost) = some "latin-1".toList ∧
    sniff (wPre ++ wPost) = none := by
  decide_chars wPre wPost

/-- so does a script whose text contains one -/
theorem charset_cex_script :
    sniff (wPre ++ "<script>var m = '<meta charset=\"latin-1\">';</script>".toList ++ wPost) = some "latin-1".toList ∧
    sniff (wPre ++ wPost) = none := by
  decide_chars wPre wPost

/-- and a (void) child of a noscript element -/
theorem charset_cex_noscript :
    sniff (wPre ++ "<noscript><META http-equiv=x content='text/html; charset=cp1252'></noscript>".toList ++ wPost)
      = some "cp1252".toList ∧ sniff (wPre ++ wPost) = none := by
  decide_chars wPre wPost

/-- the attribute run of a visible, unterminated `<meta` extends into a following comment -/
theorem charset_cex_run_into_comment :
    sniff ("<meta name=a ".toList ++ "<!-- charset=koi8-r -->".toList ++ "<p>x</p>".toList) = some "koi8-r".toList ∧
    sniff ("<meta name=a ".toList ++ "<p>x</p>".toList) = none := by
  decide_chars

end S2T.C17.Charset
