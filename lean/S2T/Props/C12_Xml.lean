import S2T.Lemmas.XmlEntities
import S2T.Lemmas.Limits
import S2T.Lemmas.Bounds
import S2T.Gen.C12Xml
/-!
# C12 — "irrespective of … entity tricks": XML parts with internal entities, behind any leading bytes

Every XML part of an OOXML / ODF / EPUB package goes through a *chain* of parser calls (normally one).  The chains
are generated from the CURRENT source (`Gen.C12Xml.xmlParseChains`: every call of an XML parser entry point, the
`forbid_*` keywords it is given against the defaults of the installed defusedxml, whether it sits inside an `except`
handler and what that handler catches, whether it is fed transformed — e.g. stripped — data).

* `refusing_chain_text_le_part_size`: for EVERY chain all of whose stages refuse `<!ENTITY` declarations and EVERY part
  (any BOM / leading whitespace, with or without XML declaration / DOCTYPE / entities), an accepted part yields at most
  as many characters as it has bytes.
* `gen_chains_refuse_entities`: every stage of every chain of the current source refuses entity declarations
  (re-decided on every run); `gen_text_le_part_size` composes the two.
* a chain with ONE stage that does not refuse — wherever it sits, e.g. the "parse the stripped bytes again" fallback
  behind `except ParseError` — is unbounded: `lenient_fallback_unbounded` (for every multiple K a part behind one
  blank line whose text exceeds K × its size), with the kernel-evaluated bounded witnesses the harness replays on
  the real parser (`laughs_witness_*`: 16× per extra level of 79 bytes).
-/
namespace S2T.C12.Xml
open S2T.XmlEnt S2T.Gen.C12Xml

/-- a chain all of whose parser calls refuse entity declarations never yields more characters than the part has
    bytes — whatever the leading bytes, the fallback structure and the handlers are -/
theorem refusing_chain_text_le_part_size (sz : Sizes) (c : List Stage) (hc : ∀ s ∈ c, s.forbidEntities = true)
    (p : Part) (n : Nat) (h : runChain c p = .ok n) : n ≤ p.bytes sz :=
  Nat.le_trans (itemsLen_nil_le p.body n (runChain_refusing_ok hc h).2) (body_le_bytes sz p)

/-- (hypotheses satisfiable, conclusion not vacuous: a part behind BOM + blank line WITHOUT an XML declaration is accepted) -/
example : runChain [defusedStage] ⟨true, 2, false, true, [], [.lit 7, .amp]⟩ = .ok 8 := by decide

/-- the parse chains of the current source, as stages -/
def genChains : List (List Stage) := xmlParseChains.map (fun c => c.2.2.map Stage.ofTuple)

/-- every parser call of the current source refuses `<!ENTITY` declarations: it is defusedxml's, `forbid_entities` is
    neither switched off by a keyword nor decided at run time, and no caller-supplied parser replaces it -/
theorem gen_chains_refuse_entities : ∀ c ∈ genChains, ∀ s ∈ c, s.forbidEntities = true := by decide +kernel

/-- the chain reader understood every construct it met -/
theorem gen_chain_notes_empty : xmlChainNotes = [] := by decide

/-- (not vacuous) `read_zip_xml_root`, the function all package extractors parse their parts with, has a chain -/
theorem gen_chains_cover_read_zip_xml_root :
    (xmlParseChains.any (fun c => c.2.1 == "read_zip_xml_root" && !c.2.2.isEmpty)) = true := by decide +kernel

/-- on the current source: every part any of the package's parser chains accepts yields at most its own size in text -/
theorem gen_text_le_part_size (sz : Sizes) (p : Part) (n : Nat) :
    ∀ c ∈ genChains, runChain c p = .ok n → n ≤ p.bytes sz :=
  fun c hc h => refusing_chain_text_le_part_size sz c (gen_chains_refuse_entities c hc) p n h

/-- a chain of refusing parsers REFUSES every part that declares an entity — referenced or not, whatever the leading
    bytes (a leading blank line only changes WHICH stage answers and with which exception) -/
theorem refusing_chain_refuses_declarations (c : List Stage) (hc : ∀ s ∈ c, s.forbidEntities = true) (p : Part)
    (hd : p.doctype = true) (he : p.ents ≠ []) : ∀ n, runChain c p ≠ .ok n :=
  fun n h => he (by simpa [Part.declared, hd] using (runChain_refusing_ok hc h).1)

example : runChain [defusedStage] (quadPart 1 5 3) = .parseError ∧ runChain [defusedStage] (quadPart 0 5 3) = .forbidden := by decide

/-- the shape of a lenient fallback: defused first, then the stripped bytes through a plain parser on ParseError -/
def lenientChain : List Stage := [defusedStage, lenientFallback]

theorem quad_text (ws a m : Nat) : runChain lenientChain (quadPart (ws + 1) a m) = .ok (m * a) := by
  have h := itemsLen_replicate_ref [a] 0 a (by simp) m
  simp [lenientChain, runChain, runStage, defusedStage, lenientFallback, quadPart, Part.declared, tableLens, itemsLen,
        Item.len, h]

theorem quad_bytes (sz : Sizes) (ws a m : Nat) :
    (quadPart ws a m).bytes sz = ws + sz.decl + sz.dtd + sz.ent + 2 + a + sz.root + 4 * m := by
  simp [Part.bytes, quadPart, entsBytes, itemsBytes, Item.bytes, S2T.Limits.digits_of_lt]
  omega

/-- FULL STATEMENT for a lenient chain (false): ∃ K, ∀ p n, runChain lenientChain p = .ok n → n ≤ K * p.bytes sz.
    For every candidate multiple K there is a part behind one blank line whose text exceeds K × its size. -/
theorem lenient_fallback_unbounded (sz : Sizes) (K : Nat) :
    ∃ p n, p.ws = 1 ∧ runChain lenientChain p = .ok n ∧ K * p.bytes sz < n := by
  let C := 1 + sz.decl + sz.dtd + sz.ent + 2 + sz.root
  let m := K * (C + 5) + 1
  refine ⟨quadPart (0 + 1) m m, m * m, rfl, quad_text 0 m m, ?_⟩
  rw [quad_bytes, show 0 + 1 + sz.decl + sz.dtd + sz.ent + 2 + m + sz.root + 4 * m = C + 5 * m by omega]
  exact S2T.Bounds.linear_lt_sq K C 5

/-- … and without the leading blank line the same chain still refuses the same part (the defused stage answers) -/
theorem lenient_chain_needs_leading_bytes (a m : Nat) : runChain lenientChain (quadPart 0 a m) = .forbidden := by
  simp [lenientChain, runChain, runStage, defusedStage, lenientFallback, quadPart, Part.declared]

/-- the writer's byte counts (`harness/builders/c12_xmlparts.py:SIZES`) -/
def writerSizes : Sizes := ⟨38, 15, 13, 7⟩

/-- bounded witnesses replayed on the real parser: nested entities, fan-out 16, e0 = 32 characters, one blank line -/
theorem laughs_witness_2 : runChain lenientChain (laughsPart 1 32 16 2) = .ok 8192 := by decide +kernel
theorem laughs_witness_3 : runChain lenientChain (laughsPart 1 32 16 3) = .ok 131072 := by decide +kernel
theorem laughs_witness_4 : runChain lenientChain (laughsPart 1 32 16 4) = .ok 2097152 := by decide +kernel

/-- … each level costs 79 more bytes: 16 references of 4 bytes + the declaration -/
theorem laughs_witness_bytes :
    (laughsPart 1 32 16 2).bytes writerSizes = 270 ∧ (laughsPart 1 32 16 3).bytes writerSizes = 349 ∧
    (laughsPart 1 32 16 4).bytes writerSizes = 428 := by
  simp [Part.bytes, laughsPart, laughsEnts, entsBytes, itemsBytes, Item.bytes, writerSizes, S2T.Limits.digits_of_lt]

/-- the same parts — any leading whitespace, any sizes, any depth — under the chains of the current source: refused -/
theorem gen_chains_refuse_laughs (ws a fan lv : Nat) : ∀ c ∈ genChains, ∀ n, runChain c (laughsPart ws a fan lv) ≠ .ok n :=
  fun c hc n => refusing_chain_refuses_declarations c (gen_chains_refuse_entities c hc) _ rfl (laughsEnts_ne_nil a fan lv) n

end S2T.C12.Xml
