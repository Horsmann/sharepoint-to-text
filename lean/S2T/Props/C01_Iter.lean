import S2T.Lemmas.LoopInventory
import S2T.Gen.C01Iter
import S2T.Lemmas.StrTable
/-!
# C01 (termination) — closed world of the constructs that can iterate without a syntactic bound

The property says "no input of bounded size makes it hang or loop without bound".  The part of that statement that is
tied to the CURRENT source here is a closed-world inventory: every construct under `sharepoint2text/` through which an
unbounded iteration can enter is one that was modelled or read.

* `while` statements (`S2T.Gen.Loops.whileLoops`): each is a key of `S2T.Loops.knownKeys` — modelled by structural /
  well-founded recursion on its own variant in `S2T/Model/Loops.lean` (Lean accepting the definition is the termination
  proof; step bounds are theorems of C12) or listed as assumed there.  (C12 states the same inclusion; a new `while` is
  first of all a C01 matter, and `./check C01` must not stay silent about it.)
* directly self-recursive functions (`S2T.Gen.Loops.recursiveFunctions`): the list is the one that was read
  (`recursion_reviewed`; variants recorded in `S2T.Loops.recursiveByReading`).
* everything else that can run unboundedly (`S2T.Gen.C01Iter.items`, generated by `tools/gen/c01_iter.py`): `for` loops
  over a collection their body grows, unbounded iterators (`itertools.count/cycle/repeat`, `iter(f, sentinel)`),
  reference-chasing assignments inside a loop (`v = M[v]`, `v = M.get(v)`: a chain of references in the INPUT is
  followed — terminates only with a visited set / depth bound, since hostile input may contain a cycle) and mutual
  recursion inside a module.  `iteration_reviewed` says the current inventory is exactly the reviewed one.

A source change that adds such a construct breaks one of these theorems; `search` of harness/props/c01.py then runs the
structure-rewiring input stream (reference cycles of every reference relation of every container fixture, exhaustively)
and the hostile streams against the real code to produce the concrete hanging input.
-/
namespace S2T.C01.Iter

/-- every `while` statement of the current source is a modelled (or explicitly assumed) one -/
theorem while_loops_accounted :
    ∀ ℓ ∈ S2T.Gen.Loops.whileLoops, (ℓ.1, ℓ.2.1, ℓ.2.2.1, ℓ.2.2.2.1) ∈ S2T.Loops.knownKeys :=
  S2T.Loops.whileLoops_known

/-- every directly self-recursive function of the current source is one whose variant was read -/
theorem recursion_reviewed :
    ∀ f ∈ S2T.Gen.Loops.recursiveFunctions, f ∈ S2T.Loops.recursiveByReading.map (·.1) :=
  S2T.Loops.recursiveFunctions_read

/-- the reviewed unbounded-iteration constructs other than `while` / direct recursion, with the reason each terminates -/
def reviewed : List ((String × String × String × String) × String) := [
  (("sharepoint2text/parsing/extractors/ms_modern/docx_extractor.py", "_extract_block_texts", "mutual",
    "_extract_block_texts <-> _extract_paragraph_content <-> _extract_table_text <-> _process_text_element"),
   "structural descent on the parsed (finite, acyclic) ElementTree: every call is on a child element"),
  (("sharepoint2text/parsing/extractors/serialization.py", "_deserialize_dataclass", "mutual",
    "_deserialize_dataclass <-> _deserialize_value"),
   "structural descent on the decoded JSON value (finite tree)")
]

/-- the current inventory is exactly the reviewed one (nothing new, nothing stale) -/
theorem iteration_reviewed : S2T.Gen.C01Iter.items = reviewed.map (·.1) := by
  -- as lists of characters (Lemmas/StrTable) the two sides are the same text, which closes the goal; the tables
  -- themselves go to `simp`, as in `Loops.whileKeys_same` (Lemmas/LoopInventory.lean says why)
  refine (List.map_inj_right StrTable.chars4_inj).1 ?_
  simp -index only [S2T.Gen.C01Iter.items, reviewed, List.map_cons, List.map_nil, StrTable.chars4, StrTable.chars3,
    Prod.map_apply, String.toList_ofList]

/-- in particular: the current source follows no reference chain of the input inside a loop, grows no collection it
    iterates over and uses no unbounded iterator (decided on the generated inventory itself, so that it breaks with
    `iteration_reviewed` and names the kind of construct) -/
theorem no_reference_chasing : S2T.Gen.C01Iter.items.all (fun i => i.2.2.1 != "chase" && i.2.2.1 != "grow-for" && i.2.2.1 != "inf-iter") = true := by
  decide +kernel

end S2T.C01.Iter
