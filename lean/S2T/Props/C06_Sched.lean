import S2T.Spec.C06Sched
import S2T.Gen.Sched
/-!
# C06 (schedule, interpreter-wide settings) — two inputs that are neither bytes nor path nor a cell of the package

(1) The thread SCHEDULE.  A container extractor that hands its members to a worker pool stays a function of the bytes as
long as it collects the results in submission order (`submission_order_schedule_free`); collecting them in COMPLETION
order makes the schedule an input on every archive with two members whose results do not commute
(`completion_order_schedule_dependent`).  The current source is decided to contain no thread / process / event-loop use
except the reviewed ones (`concurrency_uses_reviewed`: two locks).
(2) INTERPRETER-WIDE settings (recursion limit, locale, decimal context, …) changed for the duration of a walk.  If the old
value is put back on the error path too (`finally`), every history of extractions — failed ones included — leaves the
setting as it was (`finally_history_free`), so a later outcome that depends on it is the fresh-process outcome
(`finally_probe_history_free`); if it is put back only on the normal path (a generator context manager with a bare
`yield`), ONE failed extraction leaves the raised value behind (`bare_yield_leaks`) and every document whose need lies
between the old and the raised value yields something else afterwards (`leak_history_dependent`).  The current source
is decided to contain no write of such a setting that is not restored in a `finally`, and no generator context manager
with exit code behind an unprotected `yield` (`interp_writes_restored`, `no_bare_yield_managers`).
-/
namespace S2T.C06Sched
open S2T.Spec.C06Sched S2T.Gen.Sched

/-- results of a pool run collected in SUBMISSION order: `ms` = members in archive order, `done` = the order in which the
    scheduler completed them (any permutation of `ms`) -/
def collectSubmitted {α β} (f : α → List β) (ms _done : List α) : List β := ms.flatMap f

/-- results handed out as the members complete (`as_completed`, `imap_unordered`, done-callbacks) -/
def collectCompleted {α β} (f : α → List β) (_ms done : List α) : List β := done.flatMap f

/-- **C06 (schedule)**: collecting in submission order, every schedule gives the sequential result -/
theorem submission_order_schedule_free {α β} (f : α → List β) (ms d₁ d₂ : List α) :
    collectSubmitted f ms d₁ = collectSubmitted f ms d₂ ∧ collectSubmitted f ms d₁ = ms.flatMap f := ⟨rfl, rfl⟩

/-- collecting in completion order: on EVERY archive that starts with two members whose results do not commute there are two
    schedules (both permutations of the members) with different result sequences -/
theorem completion_order_schedule_dependent {α β} (f : α → List β) (a b : α) (rest : List α)
    (h : f a ++ f b ≠ f b ++ f a) :
    ∃ d₁ d₂ : List α, d₁.Perm (a :: b :: rest) ∧ d₂.Perm (a :: b :: rest) ∧
      collectCompleted f (a :: b :: rest) d₁ ≠ collectCompleted f (a :: b :: rest) d₂ := by
  refine ⟨a :: b :: rest, b :: a :: rest, List.Perm.refl _, List.Perm.swap a b rest, ?_⟩
  intro he
  simp only [collectCompleted, List.flatMap_cons, ← List.append_assoc] at he
  exact h (List.append_cancel_right he)

/-- … in particular whenever every member yields exactly one result and two members yield different ones -/
theorem completion_order_singletons {α β} (g : α → β) (a b : α) (rest : List α) (h : g a ≠ g b) :
    ∃ d₁ d₂ : List α, d₁.Perm (a :: b :: rest) ∧ d₂.Perm (a :: b :: rest) ∧
      collectCompleted (fun m => [g m]) (a :: b :: rest) d₁ ≠ collectCompleted (fun m => [g m]) (a :: b :: rest) d₂ := by
  apply completion_order_schedule_dependent
  intro he
  simp at he
  exact h he.1

/-- the thread / process / event-loop uses of the current source are the reviewed ones (locks only: no pool, no collector) -/
theorem concurrency_uses_reviewed :
    concurrencyUses.all (fun u => reviewedConcurrency.any (fun x => x.1 == u)) = true := by decide +kernel

/-- one extraction whose walk `body` runs under the setting raised to at least `raised`; afterwards the old value `s` is put
    back — on the error path only if `restoreOnError` (try/finally).  Result: (outcome, setting left behind) -/
def scopedRun {ε β} (restoreOnError : Bool) (raised : Nat) (body : Nat → Except ε β) (s : Nat) : Except ε β × Nat :=
  match body (max s raised) with
  | .ok v => (.ok v, s)
  | .error e => (.error e, if restoreOnError then s else max s raised)

/-- the setting after a whole history of extractions (`History.after` of `fun s b => scopedRun r raised b s`, with the
arguments the other way round; the file keeps its own fold and does not import Lemmas/History, so
`finally_history_free` below is proved for it directly and is not an instance of `after_frame`) -/
def runAll {ε β} (r : Bool) (raised : Nat) : List (Nat → Except ε β) → Nat → Nat
  | [], s => s
  | b :: bs, s => runAll r raised bs (scopedRun r raised b s).2

/-- outcome of a document whose walk needs `depth` frames: it extracts iff the limit allows it -/
def probe (depth : Nat) (limit : Nat) : Bool := decide (depth < limit)

theorem finally_frame {ε β} (raised : Nat) (body : Nat → Except ε β) (s : Nat) : (scopedRun true raised body s).2 = s := by
  unfold scopedRun; split <;> rfl

/-- **C06 (history, settings)**: with `finally`, every history — failed extractions included — leaves the setting as it was -/
theorem finally_history_free {ε β} (raised : Nat) (bodies : List (Nat → Except ε β)) (s : Nat) :
    runAll true raised bodies s = s := by
  induction bodies generalizing s with
  | nil => rfl
  | cons b bs ih => simp [runAll, finally_frame, ih]

theorem finally_probe_history_free {ε β} (raised depth : Nat) (bodies : List (Nat → Except ε β)) (s : Nat) :
    probe depth (runAll true raised bodies s) = probe depth s := by rw [finally_history_free]

/-- without it: ONE failed extraction leaves the raised value behind -/
theorem bare_yield_leaks {ε β} (raised s : Nat) (e : ε) (body : Nat → Except ε β)
    (hf : body (max s raised) = .error e) (hr : s < raised) : (scopedRun false raised body s).2 = raised := by
  simp [scopedRun, hf]; omega

/-- … whereas successful extractions do not (which is why only a FAILED predecessor shows the leak) -/
theorem bare_yield_ok_frame {ε β} (raised s : Nat) (v : β) (body : Nat → Except ε β)
    (hf : body (max s raised) = .ok v) : (scopedRun (ε := ε) false raised body s).2 = s := by
  simp [scopedRun, hf]

/-- … and every document whose need lies between the old and the raised value then yields something else than in a fresh process -/
theorem leak_history_dependent {ε β} (raised s depth : Nat) (e : ε) (body : Nat → Except ε β)
    (hf : body (max s raised) = .error e) (h₁ : s ≤ depth) (h₂ : depth < raised) :
    probe depth (runAll false raised [body] s) ≠ probe depth s := by
  have hr : s < raised := by omega
  have hl : runAll false raised [body] s = raised := by simp [runAll, bare_yield_leaks raised s e body hf hr]
  rw [hl]
  have a : probe depth raised = true := by simp [probe, h₂]
  have b : probe depth s = false := by simp [probe]; omega
  rw [a, b]; decide

/-- the current source changes no interpreter-wide setting without putting it back in a `finally` … -/
theorem interp_writes_restored : interpWrites.all (fun w => w.2.2.2) = true := by decide

/-- … and has no generator context manager whose exit code is skipped when the managed block raises -/
theorem no_bare_yield_managers : bareYieldManagers = [] := by decide

example : collectCompleted (fun m : Nat => [m]) [1, 2] [2, 1] = [2, 1] ∧ collectSubmitted (fun m : Nat => [m]) [1, 2] [2, 1] = [1, 2] := by decide
example : (scopedRun (β := Unit) false 12000 (fun l => if 13000 < l then .ok () else .error "RecursionError") 1000).2 = 12000 := by decide
example : probe 1500 1000 = false ∧ probe 1500 12000 = true := by decide
example : concurrencyUses.length ≥ 2 := by decide

end S2T.C06Sched
