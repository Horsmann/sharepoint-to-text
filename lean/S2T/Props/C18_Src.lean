import S2T.Lemmas.PySharePoint
import S2T.Gen.PyClient
/-!
# C18 (source tie) — the translated filter functions of `sharepoint_io/client.py` ARE the hand model `S2T.SP`

`S2T.Gen.PyClient` is regenerated from the current text of `client.py` on every run (`tools/gen/pyfun_paths.py`,
construct by construct).  For every filter object, every file-metadata object, every `str.lower`,
`fnmatch.fnmatch` and `datetime.fromisoformat` (fields of `SpEnv`, universally quantified):

* `SharePointFileMetadata.get_full_path`  = `FileMeta.fullPath`             (`get_full_path_eq`)
* `_parse_iso_datetime`                   = `parseIso Cfg.fixed`            (`parse_iso_datetime_eq`): the `Z`
  rewrite, the cut at the first `.`, the time-zone search (`+`, else `-`), the digit test and the padding of the
  fraction — every branch, every string;
* `FileFilter.matches`                    = `matchesF Cfg.fixed`            (`matches_eq`): both date blocks (inclusive
  lower, exclusive upper bound), the extension test, the pattern test, in this order, and it never raises;
* `FileFilter.get_target_folders`         = the `folder_paths` field        (`get_target_folders_eq`).

Hypotheses, all about the environment (what the functions do outside them is stated as well):
* `IsoRaisesValueError`: `datetime.fromisoformat` raises nothing but `ValueError` or `AttributeError` — any other
  exception is outside the `except (ValueError, AttributeError)` clause and propagates;
* `WholeSecond` / `DatesOk`: what `fromisoformat` returns for the fraction-free string has no microseconds.
  Outside it source and model DIFFER (`comma_fraction_counterexample`): a finding about the model, which adds the
  fraction where the source replaces the microseconds.
* datetimes are aware instants (`S2T.Py.DateTime`, µs since the epoch): a naive bound compared with an aware
  timestamp raises `TypeError` in Python and is outside the model `S2T.SP` as well.
-/
-- one simp set (`py_iso_simp`) serves every leaf of a case split; a leaf does not use all of it
set_option linter.unusedSimpArgs false
namespace S2T.C18.Src
open S2T.Py S2T.SP S2T.Gen.PyClient

/-- the translator understood every construct of the whitelisted functions -/
theorem gen_py_notes_empty : S2T.Gen.PyClient.notes = [] := by decide

/-- the functions this file ties (a renamed / removed function breaks this) -/
theorem gen_py_translated : S2T.Gen.PyClient.translated =
    ["SharePointFileMetadata.get_full_path", "_parse_iso_datetime", "FileFilter.matches",
     "FileFilter.get_target_folders"] := by decide

/-- the model's `iso` parameter read off the environment: `datetime.fromisoformat` as µs since the epoch,
    `none` when it raises -/
def isoOf (env : SpEnv) : Py.Str → Option Int := fun s =>
  match env.fromisoformat s with
  | .ok d => some d.us
  | .error _ => none

/-- `datetime.fromisoformat` raises nothing but what `_parse_iso_datetime` catches (`except (ValueError, AttributeError)`);
    documented is `ValueError` only -/
def IsoRaisesValueError (env : SpEnv) : Prop :=
  ∀ s e, env.fromisoformat s = .error e → (e.isa "ValueError" || e.isa "AttributeError") = true

/-- the string `_parse_iso_datetime` hands to `fromisoformat` after cutting a fraction out (`none`: no `.`) -/
def dotArg (s0 : Py.Str) : Option Py.Str :=
  let s := if s0.getLast? = some 'Z' then s0.dropLast ++ "+00:00".toList else s0
  if s.contains '.' then
    let rest := (s.dropWhile (· ≠ '.')).drop 1
    some (s.takeWhile (· ≠ '.') ++ (match tzIndex rest with | some i => rest.drop i | none => []))
  else none

/-- what `fromisoformat` returns for the fraction-free string has no microseconds of its own -/
def WholeSecond (env : SpEnv) (s0 : Py.Str) : Prop :=
  ∀ a d, dotArg s0 = some a → env.fromisoformat a = .ok d → d.us % 1000000 = 0

/-- monad plumbing and Boolean facts the leaves of `parse_iso_datetime_eq` reduce with (no arithmetic, no
    unfolding of the model's digit functions) -/
macro "py_iso_simp" "[" ts:Lean.Parser.Tactic.simpLemma,* "]" : tactic => `(tactic| (
  simp +instances only [$ts,*, isoOf, Cfg.fixed, M.pure_def, M.throw_def, M.ok_bind', M.error_bind', M.tryCatch_ok',
    M.tryCatch_error', truthy_list, List.isEmpty_cons, List.isEmpty_nil, Bool.not_false, Bool.not_true, Bool.and_true,
    Bool.true_and, Bool.and_false, Bool.false_and, Bool.not_not, Bool.false_eq_true, if_true, if_false, ite_true,
    ite_false, Option.map_some, Option.map_none, ascii_and_isdigit, isdigit_and_ascii, slice_to_six, reduceCtorEq,
    List.all_nil, decide_true, decide_false]
  try rfl))

/-- leaf of `parse_iso_datetime_eq`: `fromisoformat ARG` raised / returned, the fraction `F` is empty / a run of
    digits / something else -/
macro "py_iso_case" env:ident hV:ident hW:ident F:term:max ARG:term:max : tactic => `(tactic| (
  rcases hi : SpEnv.fromisoformat $env $ARG with e | d
  · have hve := $hV _ _ hi
    py_iso_simp [hi, hve]
  · rcases hf : ($F : Py.Str) with _ | ⟨c, f'⟩
    · py_iso_simp [hi, hf]
    · rcases hd : (c :: f').all isAsciiDigit
      · py_iso_simp [hi, hf, hd]
      · have hw := $hW _ _ rfl hi
        have hk := microOf_lt _ hd
        have hint := intOfStr_padded $env _ hd
        simp +instances only [hf]
        -- the value of the fraction stays opaque (unfolding it makes the definitional checks explode)
        generalize microOf (c :: f') = m at hk hint ⊢
        py_iso_simp [hi, hd, hint, dtReplace_whole _ _ hk hw]))

-- the closed `Int` facts about the `-1` of `str.find` are handed over as `show … from rfl`: a `simp only` set has neither
-- the simprocs nor `decide` to evaluate them
/-- the body of `_parse_iso_datetime` after the `Z` rewrite, `s` being the string it then works on -/
macro "py_iso_body" env:ident hV:ident hW:ident s:ident : tactic => `(tactic| (
  rcases hdot : List.contains $s '.'
  · rcases hi : SpEnv.fromisoformat $env $s with e | d
    all_goals (
      try have hve := $hV _ _ hi
      try simp only [Bool.or_eq_true] at hve
      simp +instances only [strContainsChar, hdot, Bool.false_eq_true, if_false]
      simp +instances [hi, isoOf, EarlyReturn.runK, EarlyReturnT.return, *]
      try rfl)
  · simp +instances only [strContainsChar, hdot, splitOnce_of_contains _ _ hdot, unpack2_pair, if_true,
      M.ok_bind] at $hW:ident ⊢
    generalize List.takeWhile (· ≠ '.') $s = base at $hW:ident ⊢
    generalize List.drop 1 (List.dropWhile (· ≠ '.') $s) = rest at $hW:ident ⊢
    rcases hp : rest.findIdx? (· == '+') with _ | ip <;> rcases hm : rest.findIdx? (· == '-') with _ | im
    · simp +instances only [tzIndex, hp, hm, strFindChar_none _ _ hp, strFindChar_none _ _ hm, List.append_nil,
        show ((-1 : Int) == -1) = true from rfl, show ((-1 : Int) != -1) = false from rfl,
        show decide ((-1 : Int) < 0) = true from rfl, show decide ((-1 : Int) ≥ 0) = false from rfl,
        show decide ((-1 : Int) ≤ -1) = true from rfl, show decide ((-1 : Int) > -1) = false from rfl,
        show decide ((0 : Int) > -1) = true from rfl, show decide ((0 : Int) ≤ -1) = false from rfl, if_true,
        Bool.false_eq_true, if_false] at $hW:ident ⊢
      py_iso_case $env $hV $hW rest base
    · simp +instances only [tzIndex, hp, hm, strFindChar_none _ _ hp, strFindChar_some _ _ _ hm, natCast_beq_neg_one,
        natCast_bne_neg_one, pSlice_to_nat, pSlice_from_nat, natCast_lt_zero, natCast_ge_zero, zero_le_natCast,
        zero_gt_natCast, decide_true, decide_false,
        show ((-1 : Int) == -1) = true from rfl, show decide ((-1 : Int) < 0) = true from rfl,
        show decide ((-1 : Int) ≤ -1) = true from rfl, show decide ((0 : Int) > -1) = true from rfl,
        if_true, Bool.false_eq_true, if_false] at $hW:ident ⊢
      py_iso_case $env $hV $hW (rest.take im) (base ++ rest.drop im)
    · simp +instances only [tzIndex, hp, hm, strFindChar_some _ _ _ hp, natCast_beq_neg_one,
        natCast_bne_neg_one, pSlice_to_nat, pSlice_from_nat, natCast_lt_zero, natCast_ge_zero, zero_le_natCast,
        zero_gt_natCast, decide_true, decide_false, if_true, Bool.false_eq_true, if_false] at $hW:ident ⊢
      py_iso_case $env $hV $hW (rest.take ip) (base ++ rest.drop ip)
    · simp +instances only [tzIndex, hp, hm, strFindChar_some _ _ _ hp, natCast_beq_neg_one,
        natCast_bne_neg_one, pSlice_to_nat, pSlice_from_nat, natCast_lt_zero, natCast_ge_zero, zero_le_natCast,
        zero_gt_natCast, decide_true, decide_false, if_true, Bool.false_eq_true, if_false] at $hW:ident ⊢
      py_iso_case $env $hV $hW (rest.take ip) (base ++ rest.drop ip)))

/-- the equation for a string that does not end in `Z`: the `Z` rewrite is skipped and the rest of the function works
    on the string itself -/
private theorem parse_iso_noZ (env : SpEnv) (s : Py.Str) (hV : IsoRaisesValueError env) (hW : WholeSecond env s)
    (hz : s.getLast? ≠ some 'Z') :
    _parse_iso_datetime env s = pure ((parseIso Cfg.fixed (isoOf env) s).map DateTime.mk) := by
  have hZ : endswith s "Z".toList = decide (s.getLast? = some 'Z') := endswith_singleton _ _
  unfold WholeSecond dotArg at hW
  unfold _parse_iso_datetime parseIso
  simp only [hZ, hz, decide_false, Bool.false_eq_true, if_false] at hW ⊢
  py_iso_body env hV hW s

/-- **`_parse_iso_datetime` is `parseIso`** (fixed configuration: fractions are kept), for every string -/
theorem parse_iso_datetime_eq (env : SpEnv) (s0 : Py.Str) (hV : IsoRaisesValueError env) (hW : WholeSecond env s0) :
    _parse_iso_datetime env s0 = pure ((parseIso Cfg.fixed (isoOf env) s0).map DateTime.mk) := by
  by_cases hz : s0.getLast? = some 'Z'
  · -- a final `Z`: source and model both go on as they do for `…+00:00`, which does not end in `Z`
    have hZ : ∀ s : Py.Str, endswith s "Z".toList = decide (s.getLast? = some 'Z') := fun s => endswith_singleton _ _
    have hz' : (s0.dropLast ++ "+00:00".toList).getLast? ≠ some 'Z' := by
      have : "+00:00".toList.getLast? = some '0' := by decide
      rw [List.getLast?_append, this]
      simp
    have e1 : _parse_iso_datetime env s0 = _parse_iso_datetime env (s0.dropLast ++ "+00:00".toList) := by
      unfold _parse_iso_datetime
      -- (the handler's re-raise drops the variables it is handed: `M.error_bind'`)
      simp only [hZ, hz, hz', decide_true, decide_false, Bool.false_eq_true, if_true, if_false, pSlice_dropLast,
        M.throw_def, M.error_bind']
    have e2 : parseIso Cfg.fixed (isoOf env) s0 = parseIso Cfg.fixed (isoOf env) (s0.dropLast ++ "+00:00".toList) := by
      unfold parseIso
      simp only [hz, hz', if_true, if_false]
    have hW' : WholeSecond env (s0.dropLast ++ "+00:00".toList) := by
      unfold WholeSecond dotArg at hW ⊢
      simpa only [hz, hz', if_true, if_false] using hW
    rw [e1, e2]
    exact parse_iso_noZ env _ hV hW' hz'
  · exact parse_iso_noZ env s0 hV hW hz

/-- the model's `FileMeta` of a metadata object (`parent_path = None` is the model's empty parent) -/
def metaOf (fm : SpFileMeta) : FileMeta :=
  { name := fm.name, id := fm.id, created := fm.created, modified := fm.lastModified, parent := fm.parentPath.getD [] }

/-- **`get_full_path` is `FileMeta.fullPath`** (never raises: the f-string is only reached with a parent) -/
theorem get_full_path_eq (fm : SpFileMeta) :
    SharePointFileMetadata.get_full_path fm = pure (metaOf fm).fullPath := by
  obtain ⟨name, id, created, modified, parent⟩ := fm
  rcases parent with _ | _ | ⟨c, r⟩ <;>
  simp +instances [SharePointFileMetadata.get_full_path, FileMeta.fullPath, metaOf]

/-- `get_target_folders` returns the `folder_paths` field itself -/
theorem get_target_folders_eq (f : FileFilter) : FileFilter.get_target_folders f = f.folderPaths := by
  simp [FileFilter.get_target_folders, Id.run, pure]

/-- the model's `Filter` of a `FileFilter` object (datetimes as µs since the epoch) -/
def filterOf (f : FileFilter) : Filter :=
  { createdAfter := f.createdAfter.map (·.us), createdBefore := f.createdBefore.map (·.us),
    modifiedAfter := f.modifiedAfter.map (·.us), modifiedBefore := f.modifiedBefore.map (·.us),
    patterns := f.pathPatterns, extensions := f.extensions }

/-- the date strings of a metadata object parse within the model's assumptions -/
def DatesOk (env : SpEnv) (fm : SpFileMeta) : Prop :=
  (∀ s, fm.created = some s → WholeSecond env s) ∧ (∀ s, fm.lastModified = some s → WholeSecond env s)

/-- the leaves of a date block: the two bounds absent / present, the raw string absent / empty / there, its parse
    failing / succeeding (`hp`: what `_parse_iso_datetime` returns for that string); the continuation has
    already been replaced by its value, so every leaf is a small Boolean identity -/
macro "py_date_block" env:ident a:ident b:ident raw:ident hp:ident : tactic => `(tactic| (
  rcases $raw:ident with _ | s
  · rcases $a:ident with _ | a <;> rcases $b:ident with _ | b <;>
    simp +instances [matchesF, dateOk, filterOf, metaOf, M.ite_ok]
  · simp +instances only [unwrap_some, M.ok_bind', M.pure_def, $hp:ident _ rfl, matchesF, dateOk, filterOf, metaOf]
    generalize parseIso Cfg.fixed (isoOf $env) s = P
    rcases $a:ident with _ | a <;> rcases $b:ident with _ | b <;> rcases s with _ | ⟨c, r⟩ <;> rcases P with _ | t <;>
    simp +instances [M.ite_ok] <;>
    grind))

/-- what makes a date block without bounds disappear, however its test is written (`if a or b`, `is not None`, …) -/
macro "py_dead_block" "at" h:ident : tactic => `(tactic| (
  dsimp +instances only at $h:ident ⊢
  try simp +instances only [truthy_none, Option.isSome_none, Option.isNone_none, Bool.or_self, Bool.or_false,
    Bool.false_or, Bool.and_false, Bool.false_and, Bool.not_true, Bool.not_false, Bool.false_eq_true,
    Bool.true_eq_false, if_false, if_true, ne_eq, not_true_eq_false, not_false_eq_true, reduceCtorEq, decide_false,
    decide_true, or_self, or_false, false_or, and_false, false_and] at $h:ident ⊢))

/-- what a date block needs: no bound to test, or the raw string parses as the model says -/
private def BlockOk (env : SpEnv) (a b : Option DateTime) (raw : Option Py.Str) : Prop :=
  (a = none ∧ b = none) ∨
    ∀ s, raw = some s → _parse_iso_datetime env s = pure ((parseIso Cfg.fixed (isoOf env) s).map DateTime.mk)

/-- `FileFilter.matches` is four blocks, each of which may only say no and otherwise goes on with the rest.  The
    rest of a block is a continuation of the translated text; `extract_lets` names the last two: `kT`, what follows
    both date blocks, and `k1`, what follows the first.  Each gets its value once, and a block is then read against
    a continuation that is a variable.  Nothing depends on the order of the blocks: the tail is normalised as a
    whole, and the date blocks are tried in both orders. -/
private theorem matches_blocks (env : SpEnv) (f : FileFilter) (fm : SpFileMeta)
    (hc : BlockOk env f.createdAfter f.createdBefore fm.created)
    (hm : BlockOk env f.modifiedAfter f.modifiedBefore fm.lastModified) :
    FileFilter.matches env f fm
      = pure (matchesF Cfg.fixed (isoOf env) env.lower env.fnmatch (filterOf f) (metaOf fm)) := by
  obtain ⟨ca, cb, ma, mb, folders, pats, exts⟩ := f
  obtain ⟨name, id, created, modified, parent⟩ := fm
  dsimp only [BlockOk] at hc hm
  unfold FileFilter.matches
  extract_lets _ _ _ kT k1
  have hT : kT () = pure (extOk env.lower exts name &&
      patOk env.fnmatch pats (metaOf ⟨name, id, created, modified, parent⟩).fullPath) := by
    -- (definitions are unfolded first and by `dsimp`, which reaches the `Decidable` instances of the `if`s)
    dsimp +zetaDelta +instances only [kT, endswith, truthy_list, extOk, patOk]
    simp +instances only [get_full_path_eq, M.pure_def, M.ok_bind, M.ite_ok, Bool.not_not]
    generalize exts.isEmpty = a, exts.any _ = b, pats.isEmpty = c, pats.any _ = d
    cases a <;> cases b <;> cases c <;> cases d <;> rfl
  simp only [matchesF, filterOf, metaOf, Bool.and_assoc] at hT ⊢
  generalize (extOk env.lower exts name && patOk env.fnmatch pats _) = vT at hT ⊢
  -- the source has the created block first, so `k1` follows it and the first alternative is the one that runs; the
  -- second is the same script for a source with the two date blocks swapped
  first
  | (have h1 : k1 () = pure (dateOk Cfg.fixed (isoOf env) modified (ma.map (·.us)) (mb.map (·.us)) && vT) := by
       simp only [k1, hT]
       rcases hm with ⟨rfl, rfl⟩ | hp
       · rfl
       · py_date_block env ma mb modified hp
     clear_value k1
     simp only [h1]
     generalize (dateOk Cfg.fixed (isoOf env) modified _ _ && vT) = v
     rcases hc with ⟨rfl, rfl⟩ | hp
     · rfl
     · py_date_block env ca cb created hp)
  | (have h1 : k1 () = pure (dateOk Cfg.fixed (isoOf env) created (ca.map (·.us)) (cb.map (·.us)) && vT) := by
       simp only [k1, hT]
       rcases hc with ⟨rfl, rfl⟩ | hp
       · rfl
       · py_date_block env ca cb created hp
     clear_value k1
     simp only [h1, Bool.and_left_comm (dateOk Cfg.fixed (isoOf env) created _ _)]
     generalize (dateOk Cfg.fixed (isoOf env) created _ _ && vT) = v
     rcases hm with ⟨rfl, rfl⟩ | hp
     · rfl
     · py_date_block env ma mb modified hp)

/-- no date bound at all: extensions and patterns only -/
theorem matches_no_dates (env : SpEnv) (f : FileFilter) (fm : SpFileMeta)
    (h : f.createdAfter = none ∧ f.createdBefore = none ∧ f.modifiedAfter = none ∧ f.modifiedBefore = none) :
    FileFilter.matches env f fm
      = pure (matchesF Cfg.fixed (isoOf env) env.lower env.fnmatch (filterOf f) (metaOf fm)) :=
  matches_blocks env f fm (.inl ⟨h.1, h.2.1⟩) (.inl h.2.2)

/-- no creation bound: the modification block, then extensions and patterns -/
theorem matches_no_created (env : SpEnv) (f : FileFilter) (fm : SpFileMeta) (hV : IsoRaisesValueError env)
    (hD : DatesOk env fm) (h : f.createdAfter = none ∧ f.createdBefore = none) :
    FileFilter.matches env f fm
      = pure (matchesF Cfg.fixed (isoOf env) env.lower env.fnmatch (filterOf f) (metaOf fm)) :=
  matches_blocks env f fm (.inl h) (.inr fun s hs => parse_iso_datetime_eq env s hV (hD.2 s hs))

/-- no modification bound -/
theorem matches_no_modified (env : SpEnv) (f : FileFilter) (fm : SpFileMeta) (hV : IsoRaisesValueError env)
    (hD : DatesOk env fm) (h : f.modifiedAfter = none ∧ f.modifiedBefore = none) :
    FileFilter.matches env f fm
      = pure (matchesF Cfg.fixed (isoOf env) env.lower env.fnmatch (filterOf f) (metaOf fm)) :=
  matches_blocks env f fm (.inr fun s hs => parse_iso_datetime_eq env s hV (hD.1 s hs)) (.inl h)

/-- **`FileFilter.matches` is `matchesF`** (fixed configuration) at the model's view of the filter and of the
    metadata object: for every filter, every metadata object whose date strings parse within the model's
    assumptions (`DatesOk`), every `str.lower`, `fnmatch.fnmatch` and `datetime.fromisoformat` that raises only
    what `_parse_iso_datetime` catches (`IsoRaisesValueError`).  It never raises. -/
theorem matches_eq (env : SpEnv) (f : FileFilter) (fm : SpFileMeta) (hV : IsoRaisesValueError env)
    (hD : DatesOk env fm) :
    FileFilter.matches env f fm
      = pure (matchesF Cfg.fixed (isoOf env) env.lower env.fnmatch (filterOf f) (metaOf fm)) :=
  matches_blocks env f fm (.inr fun s hs => parse_iso_datetime_eq env s hV (hD.1 s hs))
    (.inr fun s hs => parse_iso_datetime_eq env s hV (hD.2 s hs))

/-- a toy standard library: `fromisoformat` knows one timestamp, everything else is a `ValueError` -/
def toyEnv : SpEnv :=
  { lower := id, fnmatch := fun a p => a == p,
    fromisoformat := fun s => if s = "2024-01-15T10:00:00+00:00".toList then pure ⟨1705312800000000⟩ else throw pValueError,
    isdigitOther := fun _ => false, intOther := fun _ => throw pValueError }

example : IsoRaisesValueError toyEnv := by
  intro s e h
  simp only [toyEnv] at h
  split at h
  · cases h
  · cases h; rfl

example : ∀ s, WholeSecond toyEnv s := by
  intro s a d _ h
  simp only [toyEnv] at h
  split at h
  · cases h; decide
  · cases h

/-- `datetime.fromisoformat` of Python ≥ 3.11 also accepts a COMMA as decimal mark.  For `…T10:00:00,25.5Z` the source
    cuts `.5` out, parses `…T10:00:00,25+00:00` (250000 µs) and then REPLACES the microseconds by 500000; the hand
    model ADDS the fraction to what `iso` returned (750000 µs).  The model is exact only when `iso`'s answer has no
    microseconds of its own — the hypothesis `WholeSecond`.  (The real function answers `….500000`.) -/
def commaEnv : SpEnv :=
  { lower := id, fnmatch := fun _ _ => true, fromisoformat := fun _ => pure ⟨250000⟩,
    isdigitOther := fun _ => false, intOther := fun _ => throw pValueError }

theorem comma_fraction_counterexample :
    _parse_iso_datetime commaEnv "T,25.5Z".toList = .ok (some ⟨500000⟩)
    ∧ (parseIso Cfg.fixed (isoOf commaEnv) "T,25.5Z".toList).map DateTime.mk = some ⟨750000⟩
    ∧ ¬ WholeSecond commaEnv "T,25.5Z".toList := by
  refine ⟨by decide +kernel, by decide +kernel, ?_⟩
  intro h
  have := h "T,25+00:00".toList ⟨250000⟩ (by decide +kernel) rfl
  revert this
  decide

end S2T.C18.Src
