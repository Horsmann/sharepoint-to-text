import S2T.Lemmas.LoopWitness
/-!
# C12 — the loop models on the amplifying witnesses

Instances of `pngCarve_pngAmplifier` and `slideListCost_pptNest` (`Lemmas/LoopWitness.lean`: every size whose length fields fit 32 bits).  The same
witnesses are replayed on the real code by `harness/props/c12.py:known_witnesses`, which compares the real
iteration counts with these numbers.
-/
namespace S2T.C12.Witness
open S2T.Loops

theorem pngCarve_amplifier_15 :
    (pngAmplifier 15 15).length = 424 ∧ (pngCarve (pngAmplifier 15 15) 0).2.2 = 240 :=
  ⟨pngAmplifier_length 15 15, congrArg (·.2.2) (pngCarve_pngAmplifier 15 15 (by decide))⟩

/-- twice the input, four times the work -/
theorem pngCarve_amplifier_30 :
    (pngAmplifier 30 30).length = 844 ∧ (pngCarve (pngAmplifier 30 30) 0).2.2 = 930 :=
  ⟨pngAmplifier_length 30 30, congrArg (·.2.2) (pngCarve_pngAmplifier 30 30 (by decide))⟩

theorem slideList_nest_20 :
    (pptNest 20).length = 160 ∧ slideListCost 4080 (pptNest 20) = (210, 10640) :=
  ⟨pptNest_length 20, slideListCost_pptNest 20 (by decide)⟩

/-- twice the input: four times the iterations, eight times the bytes copied -/
theorem slideList_nest_40 :
    (pptNest 40).length = 320 ∧ slideListCost 4080 (pptNest 40) = (820, 85280) :=
  ⟨pptNest_length 40, slideListCost_pptNest 40 (by decide)⟩

end S2T.C12.Witness
