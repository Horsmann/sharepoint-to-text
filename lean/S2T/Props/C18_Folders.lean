import S2T.Lemmas.SharePointFolders
import S2T.Gen.SharePoint
import S2T.Lemmas.Chars
/-!
# C18, part "start folders by path (`folder_paths`) and lazy delivery"

The part of the model this file is about (`S2T/Model/SharePoint.lean`, section "start folders addressed by path"):
`FileFilter.folder_paths` → `list_files_filtered` → `_walk_and_filter` → `_get_folder_by_path`
(`strip("/")`, `quote(·, safe="/")`, the by-path request, the `folder` facet test, the 404 → "no such folder"
rule) → `_walk_drive_items` below the folder found, with parent paths relative to the drive root; and the
GENERATOR semantics of `list_files_filtered` / `_walk_drive_items` / `_list_items_paginated`: a run is the
list of values handed to the consumer plus how it ended (`Part`).

Quantifiers: every library `L`, page size `n > 0`, fuel at least `L.size + 2`, every consistent client state,
every filter / `fromisoformat` / `lower` / `fnmatch`, every LIST of start folders `sts`, each given as the
string the caller wrote (`raw`) with the components it denotes (`comps`): any number of outer slashes, names of
any characters except `/` (quoting is part of the model).  Fault theorems: every transport.

The full-strength statement is FALSE in two places on the current tree (both reproduced on the real client,
`known_findings.jsonl`: `folder_paths.duplicate`, `fault.not-raised.folder-lookup-404`):
  * "exactly once" fails when a listed folder is an ancestor of, or equal to, another one →
    `C18_folders_once_partial` (hypothesis `Indep`), `C18_folders_overlap_twice` / `duplicate_counterexample`;
  * "a failed request makes the call raise" fails for status 404 at the by-path lookup of a start folder →
    `C18_folders_fault_partial` / `C18_lazy_prefix_partial` (hypothesis `¬ IsNotFound o`), `lookup_404_swallowed`.
-/
namespace S2T.C18.Folders
open S2T.SP

/-- the characters `_get_folder_by_path` leaves unquoted (probed on the real method for every printable ASCII
    character and cross-checked with the `safe="/"` literal) are those of the model -/
theorem gen_quote_safe :
    ∀ n, n < 127 → 32 ≤ n → quoteSafe (Char.ofNat n) = S2T.Gen.SharePoint.keptAscii.contains n := by decide +kernel

/-- only `/` is stripped at the ends of a start folder -/
theorem gen_strip_chars :
    ∀ n, n < 127 → 32 ≤ n → (Char.ofNat n == '/') = S2T.Gen.SharePoint.strippedAscii.contains n := by decide +kernel

/-- the statuses the real `_get_folder_by_path` takes for "no such folder" (probed for 100..599, cross-checked
    with the integer literals of its source) are the model's: 404 only -/
theorem gen_not_found_status :
    ∀ st, st < 600 → 100 ≤ st →
      notFound (.request (some st) .site) = S2T.Gen.SharePoint.notFoundStatuses.contains st := by decide +kernel

/-- a start folder: `raw` is the string in `folder_paths`, `comps` the path components it denotes -/
structure Start where
  raw : Str
  comps : List Str

/-- components are non-empty and `/`-free, `raw` is the components joined by single slashes with any number of
    outer slashes; no components only for `raw = ""` (a falsy entry: the whole drive) -/
def Start.Ok (st : Start) : Prop :=
  ValidComps st.comps ∧ stripSlash st.raw = joinPath st.comps ∧ (st.comps = [] → st.raw = [])

private theorem Start.Ok.denotes {st : Start} (h : st.Ok) : Denotes st.raw st.comps := ⟨h.1, h.2.1, h.2.2⟩

/-- every decorated spelling `//a/b c/d%/` of a canonical path is covered -/
theorem C18_start_decorated (a b : Nat) (cs : List Str) (hv : ValidComps cs) (hne : cs ≠ []) :
    Start.Ok ⟨List.replicate a '/' ++ joinPath cs ++ List.replicate b '/', cs⟩ :=
  ⟨hv, stripSlash_decorate a b _ (joinPath_head cs hv) (joinPath_last cs hv), fun h => absurd h hne⟩

theorem C18_start_root : Start.Ok ⟨[], []⟩ := ⟨(by intro c hc; cases hc), rfl, fun _ => rfl⟩

/-- REQUEST URL: the start folder is looked up under the percent-encoding of its components joined by `/`
    (`quote` keeps `/`, never produces one, and is injective: different folders, different URLs) -/
theorem C18_start_url (st : Start) (h : st.Ok) :
    quote (stripSlash st.raw) = joinPath (st.comps.map quote) ∧
    splitSlash (quote (stripSlash st.raw)) = st.comps.map quote ∧
    (∀ s1 s2 : Str, quote s1 = quote s2 → s1 = s2) := by
  rw [h.denotes.strip, quote_joinPath]
  exact ⟨rfl, splitSlash_joinPath _ (validComps_map_quote h.denotes.valid), quote_injective⟩

/-- what the client hands out for a list of start folders: folder after folder in the order listed, each in
    client order (a folder's own files, page by page, then its sub-folders in page order), filtered -/
def expected (keep : FileMeta → Bool) (L : Lib) (sts : List Start) : List FileMeta :=
  if sts = [] then (clientListing [] L).filter keep
  else sts.flatMap (fun st => (clientAt st.comps L).filter keep)

/-- COMPLETE, EXACT, ORDER.  Against the healthy server of any library, with any page size, from any consistent
    client state and for any list of start folders, the generator `list_files_filtered` ends normally after
    having handed out exactly `expected`: for each listed folder that exists (and is a folder) the matching
    files below it with parent paths relative to the drive root, nothing for a missing folder or a file,
    in the order listed. -/
theorem C18_folders_complete (iso : Str → Option Int) (lower : Str → Str) (glob : Str → Str → Bool) (f : Filter)
    (L : Lib) (n : Nat) (hn : 0 < n) (hL : resolves L L = true) (fuel : Nat) (hf : L.size + 2 ≤ fuel)
    (sts : List Start) (hsts : ∀ st ∈ sts, st.Ok) (s : St) (hs : Consistent s) :
    ∃ s', listFilteredL .fixed (healthy L n) iso lower glob f (sts.map (·.raw)) fuel s =
        (⟨expected (matchesF .fixed iso lower glob f) L sts, none⟩, s') ∧ Consistent s' := by
  obtain ⟨s', h⟩ := listFilteredL_healthy .fixed L n Start.raw Start.comps iso lower glob f hn hL fuel hf sts
    (fun st h => (hsts st h).denotes) s hs
  -- the cache stays consistent because the healthy server is site-honest, whatever is returned
  have hc := listFilteredL_pres (consistent_pres .fixed rfl _ (siteHonest_healthy L n)) iso lower glob f
    (sts.map (·.raw)) fuel s hs
  rw [h] at hc
  exact ⟨s', h, hc⟩

/-- … and what is handed out is, folder by folder, a rearrangement of the SPECIFICATION listing of that
    folder's subtree (`specAt`: document order, parent path = the folder's path from the drive root), each of
    which is a sub-listing of the complete listing of the drive: every entry returned is an entry of the complete
    listing with the same parent path — nothing outside the listed folders, nothing with a wrong path. -/
theorem C18_folders_exact (keep : FileMeta → Bool) (L : Lib) (st : Start) (h : st.Ok) :
    ((clientAt st.comps L).filter keep).Perm ((specAt st.comps L).filter keep) ∧
    (specAt st.comps L).Sublist (specListing [] L) ∧
    (∀ m, m ∈ (clientAt st.comps L).filter keep ↔ m ∈ specAt st.comps L ∧ keep m = true) := by
  have hp := (clientAt_perm st.comps L).filter keep
  refine ⟨hp, ?_, fun m => ?_⟩
  · rw [specAt_eq_subAt _ h.denotes.valid]; exact subAt_sublist _ _ _
  · rw [hp.mem_iff, List.mem_filter]

/-- the folder a path denotes: components are followed from the drive root by NAME (first child with that name
    that is a file or a folder); the listing below it carries the path built as `_walk_drive_items` builds it -/
theorem C18_specAt_unfold (c : Str) (cs : List Str) (L : Lib) (hv : ValidComps (c :: cs)) :
    specAt (c :: cs) L =
      match firstNamed (fun nm => nm == c) L with
      | some (.folder _ k) => subAt cs c k
      | _ => [] := by
  rw [specAt_eq_subAt _ hv]; rfl

/-- no listed folder is an ancestor-or-equal of another one: component-wise prefix, NOT string prefix -/
abbrev Independent (sts : List Start) : Prop := Indep (sts.map (·.comps))

/- FULL STRENGTH (false, known finding folder_paths.duplicate):
     ∀ sts, every entry of the complete listing is handed out at most as often as it occurs there. -/

/-- EXACTLY ONCE (partial): if no listed folder is an ancestor of, or equal to, another one, then no entry is
    handed out more often than the complete matching listing contains it — no file node is delivered twice. -/
theorem C18_folders_once_partial (keep : FileMeta → Bool) (L : Lib) (sts : List Start) (hne : sts ≠ [])
    (hsts : ∀ st ∈ sts, st.Ok) (hi : Independent sts) (x : FileMeta) :
    (expected keep L sts).count x ≤ ((specListing [] L).filter keep).count x := by
  have hperm : (expected keep L sts).Perm ((sts.flatMap (fun st => specAt st.comps L)).filter keep) := by
    unfold expected
    simpa only [hne, if_false, List.flatMap_map] using clientAt_flatMap_perm keep L (sts.map (·.comps))
  rw [hperm.count_eq]
  by_cases hk : keep x = true
  · rw [List.count_filter hk, List.count_filter hk]
    have := count_starts_le x L (sts.map (·.comps))
      (by intro cs hcs; rw [List.mem_map] at hcs; obtain ⟨st, hst, rfl⟩ := hcs; exact (hsts st hst).denotes.valid) hi
    rwa [List.flatMap_map] at this
  · have : ∀ l : List FileMeta, (l.filter keep).count x = 0 := by
      intro l
      rw [List.count_eq_zero]
      intro hm
      exact hk (List.mem_filter.mp hm).2
    rw [this, this]
    exact Nat.le_refl _

/-- … hence, when the entries of the complete listing are pairwise different (unique item ids), so are the
    entries handed out -/
theorem C18_folders_nodup (keep : FileMeta → Bool) (L : Lib) (sts : List Start) (hne : sts ≠ [])
    (hsts : ∀ st ∈ sts, st.Ok) (hi : Independent sts) (hnd : (specListing [] L).Nodup) :
    (expected keep L sts).Nodup := by
  rw [List.nodup_iff_count]
  intro x
  exact Nat.le_trans (C18_folders_once_partial keep L sts hne hsts hi x)
    (List.nodup_iff_count.mp (hnd.filter keep) x)

/-- the hypothesis is exact: a folder listed together with itself or with a folder below it yields every entry
    of the lower one (at least) twice -/
theorem C18_folders_overlap_twice (L : Lib) (a d : List Str) (hv : ValidComps (a ++ d)) (x : FileMeta)
    (hx : x ∈ specAt (a ++ d) L) : 2 ≤ (specAt a L ++ specAt (a ++ d) L).count x := by
  have hva : ValidComps a := fun c hc => hv c (List.mem_append_left _ hc)
  rw [specAt_eq_subAt _ hva, specAt_eq_subAt _ hv] at *
  have h1 := List.Sublist.count_le x (subAt_prefix_sublist a d [] L)
  have h2 : 0 < (subAt (a ++ d) [] L).count x := List.count_pos_iff.mpr hx
  rw [List.count_append]
  omega

/-- SIBLINGS whose names are string prefixes of one another (`Reports` / `Reports-old`, `Q1` / `Q10`) are NOT
    related: paths that differ in some component are independent, whatever follows -/
theorem C18_siblings_independent (pre : List Str) (a b : Str) (x y : List Str) (h : a ≠ b) :
    Indep [pre ++ a :: x, pre ++ b :: y] := by
  unfold Indep
  refine List.pairwise_cons.mpr ⟨?_, List.pairwise_cons.mpr ⟨(by intro _ h; cases h), List.Pairwise.nil⟩⟩
  intro z hz
  simp only [List.mem_singleton] at hz
  subst hz
  constructor
  · intro hp
    rw [List.prefix_append_right_inj, List.cons_prefix_cons] at hp
    exact h hp.1
  · intro hp
    rw [List.prefix_append_right_inj, List.cons_prefix_cons] at hp
    exact h hp.1.symm

example : "Reports".toList <+: "Reports-old".toList ∧
    Indep ["Reports".toList :: [], "Reports-old".toList :: ["Q1".toList]] :=
  ⟨⟨"-old".toList, by decide⟩, C18_siblings_independent [] _ _ _ _ (by decide)⟩

/-- RESOURCES: every response opened has been closed, whatever the transport does and however the generator ends -/
theorem C18_folders_balanced (t : Transport) (iso lower glob) (f : Filter) (folders : List Str) (fuel : Nat)
    (s : St) (hs : Bal s) : Bal (listFilteredL .fixed t iso lower glob f folders fuel s).2 :=
  listFilteredL_pres (bal_pres .fixed rfl t) iso lower glob f folders fuel s hs

/-- TRACE: every request made was answered normally or by a 404, except possibly the last one, and an error
    comes from the last request made -/
theorem C18_folders_trace (t : Transport) (iso lower glob) (f : Filter) (folders : List Str) (fuel : Nat) (s : St) :
    TrG t s.log (listFilteredL .fixed t iso lower glob f folders fuel s) :=
  listFilteredL_trG .fixed rfl iso lower glob f folders fuel s

theorem C18_folders_family (t : Transport) (iso lower glob) (f : Filter) (folders : List Str) (fuel : Nat)
    (s : St) (e : Err) (h : (listFilteredL .fixed t iso lower glob f folders fuel s).1.err = some e) :
    e.family = true ∨ e = .outOfFuel := by
  exact (C18_folders_trace t iso lower glob f folders fuel s).family (by unfold G.toR; rw [h])

/-- the consumer `list(gen)` of the generator without start folders is the eager model the other C18 theorems
    are about; `list_all_files` is `list(...)` of the walk -/
theorem C18_lazy_is_eager (c : Cfg) (t : Transport) (iso lower glob) (f : Filter) (fuel : Nat) (s : St) :
    (listFilteredL c t iso lower glob f [] fuel s).toR = listFiltered c t iso lower glob f fuel s ∧
    (listAllL c t fuel s).toR = listAll c t fuel s := by
  have hall := listAllL_toR c t fuel s
  refine ⟨?_, hall⟩
  -- without start folders the generator is the generator of the complete listing, filtered
  have hgen : listFilteredL c t iso lower glob f [] fuel s =
      (listAllL c t fuel s).filter (matchesF c iso lower glob f) := by
    unfold listFilteredL listAllL
    rcases getSiteId c t s with ⟨_ | site, s1⟩ <;> rfl
  rw [hgen, toR_filter, hall, listFiltered_eq]

/-- LAZY DELIVERY, any transport `t'` and `t` = `t'` with its k-th answer replaced by a failure other than a 404
    (for two transports that differ in one answer: `listFilteredL_rel`): from the same client state the run against
    `t` either IS the run against `t'`, or it ends in an error after handing out a PREFIX of what the run against
    `t'` hands out. -/
theorem C18_lazy_prefix_partial (t' : Transport) (k : Nat) (o : Outcome) (ho : ¬ Fine o) (h404 : ¬ IsNotFound o)
    (iso lower glob) (f : Filter) (folders : List Str) (fuel : Nat) (s : St) :
    let g := listFilteredL .fixed (faultAt k o t') iso lower glob f folders fuel s
    let g' := listFilteredL .fixed t' iso lower glob f folders fuel s
    g = g' ∨ ((∃ e, g.1.err = some e) ∧ g.1.out <+: g'.1.out) := by
  intro g g'
  have := listFilteredL_rel (c := .fixed) (t := faultAt k o t') (t' := t') (k := k)
    ⟨rfl, fun i u hi => if_neg hi, fun u h => by rw [faultAt, if_pos rfl] at h; exact h.elim ho h404⟩
    iso lower glob f folders fuel s
  rcases this with h | ⟨⟨e, he, _⟩, hp⟩
  · exact Or.inl h
  · exact Or.inr ⟨⟨e, he⟩, hp⟩

/- FULL STRENGTH (false, known finding fault.not-raised.folder-lookup-404): the same without `h404`. -/

/-- RETRY after ANY misbehaviour of the transport (any number of faults of any kind, 404s included) -/
theorem C18_folders_retry (iso lower glob) (f : Filter) (L : Lib) (n : Nat) (hn : 0 < n) (hL : resolves L L = true)
    (sts : List Start) (hsts : ∀ st ∈ sts, st.Ok) (t : Transport) (ht : SiteHonest t) (folders : List Str)
    (fuel : Nat) (s : St) (hs : Consistent s) (fuel' : Nat) (hf : L.size + 2 ≤ fuel') :
    ∃ s'', listFilteredL .fixed (healthy L n) iso lower glob f (sts.map (·.raw)) fuel'
        (listFilteredL .fixed t iso lower glob f folders fuel s).2 =
      (⟨expected (matchesF .fixed iso lower glob f) L sts, none⟩, s'') := by
  obtain ⟨s'', h2, _⟩ := C18_folders_complete iso lower glob f L n hn hL fuel' hf sts hsts _
    (listFilteredL_pres (consistent_pres .fixed rfl t ht) iso lower glob f folders fuel s hs)
  exact ⟨s'', h2⟩

/-- FAULT AT REQUEST k, with start folders (partial: any failing outcome `o` other than a 404).  If the run gets
    as far as request `k`, the generator raises an error of the client's family produced by that very request
    (status and URL for HTTPError / non-2xx, status `None` and URL for URLError), that request is the last one
    made, every opened response is closed, what was handed out BEFORE the error is a prefix of the complete
    fault-free listing (nothing wrong, nothing twice unless the complete listing has it twice), and calling
    again against the healthy server hands out the complete listing. -/
theorem C18_folders_fault_partial (iso : Str → Option Int) (lower : Str → Str) (glob : Str → Str → Bool)
    (f : Filter) (L : Lib) (n : Nat) (hn : 0 < n) (hL : resolves L L = true)
    (sts : List Start) (hsts : ∀ st ∈ sts, st.Ok)
    (k : Nat) (o : Outcome) (ho : ¬ Fine o) (h404 : ¬ IsNotFound o)
    (fuel : Nat) (hf : L.size + 2 ≤ fuel) (s : St) (hb : Bal s) (hs : Consistent s) (u : Url)
    (hmade : (k, u) ∈ (listFilteredL .fixed (faultAt k o (healthy L n)) iso lower glob f (sts.map (·.raw)) fuel s).2.log)
    (hnew : (k, u) ∉ s.log) :
    let g := listFilteredL .fixed (faultAt k o (healthy L n)) iso lower glob f (sts.map (·.raw)) fuel s
    ∃ e, g.1.err = some e ∧ e.family = true ∧ Raised o u e ∧
      (∀ code, o = .httpError code → e = .request (some code) u) ∧
      (o = .urlError → e = .request none u) ∧
      (∀ st b, o = .resp st b → ok2xx st = false → e = .request (some st) u) ∧
      (∃ rest, g.2.log = (k, u) :: rest) ∧ Bal g.2 ∧
      g.1.out <+: expected (matchesF .fixed iso lower glob f) L sts ∧
      ∀ fuel', L.size + 2 ≤ fuel' →
        ∃ s'', listFilteredL .fixed (healthy L n) iso lower glob f (sts.map (·.raw)) fuel' g.2 =
          (⟨expected (matchesF .fixed iso lower glob f) L sts, none⟩, s'') := by
  intro g
  obtain ⟨e, he, hra, hlast⟩ :=
    (C18_folders_trace (faultAt k o (healthy L n)) iso lower glob f (sts.map (·.raw)) fuel s).injected u
      (fun h => h.elim ho h404) hmade hnew
  have herr := toR_error he
  obtain ⟨s', hh, _⟩ := C18_folders_complete iso lower glob f L n hn hL fuel hf sts hsts s hs
  refine ⟨e, herr, hra.family, hra, fun _ hc => raised_httpError.mp (hc ▸ hra), fun hc => raised_urlError.mp (hc ▸ hra),
    fun _ _ hc hst => (raised_resp_bad hst).mp (hc ▸ hra), hlast, C18_folders_balanced _ iso lower glob f _ fuel s hb, ?_,
    C18_folders_retry iso lower glob f L n hn hL sts hsts _ ((siteHonest_healthy L n).faultAt k ho) _ fuel s hs⟩
  -- the faulted run is not the healthy one, which ends normally: so it stopped after a prefix of it
  rcases C18_lazy_prefix_partial (healthy L n) k o ho h404 iso lower glob f (sts.map (·.raw)) fuel s with h | ⟨_, hp⟩
  · rw [h, hh] at herr; cases herr
  · rw [hh] at hp; exact hp

def exF (nm : String) : FileItem := ⟨nm.toList, ("ID" ++ nm).toList, some "2024-01-15T10:00:00Z".toList, some "2024-01-15T10:00:00Z".toList⟩

/-- root.txt, Docs/{d1.pdf, "My Reports 50%"/{r1.pdf, r2.txt}}, Other/{o1.pdf} — the library of the witnesses
    in `harness/props/c18.py::_folder_path_cases` -/
def exLib : Lib :=
  .file (exF "root.txt")
    (.folder "Docs".toList "FD".toList
      (.file (exF "d1.pdf") (.folder "My Reports 50%".toList "FR".toList (.file (exF "r1.pdf") (.file (exF "r2.txt") .nil)) .nil))
      (.folder "Other".toList "FO".toList (.file (exF "o1.pdf") .nil) .nil))

def stOther : Start := ⟨"/Other".toList, ["Other".toList]⟩
def stReports : Start := ⟨"Docs/My Reports 50%/".toList, ["Docs".toList, "My Reports 50%".toList]⟩
def stDocs : Start := ⟨"Docs".toList, ["Docs".toList]⟩

example : resolves exLib exLib = true ∧ exLib.size + 2 ≤ 12 := by
  unfold exLib exF
  -- `exF` builds the ids with `++` on `String`: that append is split before the literals become character lists
  simp only [String.toList_append]
  decide_chars

private theorem valid_of_all (cs : List Str) (h : cs.all (fun c => !c.isEmpty && !c.contains '/') = true) : ValidComps cs :=
  validComps_of_all cs h

example : stOther.Ok ∧ stReports.Ok ∧ stDocs.Ok := by
  unfold stOther stReports stDocs
  simp -index only [String.toList_ofList]  -- literals to character lists, as in `decide_chars`
  exact
   ⟨⟨valid_of_all _ (by decide +kernel), by decide +kernel, fun h => by cases h⟩,
    ⟨valid_of_all _ (by decide +kernel), by decide +kernel, fun h => by cases h⟩,
    ⟨valid_of_all _ (by decide +kernel), by decide +kernel, fun h => by cases h⟩⟩
example : Independent [stOther, stReports] := C18_siblings_independent [] _ _ _ _ (by decide)
example : ¬ Independent [stDocs, stReports] := by
  intro h
  have hp : stDocs.comps <+: stReports.comps := ⟨["My Reports 50%".toList], by decide +kernel⟩
  have h2 : ¬ stDocs.comps <+: stReports.comps := ((List.pairwise_cons.mp h).1 stReports.comps (by simp)).1
  exact h2 hp

/-- the request sent for `Docs/My Reports 50%/` -/
example : quote (stripSlash stReports.raw) = "Docs/My%20Reports%2050%25".toList := by
  decide_chars stReports

/-- the run of the model on the example (page size 1): Other's file, then the two reports, with parent paths -/
example : (listFilteredL .fixed (healthy exLib 1) isoStrict asciiLower globMatch {} [stOther.raw, stReports.raw] 12 {}).1 =
    ⟨[parseFile "Other".toList (exF "o1.pdf"), parseFile "Docs/My Reports 50%".toList (exF "r1.pdf"),
      parseFile "Docs/My Reports 50%".toList (exF "r2.txt")], none⟩ := by
  unfold exLib exF stOther stReports
  simp only [String.toList_append]
  decide_chars

/-- COUNTEREXAMPLE (known finding folder_paths.duplicate): with `Docs` and `Docs/My Reports 50%` listed together
    the two reports are handed out twice although the library holds each once -/
theorem duplicate_counterexample :
    let out := (listFilteredL .fixed (healthy exLib 1) isoStrict asciiLower globMatch {} [stDocs.raw, stReports.raw] 12 {}).1.out
    out.count (parseFile "Docs/My Reports 50%".toList (exF "r1.pdf")) = 2 ∧
    (specListing [] exLib).count (parseFile "Docs/My Reports 50%".toList (exF "r1.pdf")) = 1 := by
  unfold exLib exF stDocs stReports
  simp only [String.toList_append]
  decide_chars

/-- the fault hypotheses of `C18_folders_fault_partial` are satisfiable: request 5 (the lookup of the second start
    folder) answered by HTTP 503 — one file has been handed out before the error -/
example :
    let g := listFilteredL .fixed (faultAt 5 (.httpError 503) (healthy exLib 1)) isoStrict asciiLower globMatch {}
      [stOther.raw, stReports.raw] 12 {}
    g.1 = ⟨[parseFile "Other".toList (exF "o1.pdf")], some (.request (some 503) (.byPath srvSite "Docs/My%20Reports%2050%25".toList))⟩ ∧
    (5, Url.byPath srvSite "Docs/My%20Reports%2050%25".toList) ∈ g.2.log := by
  unfold exLib exF stOther stReports srvSite
  simp only [String.toList_append]
  decide_chars

example : ¬ IsNotFound (.httpError 503) ∧ ¬ IsNotFound .urlError ∧ ¬ IsNotFound (.resp 200 .nonObject) := by
  refine ⟨?_, ?_, ?_⟩ <;> rintro (h | ⟨b, h⟩) <;> cases h

/-- COUNTEREXAMPLE (known finding fault.not-raised.folder-lookup-404): HTTP 404 at request 2 (the lookup of the
    first start folder `Other`) — the generator ends WITHOUT an error, `o1.pdf` is missing, and what it handed
    out is not a prefix of the fault-free listing -/
theorem lookup_404_swallowed :
    let g := listFilteredL .fixed (faultAt 2 (.httpError 404) (healthy exLib 1)) isoStrict asciiLower globMatch {}
      [stOther.raw, stReports.raw] 12 {}
    let g' := listFilteredL .fixed (healthy exLib 1) isoStrict asciiLower globMatch {} [stOther.raw, stReports.raw] 12 {}
    g.1.err = none ∧ (2, Url.byPath srvSite "Other".toList) ∈ g.2.log ∧ ¬ Fine (.httpError 404) ∧
    g.1.out = [parseFile "Docs/My Reports 50%".toList (exF "r1.pdf"), parseFile "Docs/My Reports 50%".toList (exF "r2.txt")] ∧
    ¬ g.1.out <+: g'.1.out := by
  unfold exLib exF stOther stReports srvSite
  simp only [String.toList_append]
  simp -index only [String.toList_ofList]  -- literals to character lists, as in `decide_chars`
  refine ⟨by decide +kernel, by decide +kernel, ?_, by decide +kernel, by decide +kernel⟩
  rintro ⟨_, _, h, _⟩; cases h

end S2T.C18.Folders
