import S2T.Props.C14_Loops
import S2T.Lemmas.Chars
import S2T.Model.ImageParts
import S2T.Gen.ImageParts
/-!
# C14 — numbered parts are visited in numeric order; PDF content type follows the image codec

`xlsx_*`: the worksheet ↦ drawing dictionary of `_extract_images_from_zip` is filled by probing one member name per
sheet index, hence in sheet order, and walking it numbers the pictures exactly as the positional model
(`xlsxExtract`, theorems `C14_xlsx*`) does — for every package, every number of sheets (in particular ≥ 10, where the
string order of `sheet10`, `sheet2` differs from the numeric one: `xlsx_lexicographic_counterexample`).

`pdf_*`: the format / content type of an image XObject is the table entry of the LAST filter of its decode chain, so
any transport prefix (`/FlateDecode`, `/ASCII85Decode`, …) in front of the codec leaves it unchanged, and a name,
a one-element array and a chain ending in the same codec agree.
-/
namespace S2T.C14.Parts
open S2T.Spec.Opc S2T.Images S2T.C14.Resolve S2T.C14.Loops

theorem gen_notes_empty : S2T.Gen.ImageParts.notes = [] := by decide

/-- the XLSX probe of the current source has the modelled shape: `for k in range(len(sheet_names))`, part name
    `xl/worksheets/_rels/sheet….xml.rels` (prefix and suffix of the f-string; the index expression between them is
    what `xlsx_probe_by_index` answers for) -/
theorem gen_xlsx_probe_shape :
    S2T.Gen.ImageParts.xlsx_probe_by_index = true
    ∧ S2T.Gen.ImageParts.xlsx_rels_probe.map (fun p => (p.1, p.2.2)) = [("xl/worksheets/_rels/sheet", ".xml.rels")] := by
  decide

/-- no call that re-orders a collection (`sorted`, `.sort`, `reversed`, `set`, …) in the XLSX / PDF image functions -/
theorem gen_no_ordering_calls : S2T.Gen.ImageParts.ordering_sites = [] := by decide

/-- the two PDF tables have the same keys, and the image codecs map to their own types -/
def PdfTablesOk (fmt ct : List (Str × Str)) : Prop :=
  fmt.map (·.1) = ct.map (·.1)
  ∧ lookupStr "/DCTDecode".toList ct = some "image/jpeg".toList
  ∧ lookupStr "/JPXDecode".toList ct = some "image/jp2".toList
  ∧ lookupStr "/DCTDecode".toList fmt = some "jpeg".toList
  ∧ lookupStr "/JPXDecode".toList fmt = some "jp2".toList
  ∧ lookupStr "/ASCII85Decode".toList ct = none ∧ lookupStr "/ASCIIHexDecode".toList ct = none
  ∧ lookupStr "/RunLengthDecode".toList ct = none

instance (fmt ct) : Decidable (PdfTablesOk fmt ct) := by unfold PdfTablesOk; infer_instance

theorem gen_pdf_tables_ok : PdfTablesOk S2T.Gen.ImageParts.pdf_format S2T.Gen.ImageParts.pdf_ctype := by
  decide_chars PdfTablesOk S2T.Gen.ImageParts.pdf_format S2T.Gen.ImageParts.pdf_ctype

/-- the filter consulted for a decode chain is its last element — the image codec — whatever stands in front -/
theorem pdf_filter_chain_codec (ts : List Str) (c : Str) : pdfFilterType (.array (ts ++ [c])) = c := by
  simp [pdfFilterType]

/-- **content type follows the image codec**: for every table, every transport prefix `ts` and every codec `c`
    the chain `ts ++ [c]`, the one-element array `[c]` and the name `c` get the same format and content type -/
theorem pdf_ctype_follows_codec (tbl : List (Str × Str)) (ts : List Str) (c : Str) :
    pdfCtype tbl (.array (ts ++ [c])) = pdfCtype tbl (.name c)
    ∧ pdfFormat tbl (.array (ts ++ [c])) = pdfFormat tbl (.name c) := by
  simp [pdfCtype, pdfFormat, pdfFilterType]

theorem pdf_single_array_eq_name (tbl : List (Str × Str)) (c : Str) :
    pdfCtype tbl (.array [c]) = pdfCtype tbl (.name c) ∧ pdfFormat tbl (.array [c]) = pdfFormat tbl (.name c) := by
  simpa using pdf_ctype_follows_codec tbl [] c

/-- with the tables of the current source: a JPEG / JPEG-2000 file stays `image/jpeg` / `image/jp2` however it is wrapped -/
theorem pdf_jpeg_any_transport (fmt ct : List (Str × Str)) (h : PdfTablesOk fmt ct) (ts : List Str) :
    pdfCtype ct (.array (ts ++ ["/DCTDecode".toList])) = "image/jpeg".toList
    ∧ pdfFormat fmt (.array (ts ++ ["/DCTDecode".toList])) = "jpeg".toList
    ∧ pdfCtype ct (.array (ts ++ ["/JPXDecode".toList])) = "image/jp2".toList
    ∧ pdfFormat fmt (.array (ts ++ ["/JPXDecode".toList])) = "jp2".toList := by
  obtain ⟨_, ctJpeg, ctJp2, fmtJpeg, fmtJp2, _⟩ := h
  -- the table is consulted with the codec, whatever the default for unknown filters
  have key : ∀ {tbl c m} (d : Str), lookupStr c tbl = some m →
      (lookupStr (pdfFilterType (.array (ts ++ [c]))) tbl).getD d = m := fun d hc => by
    rw [pdf_filter_chain_codec, hc]; rfl
  exact ⟨key _ ctJpeg, key _ fmtJpeg, key _ ctJp2, key _ fmtJp2⟩

/-- the hypothesis of `pdf_jpeg_any_transport` at the generated tables -/
example : PdfTablesOk S2T.Gen.ImageParts.pdf_format S2T.Gen.ImageParts.pdf_ctype := gen_pdf_tables_ok

/-- an empty array and an absent entry are both "no filter" -/
theorem pdf_empty_array (tbl : List (Str × Str)) : pdfCtype tbl (.array []) = pdfCtype tbl (.name []) := by
  simp [pdfCtype, pdfFilterType]

/-- "the first filter the table knows" is NOT the codec: a deflated JPEG would be reported as PNG -/
theorem pdf_first_known_counterexample :
    pdfFilterTypeFirstKnown S2T.Gen.ImageParts.pdf_ctype (.array ["/FlateDecode".toList, "/DCTDecode".toList]) = "/FlateDecode".toList
    ∧ pdfFilterType (.array ["/FlateDecode".toList, "/DCTDecode".toList]) = "/DCTDecode".toList := by
  decide_chars S2T.Gen.ImageParts.pdf_ctype

theorem units_flatten_eq (pkg : Pkg) (rels : SheetRels) (dr : Drawings) (order : List Nat) :
    ((sheetToDrawingVia rels order).map fun it => drawingUnit pkg dr it.2).flatten
      = (xlsxUnits pkg (sheetsByPosition rels dr order)).flatten := by
  induction order with
  | nil => simp [sheetToDrawingVia, sheetsByPosition, xlsxUnits]
  | cons k r ih =>
    simp only [sheetToDrawingVia, sheetsByPosition, xlsxUnits, List.filterMap_cons, List.map_cons, List.flatten_cons,
      drawingUnit] at ih ⊢
    cases h : sheetDrawing rels k with
    | none => simpa [h] using ih
    | some d =>
      simp only [Option.map_some, List.map_cons, List.flatten_cons]
      rw [ih]

/-- **dictionary walk = positional model**: the pictures returned by walking `sheet_to_drawing` (numbers included)
    are those of `xlsxExtract` on the sheets in visiting order — for every package, drawing map and order -/
theorem xlsx_walk_eq_positional (pkg : Pkg) (rels : SheetRels) (dr : Drawings) (order : List Nat) :
    (xlsxByMap pkg dr (sheetToDrawingVia rels order)).flatten
      = (xlsxExtract pkg (sheetsByPosition rels dr order)).flatten := by
  simp only [xlsxByMap, xlsxExtract, loopDoc_spec, xlsxClassify_eq, entriesOf_const, units_flatten_eq]

theorem sheetToDrawing_keys_sublist (rels : SheetRels) (order : List Nat) :
    ((sheetToDrawingVia rels order).map (·.1)).Sublist order := by
  induction order with
  | nil => simp [sheetToDrawingVia]
  | cons k r ih =>
    simp only [sheetToDrawingVia, List.filterMap_cons] at ih ⊢
    cases h : sheetDrawing rels k with
    | none => simpa [h] using ih.cons k
    | some d => simpa [h] using ih.cons_cons k

/-- **sheet order**: the source probes `range(n)`, so the dictionary is filled — and the workbook-wide counter
    advances — in strictly increasing sheet index, whatever the member names look like as strings -/
theorem xlsx_probe_in_sheet_order (rels : SheetRels) (n : Nat) :
    ((sheetToDrawing rels n).map (·.1)).Pairwise (· < ·) := by
  have h := sheetToDrawing_keys_sublist rels (List.range n)
  exact (List.pairwise_lt_range).sublist h

/-- **C14 for XLSX from the package**: numbers 1..n in sheet order (then anchor order) for any number of sheets -/
theorem C14_xlsx_pkg_numbers (pkg : Pkg) (rels : SheetRels) (dr : Drawings) (n : Nat) :
    (xlsxByMap pkg dr (sheetToDrawing rels n)).flatten.map (·.number)
      = List.range' 1 (xlsxByMap pkg dr (sheetToDrawing rels n)).flatten.length := by
  unfold sheetToDrawing
  rw [xlsx_walk_eq_positional, C14_xlsx_numbers]

/-- the string order of numbered part names is not their numeric order from ten parts on -/
theorem part_names_lexicographic_ne_numeric :
    String.ofList (sheetRelsName 9) < String.ofList (sheetRelsName 1) ∧ (1 : Nat) < 9 := by
  decide_chars sheetRelsName

/-- walking the relationship parts in the string order of their names (sheet1, sheet10, sheet11, sheet2, …) numbers
    the picture of sheet 10 before the picture of sheet 2: the per-sheet view then shows 2, 1 instead of 1, 2 -/
theorem xlsx_lexicographic_counterexample :
    let pkg : Pkg := fun n =>
      if n = "xl/drawings/drawing2.xml".toList then some 100 else if n = "xl/drawings/drawing10.xml".toList then some 101
      else if n = "xl/media/a.png".toList then some 1 else if n = "xl/media/b.png".toList then some 2 else none
    let rels : SheetRels := fun n =>
      if n = sheetRelsName 1 then some (some "../drawings/drawing2.xml".toList)
      else if n = sheetRelsName 9 then some (some "../drawings/drawing10.xml".toList) else none
    let dr : Drawings := fun d =>
      if d = "xl/drawings/drawing2.xml".toList then [(1, some "../media/a.png".toList)]
      else if d = "xl/drawings/drawing10.xml".toList then [(1, some "../media/b.png".toList)] else []
    let lex := [0, 9, 10, 1, 2, 3, 4, 5, 6, 7, 8]      -- sheet1, sheet10, sheet11, sheet2, …, sheet9
    ((xlsxExtractPkgVia pkg rels dr lex 11).flatten.map (·.number) = [2, 1])
    ∧ ((xlsxExtractPkg pkg rels dr 11).flatten.map (·.number) = [1, 2]) := by
  decide_chars sheetRelsName

end S2T.C14.Parts
