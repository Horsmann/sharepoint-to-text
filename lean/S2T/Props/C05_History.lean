import S2T.Model.SerialState
import S2T.Lemmas.History
import S2T.Gen.SerialState
import S2T.Gen.Schema
/-!
# C05, process histories: the round trip does not depend on what the process did before

`from_json` looks classes up in the lazily populated module-level `_TYPE_REGISTRY`, whose loader trusts
"non-empty ⇒ fully populated".  That trust is an invariant of the *process*: it holds only if nothing but the
loader ever writes the registry.  Here:

* the inventory regenerated from the current source (`S2T.Gen.SerialState`: every state cell of the
  serialisation path and every mention of it, classified) is decided to be exactly what the state machine
  `S2T.SerialState.step` assumes (`gen_state_cells`, `gen_state_sites_ok`, `gen_method_bodies`): one cell, written
  only by the loader's fill loop, never mentioned on the serialiser's side or from another module, no caches,
  mutable defaults or attribute stores on the path, and `to_json` / `from_json` are nothing but
  `serialize_extraction(self)` / `deserialize_extraction(data)`;
* for that machine, **every** history of calls (any length, any interleaving of `to_json` of anything and
  `from_json` of anything, failing calls included) returns call by call what the stateless functions return
  (`C05_history_independent`), so the round-trip theorems of `Props/C05.lean` hold in every reachable process
  state (`C05_roundtrip_any_history` there);
* on the machine in which the serialiser records the classes it writes, the history
  "serialise a PlainTextContent, then from_json the stored JSON of a TableDim" returns a raw dict
  (`C05_cex_history_registering_serialiser`): the purity obligation is needed.
-/
namespace S2T.C05.History
open S2T.Serial S2T.SerialState

/-- the only state on the serialisation path is the type registry -/
theorem gen_state_cells : S2T.Gen.SerialState.cells = ["_TYPE_REGISTRY"] := by decide

theorem gen_state_notes_empty : S2T.Gen.SerialState.notes = [] := by decide

def allowedKinds : List String := ["decl-empty", "guard-return", "fill", "return", "read"]

/-- what `step` assumes about the mentions of the registry -/
def sitesOk (cells : List String) (sites : List (String × String × String)) (loaders users serPath deserPath : List String) : Bool :=
  -- only the classified harmless kinds occur …
  sites.all (fun s => allowedKinds.contains s.2.2)
  -- … every cell is declared empty, exactly once
  && cells.all (fun c => (sites.filter (fun s => s.1 == c && s.2.2 == "decl-empty")).length == 1)
  -- … it is written (fill) and handed out (return) only by a loader, and every loader opens with the guard
  && sites.all (fun s => !(s.2.2 == "fill" || s.2.2 == "return" || s.2.2 == "guard-return") || loaders.contains s.2.1)
  && loaders.all (fun l => sites.contains ("_TYPE_REGISTRY", l, "guard-return") && sites.contains ("_TYPE_REGISTRY", l, "fill"))
  && loaders.length == 1
  -- … nothing on the serialiser's side mentions it or calls a loader
  && sites.all (fun s => !serPath.contains s.2.1)
  && loaders.all (fun l => !serPath.contains l)
  && users.all (fun u => !serPath.contains u && deserPath.contains u)

theorem gen_state_sites_ok :
    sitesOk S2T.Gen.SerialState.cells S2T.Gen.SerialState.sites S2T.Gen.SerialState.loaders
      S2T.Gen.SerialState.registryUsers S2T.Gen.SerialState.serPath S2T.Gen.SerialState.deserPath = true := by
  decide +kernel

/-- `to_json` is `serialize_extraction(self)` and `from_json` is `deserialize_extraction(data)`, for every class -/
theorem gen_method_bodies :
    S2T.Gen.SerialState.methodBodies =
      [("from_json", "return deserialize_extraction(data)"), ("to_json", "<abstract>"),
       ("to_json", "return serialize_extraction(self)")] := by decide

private theorem restrict_names (S : Schema) : restrict S (names S) = S := by
  unfold restrict
  rw [List.filter_eq_self]
  intro c hc
  simp only [names, List.contains_eq_mem, List.mem_map, decide_eq_true_eq]
  exact ⟨c, hc, rfl⟩

private theorem loadRegistry_inv (S : Schema) (r : Reg) (h : r = [] ∨ r = names S) : loadRegistry S r = names S := by
  unfold loadRegistry
  rcases h with h | h
  · simp [h]
  · subst h; split <;> rfl

/-- a call that fails its argument checks never looks at the class table -/
private theorem deser_unreached (S₁ S₂ : Schema) (j : PyVal) (h : reachesRegistry j = false) :
    deserializeExtraction S₁ j = deserializeExtraction S₂ j := by
  cases j <;> simp_all [deserializeExtraction, reachesRegistry]

/-- the loader's guard is sound in every reachable state: the registry is empty or complete -/
theorem C05_registry_invariant (S : Schema) (r : Reg) (h : r = [] ∨ r = names S) (op : Op) :
    (step S .pure r op).1 = stateless S op ∧ ((step S .pure r op).2 = [] ∨ (step S .pure r op).2 = names S) := by
  cases op with
  | toJson b v => exact ⟨rfl, h⟩
  | fromJson j =>
    simp only [step, stateless]
    cases hr : reachesRegistry j with
    | true =>
      simp [loadRegistry_inv S r h, restrict_names]
    | false =>
      simp only [Bool.false_eq_true, if_false]
      exact ⟨by rw [deser_unreached _ S j hr], h⟩

private theorem run_eq_outputs (S : Schema) (eff : SerEffect) : ∀ r ops, run S eff r ops = S2T.History.outputs (step S eff) r ops
  | _, [] => rfl
  | _, _ :: ops => congrArg _ (run_eq_outputs S eff _ ops)

/-- **Every history.**  In a fresh process (empty registry), whatever sequence of `to_json` /
`serialize_extraction(…, include_binary=…)` / `from_json` calls is made, on whatever arguments, each call returns
what the stateless function returns. -/
theorem C05_history_independent (S : Schema) (ops : List Op) : run S .pure [] ops = ops.map (stateless S) :=
  run_eq_outputs S .pure [] ops ▸ S2T.History.outputs_inv _ (fun r => r = [] ∨ r = names S)
    (fun r op h => (C05_registry_invariant S r h op).2) _ (fun r op h => (C05_registry_invariant S r h op).1) (.inl rfl) ops

/-- … in particular the call made after any history `pre` -/
theorem C05_after_any_history (S : Schema) (pre : List Op) (op : Op) :
    (run S .pure [] (pre ++ [op])).getLast? = some (stateless S op) := by
  rw [C05_history_independent]; simp

def plainText : PyVal :=
  .obj "PlainTextContent".toList [("content".toList, .str "remember the milk".toList), ("metadata".toList, .none)]

def tableDim : PyVal := .obj "TableDim".toList [("rows".toList, .int 2), ("columns".toList, .int 3)]

def isRawDict : Out → Bool
  | .back (.ok (.dict _)) => true
  | _ => false

def isObjOf (c : String) : Out → Bool
  | .back (.ok (.obj n _)) => n == c.toList
  | _ => false

/-- the shape of seeded change C05/registering-serialiser: once the serialiser records what it writes, "serialise a
PlainTextContent, then `from_json` the stored JSON of a TableDim" hands back a raw dict; the same `from_json` made
first, or after serialising a TableDim, rebuilds the object -/
theorem C05_cex_history_registering_serialiser :
    ((run S2T.Gen.Schema.schema .registersWritten [] [.toJson true plainText, .fromJson (serializeExtraction true tableDim)]).getLast?.map isRawDict
        = some true)
    ∧ ((run S2T.Gen.Schema.schema .registersWritten [] [.fromJson (serializeExtraction true tableDim)]).getLast?.map (isObjOf "TableDim")
        = some true)
    ∧ ((run S2T.Gen.Schema.schema .pure [] [.toJson true plainText, .fromJson (serializeExtraction true tableDim)]).getLast?.map (isObjOf "TableDim")
        = some true) := by
  -- the second and third history are made of calls that leave the registry to its loader: by
  -- `C05_after_any_history` their last call returns what the stateless function returns
  refine ⟨by decide +kernel,
    (congrArg _ (C05_after_any_history _ [] (.fromJson (serializeExtraction true tableDim)))).trans (by decide +kernel),
    (congrArg _ (C05_after_any_history _ [.toJson true plainText] _)).trans (by decide +kernel)⟩

end S2T.C05.History
