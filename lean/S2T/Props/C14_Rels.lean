import S2T.Lemmas.ImageRels
import S2T.Lemmas.Chars
import S2T.Gen.ImageRels
/-!
# C14 — the image path follows the relationship of the right KIND, whatever else the relationships part lists

The guards are read off the current source (`S2T.Gen.ImageRels`: needle, lower-cased or not).  For these guards:

* `gen_*_guard_exact` (decided over namespace × kind of the standard's inventory): the substring test is true exactly
  for the kind the loop is after (`drawing` among the worksheet kinds — in particular NOT for `vmlDrawing`, which
  differs from `drawing` only by the capital D; `image` among the drawing / main-document kinds);
* `pick_first_eq_spec`, `rid_lookup_eq_spec`, `pick_skips_siblings`: hence for EVERY relationships part whose Type
  URIs are of the inventory — any number of sibling relationships, in any order, in any of the namespaces — the first
  loop picks the first relationship whose kind is `drawing`, and the Id ↦ Target dictionary is that of the `image`
  relationships;
* `lowered_sheet_guard_counterexample`: lower-casing the Type before the test (as DOCX / PPTX do for their kinds) is
  NOT exact for `drawing`: a worksheet with cell comments lists `vmlDrawing` and it would be taken as the drawing.
-/
namespace S2T.C14.Rels
open S2T.Spec.Opc S2T.Images

theorem gen_rel_notes_empty : S2T.Gen.ImageRels.notes = [] := by decide

/-- the three relationship-type tests of the image functions have the modelled shape
    (`"<literal>" in <type>[.lower()]` guarding the dictionary assignment / `not in … : continue`) -/
theorem gen_rel_guards_found :
    S2T.Gen.ImageRels.xlsx_sheet_guard.isSome = true ∧ S2T.Gen.ImageRels.xlsx_image_guard.isSome = true
    ∧ S2T.Gen.ImageRels.docx_image_guard.isSome = true := by decide

/-- the guards of the current source -/
def sheetGuard : RelGuard := guardOf ("drawing", false) S2T.Gen.ImageRels.xlsx_sheet_guard
def imageGuard : RelGuard := guardOf ("image", false) S2T.Gen.ImageRels.xlsx_image_guard
def docxGuard : RelGuard := guardOf ("image", true) S2T.Gen.ImageRels.docx_image_guard

/- Decided in the form `guardExactSplit` (Lemmas/ImageRels).  The inventory is written `[…].map String.toList`, hence the
   `List.map` lemmas next to `String.toList_ofList` (see `decide_chars`), here and wherever the inventory is evaluated below. -/
theorem gen_sheet_guard_exact : guardExactOn sheetGuard "drawing".toList sheetRelKinds = true := by
  apply guardExactOn_of_split
  unfold guardExactSplit
  simp -index only [relNamespaces, sheetRelKinds, List.map_cons, List.map_nil, String.toList_ofList]
  decide +kernel
theorem gen_image_guard_exact : guardExactOn imageGuard "image".toList drawingRelKinds = true := by
  apply guardExactOn_of_split
  unfold guardExactSplit
  simp -index only [relNamespaces, drawingRelKinds, List.map_cons, List.map_nil, String.toList_ofList]
  decide +kernel
theorem gen_docx_guard_exact : guardExactOn docxGuard "image".toList documentRelKinds = true := by
  apply guardExactOn_of_split
  unfold guardExactSplit
  simp -index only [relNamespaces, documentRelKinds, List.map_cons, List.map_nil, String.toList_ofList]
  decide +kernel

theorem exact_on_inventory {g : RelGuard} {kind : Str} {kinds : List Str} (h : guardExactOn g kind kinds = true)
    {t : Str} (ht : InInventory kinds t) : g.holds t = (relKind t == kind) := by
  obtain ⟨ns, hns, k, hk, rfl⟩ := ht
  have h1 := (List.all_eq_true.mp h) ns hns
  have h2 := (List.all_eq_true.mp h1) k hk
  simp only [Bool.and_eq_true, beq_iff_eq] at h2
  rw [h2.1, h2.2]

/-- XLSX first loop: the relationship taken as the sheet's drawing is the first one of kind `kind` -/
theorem pick_first_eq_spec {g : RelGuard} {kind : Str} {kinds : List Str} (h : guardExactOn g kind kinds = true)
    (rels : List Rel) (hr : ∀ r ∈ rels, InInventory kinds r.type) :
    pickFirstTarget g rels = specFirstTarget kind rels := by
  -- `find?` is the head of the filter, and on the inventory the guard's filter is the kind's
  unfold pickFirstTarget specFirstTarget
  rw [← List.head?_filter, ← List.head?_filter, List.filter_congr fun r hm => exact_on_inventory h (hr r hm)]

/-- XLSX second loop: the Id ↦ Target dictionary is that of the relationships of kind `kind` -/
theorem rid_lookup_eq_spec {g : RelGuard} {kind : Str} {kinds : List Str} (h : guardExactOn g kind kinds = true)
    (rels : List Rel) (hr : ∀ r ∈ rels, InInventory kinds r.type) (id : Str) :
    ridLookup g rels id = specRidLookup kind rels id := by
  unfold ridLookup specRidLookup
  rw [List.filter_congr fun r hm => exact_on_inventory h (hr r hm)]

/-- **siblings do not matter**: whatever relationships of OTHER kinds are listed in front of the designated one (and
    whatever follows it), the designated relationship is the one that is taken -/
theorem pick_skips_siblings {g : RelGuard} {kind : Str} {kinds : List Str} (h : guardExactOn g kind kinds = true)
    (pre post : List Rel) (d : Rel) (hd : InInventory kinds d.type) (hk : relKind d.type = kind)
    (hpre : ∀ r ∈ pre, InInventory kinds r.type ∧ relKind r.type ≠ kind) :
    pickFirstTarget g (pre ++ d :: post) = some d.target := by
  -- no sibling in front passes the guard, the designated relationship does
  have hp : pre.find? (fun r => g.holds r.type) = none := List.find?_eq_none.mpr fun r hr => by
    rw [exact_on_inventory h (hpre r hr).1]; simpa using (hpre r hr).2
  rw [pickFirstTarget, List.find?_append, hp, Option.none_or,
    List.find?_cons_of_pos (by rw [exact_on_inventory h hd, hk]; exact beq_self_eq_true _)]
  rfl

/-- with the guards of the current source -/
theorem xlsx_sheet_drawing_is_first_drawing_rel (rels : List Rel) (hr : ∀ r ∈ rels, InInventory sheetRelKinds r.type) :
    pickFirstTarget sheetGuard rels = specFirstTarget "drawing".toList rels :=
  pick_first_eq_spec gen_sheet_guard_exact rels hr

theorem xlsx_image_rels_by_kind (rels : List Rel) (hr : ∀ r ∈ rels, InInventory drawingRelKinds r.type) (id : Str) :
    ridLookup imageGuard rels id = specRidLookup "image".toList rels id :=
  rid_lookup_eq_spec gen_image_guard_exact rels hr id

theorem docx_image_rels_by_kind {t : Str} (ht : InInventory documentRelKinds t) :
    docxGuard.holds t = (relKind t == "image".toList) :=
  exact_on_inventory gen_docx_guard_exact ht

/-- the worksheet relationship parts of a package as a `SheetRels` (Model/ImageParts), the form in which the theorems of
    `Props/C14_Parts` take them: `sheetRelsOf parts` is what the source computes, and it is the specification's reading of the parts -/
def sheetRelsOf (g : RelGuard) (parts : Str → Option (List Rel)) : SheetRels :=
  fun n => (parts n).map (pickFirstTarget g)

theorem xlsx_sheet_rels_from_parts (parts : Str → Option (List Rel))
    (hp : ∀ n rels, parts n = some rels → ∀ r ∈ rels, InInventory sheetRelKinds r.type) :
    sheetRelsOf sheetGuard parts = fun n => (parts n).map (specFirstTarget "drawing".toList) := by
  funext n
  unfold sheetRelsOf
  rcases hn : parts n with _ | rels
  · rfl
  · simp only [Option.map_some]
    rw [xlsx_sheet_drawing_is_first_drawing_rel rels (hp n rels hn)]

def nsT : Str := "http://schemas.openxmlformats.org/officeDocument/2006/relationships".toList
def relVml : Rel := ⟨"rId1".toList, relType nsT "vmlDrawing".toList, "../drawings/vmlDrawing1.vml".toList⟩
def relDrw : Rel := ⟨"rId2".toList, relType nsT "drawing".toList, "../drawings/drawing1.xml".toList⟩
def relCmt : Rel := ⟨"rId3".toList, relType nsT "comments".toList, "../comments1.xml".toList⟩

example : ∀ r ∈ [relVml, relDrw, relCmt], InInventory sheetRelKinds r.type := by
  have hns : nsT ∈ relNamespaces := by
    unfold nsT relNamespaces
    simp -index only [List.map_cons, List.map_nil, String.toList_ofList]
    decide +kernel
  intro r hr
  simp only [List.mem_cons, List.mem_nil_iff, or_false] at hr
  rcases hr with rfl | rfl | rfl
  -- membership of a short literal: decoding it in the kernel is cheaper here than rewriting the whole inventory
  · exact ⟨nsT, hns, "vmlDrawing".toList, by decide +kernel, rfl⟩
  · exact ⟨nsT, hns, "drawing".toList, by decide +kernel, rfl⟩
  · exact ⟨nsT, hns, "comments".toList, by decide +kernel, rfl⟩

/-- a worksheet with cell comments AND pictures, the legacy VML drawing listed first: the drawing part is taken -/
theorem vml_first_drawing_taken :
    pickFirstTarget sheetGuard [relVml, relDrw, relCmt] = some "../drawings/drawing1.xml".toList := by
  decide_chars relVml relDrw relCmt nsT

/-- lower-casing the Type before the test is not exact for `drawing`: `vmldrawing` contains it, and the VML part is
    taken as the sheet's drawing (the pictures of the sheet are then lost) -/
theorem lowered_sheet_guard_counterexample :
    pickFirstTarget ⟨"drawing".toList, true⟩ [relVml, relDrw, relCmt] = some "../drawings/vmlDrawing1.vml".toList
    ∧ specFirstTarget "drawing".toList [relVml, relDrw, relCmt] = some "../drawings/drawing1.xml".toList
    ∧ guardExactOn ⟨"drawing".toList, true⟩ "drawing".toList sheetRelKinds = false := by
  unfold relVml relDrw relCmt nsT guardExactOn relNamespaces sheetRelKinds
  simp -index only [List.map_cons, List.map_nil, String.toList_ofList]
  decide +kernel

/-- comparing the LAST SEGMENT of the Type URI with `drawing` (what the specification does) is exact on the inventory:
    no kind contains a '/' -/
theorem suffix_test_would_be_exact :
    (relNamespaces.all fun ns => sheetRelKinds.all fun k => (relKind (relType ns k) == "drawing".toList) == (k == "drawing".toList)) = true := by
  have hk : sheetRelKinds.all (·.all (· ≠ '/')) = true := by
    simp -index only [sheetRelKinds, List.map_cons, List.map_nil, String.toList_ofList]
    decide +kernel
  simp only [List.all_eq_true] at hk ⊢
  intro ns _ k hm
  rw [relKind_relType ns (List.all_eq_true.mpr (hk k hm))]
  exact beq_self_eq_true _

end S2T.C14.Rels
