import S2T.Lemmas.SerialRT
import S2T.Lemmas.ListBasics
/-!
# C05, objects are rebuilt THROUGH THEIR CONSTRUCTOR: construction normalisers must be projections

`from_json` calls `cls(**fields)`: whatever `__post_init__` (or any other construction hook) does to a field is done a
second time to a value it has already been done to.  For a normaliser `f` of a string field the rebuilt object equals
the original for every input iff `f` is idempotent (`C05_ctor_roundtrip_iff_idempotent`).  The only normaliser of the
current source is `str.strip` (`gen_notes_empty` in `Props/C05.lean` re-decides that on every run); it is idempotent for
ALL strings (`C05_strip_idempotent`), hence what the model's constructor returns satisfies the `__post_init__` clause of
`WellTyped` (`C05_constructed_stable`) and constructing again changes nothing (`C05_postInit_idempotent`).
Counterexamples: RFC 5322 unfolding (`re.sub(r"\r?\n(?=[ \t])", "", s)`) and `replace("  ", " ")` are not
idempotent, so a constructor that applies one of them breaks the round trip on the exhibited inputs.
The harness builds such inputs from the constants / regular expressions of the construction hooks of the CURRENT source
(`normaliser_probes` in harness/props/c05.py) and judges them on the real code on every run.
-/
namespace S2T.C05.Ctor
open S2T.Serial

/-- rebuilding through a constructor that normalises a field with `f` returns the stored value for every input
exactly when `f` is idempotent -/
theorem C05_ctor_roundtrip_iff_idempotent {α : Type} (f : α → α) :
    (∀ s, f (f s) = f s) ↔ (∀ stored, (∃ s, stored = f s) → f stored = stored) := by
  constructor
  · intro h stored ⟨s, hs⟩; rw [hs]; exact h s
  · intro h s; exact h (f s) ⟨s, rfl⟩

/-- `str.strip` is idempotent, for every string (the model's `strip` unfolds to `List.strip isSpace`, `stripBytes` to
`List.strip isSpaceByte`) -/
theorem C05_strip_idempotent (s : Str) : strip (strip s) = strip s := List.strip_strip

/-- `bytes.strip` likewise -/
theorem C05_stripBytes_idempotent (b : List Nat) : stripBytes (stripBytes b) = stripBytes b := List.strip_strip

/-- what the model's constructor (`__post_init__`) returns satisfies the `__post_init__` clause of `WellTyped`
(strip fields holding a `str`, as their hints say) -/
theorem C05_constructed_stable (st : List Str) (fs fs' : List (Str × PyVal)) (h : postInit st fs = .ok fs')
    (hstr : ∀ e ∈ fs, st.contains e.1 = true → ∃ s, e.2 = .str s) :
    ∀ e ∈ fs', stripStable st e.1 e.2 = true := by
  induction fs generalizing fs' with
  | nil => simp [postInit] at h; subst h; simp
  | cons e fs ih =>
    obtain ⟨n, v⟩ := e
    -- the head field is stable after construction, the others by induction
    have step : ∀ v' r', postInit st fs = .ok r' → stripStable st n v' = true →
        ∀ e ∈ (n, v') :: r', stripStable st e.1 e.2 = true := fun v' r' hr hv e he =>
      (List.mem_cons.mp he).elim (fun h => h ▸ hv) (ih r' hr (fun e he => hstr e (List.mem_cons_of_mem _ he)) e)
    -- the tail is constructed first; if that fails so does the whole, against `h`
    cases hr : postInit st fs with
    | error e =>
      simp only [postInit, hr] at h
      split at h
      · split at h <;> cases h
      · cases h
    | ok r' =>
      by_cases hc : st.contains n = true
      · obtain ⟨s, hs⟩ := hstr (n, v) (by simp) hc
        simp only at hs   -- `hs` speaks of `(n, v).2`: reduce the projection so that `subst` applies
        subst hs
        simp only [postInit, hc, if_true, hr] at h
        cases h
        exact step _ r' hr (by simp only [stripStable, hc, if_true, C05_strip_idempotent, beq_self_eq_true])
      · simp only [postInit, hc, hr] at h
        cases h
        exact step _ r' hr (by simp only [stripStable, hc]; rfl)

/-- constructing again from the fields of a constructed object changes nothing -/
theorem C05_postInit_idempotent (st : List Str) (fs fs' : List (Str × PyVal)) (h : postInit st fs = .ok fs')
    (hstr : ∀ e ∈ fs, st.contains e.1 = true → ∃ s, e.2 = .str s) :
    postInit st fs' = .ok fs' :=
  postInit_stable st fs' (C05_constructed_stable st fs fs' h hstr)

/-- `re.sub(r"\r?\n(?=[ \t])", "", s)`: remove a line break that is followed by a blank or a tab -/
def unfold : Str → Str
  | [] => []
  | '\r' :: '\n' :: c :: r => if c = ' ' ∨ c = '\t' then unfold (c :: r) else '\r' :: unfold ('\n' :: c :: r)
  | '\n' :: c :: r => if c = ' ' ∨ c = '\t' then unfold (c :: r) else '\n' :: unfold (c :: r)
  | c :: r => c :: unfold r

/-- unfolding is not idempotent: a constructor that unfolds its subject rebuilds `"a\n\n b"` differently -/
theorem C05_cex_ctor_unfold_not_idempotent :
    unfold (unfold "a\n\n b".toList) ≠ unfold "a\n\n b".toList ∧ strip (unfold (strip (unfold "a\n\n b".toList))) ≠ strip (unfold "a\n\n b".toList) := by
  decide

/-- `s.replace("  ", " ")` (left to right, non-overlapping) -/
def squeeze2 : Str → Str
  | ' ' :: ' ' :: r => ' ' :: squeeze2 r
  | c :: r => c :: squeeze2 r
  | [] => []

theorem C05_cex_ctor_replace_not_idempotent : squeeze2 (squeeze2 "a    b".toList) ≠ squeeze2 "a    b".toList := by decide

end S2T.C05.Ctor
