import S2T.Lemmas.Chars
import S2T.Model.Reuse
import S2T.Model.Cells
import S2T.Gen.SharedState
/-!
# C15 §12 — objects reused between extractions; module tables handed out by reference

* a reused object prepared by a TOTAL reset gives, for every history of documents (incl. documents that leave it in the
  middle of a removed element), the result of a fresh object (`reused_total_reset_history_independent`,
  which holds by `rfl`; Model/Reuse has the form for every reset that forgets, `S2T.Reuse.total_reset_forgets`);
* a reset that clears the output but not the skip depth does NOT: for EVERY later document with a text event and every
  earlier document that ends inside a removed element the later text is lost (`reused_partial_reset_drops_text`,
  counterexample `reused_partial_reset_depends_on_history`);
* a helper that updates the table it was given rewrites the module's table for the rest of the process
  (`table_by_reference_not_restored`) — a helper that copies first does not (`table_by_copy_restored`) and resolves the
  document at hand identically (`table_by_copy_same_lookup`);
* generated facts, re-decided from the current source on every run: the package binds NO stateful object (thread-local,
  parser / decoder / builder instance, instance of a class of the package, iterator, stream …) at module or class level
  outside the manual SharePoint setup script (`inventory_no_shared_stateful_objects`), and NO module-level container is
  passed to a function that mutates that parameter directly or through the functions it forwards it to
  (`inventory_no_global_passed_to_mutator`).
-/
namespace S2T.C15.Reuse
open S2T.Reuse

theorem reused_total_reset_history_independent (hist : List (List Ev)) (doc : List Ev) :
    (extract fullReset (after fullReset hist) doc).out = (run fresh doc).out := rfl

private theorem run_skip_pos_out (doc : List Ev) : ∀ (p : P), 0 < p.skip → (∀ e ∈ doc, e ≠ Ev.closeSkip) →
    (run p doc).out = p.out ∧ 0 < (run p doc).skip := by
  induction doc with
  | nil => intro p h _; exact ⟨rfl, h⟩
  | cons e es ih =>
    intro p h hne
    have hes : ∀ x ∈ es, x ≠ Ev.closeSkip := fun x hx => hne x (List.mem_cons_of_mem _ hx)
    cases e with
    | text n =>
      have hp : feed p (.text n) = p := by simp [feed]; omega
      -- `run p (e :: es)` is `run (feed p e) es` by definition: `show` here and `exact this` below let it unfold
      show (run (feed p (.text n)) es).out = p.out ∧ 0 < (run (feed p (.text n)) es).skip
      rw [hp]; exact ih p h hes
    | openSkip =>
      have := ih (feed p .openSkip) (by simp [feed]) hes
      exact this
    | closeSkip => exact absurd rfl (hne .closeSkip (List.mem_cons_self ..))

/-- after ANY document that leaves the object inside a removed element (skip depth > 0), a later document without a matching
    end tag comes back EMPTY under the partial reset, whatever it contains -/
theorem reused_partial_reset_drops_text (left : P) (h : 0 < left.skip) (doc : List Ev) (hne : ∀ e ∈ doc, e ≠ Ev.closeSkip) :
    (extract partialReset left doc).out = [] := by
  have := run_skip_pos_out doc (partialReset left) (by simpa [partialReset] using h) hne
  simpa [extract, partialReset] using this.1

/-- Full-strength statement FALSE for the partial reset: truncated chapter `<script>` then a one-paragraph book -/
theorem reused_partial_reset_depends_on_history :
    (extract partialReset (after partialReset [[.text 7, .openSkip]]) [.text 1]).out = [] ∧ (run fresh [.text 1]).out = [1] := by
  decide

theorem table_by_reference_not_restored (t : Tbl) (k v : Nat) (h : t k ≠ v) : (byRef t true k v).1 k ≠ t k := by
  simp [byRef, upd]; exact fun e => h e.symm

theorem table_by_copy_restored (t : Tbl) (legacy : Bool) (k v : Nat) : (byCopy t legacy k v).1 = t := by
  cases legacy <;> rfl

theorem table_by_copy_same_lookup (t : Tbl) (legacy : Bool) (k v : Nat) : (byCopy t legacy k v).2 = (byRef t legacy k v).2 := by
  cases legacy <;> rfl

open S2T.Gen.SharedState

/-- no stateful object is bound at module / class level in the extraction code (run_test_setup.py is the manual SharePoint
    set-up script: it is never imported by the package) -/
theorem inventory_no_shared_stateful_objects : ∀ o ∈ sharedObjects, o.1 = "run_test_setup.py".toList := by
  decide_chars sharedObjects

/-- no module-level container is handed to a function that mutates its parameter (directly or by forwarding) -/
theorem inventory_no_global_passed_to_mutator : aliasedMutations = [] := by decide +kernel

end S2T.C15.Reuse
