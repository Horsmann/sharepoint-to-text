import S2T.Lemmas.HtmlSkip
import S2T.Lemmas.Chars
import S2T.Gen.HtmlSkip
import S2T.Props.C17_Src
import S2T.Props.C17_Life
import S2T.Props.C17_Charset
/-!
# C17 — Removed markup is removed completely and takes nothing else with it

Objects: `Ev` = the handler calls `html.parser.HTMLParser` makes; `run T D st evs` = the model of
`_HtmlTreeBuilder` / `_XhtmlTextExtractor` (skip gate parametrised by the tables `T` and by the
class-specific rest of the handlers `D`); `Doc` = flat sequence of visible items and removed
elements whose content `junk : List Ev` is ANY event sequence that does not close the element
itself (`JunkOk`: start/end tags of the same name balanced).  See `Spec/HtmlDoc.lean`.

Full-strength statement (proved below for the gate of the current source):

    ∀ T D doc st, DocOk T doc → Clean st →
      run T D st (events doc) = { st with down := D.feed st.down (downEvents doc) }

i.e. the class-specific part of the parser (tree builder, text/table collector) receives exactly the
calls of the visible items, in order, and nothing of any removed element / comment; and the gate is
back outside afterwards, so whatever follows is treated the same way.  Quantifiers: every table
pair, every downstream, every document (any length, any junk), every clean start state.

The same statement for the gate BEFORE the repair (`Legacy.run`: counter moved by every start and
end tag) is false — `legacy_cex_*` — and holds only under `LegacyItemOk` (`legacy_partial`).

The theorems on the tables of the current source rest on `Life.html_tables_match` / `Life.epub_tables_match`, decided in the
part `C17_Life.lean`, which this file imports.
-/
namespace S2T.C17
open S2T.HtmlSkip

section generic
variable {σ : Type} (T : Tables) (D : Down σ)

/-- **C17 (main).** For every document and every clean start state, the rest of the parser sees
    exactly the visible items' calls; the gate state is unchanged. -/
theorem gate_passes_exactly_visible (doc : Doc) (st : St σ) (hd : DocOk T doc = true) (hc : Clean st) :
    run T D st (events doc) = { st with down := D.feed st.down (downEvents doc) } :=
  run_doc T D doc st hd hc

/-- **C17 (takes nothing else with it).** Parsing a document leaves the parser in exactly the state
    that parsing the same document with every removed element and comment deleted leaves it in. -/
theorem removed_transparent (doc : Doc) (st : St σ) (hd : DocOk T doc = true) (hc : Clean st) :
    run T D st (events doc) = run T D st (events (strip doc)) := by
  rw [run_doc T D doc st hd hc, run_doc T D (strip doc) st (strip_ok T doc hd) hc, strip_downEvents]

/-- **C17 (visible).** The character data that gets through is the visible text, in order and
    multiplicity. -/
theorem kept_eq_visible (doc : Doc) (hd : DocOk T doc = true) :
    dataOf (run T logDown (init []) (events doc)).down = visibleData doc := by
  rw [run_doc T logDown doc (init []) hd (clean_init _)]
  simp only [init, logDown_feed, List.nil_append]
  exact dataOf_downEvents doc

/-- **C17 (hidden).** A string that is not visible text somewhere in the document never gets through: none, in
    particular, that occurs only inside a removed element or comment. -/
theorem hidden_not_kept (doc : Doc) (hd : DocOk T doc = true) (s : Str)
    (_ : s ∈ hiddenData doc) (hv : s ∉ visibleData doc) :
    DEv.data s ∉ (run T logDown (init []) (events doc)).down := by
  intro hm
  apply hv
  rw [← kept_eq_visible T doc hd]
  simp only [dataOf, List.mem_flatMap]
  exact ⟨.data s, hm, by simp⟩

/-- **C17 before the repair (partial).** The old gate is right on documents whose removed elements
    have content balanced over all tag names and whose empty removed elements are self-closing. -/
theorem legacy_partial (doc : Doc) (st : St σ) (hd : doc.all (LegacyItemOk T) = true)
    (h0 : st.skipDepth = 0) :
    Legacy.run T D st (events doc) = { st with down := D.feed st.down (downEvents doc) } :=
  legacy_run_doc T D doc st hd h0

end generic

open S2T.Gen.HtmlSkip

/-- the translator found every table to be the literal the source shows, and the MHTML / MSG paths
    to use the HTML builder itself -/
theorem gen_notes_empty : notes = [] := by decide

/-- closed world: the only `HTMLParser` hooks the two classes override are the modelled ones, and
    only the modelled methods mention the gate's fields -/
theorem gen_overrides_modelled :
    (htmlOverrides ++ epubOverrides).all (fun n =>
      ["handle_starttag".toList, "handle_endtag".toList, "handle_startendtag".toList,
       "handle_data".toList, "handle_comment".toList].contains n) = true := by
  decide_chars htmlOverrides epubOverrides
theorem gen_skip_touch_modelled :
    (htmlSkipTouch ++ epubSkipTouch).all (fun n =>
      ["__init__".toList, "handle_starttag".toList, "handle_endtag".toList,
       "handle_startendtag".toList, "handle_data".toList].contains n) = true := by
  decide_chars htmlSkipTouch epubSkipTouch

/-- state of `_HtmlTreeBuilder()` / `_XhtmlTextExtractor()` after `feed` of the events -/
def htmlRun (evs : List Ev) : St Tree.State :=
  run htmlTables (Tree.down htmlVoid) (init Tree.initState) evs
def epubRun (evs : List Ev) : St Epub.State :=
  run epubTables (Epub.down epubBlock) (init Epub.initState) evs

/-- **C17 for `_HtmlTreeBuilder`** (HTML, MHTML, MSG body): for every document in the property's own
    grammar (`SpecDocOk` does not mention the library tables) the node tree is built from exactly
    the visible items. -/
theorem C17_html (doc : Doc) (h : SpecDocOk doc = true) :
    htmlRun (events doc) =
      init ((Tree.down htmlVoid).feed Tree.initState (downEvents doc)) := by
  exact run_doc htmlTables (Tree.down htmlVoid) doc (init Tree.initState) (docOk_of_spec _ Life.html_tables_match h) (clean_init _)

/-- **C17 for `_XhtmlTextExtractor`** (EPUB chapters). -/
theorem C17_epub (doc : Doc) (h : SpecDocOk doc = true) :
    epubRun (events doc) =
      init ((Epub.down epubBlock).feed Epub.initState (downEvents doc)) := by
  exact run_doc epubTables (Epub.down epubBlock) doc (init Epub.initState) (docOk_of_spec _ Life.epub_tables_match h) (clean_init _)

/-- the tree / the collected text of a document equals that of the document with the removed
    elements and comments deleted -/
theorem C17_html_transparent (doc : Doc) (h : SpecDocOk doc = true) :
    htmlRun (events doc) = htmlRun (events (strip doc)) := by
  exact removed_transparent htmlTables _ doc _ (docOk_of_spec _ Life.html_tables_match h) (clean_init _)
theorem C17_epub_transparent (doc : Doc) (h : SpecDocOk doc = true) :
    epubRun (events doc) = epubRun (events (strip doc)) := by
  exact removed_transparent epubTables _ doc _ (docOk_of_spec _ Life.epub_tables_match h) (clean_init _)

/-- **C17 (visible / hidden) on the current tables**, both machines. -/
theorem C17_visible (doc : Doc) (h : SpecDocOk doc = true) :
    dataOf (run htmlTables logDown (init []) (events doc)).down = visibleData doc ∧
    dataOf (run epubTables logDown (init []) (events doc)).down = visibleData doc := by
  exact ⟨kept_eq_visible _ doc (docOk_of_spec _ Life.html_tables_match h),
    kept_eq_visible _ doc (docOk_of_spec _ Life.epub_tables_match h)⟩

theorem C17_hidden (doc : Doc) (h : SpecDocOk doc = true) (s : Str)
    (hs : s ∈ hiddenData doc) (hv : s ∉ visibleData doc) :
    DEv.data s ∉ (run htmlTables logDown (init []) (events doc)).down ∧
    DEv.data s ∉ (run epubTables logDown (init []) (events doc)).down := by
  exact ⟨hidden_not_kept _ doc (docOk_of_spec _ Life.html_tables_match h) s hs hv,
    hidden_not_kept _ doc (docOk_of_spec _ Life.epub_tables_match h) s hs hv⟩

/-! ## Counterexamples for the gate before the repair (all four replayed on the real code by the
harness: they fail on the unrepaired source and hold on the repaired one) -/

private def p : Str := "p".toList
private def para (s : String) : List Item := [.open_ p [], .text s.toList, .close p]

/-- `<p>a</p><noscript><img src=x></noscript><p>b</p>` -/
def wVoidChild : Doc :=
  para "a" ++ [.removed "noscript".toList [] [.start "img".toList [("src".toList, some "x".toList)]]] ++ para "b"
/-- `<p>a</p><object><param name=a><embed src=b></object><p>b</p>` -/
def wObjectParam : Doc :=
  para "a" ++ [.removed "object".toList [] [.start "param".toList [("name".toList, some "a".toList)],
                                            .start "embed".toList [("src".toList, some "b".toList)]]] ++ para "b"
/-- `<p>a</p><embed src=x><p>b</p>` -/
def wBareEmbed : Doc :=
  para "a" ++ [.removedEmpty "embed".toList [("src".toList, some "x".toList)] false] ++ para "b"
/-- `<p>a</p><noscript></div>leak</noscript><p>b</p>` -/
def wStrayEnd : Doc :=
  para "a" ++ [.removed "noscript".toList [] [.end_ "div".toList, .data "leak".toList]] ++ para "b"

private def legacyKept (doc : Doc) : List Str :=
  dataOf (Legacy.run htmlTables logDown (init []) (events doc)).down

/-- void child: everything after the removed element is lost -/
theorem legacy_cex_void_child :
    SpecDocOk wVoidChild = true ∧ visibleData wVoidChild = ["a".toList, "b".toList] ∧
    legacyKept wVoidChild = ["a".toList] := by decide +kernel
theorem legacy_cex_object_param :
    SpecDocOk wObjectParam = true ∧ visibleData wObjectParam = ["a".toList, "b".toList] ∧
    legacyKept wObjectParam = ["a".toList] := by decide +kernel
/-- a removable void element hides the rest of the document -/
theorem legacy_cex_bare_embed :
    SpecDocOk wBareEmbed = true ∧ visibleData wBareEmbed = ["a".toList, "b".toList] ∧
    legacyKept wBareEmbed = ["a".toList] := by decide +kernel
/-- a stray end tag inside a removed element lets its text out -/
theorem legacy_cex_stray_end :
    SpecDocOk wStrayEnd = true ∧ "leak".toList ∈ hiddenData wStrayEnd ∧
    legacyKept wStrayEnd = ["a".toList, "leak".toList, "b".toList] := by decide +kernel

example : Clean (init Tree.initState) := ⟨rfl, rfl⟩
example : Clean (init Epub.initState) := ⟨rfl, rfl⟩
example : DocOk htmlTables wVoidChild = true ∧ DocOk epubTables wStrayEnd = true := by
  decide_chars wVoidChild wStrayEnd para p htmlTables htmlRemove htmlVoid epubTables epubRemove epubVoid
example : SpecDocOk (wVoidChild ++ wObjectParam ++ wBareEmbed ++ wStrayEnd) = true := by decide +kernel
/-- junk with nested removable elements, a nested same-name element, a self-closing same-name form,
    comments, CDATA, void and unclosed tags, stray end tags -/
def wRich : Doc :=
  para "a" ++
  [.removed "object".toList [("data".toList, some "x".toList)]
     [.start "param".toList [], .start "object".toList [], .data "h1".toList, .startend "object".toList [],
      .start "noscript".toList [], .end_ "object".toList, .end_ "span".toList, .comment "c".toList,
      .unknownDecl "CDATA[ x ".toList, .start "script".toList [], .data "h2".toList, .startend "br".toList []],
   .comment "top".toList, .removedEmpty "script".toList [] true, .close "noscript".toList] ++ para "b"
example : SpecDocOk wRich = true ∧ hiddenData wRich = ["h1".toList, "c".toList, "CDATA[ x ".toList, "h2".toList, "top".toList]
    ∧ "h1".toList ∉ visibleData wRich := by decide +kernel
example : dataOf (run htmlTables logDown (init []) (events wRich)).down = ["a".toList, "b".toList] := by
  decide_chars wRich para p htmlTables htmlRemove htmlVoid
-- `legacy_partial`'s hypothesis is satisfiable by a document with a (balanced) removed element
example : ([.text "a".toList, .removed "script".toList [] [.data "x".toList],
            .removed "noscript".toList [] [.start p [], .data "y".toList, .end_ p],
            .removedEmpty "embed".toList [] true, .text "b".toList] : Doc).all (LegacyItemOk htmlTables) = true := by
  decide_chars p htmlTables htmlRemove htmlVoid
-- and is violated by each witness
example : wVoidChild.all (LegacyItemOk htmlTables) = false ∧ wBareEmbed.all (LegacyItemOk htmlTables) = false
    ∧ wStrayEnd.all (LegacyItemOk htmlTables) = false := by
  decide_chars wVoidChild wBareEmbed wStrayEnd para p htmlTables htmlRemove htmlVoid

end S2T.C17
