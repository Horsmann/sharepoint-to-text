import S2T.Lemmas.PyPaths
import S2T.Props.C14_Resolve
import S2T.Gen.PyZipUtils
import S2T.Gen.PyPptxPaths
import S2T.Gen.PyXlsxPaths
import S2T.Gen.PyDocxPaths
import S2T.Gen.PyOdfPaths
import S2T.Gen.PyEpubPaths
/-!
# C14 (source tie) — the translated path resolvers ARE the hand models of `S2T/Model/Images.lean` §1

`S2T.Gen.PyZipUtils / PyPptxPaths / PyXlsxPaths / PyOdfPaths / PyEpubPaths` are regenerated from the current
text of `util/zip_utils.py`, `ms_modern/pptx_extractor.py`, `ms_modern/xlsx_extractor.py`,
`open_office/_shared.py`, `epub_extractor.py` on every run (`tools/gen/pyfun_paths.py`, construct by
construct); `S2T.Gen.PyDocxPaths` holds no function, only the call sites of `resolve_part_target` in
`ms_modern/docx_extractor.py` (`docx_call_sites`).  For every source directory, every target / href (any characters, any number
of segments) each translated function equals its hand model and never raises (`…_eq`) and, composed with the theorems of
`Props/C14_Resolve.lean`, IS RFC 3986 §5.2 / OPC resolution (`…_is_opc`).  `str.split("/")`, `"/".join`, `list.append/pop`, `x[:-1]`, f-strings of strings are prelude
operations (`S2T/Py/Paths.lean`, trusted); `splitOn '/' = splitSlash` and `strJoin "/" = joinSlash` are
proved (`S2T/Lemmas/PyPaths.lean`).

The proofs never mention a local variable of the source: the loop body, whatever its shape, has to agree with
`dotStep` (one iteration of the dot-segment loop) element-wise: the body is the tree of tests that `dotStep` is
(`dot_body`), up to how the source spells the two tests (`beq_dotdot`, `truthy_ne_dot`) and the guarded `pop()`.
-/
-- one simp set serves every leaf of a case split; a leaf does not use all of it
set_option linter.unusedSimpArgs false
namespace S2T.C14.Src
open S2T.Py S2T.Images S2T.Spec.Opc
open S2T.Gen.PyZipUtils S2T.Gen.PyPptxPaths S2T.Gen.PyXlsxPaths S2T.Gen.PyOdfPaths S2T.Gen.PyEpubPaths

/-- the translator understood every construct of the whitelisted functions -/
theorem gen_py_notes_empty : S2T.Gen.PyZipUtils.notes = [] ∧ S2T.Gen.PyPptxPaths.notes = []
    ∧ S2T.Gen.PyXlsxPaths.notes = [] ∧ S2T.Gen.PyOdfPaths.notes = [] ∧ S2T.Gen.PyEpubPaths.notes = []
    ∧ S2T.Gen.PyDocxPaths.notes = [] := by decide

/-- the functions this file ties (a renamed / removed function breaks this) -/
theorem gen_py_translated : S2T.Gen.PyZipUtils.translated = ["resolve_part_target"]
    ∧ S2T.Gen.PyPptxPaths.translated = ["_normalize_relative_path"]
    ∧ S2T.Gen.PyXlsxPaths.translated = ["_resolve_drawing_path", "_resolve_image_path"]
    ∧ S2T.Gen.PyOdfPaths.translated = ["resolve_odf_href"]
    ∧ S2T.Gen.PyEpubPaths.translated = ["_EpubContext.resolve_href"] := by decide

theorem popLoop_eq_foldl (acc parts : List Py.Str) : popLoop acc parts = parts.foldl dotStep acc.reverse := by
  induction parts generalizing acc with
  | nil => rfl
  | cons p r ih =>
    unfold popLoop
    simp only [List.foldl_cons, dotStep]
    by_cases h1 : p = dotdot
    · cases acc <;> simp [h1, ih]
    · by_cases h2 : p ≠ [] ∧ p ≠ dot <;> simp [h1, h2, ih]

-- the same script: the two model loops differ only in what `..` does on an empty stack
theorem odfLoop_eq_dotRun (acc parts : List Py.Str) : odfLoop acc parts = dotRun acc.reverse parts := by
  induction parts generalizing acc with
  | nil => rfl
  | cons p r ih =>
    unfold odfLoop
    simp only [dotRun, dotStep]
    by_cases h1 : p = dotdot
    · cases acc <;> simp [h1, ih]
    · by_cases h2 : p ≠ [] ∧ p ≠ dot <;> simp [h1, h2, ih]

theorem startswith_slash (t : Py.Str) : startswith t "/".toList = startsSlash t := startswith_singleton t '/'

/-- **`resolve_part_target` is `resolvePartTarget`** (all directories, all targets; it never raises) -/
theorem resolve_part_target_eq (d t : Py.Str) : resolve_part_target d t = pure (resolvePartTarget d t) := by
  unfold resolve_part_target resolvePartTarget
  -- what follows the `if` (the loop and the join) is a continuation of the translated text: said once, for any `parts`
  extract_lets _ _ jp
  have hjp : ∀ parts, jp () parts = pure (joinSlash (popLoop [] parts)) := by
    intro parts
    simp only [jp]
    rw [forIn_dotStep, popLoop_eq_foldl]
    · exact congrArg Except.ok (strJoin_slash _)
    · exact fun p res => dot_body p res (fun r => (Except.ok (ForInStep.yield r) : M _)) _ (beq_dotdot p) (truthy_ne_dot p)
        fun _ => by cases res <;> rfl
  rw [hjp, hjp, startswith_slash]
  split
  · exact congrArg (fun x => Except.ok (joinSlash (popLoop [] x))) (splitOn_slash t)
  · exact congrArg (fun x => Except.ok (joinSlash (popLoop [] x)))
      ((splitOn_slash _).trans (by rw [List.append_assoc]; rfl))

/-- **PPTX `_normalize_relative_path`** is `resolve_part_target` -/
theorem normalize_relative_path_eq (d t : Py.Str) : _normalize_relative_path d t = pure (resolvePartTarget d t) := by
  unfold _normalize_relative_path
  simp [resolve_part_target_eq]

/-- … called with the slide's directory it is the model's `pptxImagePath` -/
theorem normalize_relative_path_pptx (slidePath t : Py.Str) :
    _normalize_relative_path (dirOf slidePath) t = pure (pptxImagePath slidePath t) :=
  normalize_relative_path_eq _ _

/-- **XLSX `_resolve_drawing_path`** is `xlsxDrawingPath` -/
theorem resolve_drawing_path_eq (t : Py.Str) : _resolve_drawing_path t = pure (xlsxDrawingPath t) := by
  unfold _resolve_drawing_path
  simp [resolve_part_target_eq, xlsxDrawingPath]

/-- **XLSX `_resolve_image_path`** is `xlsxImagePath` (`"/".join(p.split("/")[:-1])` is `dirOf`) -/
theorem resolve_image_path_eq (t drawing : Py.Str) : _resolve_image_path t drawing = pure (xlsxImagePath t drawing) := by
  unfold _resolve_image_path
  simp [resolve_part_target_eq, xlsxImagePath, dirOf, splitOn_slash, strJoin_slash]

/-- DOCX has no wrapper: every call of `resolve_part_target` in `docx_extractor.py` passes the literal `"word"`
    as the source directory — so what it computes is `docxImagePath` (`resolve_part_target_eq`). -/
theorem docx_call_sites : S2T.Gen.PyDocxPaths.call_sites ≠ [] ∧
    ∀ s ∈ S2T.Gen.PyDocxPaths.call_sites, s.2.1 = "resolve_part_target" ∧ s.2.2.head? = some "'word'" := by decide

theorem docx_resolve_eq (t : Py.Str) : resolve_part_target "word".toList t = pure (docxImagePath t) :=
  resolve_part_target_eq _ _

/-- PPTX / XLSX: `resolve_part_target` is only called inside the translated wrappers (no other, untied use) -/
theorem pptx_xlsx_call_sites :
    (∀ s ∈ S2T.Gen.PyPptxPaths.call_sites, s.1 ∈ S2T.Gen.PyPptxPaths.translated)
    ∧ (∀ s ∈ S2T.Gen.PyXlsxPaths.call_sites, s.1 ∈ S2T.Gen.PyXlsxPaths.translated) := by decide

/-- **`resolve_odf_href` is `odfResolve`** (the early `return href` is the model's `none`) -/
theorem resolve_odf_href_eq (href : Py.Str) : resolve_odf_href href = pure (odfResolve href) := by
  unfold resolve_odf_href odfResolve
  dsimp only  -- opens the `let`s of the translated text
  rw [forIn_dotRun href, startswith_slash, splitOn_slash]
  · by_cases hs : startsSlash href = true
    · rw [if_pos hs, if_pos hs]
    · rw [if_neg hs, if_neg hs]
      -- by what the model's loop returns; `hr` says the same of the prelude's `dotRun`
      rcases hl : odfLoop [] (splitSlash href) with _ | segs
      all_goals (
        have hr := hl
        rw [odfLoop_eq_dotRun, List.reverse_nil] at hr)
      · simp only [M.ok_bind, dotRunState_none _ _ _ hr]
      · simp only [M.ok_bind, dotRunState_some _ _ _ _ hr]
        exact congrArg Except.ok (strJoin_slash _)
  · intro p res
    by_cases h : p = dotdot ∧ res = []
    · obtain ⟨rfl, rfl⟩ := h; rfl
    · rw [if_neg h]
      refine dot_body p res (fun r => (Except.ok (ForInStep.yield (none, r)) : M _)) _ (beq_dotdot p) (truthy_ne_dot p) fun hp => ?_
      cases res with
      | nil => exact absurd ⟨hp, rfl⟩ h
      | cons x r => rfl

/-- **`_EpubContext.resolve_href` is `epubResolve`** at the context's `_opf_dir` -/
theorem epub_resolve_href_eq (self : EpubContext) (href : Py.Str) :
    _EpubContext.resolve_href self href = pure (epubResolve self.opfDir href) := by
  unfold _EpubContext.resolve_href epubResolve
  extract_lets
  rw [forIn_dotStep, popLoop_eq_foldl, ← splitOn_slash]
  · exact congrArg Except.ok ((strJoin_slash _).trans
      (by rw [← startswith_slash]; rfl))
  · exact fun p res => dot_body p res (fun r => (Except.ok (ForInStep.yield r) : M _)) _ (beq_dotdot p) (truthy_ne_dot p)
        fun _ => by cases res <;> rfl

/-- `zip_utils.resolve_part_target`, as written in the source, is OPC resolution for every directory and target -/
theorem resolve_part_target_is_opc (d t : Py.Str) : resolve_part_target d t = pure (opcResolve d t) := by
  rw [resolve_part_target_eq, S2T.C14.Resolve.C14_opc_resolve_part_target]

theorem normalize_relative_path_is_opc (d t : Py.Str) : _normalize_relative_path d t = pure (opcResolve d t) := by
  rw [normalize_relative_path_eq, S2T.C14.Resolve.C14_opc_resolve_part_target]

theorem resolve_drawing_path_is_opc (t : Py.Str) :
    _resolve_drawing_path t = pure (opcResolve "xl/worksheets".toList t) := by
  rw [resolve_drawing_path_eq, S2T.C14.Resolve.C14_opc_xlsx_drawing]

theorem resolve_image_path_is_opc (t drawing : Py.Str) :
    _resolve_image_path t drawing = pure (opcResolve (dirOf drawing) t) := by
  rw [resolve_image_path_eq, S2T.C14.Resolve.C14_opc_xlsx_image]

/-- EPUB: with `_opf_dir = dir + "/"` (what `_parse_container` stores for an OPF in a directory) -/
theorem epub_resolve_href_is_opc (dir href : Py.Str) :
    _EpubContext.resolve_href ⟨dir ++ ['/']⟩ href = pure (opcResolve dir href) := by
  rw [epub_resolve_href_eq, S2T.C14.Resolve.C14_opc_epub]

/-- … and with `_opf_dir = ""` (OPF at the package root) -/
theorem epub_resolve_href_root_is_opc (href : Py.Str) :
    _EpubContext.resolve_href ⟨[]⟩ href = pure (opcResolve [] href) := by
  rw [epub_resolve_href_eq, S2T.C14.Resolve.C14_opc_epub_root]

/-- ODF: a relative href that stays inside the package -/
theorem resolve_odf_href_is_opc (href : Py.Str) (hrel : isAbsolute href = false)
    (hin : S2T.C14.Resolve.staysInside [] (splitSlash href) = true) :
    resolve_odf_href href = pure (opcResolve [] href) := by
  rw [resolve_odf_href_eq, S2T.C14.Resolve.C14_opc_odf href hrel hin]

example : isAbsolute "./Pictures/a.png".toList = false
    ∧ S2T.C14.Resolve.staysInside [] (splitSlash "./Pictures/a.png".toList) = true := by decide_chars

/-- … and one that leaves it is returned unchanged -/
theorem resolve_odf_href_outside (href : Py.Str)
    (h : isAbsolute href = true ∨ S2T.C14.Resolve.staysInside [] (splitSlash href) = false) :
    resolve_odf_href href = pure href := by
  rw [resolve_odf_href_eq, S2T.C14.Resolve.C14_odf_outside href h]

/-! ## what the OPC equalities give for the translated resolvers themselves

Whatever a relationship target, an `href` or a drawing reference says, the resolvers **as the source has them now**
answer a `/`-joined list of proper names — no empty, `.` or `..` segment survives, so the name cannot point outside
the package — and an absolute target does not depend on the part it is written in. -/

private theorem opc_normal (d t : Py.Str) :
    ∃ segs, opcResolve d t = joinSlash segs ∧ ∀ s ∈ segs, isName s = true := by
  unfold opcResolve
  split
  · exact ⟨_, rfl, S2T.C14.Resolve.norm_clean _⟩
  · exact ⟨_, rfl, S2T.C14.Resolve.norm_clean _⟩

/-- **C14 at the source level (resolved part names are normal)**: `zip_utils.resolve_part_target` (DOCX, shared) -/
theorem resolve_part_target_normal (d t : Py.Str) :
    ∃ segs, resolve_part_target d t = pure (joinSlash segs) ∧ ∀ s ∈ segs, isName s = true := by
  obtain ⟨segs, h, hn⟩ := opc_normal d t
  exact ⟨segs, by rw [resolve_part_target_is_opc, h], hn⟩

/-- … the PPTX `_normalize_relative_path` -/
theorem normalize_relative_path_normal (d t : Py.Str) :
    ∃ segs, _normalize_relative_path d t = pure (joinSlash segs) ∧ ∀ s ∈ segs, isName s = true := by
  obtain ⟨segs, h, hn⟩ := opc_normal d t
  exact ⟨segs, by rw [normalize_relative_path_is_opc, h], hn⟩

/-- … the XLSX drawing and image resolvers -/
theorem xlsx_paths_normal (t drawing : Py.Str) :
    (∃ segs, _resolve_drawing_path t = pure (joinSlash segs) ∧ ∀ s ∈ segs, isName s = true) ∧
    (∃ segs, _resolve_image_path t drawing = pure (joinSlash segs) ∧ ∀ s ∈ segs, isName s = true) := by
  obtain ⟨s1, h1, n1⟩ := opc_normal "xl/worksheets".toList t
  obtain ⟨s2, h2, n2⟩ := opc_normal (dirOf drawing) t
  exact ⟨⟨s1, by rw [resolve_drawing_path_is_opc, h1], n1⟩, ⟨s2, by rw [resolve_image_path_is_opc, h2], n2⟩⟩

/-- … the EPUB `resolve_href` (OPF in a directory, OPF at the root) -/
theorem epub_resolve_href_normal (dir href : Py.Str) :
    (∃ segs, _EpubContext.resolve_href ⟨dir ++ ['/']⟩ href = pure (joinSlash segs) ∧ ∀ s ∈ segs, isName s = true) ∧
    (∃ segs, _EpubContext.resolve_href ⟨[]⟩ href = pure (joinSlash segs) ∧ ∀ s ∈ segs, isName s = true) := by
  obtain ⟨s1, h1, n1⟩ := opc_normal dir href
  obtain ⟨s2, h2, n2⟩ := opc_normal [] href
  exact ⟨⟨s1, by rw [epub_resolve_href_is_opc, h1], n1⟩, ⟨s2, by rw [epub_resolve_href_root_is_opc, h2], n2⟩⟩

/-- **C14 at the source level (an absolute target ignores the part it is written in)** -/
theorem resolve_part_target_absolute (d d' t : Py.Str) (ht : isAbsolute t = true) :
    resolve_part_target d t = resolve_part_target d' t ∧ _normalize_relative_path d t = _normalize_relative_path d' t := by
  rw [resolve_part_target_is_opc, resolve_part_target_is_opc, normalize_relative_path_is_opc,
    normalize_relative_path_is_opc, S2T.C14.Resolve.opc_absolute d d' t ht]
  exact ⟨rfl, rfl⟩

example : isAbsolute "/ppt/media/i.png".toList = true := by decide_chars
example : resolve_part_target "ppt/slides".toList "../media/./i.png".toList = pure "ppt/media/i.png".toList := by
  rw [resolve_part_target_is_opc]; exact congrArg pure (by decide_chars)
example : resolve_part_target "word".toList "../../../etc/passwd".toList = pure "etc/passwd".toList := by
  rw [resolve_part_target_is_opc]; exact congrArg pure (by decide_chars)

end S2T.C14.Src
