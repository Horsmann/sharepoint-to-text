import S2T.Lemmas.Amplify
import S2T.Lemmas.Bounds
/-!
# C12 — output governed by a number written in the input

Two mechanisms of the CURRENT library for which the statement "cost stays within a fixed multiple of the input
size, irrespective of repeat counts / declared dimensions" is FALSE, proved false on the models for every
candidate multiple `K`, with concrete inputs; the same (bounded) inputs are replayed on the real
code on every run by `harness/props/c12.py:known_witnesses`.

* `odf.text-s-count-amplification`: `<text:s text:c="N"/>` yields `N` characters from `19 + digits(N)` bytes.
* `xlsx.sparse-far-cell-amplification`: two used cells A1 and (r, c) yield `r·c` cells from `a + 3·digits(r) + 2·letters(c)` bytes
  (`xlsx_sparse_len`).

FULL STATEMENTS (false, kept visible):
  theorem textS_linear : ∃ K, ∀ p, (paraText p).length ≤ K * paraMarkupLen p
  theorem xlsx_linear  : ∃ K, ∀ cs, rectCells cs ≤ K * sheetLen env tags cs
-/
namespace S2T.C12.Amplify
open S2T.Amplify S2T.Bounds
open S2T.Limits (digits digits_of_lt digits_of_ge digits_pow10)

theorem textS_out_length (d : Nat) : (Inline.space (pow10Digits d)).out.length = 10 ^ d := by
  rw [space_out_length, digitsVal_pow10]

theorem textS_markup_length (d : Nat) : (Inline.space (pow10Digits d)).markupLen = 20 + d := by
  simp [Inline.markupLen, pow10Digits]; omega

/-- UNBOUNDEDNESS: for every multiple K there is a paragraph whose extracted text is longer than K times its markup -/
theorem textS_unbounded : ∀ K : Nat, ∃ p : List Inline, (paraText p).length > K * paraMarkupLen p :=
  amplifies_of_sq (fun d => [.space (pow10Digits d)]) 37 1
    (fun d => by simp [paraMarkupLen, textS_markup_length]; omega)
    (fun d => by simpa [paraText, textS_out_length] using sq_le_pow10 d)

/-- hence no fixed multiple bounds the text by the markup -/
theorem textS_no_linear_bound : ¬ ∃ K : Nat, ∀ p : List Inline, (paraText p).length ≤ K * paraMarkupLen p :=
  Amplifies.no_linear_bound textS_unbounded

/-- what holds (exact excluding hypothesis: no `text:c` value above R): the text is at most R times the markup -/
theorem textS_partial (R : Nat) (hR : 1 ≤ R) (p : List Inline)
    (h : ∀ ds, Inline.space ds ∈ p → digitsVal ds ≤ R) : (paraText p).length ≤ R * paraMarkupLen p := by
  have := length_flatMap_le_mul R Inline.out Inline.markupLen p fun i hi => by
    cases i with
    | text cs => exact Nat.le_mul_of_pos_left _ hR
    | space ds =>
      rw [space_out_length]
      exact Nat.le_trans (h ds hi) (Nat.le_mul_of_pos_right R (Nat.add_pos_left (by decide) _))
  rw [paraMarkupLen, Nat.mul_add]
  exact Nat.le_trans this (Nat.le_add_left _ _)
-- the hypothesis `h` can be met (R = 12)
example : ∀ ds, Inline.space ds ∈ [Inline.text ['a'], .space [1, 2], .text ['b']] → digitsVal ds ≤ 12 := by
  intro ds h
  simp at h
  subst h
  decide

/-- the bounded witness replayed on the real code: `<text:p>a<text:s text:c="20000"/>b</text:p>` is 43 bytes of markup
    and 20 002 characters of text (ratio 465) -/
theorem textS_witness :
    paraMarkupLen [.text ['a'], .space [2, 0, 0, 0, 0], .text ['b']] = 43 ∧
    (paraText [.text ['a'], .space [2, 0, 0, 0, 0], .text ['b']]).length = 20002 := by
  refine ⟨by decide, ?_⟩
  simp only [paraText, List.flatMap_cons, List.flatMap_nil, List.length_append, space_out_length]
  decide

theorem xlsx_sparse_cells (r c : Nat) (hr : 1 ≤ r) (hc : 1 ≤ c) : rectCells (sparseSheet r c) = r * c := by
  simp [rectCells, sparseSheet, maxRow, maxCol, Nat.max_eq_right hr, Nat.max_eq_right hc]

/-- the input grows with the DIGITS of r and the LETTERS of c only -/
theorem xlsx_sparse_len (env tags r c : Nat) (hr : 1 ≤ r) (hc : 1 ≤ c) :
    sheetLen env tags (sparseSheet r c) =
      env + colLetters c + digits r + (tags + 2 * digits 1 + colLetters 1 + 1 + (tags + 2 * digits r + colLetters c + 1 + 0)) := by
  simp [sheetLen, sparseSheet, maxRow, maxCol, Nat.max_eq_right hr, Nat.max_eq_right hc]

/-- UNBOUNDEDNESS: for every multiple K (whatever the fixed parts of the file weigh, for every far column) there is a
    row number for which the materialised rectangle has more than K times as many cells as the sheet has bytes -/
theorem xlsx_sparse_unbounded : ∀ K env tags c : Nat, 1 ≤ c →
    ∃ r : Nat, rectCells (sparseSheet r c) > K * sheetLen env tags (sparseSheet r c) := fun K env tags c hc =>
  amplifies_of_sq (out := fun r => rectCells (sparseSheet r c)) (size := fun r => sheetLen env tags (sparseSheet r c))
    (fun e => 10 ^ e) (env + 2 * tags + 2 * digits 1 + colLetters 1 + 2 * colLetters c + 5) 3
    (fun e => by rw [xlsx_sparse_len _ _ _ _ (Nat.pow_pos (by decide)) hc, digits_pow10]; omega)
    (fun e => by
      rw [xlsx_sparse_cells _ _ (Nat.pow_pos (by decide)) hc]
      exact Nat.le_trans (sq_le_pow10 e) (Nat.le_mul_of_pos_right _ hc)) K

theorem xlsx_no_linear_bound (env tags : Nat) :
    ¬ ∃ K : Nat, ∀ cs : List UsedCell, rectCells cs ≤ K * sheetLen env tags cs :=
  (Amplifies.of_comp (out := rectCells) (size := sheetLen env tags) (fun r => sparseSheet r 1) fun K => xlsx_sparse_unbounded K env tags 1 (Nat.le_refl 1)).no_linear_bound

/-- doubling both coordinates of the far cell quadruples the cells (the file grows by at most a few digits) -/
theorem xlsx_sparse_growth (r c : Nat) (hr : 1 ≤ r) (hc : 1 ≤ c) :
    rectCells (sparseSheet (2 * r) (2 * c)) = 4 * rectCells (sparseSheet r c) := by
  rw [xlsx_sparse_cells _ _ (by omega) (by omega), xlsx_sparse_cells _ _ hr hc]
  rw [Nat.mul_mul_mul_comm]
-- the hypotheses `hr`, `hc` can be met
example : (1 : Nat) ≤ 100 := by decide

/-- the bounded witnesses replayed on the real code: 100² / 200² / 400² cells (×4 per step) from a 268-byte worksheet part
    (envelope 134 bytes, 58 bytes of tags per cell: the harness's constants, `xlsx_sparse_witness_len`); ZZ1000 = 702 000 cells -/
theorem xlsx_sparse_witness :
    rectCells (sparseSheet 100 100) = 10000 ∧ rectCells (sparseSheet 200 200) = 40000 ∧
    rectCells (sparseSheet 400 400) = 160000 ∧ rectCells (sparseSheet 1000 702) = 702000 ∧
    colLetters 100 = 2 ∧ colLetters 400 = 2 ∧ colLetters 702 = 2 ∧ colLetters 703 = 3 := by decide +kernel

theorem xlsx_sparse_witness_len : sheetLen 134 58 (sparseSheet 400 400) = 268 := by
  have h1 : digits 1 = 1 := digits_of_lt (by decide)
  have h400 : digits 400 = 3 := by
    rw [digits_of_ge (n := 400) (by decide), digits_of_ge (n := 40) (by decide), digits_of_lt (n := 4) (by decide)]
  rw [xlsx_sparse_len _ _ _ _ (by decide) (by decide), h1, h400]
  decide

end S2T.C12.Amplify
