import S2T.Model.IfaceStreams
/-! # C04 (streams of several images)

A caller of the common interface collects `get_bytes()` of several images and reads / closes the handles afterwards.
Over the heap model of `S2T.Model.IfaceStreams`:

* images whose stored stream objects are pairwise distinct deliver, each, the whole payload from position 0,
  whatever was collected before and in whatever order the handles are read (`collect_then_read*`);
* the constructor forms `none` / `fresh` build exactly such images, with `size_bytes = len(payload)`
  (`build_fresh_separate`, `built_images_collect_then_read`);
* the form `cached` (one object stored in several images) does not: counterexamples;
* a `bytes` class never shares anything (`bytes_kind_always_separate`).
-/
namespace S2T.C04.Streams
open S2T.Iface

private theorem readCell_open (w : World) (h : Nat) (hc : (w.cell h).closed = false) (hp : (w.cell h).pos = 0) :
    readCell w h =
      (some (0, (w.cell h).content), w.put h { w.cell h with pos := max 0 (w.cell h).content.length }) := by
  simp only [readCell, hc, hp, List.drop_zero, Bool.false_eq_true, if_false]

private theorem put_cell_ne (w : World) (i j : Nat) (c : Cell) (hne : j ≠ i) : (w.put i c).cell j = w.cell j := by
  simp only [World.put, hne, if_false]

private theorem put_cell_eq (w : World) (i : Nat) (c : Cell) : (w.put i c).cell i = c := by
  simp only [World.put, if_true]

private theorem put_next (w : World) (i : Nat) (c : Cell) : (w.put i c).next = w.next := rfl

theorem read_distinct : ∀ (w : World) (hs : List Nat), hs.Nodup →
    (∀ h ∈ hs, (w.cell h).closed = false ∧ (w.cell h).pos = 0) →
    readAll w hs = hs.map (fun h => some (0, (w.cell h).content)) := by
  intro w hs
  induction hs generalizing w with
  | nil => intro _ _; rfl
  | cons h hs ih =>
    intro hnd hall
    have hh := hall h (List.mem_cons_self)
    have hnd' := List.nodup_cons.mp hnd
    simp only [readAll, readCell_open w h hh.1 hh.2, List.map_cons]
    congr 1
    have hne : ∀ x ∈ hs, x ≠ h := by
      intro x hx hxe; exact hnd'.1 (hxe ▸ hx)
    rw [ih _ hnd'.2]
    · apply List.map_congr_left
      intro x hx
      rw [put_cell_ne _ _ _ _ (hne x hx)]
    · intro x hx
      rw [put_cell_ne _ _ _ _ (hne x hx)]
      exact hall x (List.mem_cons_of_mem _ hx)

private theorem mem_streamIds_cons (im : ImageRef) (ims : List ImageRef) (i : Nat) :
    i ∈ streamIds (im :: ims) ↔ im.payload = .stream i ∨ i ∈ streamIds ims := by
  cases hp : im.payload <;> simp [streamIds, hp, eq_comm]

private theorem nodup_streamIds_cons (im : ImageRef) (ims : List ImageRef) :
    (streamIds (im :: ims)).Nodup ↔ (∀ id, im.payload = .stream id → id ∉ streamIds ims) ∧ (streamIds ims).Nodup := by
  cases hp : im.payload <;> simp [streamIds, hp]

private theorem mem_streamIds {ims : List ImageRef} {im : ImageRef} {id : Nat}
    (hm : im ∈ ims) (hp : im.payload = .stream id) : id ∈ streamIds ims := by
  induction ims with
  | nil => cases hm
  | cons a as ih =>
    rw [mem_streamIds_cons]
    rcases List.mem_cons.mp hm with rfl | h
    · exact Or.inl hp
    · exact Or.inr (ih h)

private theorem payloadContent_congr (w1 w : World) (im : ImageRef)
    (h : ∀ id, im.payload = .stream id → (w1.cell id).content = (w.cell id).content) :
    payloadContent w1 im = payloadContent w im := by
  cases hp : im.payload with
  | noData => simp only [payloadContent, hp]
  | bytes b => simp only [payloadContent, hp]
  | stream id => simp only [payloadContent, hp]; exact h id hp

private theorem collect_cons {w w1 : World} {im : ImageRef} {h : Option Nat} (hg : getBytesW w im = (h, w1))
    (ims : List ImageRef) : collect w (im :: ims) = (h :: (collect w1 ims).1, (collect w1 ims).2) := by
  simp only [collect, hg]

private theorem alloc_next (w : World) (v : List Nat) : (w.alloc v).2.next = w.next + 1 := rfl

private theorem alloc_cell_ne (w : World) (v : List Nat) (j : Nat) (h : j ≠ w.next) :
    (w.alloc v).2.cell j = w.cell j := by
  simp only [World.alloc, h, if_false]

private theorem alloc_cell_eq (w : World) (v : List Nat) : (w.alloc v).2.cell w.next = ⟨v, 0, false⟩ := by
  simp only [World.alloc, if_true]

private theorem getBytesW_alloc (w : World) (im : ImageRef) (h : ∀ id, im.payload ≠ .stream id) :
    getBytesW w im = (some w.next, (w.alloc (payloadContent w im)).2) := by
  cases hp : im.payload with
  | noData => simp only [getBytesW, payloadContent, hp]; rfl
  | bytes b => simp only [getBytesW, payloadContent, hp]; rfl
  | stream id => exact absurd hp (h id)

/-- one `get_bytes()` of an image whose stored stream (if it has one) is allocated and open: nothing is raised; the
object handed out is the stored one, rewound, or a new one; it is open, at position 0 and holds the payload; every other
object is left alone -/
private theorem getBytesW_spec (w : World) (im : ImageRef)
    (hst : ∀ id, im.payload = .stream id → id < w.next ∧ (w.cell id).closed = false) :
    ∃ h w1, getBytesW w im = (some h, w1) ∧ w.next ≤ w1.next ∧ h < w1.next ∧ (im.payload = .stream h ∨ w.next ≤ h) ∧
      (∀ j, j ≠ h → w1.cell j = w.cell j) ∧ w1.cell h = ⟨payloadContent w im, 0, false⟩ := by
  by_cases hs : ∃ id, im.payload = .stream id
  · obtain ⟨id, hp⟩ := hs
    have hc := (hst id hp).2
    refine ⟨id, w.put id { w.cell id with pos := 0 }, by simp only [getBytesW, hp, hc, Bool.false_eq_true, if_false],
      Nat.le_refl _, (hst id hp).1, Or.inl hp, fun j hj => put_cell_ne _ _ _ _ hj, ?_⟩
    rw [put_cell_eq, ← hc]
    simp only [payloadContent, hp]
  · refine ⟨w.next, _, getBytesW_alloc w im (not_exists.mp hs), Nat.le_succ _, Nat.lt_succ_self _,
      Or.inr (Nat.le_refl _), fun j hj => alloc_cell_ne w _ j hj, ?_⟩
    exact alloc_cell_eq w _

/-- what `collect` from `w` has done when it hands out the handles `hs`: their cells, taken in order, ARE the images'
payloads, open and at position 0; the induction also needs the handles' whereabouts (a stored id or a new one) and that
`collect` touches no object but those it hands out -/
private structure Collected (w : World) (ims : List ImageRef) (hs : List Nat) : Prop where
  handles : (collect w ims).1 = hs.map some
  nodup : hs.Nodup
  ready : hs.map (collect w ims).2.cell = ims.map (fun im => ⟨payloadContent w im, 0, false⟩)
  whereabouts : ∀ h ∈ hs, h ∈ streamIds ims ∨ w.next ≤ h
  frame : ∀ i, i ∉ hs → (collect w ims).2.cell i = w.cell i

private theorem Collected.unique {w : World} {ims : List ImageRef} {hs hs' : List Nat} (c : Collected w ims hs')
    (hhs : (collect w ims).1 = hs.map some) : hs = hs' :=
  (List.map_inj_right fun _ _ => Option.some.inj).mp (hhs.symm.trans c.handles)

private theorem collect_inv : ∀ (ims : List ImageRef) (w : World), (streamIds ims).Nodup →
    (∀ i ∈ streamIds ims, i < w.next ∧ (w.cell i).closed = false) → ∃ hs : List Nat, Collected w ims hs := by
  intro ims
  induction ims with
  | nil =>
    intro w _ _
    exact ⟨[], rfl, List.nodup_nil, rfl, fun _ hh => (nomatch hh), fun _ _ => rfl⟩
  | cons im ims ih =>
    intro w hnd hall
    obtain ⟨hfresh, hnd'⟩ := (nodup_streamIds_cons im ims).mp hnd
    have hall' : ∀ i ∈ streamIds ims, i < w.next ∧ (w.cell i).closed = false :=
      fun i hi => hall i ((mem_streamIds_cons im ims i).mpr (Or.inr hi))
    obtain ⟨h, w1, hg, hle, hlt, hwhere, hother, hready⟩ := getBytesW_spec w im
      fun id hid => hall id ((mem_streamIds_cons im ims id).mpr (Or.inl hid))
    -- the handle is a stored object of this image alone, or a new one: the later images' objects are as they were
    have hnew : h ∉ streamIds ims := fun e =>
      hwhere.elim (fun hid => hfresh h hid e) (Nat.not_le_of_lt (hall' h e).1)
    have hw1 : ∀ i ∈ streamIds ims, w1.cell i = w.cell i := fun i hi => hother i fun e => hnew (e ▸ hi)
    obtain ⟨hs, c⟩ := ih w1 hnd' fun i hi => by
      rw [hw1 i hi]
      exact ⟨Nat.lt_of_lt_of_le (hall' i hi).1 hle, (hall' i hi).2⟩
    have hhs : h ∉ hs := fun hin => (c.whereabouts h hin).elim hnew (Nat.not_le_of_lt hlt)
    refine ⟨h :: hs, ?_⟩
    constructor
    · rw [collect_cons hg, List.map_cons, c.handles]
    · exact List.nodup_cons.mpr ⟨hhs, c.nodup⟩
    · rw [collect_cons hg, List.map_cons, List.map_cons, (c.frame h hhs).trans hready, c.ready]
      exact congrArg _ (List.map_congr_left fun im him => congrArg (Cell.mk · 0 false)
        (payloadContent_congr w1 w im fun j hj => congrArg Cell.content (hw1 j (mem_streamIds him hj))))
    · intro x hx
      rcases List.mem_cons.mp hx with rfl | hx
      · exact hwhere.imp (fun e => (mem_streamIds_cons im ims x).mpr (Or.inl e)) id
      · exact (c.whereabouts x hx).imp (fun e => (mem_streamIds_cons im ims x).mpr (Or.inr e)) (Nat.le_trans hle)
    · intro i hi
      rw [collect_cons hg]
      exact (c.frame i fun e => hi (List.mem_cons_of_mem _ e)).trans (hother i fun e => hi (e ▸ List.mem_cons_self))

private theorem ready_getElem {W w : World} {ims : List ImageRef} {hs : List Nat}
    (h8 : hs.map W.cell = ims.map (fun im => ⟨payloadContent w im, 0, false⟩)) (k : Nat) (hk : k < ims.length)
    (hk' : k < hs.length) : W.cell hs[k] = ⟨payloadContent w ims[k], 0, false⟩ := by
  have := List.getElem_of_eq h8 (by simpa using hk')
  rwa [List.getElem_map, List.getElem_map] at this

private theorem handles_ready {W w : World} {ims : List ImageRef} {hs : List Nat}
    (h8 : hs.map W.cell = ims.map (fun im => ⟨payloadContent w im, 0, false⟩)) :
    ∀ h ∈ hs, (W.cell h).closed = false ∧ (W.cell h).pos = 0 := by
  intro h hh
  obtain ⟨im, _, e⟩ := List.mem_map.mp (h8 ▸ List.mem_map_of_mem hh)
  rw [← e]
  exact ⟨rfl, rfl⟩

/-- images whose stored stream objects are pairwise distinct, allocated and open: collecting `get_bytes()` of all of
them raises nowhere, the handles are pairwise distinct, and afterwards every handle is open, at position 0 and holds
its image's payload -/
theorem collect_separate : ∀ (w : World) (ims : List ImageRef), (streamIds ims).Nodup →
    (∀ i ∈ streamIds ims, i < w.next ∧ (w.cell i).closed = false) →
    ∃ hs : List Nat, (collect w ims).1 = hs.map some ∧ hs.Nodup ∧ hs.length = ims.length ∧
      ∀ k (hk : k < ims.length) (hk' : k < hs.length),
        ((collect w ims).2.cell hs[k]).closed = false ∧ ((collect w ims).2.cell hs[k]).pos = 0 ∧
        ((collect w ims).2.cell hs[k]).content = payloadContent w ims[k] := by
  intro w ims hnd hall
  obtain ⟨hs, c⟩ := collect_inv ims w hnd hall
  exact ⟨hs, c.handles, c.nodup, by simpa using congrArg List.length c.ready,
    fun k hk hk' => by rw [ready_getElem c.ready k hk hk']; exact ⟨rfl, rfl, rfl⟩⟩

private theorem Collected.read {w : World} {ims : List ImageRef} {hs : List Nat} (c : Collected w ims hs) :
    readAll (collect w ims).2 hs = ims.map (fun im => some (0, payloadContent w im)) := by
  rw [read_distinct _ hs c.nodup (handles_ready c.ready)]
  simpa only [List.map_map, Function.comp_def] using congrArg (List.map fun c : Cell => some (0, c.content)) c.ready

/-- the main theorem: with pairwise distinct, allocated, open stream objects, collecting `get_bytes()` of every image
and reading the handles afterwards finds every stream at position 0 and delivers the whole payload -/
theorem collect_then_read : ∀ (w : World) (ims : List ImageRef), (streamIds ims).Nodup →
    (∀ i ∈ streamIds ims, i < w.next ∧ (w.cell i).closed = false) →
    ∃ hs : List Nat, (collect w ims).1 = hs.map some ∧
      readAll (collect w ims).2 hs = ims.map (fun im => some (0, payloadContent w im)) := by
  intro w ims hnd hall
  obtain ⟨hs, c⟩ := collect_inv ims w hnd hall
  exact ⟨hs, c.handles, c.read⟩

/-- the same for THE handles collected (they are determined by `collect`) -/
theorem collect_then_read_handles : ∀ (w : World) (ims : List ImageRef), (streamIds ims).Nodup →
    (∀ i ∈ streamIds ims, i < w.next ∧ (w.cell i).closed = false) →
    ∀ hs : List Nat, (collect w ims).1 = hs.map some →
      readAll (collect w ims).2 hs = ims.map (fun im => some (0, payloadContent w im)) := by
  intro w ims hnd hall hs hhs
  obtain ⟨hs', c⟩ := collect_inv ims w hnd hall
  obtain rfl := c.unique hhs
  exact c.read

/-- … and in any order (any duplicate-free list of collected handles, e.g. a permutation of all of them):
every stream read is found at position 0 and delivers its whole content, which is the payload of its image -/
theorem collect_then_read_any_order : ∀ (w : World) (ims : List ImageRef), (streamIds ims).Nodup →
    (∀ i ∈ streamIds ims, i < w.next ∧ (w.cell i).closed = false) →
    ∃ hs : List Nat, (collect w ims).1 = hs.map some ∧ hs.length = ims.length ∧
      (∀ k (hk : k < ims.length) (hk' : k < hs.length),
        ((collect w ims).2.cell hs[k]).content = payloadContent w ims[k]) ∧
      ∀ order : List Nat, order.Nodup → (∀ h ∈ order, h ∈ hs) →
        readAll (collect w ims).2 order =
          order.map (fun h => some (0, ((collect w ims).2.cell h).content)) := by
  intro w ims hnd hall
  obtain ⟨hs, c⟩ := collect_inv ims w hnd hall
  exact ⟨hs, c.handles, by simpa using congrArg List.length c.ready, fun k hk hk' => by rw [ready_getElem c.ready k hk hk'],
    fun order hond hsub => read_distinct _ order hond fun h hh => handles_ready c.ready h (hsub h hh)⟩

/-- a permutation of the handles is such an order -/
theorem collect_then_read_perm : ∀ (w : World) (ims : List ImageRef), (streamIds ims).Nodup →
    (∀ i ∈ streamIds ims, i < w.next ∧ (w.cell i).closed = false) →
    ∀ hs order : List Nat, (collect w ims).1 = hs.map some → order.Perm hs →
      readAll (collect w ims).2 order =
        order.map (fun h => some (0, ((collect w ims).2.cell h).content)) := by
  intro w ims hnd hall hs order hhs hperm
  obtain ⟨hs', c⟩ := collect_inv ims w hnd hall
  obtain rfl := c.unique hhs
  exact read_distinct _ order (hperm.nodup_iff.mpr c.nodup) fun h hh => handles_ready c.ready h (hperm.mem_iff.mp hh)

/-- what the constructor loop started in `w` keeps, as long as no source is `cached`: allocated objects are left alone;
the stream ids stored are new (`≥ w.next`), allocated afterwards, open and pairwise distinct; sizes are payload lengths -/
structure BuildInv (w : World) (r : List ImageRef × World) : Prop where
  next_le : w.next ≤ r.2.next
  old_cells : ∀ i, i < w.next → r.2.cell i = w.cell i
  nodup : (streamIds r.1).Nodup
  ids : ∀ i ∈ streamIds r.1, w.next ≤ i ∧ i < r.2.next ∧ (r.2.cell i).closed = false
  sizes : ∀ im ∈ r.1, im.sizeBytes = (payloadContent r.2 im).length

private theorem BuildInv.cons {w : World} {r : List ImageRef × World} (im : ImageRef) (h : BuildInv w r)
    (hid : ∀ id, im.payload = .stream id →
      id ∉ streamIds r.1 ∧ w.next ≤ id ∧ id < r.2.next ∧ (r.2.cell id).closed = false)
    (hsz : im.sizeBytes = (payloadContent r.2 im).length) : BuildInv w (im :: r.1, r.2) :=
  { h with
    nodup := (nodup_streamIds_cons im r.1).mpr ⟨fun id e => (hid id e).1, h.nodup⟩
    ids := fun i hi => ((mem_streamIds_cons im r.1 i).mp hi).elim (fun e => (hid i e).2) (h.ids i)
    sizes := List.forall_mem_cons.mpr ⟨hsz, h.sizes⟩ }

/-- a step that stores a new stream object: what holds from the world after the allocation holds from `w`, and the
new object is `w.next` -/
private theorem BuildInv.cons_stream {w : World} {r : List ImageRef × World} (v : List Nat)
    (h : BuildInv (w.alloc v).2 r) : BuildInv w (⟨.stream w.next, v.length⟩ :: r.1, r.2) := by
  have next_le := h.next_le
  have old_cells := h.old_cells
  have ids := h.ids
  rw [alloc_next] at next_le old_cells ids
  have hidW : r.2.cell w.next = ⟨v, 0, false⟩ := (old_cells w.next (Nat.lt_succ_self _)).trans (alloc_cell_eq w v)
  have hw : BuildInv w r := { h with
    next_le := Nat.le_of_succ_le next_le
    old_cells := fun i hi => (old_cells i (Nat.lt_succ_of_lt hi)).trans (alloc_cell_ne w v i (Nat.ne_of_lt hi))
    ids := fun i hi => ⟨Nat.le_of_succ_le (ids i hi).1, (ids i hi).2⟩ }
  refine hw.cons _ (fun id e => ?_) (by simp only [payloadContent, hidW])
  cases e
  exact ⟨fun hin => Nat.not_succ_le_self _ (ids _ hin).1, Nat.le_refl _, next_le, by rw [hidW]⟩

theorem build_fresh_invariants (kind : PayloadKind) : ∀ (srcs : List Source) (w : World) (cache : List (Nat × Nat)),
    (∀ s ∈ srcs, isCached s = false) → BuildInv w (buildImages kind w cache srcs) := by
  intro srcs
  induction srcs with
  | nil =>
    intro w cache _
    exact ⟨Nat.le_refl _, fun _ _ => rfl, List.nodup_nil, (fun i hi => nomatch hi), (fun im him => nomatch him)⟩
  | cons s ss ih =>
    intro w cache hnc
    have hnc' : ∀ s ∈ ss, isCached s = false := fun s hs => hnc s (List.mem_cons_of_mem _ hs)
    cases s with
    | none => exact (ih w cache hnc').cons ⟨.noData, 0⟩ (fun id h => nomatch h) rfl
    | cached key v => exact nomatch hnc (.cached key v) List.mem_cons_self
    | fresh v =>
      cases kind with
      | bytes => exact (ih w cache hnc').cons ⟨.bytes v, v.length⟩ (fun id h => nomatch h) rfl
      | otherKind => exact (ih w cache hnc').cons ⟨.bytes v, v.length⟩ (fun id h => nomatch h) rfl
      | stream => exact (ih (w.alloc v).2 cache hnc').cons_stream v

/-- what the constructor sites build when no site is of the `cached` form satisfies the hypotheses of
`collect_separate` / `collect_then_read`, and `size_bytes` is the payload length -/
theorem build_fresh_separate : ∀ (kind : PayloadKind) (w : World) (cache : List (Nat × Nat)) (srcs : List Source),
    (∀ s ∈ srcs, isCached s = false) →
    let r := buildImages kind w cache srcs
    (streamIds r.1).Nodup ∧ (∀ i ∈ streamIds r.1, i < r.2.next ∧ (r.2.cell i).closed = false) ∧
      (∀ im ∈ r.1, im.sizeBytes = (payloadContent r.2 im).length) := by
  intro kind w cache srcs hnc
  have h := build_fresh_invariants kind srcs w cache hnc
  exact ⟨h.nodup, fun i hi => (h.ids i hi).2, h.sizes⟩

/-- a whole document without `cached` sites: collect the streams of all its images, then read them all — every image
delivers `some (0, payload)` and `size_bytes = len(payload)` -/
theorem built_images_collect_then_read : ∀ (kind : PayloadKind) (srcs : List Source),
    (∀ s ∈ srcs, isCached s = false) →
    let r := buildImages kind World.empty [] srcs
    ∃ hs : List Nat, (collect r.2 r.1).1 = hs.map some ∧
      readAll (collect r.2 r.1).2 hs = r.1.map (fun im => some (0, payloadContent r.2 im)) ∧
      ∀ im ∈ r.1, im.sizeBytes = (payloadContent r.2 im).length := by
  intro kind srcs hnc
  obtain ⟨b1, b2, b3⟩ := build_fresh_separate kind World.empty [] srcs hnc
  obtain ⟨hs, h1, h2⟩ := collect_then_read _ _ b1 b2
  exact ⟨hs, h1, h2, b3⟩

/-- for a `bytes` class the images built refer to no stream object at all, `cached` sources included -/
theorem bytes_kind_always_separate : ∀ (w : World) (cache : List (Nat × Nat)) (srcs : List Source),
    streamIds (buildImages .bytes w cache srcs).1 = [] := by
  intro w cache srcs
  induction srcs generalizing w cache with
  | nil => rfl
  | cons s ss ih =>
    cases s with
    | none => simp only [buildImages, streamIds]; exact ih w cache
    | fresh v => simp only [buildImages, streamIds]; exact ih w cache
    | cached key v => simp only [buildImages, streamIds]; exact ih w cache

/-- two images built from the same cache entry store the same object: the second handle collected is the first one,
and reading both finds the second stream at its end — 0 of its `size_bytes = 3` bytes -/
theorem shared_stream_counterexample :
    let r := buildImages .stream World.empty [] [.cached 1 [7, 8, 9], .cached 1 [7, 8, 9]]
    r.1 = [⟨.stream 0, 3⟩, ⟨.stream 0, 3⟩] ∧
    streamIds r.1 = [0, 0] ∧
    (collect r.2 r.1).1 = [some 0, some 0] ∧
    readAll (collect r.2 r.1).2 [0, 0] = [some (0, [7, 8, 9]), some (3, [])] := by
  decide

/-- … and closing the first image's stream makes `get_bytes()` of the second image raise -/
theorem shared_stream_close_counterexample :
    let r := buildImages .stream World.empty [] [.cached 1 [7, 8, 9], .cached 1 [7, 8, 9]]
    ∃ im1 im2, r.1 = [im1, im2] ∧
      (getBytesW r.2 im1).1 = some 0 ∧
      (getBytesW (closeCell (getBytesW r.2 im1).2 0) im2).1 = none := by
  refine ⟨⟨.stream 0, 3⟩, ⟨.stream 0, 3⟩, ?_⟩
  decide

/-- non-vacuity: the hypotheses of `collect_separate` hold for two images with distinct stream objects -/
example :
    let w := ((World.empty.alloc [5]).2.alloc [6, 7]).2
    let ims : List ImageRef := [⟨.stream 0, 1⟩, ⟨.stream 1, 2⟩]
    (streamIds ims).Nodup ∧ (∀ i ∈ streamIds ims, i < w.next ∧ (w.cell i).closed = false) ∧
      (collect w ims).1 = [some 0, some 1] ∧
      readAll (collect w ims).2 [1, 0] = [some (0, [6, 7]), some (0, [5])] := by
  decide

/-- a document with two fresh stream images and a placeholder in between -/
example :
    let r := buildImages .stream World.empty [] [.fresh [1, 2], .none, .fresh [3]]
    r.1 = [⟨.stream 0, 2⟩, ⟨.noData, 0⟩, ⟨.stream 1, 1⟩] ∧
    (collect r.2 r.1).1 = [some 0, some 2, some 1] ∧
    readAll (collect r.2 r.1).2 [0, 2, 1] = [some (0, [1, 2]), some (0, []), some (0, [3])] := by
  decide

end S2T.C04.Streams
