import S2T.Model.OmmlHist
import S2T.Lemmas.Chars
import S2T.Gen.OmmlState
import S2T.Gen.Omml
/-!
# C19 (histories) — the conversion is a function of the TREE it is given, whatever was converted before

"Converting any OMML formula tree … is deterministic": `xml.etree.ElementTree` elements are mutable objects, so the
statement has to hold along every HISTORY on one object — convert, edit the tree in place, convert the same root (or
any element below it) again: each conversion returns what the conversion of a fresh copy of the tree, as it is at that
moment, returns (`S2T.OmmlHist.fresh`).

* `S2T.Gen.OmmlState` is regenerated on every run from the current text of `util/omml_to_latex.py`
  (`tools/gen/omml_state.py`): the closed-world list `channels` of everything by which one call could influence a later
  one or see more than the value of its argument (writes / aliases / non-read uses of module-level containers, non-plain
  module-level objects such as weak dictionaries, `global`/`nonlocal`, ANY decorator, non-constant defaults, attribute /
  subscript stores and mutating methods on anything but per-call local containers — in particular on the argument
  element —, classes, calls of anything but the module's own functions, pure builtins and methods of values).
  `gen_channels_empty` re-decides that the list is empty.
* `C19_history_free`: ANY implementation whose only memory between calls are the cells of that inventory returns, along
  every history of conversions and in-place edits (any tree, any paths, any edits, any length), exactly the outputs of
  converting fresh copies.  The theorem is stated over `Store S2T.Gen.OmmlState.channels`, so it breaks the moment the
  source acquires a channel.
* `S2T.C19.C19_function_of_tree` (`Props/C19.lean`): the function TRANSLATED from the source (`S2T.Gen.PyOmml.omml_to_latex`, every ElementTree
  element) returns the same string for two elements with the same abstraction — equal in tag / `m:val` / text / children,
  different in identity, tails, foreign attributes: nothing else of the object is an input.
* `C19_history_model`: along every history the demanded outputs are the model's `omml tables` of the edited tree — the
  function all other C19 theorems are about; `memo_history_counterexample`: what `channels = []` excludes.
-/
namespace S2T.C19.Hist
open S2T.Omml S2T.OmmlHist

/-- the inventory translator understood the file -/
theorem gen_state_notes_empty : S2T.Gen.OmmlState.notes = [] := by decide

/-- **no inter-call channel in the current source**: no module-level container is written, aliased or passed on, no
    non-plain module-level object, no `global`, no decorator, no non-constant default, no attribute / subscript store or
    mutating method on anything but a per-call local container (so the ARGUMENT tree is not modified either), no class,
    no foreign call -/
theorem gen_channels_empty : S2T.Gen.OmmlState.channels = [] := by decide

/-- the module-level containers that exist are plain dict / list / set literals (read-only by `gen_channels_empty`) -/
theorem gen_cells_plain :
    S2T.Gen.OmmlState.cells.all (fun c => ["dict", "list", "set"].contains c.2) = true := by decide

/-- the file imports ElementTree only (no `weakref`, `functools`, `threading`, `copy`, …) -/
theorem gen_imports : S2T.Gen.OmmlState.imports = ["xml.etree.ElementTree"] := by decide

theorem store_eq {chans : List String} {ν : Type} (h : chans = []) (g g' : Store chans ν) : g = g' := by
  subst h
  funext c
  exact absurd c.2 (by simp)

private theorem runHist_of_fixed {σ} (impl : σ → Xml → Str × σ) (g : σ) (h : ∀ x, (impl g x).2 = g) (t : Xml)
    (steps : List Step) : runHist impl g t steps = fresh (fun x => (impl g x).1) t steps := by
  induction steps generalizing t with
  | nil => rfl
  | cons s r ih =>
    cases s with
    | edit => exact ih _
    | conv p =>
      simp only [runHist, fresh]
      cases subAt p t with
      | none => exact ih _
      | some x => simp only [h x, ih]

/-- **history freedom, generic**: an implementation that threads a store with no cells returns, along every history,
    the outputs of converting fresh copies (with the store it started from) -/
theorem history_free_of_no_channels {chans : List String} {ν : Type} (h : chans = [])
    (impl : Store chans ν → Xml → Str × Store chans ν) (g : Store chans ν) (t : Xml) (steps : List Step) :
    runHist impl g t steps = fresh (fun x => (impl g x).1) t steps :=
  runHist_of_fixed impl g (fun _ => store_eq h _ g) t steps

/-- **C19 (histories) on the current source**: whatever an implementation keeps in the inter-call channels found in
    `omml_to_latex.py` — there are none —, every conversion of every history of conversions and in-place edits on one
    element object returns what it returns for a fresh copy of the tree as it is at that moment -/
theorem C19_history_free {ν : Type}
    (impl : Store S2T.Gen.OmmlState.channels ν → Xml → Str × Store S2T.Gen.OmmlState.channels ν)
    (g : Store S2T.Gen.OmmlState.channels ν) (t : Xml) (steps : List Step) :
    runHist impl g t steps = fresh (fun x => (impl g x).1) t steps :=
  history_free_of_no_channels gen_channels_empty impl g t steps

/-- the model of the source as such an implementation: it ignores the store -/
def modelImpl {σ : Type} (g : σ) (x : Xml) : Str × σ := (omml S2T.Gen.Omml.tables x, g)

/-- **C19 (histories), model**: along every history the outputs are `omml tables` of the element at the path in the
    edited tree — the function `C19_balanced`, `C19_runs`, `C19_form_*` speak about (any store type) -/
theorem C19_history_model {σ : Type} (g : σ) (t : Xml) (steps : List Step) :
    runHist modelImpl g t steps = fresh (omml S2T.Gen.Omml.tables) t steps :=
  runHist_of_fixed modelImpl g (fun _ => rfl) t steps

section examples
open S2T.Gen.Omml

def R (s : String) : Xml := .node true "r".toList none [] [.node true n_t none s.toList []]
def E (n : Str) (ks : List Xml) : Xml := .node true n none [] ks

/-- `x^2`, then the exponent becomes `α`, a run `+y` is appended, the exponent element is removed -/
def exTree : Xml := E "oMath".toList [E n_sSup [E n_e [R "x"], E n_sup [R "2"]]]
def exSteps : List Step :=
  [.conv [], .edit [0, 1, 0, 0] (.setText "α".toList), .conv [], .edit [] (.insert 9 (R "+y")), .conv [],
   .conv [0, 1], .edit [0] (.remove 1), .conv []]

example : fresh (omml tables) exTree exSteps
    = ["x^{2}".toList, "x^{\\alpha}".toList, "x^{\\alpha}+y".toList, "\\alpha".toList, "x^{}+y".toList] := by
  decide_chars exTree exSteps E R tables greek skip naryOps funcs accents opens brackets

/-- an n-ary operator whose `m:chr` is added, changed and dropped in place -/
def exNary : Xml := E "oMath".toList [E n_nary [E n_naryPr [], E n_sub [R "i"], E n_e [R "a"]]]
example : fresh (omml tables) exNary
    [.conv [], .edit [0, 0] (.insert 0 (.node true n_chr (some ['∫']) [] [])), .conv [],
     .edit [0, 0, 0] (.setVal none), .conv [], .edit [0, 0, 0] (.setTag false n_chr), .conv []]
    = ["\\sum_{i} a".toList, "\\int_{i} a".toList, "\\sum_{i} a".toList, "\\sum_{i} a".toList] := by
  decide_chars exNary E R tables greek skip naryOps funcs accents opens brackets

/-- **`channels = []` is needed**: an implementation with ONE cell that remembers its first answer (a memo keyed by
    the element object) returns the stale string after an in-place edit -/
theorem memo_history_counterexample :
    runHist (memoImpl (omml tables)) none exTree exSteps
      = ["x^{2}".toList, "x^{2}".toList, "x^{2}".toList, "x^{2}".toList, "x^{2}".toList]
    ∧ runHist (memoImpl (omml tables)) none exTree exSteps ≠ fresh (omml tables) exTree exSteps := by
  decide_chars exTree exSteps E R tables greek skip naryOps funcs accents opens brackets

end examples

end S2T.C19.Hist
