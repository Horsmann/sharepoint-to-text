import S2T.Lemmas.PyOmml
import S2T.Gen.PyOmml
import S2T.Lemmas.Chars
/-!
# C19 (source tie) — the translated OMML → LaTeX converter IS the hand model `S2T/Model/Omml.lean`

`S2T.Gen.PyOmml` is regenerated from the current text of `util/omml_to_latex.py` on every run
(`tools/gen/pyfun_omml.py`, construct by construct): `convert_greek_and_symbols`, and `omml_to_latex` with its nested,
recursive `process_element` — a closure over the list `pending_sqrt_close`, emitted as the state-passing definition
`omml_to_latex.process_element : Option Xml → List Str → M (Str × List Str)` by WELL-FOUNDED recursion on the size of the
element (no fuel; Lean accepts the generated file only with the termination proofs `py_omml_decreasing` finds), and the
`while pending and pending[-1] in converted` loop as `omml_to_latex.process_element.while_1`, well-founded on the length
of the list it pops.

For EVERY ElementTree element `x` (`S2T.Py.Omml.Xml`: tag, attrib, text, tail, children — any tags, any attributes,
any depth / width):

* `convert_greek_and_symbols s = convert tables s`                                         (`convert_greek_and_symbols_eq`)
* `process_element(x)` run from the list representing a model stack `s` returns the rendered output of the model's
  `proc tables (abs x) s` and the list representing its new stack                           (`process_element_eq`)
* `omml_to_latex(x) = omml tables (abs x)`, `omml_to_latex(None) = ""`, nothing is raised  (`omml_to_latex_eq`, `…_none`,
  `omml_to_latex_total`)

where `abs` (`S2T/Lemmas/PyOmml.lean`) is what the hand model looks at in an element — is the tag `M_NS + local name`,
the local name `tag.split("}")[-1]`, the attribute `M_NS + "val"`, `text or ""`, the children —, and the model's
run-origin flags are erased by `render` exactly as the correspondence does (the flag the C19 harness sends instead of the
first of these is compared with it at the end of this file).  Conversely every model tree with `}`-free names is `abs` of an element (`omml_model_eq`), so every C19 theorem
about `omml tables` is a theorem about code regenerated from the source.

The raising operations the translation keeps (`tag.split("}")[-1]`: `IndexError`; `GREEK_TO_LATEX[char]`: `KeyError`;
`pending[-1]`, `pending.pop()`: `IndexError`; `partition`: `ValueError`; `unwrap` of the `None`-able `find` results) are
proved unreachable.  The local literal tables of the source (`op_map`, `func_map`, `accent_map`, `bracket_map`, the tuple
of opening brackets) are auxiliary definitions of the generated file and are identified with the tables
`tools/gen/omml.py` emits by unification (`erw` with the generated table), whatever the locals are called.

The proof scripts never mention a local variable of the source; the tag tests of the source and of the model's `kindOf`
are followed in the same order, one test at a time (`ite_dispatch`), each block is closed by `simp` with the bridge lemmas of
`Lemmas/PyOmml.lean`,
loops by `forIn_seq` (any body that threads the state and appends what it keeps of each result — the result, `one`, or
the result unless it is empty, `keep`; both orders of the two loop-carried locals are accepted).
-/
-- the `simp` sets below name the bridge lemmas of every construct a block of the source may contain; which of them fire
-- depends on the generated text
set_option linter.unusedSimpArgs false
namespace S2T.C19.Src
open S2T.Py S2T.Py.Omml S2T.Gen.PyOmml

/-- the generated tables of the current source (`tools/gen/omml.py`) -/
abbrev T := S2T.Gen.Omml.tables

/-- the prelude's `strip` is called with the generated list, the model's with the field of `T` -/
private theorem spaces_eq : S2T.Gen.Omml.spaces = T.spaces := rfl

/-- the translator understood every construct of the whitelisted functions -/
theorem gen_py_notes_empty : S2T.Gen.PyOmml.notes = [] := by decide

/-- the functions this file ties (a renamed / removed function breaks this) -/
theorem gen_py_translated : S2T.Gen.PyOmml.translated = ["convert_greek_and_symbols", "omml_to_latex"]
    ∧ S2T.Gen.PyOmml.closures = ["omml_to_latex.process_element"] := by decide

theorem ns_ok : NsOk M_NS := by decide_chars M_NS

/-- **`convert_greek_and_symbols` is the model's `convert`** (every string; the `KeyError` of `GREEK_TO_LATEX[char]`
    is unreachable) -/
theorem convert_greek_and_symbols_eq (s : Py.Str) :
    convert_greek_and_symbols s = pure (S2T.Omml.convert T s) := by
  unfold convert_greek_and_symbols
  simp +instances only [M.pure_def, bind_pure_comp, pure_bind]
  rw [forIn_conv T]
  · simp [convert_eq, strJoin_nil]
  · intro c acc
    simp only [cdictContains_one, cdictGetItem_one, S2T.Omml.conv1]
    rcases h : S2T.Omml.lookup c T.greek with _ | v <;>
      simp [h, show S2T.Gen.Omml.greek = T.greek from rfl]

/-- `process_element(None)` is `""` and leaves the pending brackets alone -/
theorem process_element_none (p : List Py.Str) : omml_to_latex.process_element none p = Except.ok ([], p) := by
  unfold omml_to_latex.process_element
  simp

/-- **the `while pending_sqrt_close and pending_sqrt_close[-1] in converted` loop is the model's `closeLoop`**
    (every stack, every text; `pending[-1]`, `pop()` and `partition` never raise) -/
theorem while_1_eq (st : S2T.Omml.Stack) (o : S2T.Omml.Out) (ps : List Py.Str) :
    omml_to_latex.process_element.while_1 (unstack st) (S2T.Omml.render o) ps
      = Except.ok (unstack (S2T.Omml.closeLoop st o).2, (loopRes st o ps).1, (loopRes st o ps).2) := by
  induction st generalizing o ps with
  | nil =>
    rw [omml_to_latex.process_element.while_1]
    simp [S2T.Omml.closeLoop, loopRes]
  | cons c st ih =>
    rw [omml_to_latex.process_element.while_1]
    simp only [truthy_unstack, getItem_unstack, strContains_render, listPop_unstack, partition_render,
      dropLast_unstack, S2T.Omml.closeLoop, loopRes, M.ok_bind, M.pure_def, bind_pure_comp, pure_bind,
      List.isEmpty_cons, Bool.not_false, dite_true, dif_pos]
    rcases h : S2T.Omml.splitFirst c o with _ | ⟨a, b⟩
    · simp
    · simp [ih]

-- `tag_tests`, `tag_tests'`, `tag_tests_ne'` and the macro `py_omml_dispatch` dispatch by rewriting the tag tests; the proof
-- of `process_element_eq` below dispatches by `ite_dispatch` and calls none of them
theorem tag_tests {n k : Py.Str} (h : n = k) (m : Py.Str) : (n == m) = (k == m) := by subst h; rfl
theorem tag_tests' {n k : Py.Str} (h : n = k) (m : Py.Str) : (m == n) = (m == k) := by subst h; rfl
theorem tag_tests_ne' (n : Py.Str) (names : List Py.Str) (h : ∀ k ∈ names, n ≠ k) (m : Py.Str) (hm : m ∈ names) :
    (m == n) = false := by
  simpa using fun e : m = n => h m hm e.symm

/-- select the block of the dispatch: the skip test from `h0` (while the tag is still a variable), then the tag tests
    (decided on the model's tag name) -/
macro "py_omml_dispatch " hk:ident h0:ident hn:ident : tactic => `(tactic| (
  rw [$hk:ident]
  simp +instances only [show ∀ k, setContains S2T.Gen.Omml.skip k = T.skip.contains k from fun _ => rfl, $h0:ident,
    Bool.false_eq_true, if_false]
  simp +instances only [tag_tests $hn, tag_tests' $hn]
  simp +instances +decide only [Bool.false_eq_true, if_false, if_true, Bool.and_eq_true, false_and, true_and]))

/-- a loop that collects what `r` keeps of the result of each element; `body` proves that one iteration threads the
    state and appends that (either order of the two loop-carried locals: the wrong one fails in `body` at the latest and
    is backtracked) -/
syntax "py_omml_loop " term ", " term ", " term " body " tacticSeq : tactic
macro_rules
  | `(tactic| py_omml_loop $r, $g, $s body $t) => `(tactic| first
    | (erw [forIn_seq Prod.mk $r _ $g _ ?h $s]; case h => $t)
    | (erw [forIn_seq swapped $r _ $g _ ?h $s]; case h => $t))

/-- **`process_element` is the model's `proc`**: for every element `x` and every model stack `s`, run from the list
    representing `s` it returns the rendered output of `proc tables (abs x) s` and the list representing the new stack;
    it never raises.  (Every tree: strong induction on the size of the element, as the generated definition recurses.) -/
theorem process_element_eq (x : Xml) : Sim T M_NS omml_to_latex.process_element x := by
  induction x using Xml.strongInd with
  | _ x ih =>
  intro s
  have opd := sim_find T M_NS omml_to_latex.process_element ns_ok process_element_none x ih
  rw [abs_eq, S2T.Omml.proc_kind, hasMr_abs M_NS _ ns_ok (by decide)]
  -- the model's answer as a function `F` of the kind, kept opaque so that `ite_dispatch` matches it first-order
  obtain ⟨F, hF⟩ : ∃ F : S2T.Omml.Kind → M (Str × List Str), ∀ kd, F kd = Except.ok
      (S2T.Omml.render (S2T.Omml.procKind T (orOpt x.text []) (x.children.map (abs M_NS)) kd s).1,
       unstack (S2T.Omml.procKind T (orOpt x.text []) (x.children.map (abs M_NS)) kd s).2) := ⟨_, fun _ => rfl⟩
  rw [← hF]
  unfold omml_to_latex.process_element S2T.Omml.kindOf S2T.Omml.kindRest
  simp +instances only [M.pure_def, M.ok_bind, bind_pure_comp, pure_bind, getItem_split]
  -- string literals as character lists by a rewrite: simp's own folding of `"…".toList` decodes each literal
  simp -index only [String.toList_ofList]
  -- the local name as a variable: every test below is `name == literal` in the source and `name = n_x` in the model
  generalize localName x.tag = name
  -- both sides test the tag in the same order (the source's literal against the model's name, by unification): each
  -- `ite_dispatch` yields the block of one kind (opened by `rw [hF, procKind]`) and the rest of both chains.  The first
  -- test is membership in the skip set, the same expression on both sides (`Iff.rfl`); the others compare strings.
  -- The blocks must come in the order of the tests of `kindOf` / `kindRest`, which is the order of the source's `if`s
  refine ite_dispatch F Iff.rfl ?_ ?_
  · rw [hF, S2T.Omml.procKind]
    rfl
  refine ite_dispatch F beq_iff_eq ?_ ?_
  · -- run text: the pending radicals whose bracket shows up are closed
    rw [hF, S2T.Omml.procKind]
    simp only [convert_greek_and_symbols_eq, M.pure_def, M.ok_bind]
    rw [← S2T.Omml.render_run (S2T.Omml.convert T _), while_1_eq]
    have hj := loopRes_join s (S2T.Omml.run (S2T.Omml.convert T (orOpt x.text []))) []
    simp [strJoin_nil, S2T.Omml.tText] at hj ⊢
    exact hj
  refine ite_dispatch F beq_iff_eq ?_ ?_
  · rw [hF, S2T.Omml.procKind]
    simp [opd, S2T.Omml.tFrac, S2T.Omml.n_num, S2T.Omml.n_den, S2T.Omml.s_frac, S2T.Omml.s_mid, S2T.Omml.s_close]
  refine ite_dispatch F beq_iff_eq ?_ ?_
  · rw [hF, S2T.Omml.procKind]
    simp [opd, S2T.Omml.tSup, S2T.Omml.n_e, S2T.Omml.n_sup, S2T.Omml.s_supO, S2T.Omml.s_close]
  refine ite_dispatch F beq_iff_eq ?_ ?_
  · rw [hF, S2T.Omml.procKind]
    simp [opd, S2T.Omml.tSub, S2T.Omml.n_e, S2T.Omml.n_sub, S2T.Omml.s_subO, S2T.Omml.s_close]
  refine ite_dispatch F beq_iff_eq ?_ ?_
  · rw [hF, S2T.Omml.procKind]
    simp [opd, S2T.Omml.tSubSup, S2T.Omml.n_e, S2T.Omml.n_sub, S2T.Omml.n_sup, S2T.Omml.s_subO, S2T.Omml.s_subsup,
      S2T.Omml.s_close]
  refine ite_dispatch F beq_iff_eq ?_ ?_
  · -- degree first; a bracket-only radicand opens a pending radical
    rw [hF, S2T.Omml.procKind]
    -- `opd` rewrites each `process_element(elem.find(…))`; the `contains` lemmas discharge its side condition that the
    -- literal name has no `}` (likewise in the `m:nary`, `m:func` and `m:acc` blocks)
    simp only [opd, M.ok_bind, List.contains_cons, List.contains_nil, Char.reduceBEq, Bool.or_self]
    erw [setContains_eq T.opens, dictGetD_chars T.brackets]
    simp [S2T.Omml.n_e, S2T.Omml.n_deg, S2T.Omml.tRad, spaces_eq,
      strip_render, render_eq_nil, unstack_cons, S2T.Omml.d_closer, S2T.Omml.s_close]
    generalize S2T.Omml.opndX T _ _ s = d
    generalize S2T.Omml.opndX T _ _ d.2 = c
    by_cases h1 : S2T.Omml.render (S2T.Omml.strip T c.1) ∈ T.opens <;>
      by_cases h2 : S2T.Omml.strip T d.1 = [] <;>
      simp [h1, h2, S2T.Omml.render_radHead, unstack_cons, S2T.Omml.s_sqrt, S2T.Omml.s_sqrtB, S2T.Omml.s_sqrtBmid]
  refine ite_dispatch F beq_iff_eq ?_ ?_
  · rw [hF, S2T.Omml.procKind]
    rw [pathFind_abs M_NS _ _ ns_ok (by decide) (by decide), attrOr_abs]
    -- the source assigns the operator in an `if` STATEMENT, which wraps the rest of the block: no expression for
    -- `attrOr_src` to rewrite, so this block splits on the element
    rcases h : x.find ⟨M_NS ++ S2T.Omml.n_naryPr, [M_NS ++ S2T.Omml.n_chr]⟩ with _ | e
    all_goals
      simp only [S2T.Omml.n_naryPr, S2T.Omml.n_chr] at h
      simp only [h, opd, M.ok_bind, convert_greek_and_symbols_eq, M.pure_def, unwrap_some, Option.isSome_none,
        Option.isSome_some, Bool.false_eq_true, if_false, if_true, List.contains_cons, List.contains_nil,
        Char.reduceBEq, Bool.or_self]
      erw [dictGetD_eq T.naryOps]
      simp [S2T.Omml.tNary, S2T.Omml.naryOp, S2T.Omml.render_limit, spaces_eq, strip_render,
        render_eq_nil, S2T.Omml.n_e, S2T.Omml.n_sub, S2T.Omml.n_sup, S2T.Omml.d_nary, S2T.Omml.s_subO, S2T.Omml.s_supO,
        S2T.Omml.s_space, S2T.Omml.s_close]
      generalize S2T.Omml.opndX T _ _ s = a
      generalize S2T.Omml.opndX T _ _ a.2 = b
      by_cases ha : S2T.Omml.strip T a.1 = [] <;> by_cases hb : S2T.Omml.strip T b.1 = [] <;> simp [ha, hb]
  refine ite_dispatch F beq_iff_eq ?_ ?_
  · rw [hF, S2T.Omml.procKind]
    rw [pathFind_abs M_NS _ _ ns_ok (by decide) (by decide), pathFind_abs M_NS _ _ ns_ok (by decide) (by decide),
      map_proc_findall T M_NS _ ns_ok (by decide)]
    simp only [attrOr_src, M.ok_bind]
    py_omml_loop one, (fun c => S2T.Omml.proc T (abs M_NS c)), s body
      intro c hc s acc; simp [ih c (Xml.sizeOf_lt_of_mem_findall hc) s]
    simp [S2T.Omml.tDelim, strJoin_render, S2T.Omml.n_dPr, S2T.Omml.n_begChr, S2T.Omml.n_endChr, S2T.Omml.d_beg,
      S2T.Omml.d_end, S2T.Omml.s_comma, S2T.Omml.n_e]
  -- the one test that is not a comparison of strings: `tag == "m" and find(mr) is not None` against `n = n_m ∧ hasMr`
  refine ite_dispatch F (by simp [S2T.Omml.n_m, S2T.Omml.n_mr]) ?_ ?_
  · rw [hF, S2T.Omml.procKind]
    rw [map_cells_findall T M_NS _ ns_ok (by decide)]
    simp [S2T.Omml.n_mr, S2T.Omml.n_e]
    py_omml_loop one, (fun mr => S2T.Omml.rowM
      ((mr.findall ⟨M_NS ++ S2T.Omml.n_e, []⟩).map (fun c => S2T.Omml.proc T (abs M_NS c)))), s body
      intro mr hmr s acc
      py_omml_loop one, (fun c => S2T.Omml.proc T (abs M_NS c)), s body
        intro c hc s acc
        have hlt : sizeOf c < sizeOf x :=
          Nat.lt_trans (Xml.sizeOf_lt_of_mem_findall hc) (Xml.sizeOf_lt_of_mem_findall hmr)
        simp [ih c hlt s]
      simp [S2T.Omml.rowM, strJoin_render, S2T.Omml.s_amp, S2T.Omml.n_e]
    simp [S2T.Omml.tMatrix, strJoin_render, List.map_map, Function.comp_def, S2T.Omml.s_begin, S2T.Omml.s_end,
      S2T.Omml.s_rowsep, S2T.Omml.n_e]
  refine ite_dispatch F beq_iff_eq ?_ ?_
  · rw [hF, S2T.Omml.procKind]
    simp only [opd, M.ok_bind, List.contains_cons, List.contains_nil, Char.reduceBEq, Bool.or_self]
    erw [dictGetD_eq T.funcs]
    simp [S2T.Omml.tFunc, S2T.Omml.render_funcName, spaces_eq, strip_render,
      S2T.Omml.n_e, S2T.Omml.n_fName, S2T.Omml.s_open, S2T.Omml.s_close]
  refine ite_dispatch F beq_iff_eq ?_ ?_
  · rw [hF, S2T.Omml.procKind]
    simp [opd, S2T.Omml.tBar, S2T.Omml.n_e, S2T.Omml.s_overline, S2T.Omml.s_close]
  refine ite_dispatch F beq_iff_eq ?_ ?_
  · rw [hF, S2T.Omml.procKind]
    rw [pathFind_abs M_NS _ _ ns_ok (by decide) (by decide)]
    simp only [attrOr_src, opd, M.ok_bind, List.contains_cons, List.contains_nil, Char.reduceBEq, Bool.or_self]
    erw [dictGetD_eq T.accents]
    simp [S2T.Omml.tAcc, S2T.Omml.accentCmd, S2T.Omml.n_accPr, S2T.Omml.n_chr, S2T.Omml.n_e, S2T.Omml.d_acc,
      S2T.Omml.s_hat, S2T.Omml.s_open, S2T.Omml.s_close]
  -- any other element (or an `m` without rows): its children, concatenated
  rw [hF, S2T.Omml.procKind, map_run_children]
  py_omml_loop keep, (fun c => S2T.Omml.proc T (abs M_NS c)), s body
    intro c hc s acc
    simp only [ih c (Xml.sizeOf_lt_of_mem_iter hc) s, M.ok_bind, keep]
    split <;> simp [listAppend]
  simp [strJoin_nil, flatten_keep, S2T.Omml.tDefault]

/-- `omml_to_latex(None)` is `""` -/
theorem omml_to_latex_none : omml_to_latex none = pure [] := by
  unfold omml_to_latex
  simp

/-- **`omml_to_latex` is the model's `omml`** on every element (the root's own tag is not looked at; every radical
    still pending is closed at the end) -/
theorem omml_to_latex_eq (x : Xml) : omml_to_latex (some x) = pure (S2T.Omml.omml T (abs M_NS x)) := by
  unfold omml_to_latex S2T.Omml.omml
  simp +instances only [M.pure_def, M.ok_bind, bind_pure_comp, pure_bind]
  rw [S2T.Omml.ommlOut_eq, abs_kids, map_run_children]
  py_omml_loop keep, (fun c => S2T.Omml.proc T (abs M_NS c)), [] body
    intro c hc s acc
    simp only [process_element_eq c s, M.ok_bind, keep]
    split <;> simp [listAppend]
  simp [strJoin_nil, flatten_keep, len_unstack, strRepeat_one, S2T.Omml.tDefault]

/-- the translated converter never raises (none of the `IndexError` / `KeyError` / `ValueError` sites it keeps fires) -/
theorem omml_to_latex_total (o : Option Xml) : ∃ r, omml_to_latex o = Except.ok r := by
  cases o with
  | none => exact ⟨_, omml_to_latex_none⟩
  | some x => exact ⟨_, omml_to_latex_eq x⟩

/-- **every model tree whose local names contain no `}`** (all trees the harness can send: a local name is
    `tag.split("}")[-1]`) is the abstraction of an element, so `omml tables m` is what the translated source computes -/
theorem omml_model_eq (m : S2T.Omml.Xml) (h : namesOk m = true) :
    omml_to_latex (some (conc M_NS m)) = pure (S2T.Omml.omml T m) := by
  rw [omml_to_latex_eq, abs_conc M_NS ns_ok m h]

example : namesOk (.node true ['f'] none [] [.node true ['n', 'u', 'm'] none [] [.node false ['t'] none ['a'] []]])
    = true := by decide

/-! ## the namespace flag: `tag == M_NS + local name`, not `tag.startswith(M_NS)`

`abs` computes the model's namespace flag as "the tag is `M_NS` followed by the local name".  The C19 harness sends
`tag.startswith(M_NS)`.  On every tag in the namespace that an XML parser can produce (no `}` after the namespace) the two
agree (`S2T.Py.Omml.mns_eq_startswith`; on a tag that does not start with `M_NS` both are false); on a hand-built element whose tag has a second `}` they do not, and there the source
(`elem.find(M_NS + "num")` compares whole tags) follows `abs`: -/

/-- `<m:oMath><m:f><{M_NS}x}num><m:t>a</m:t></…></m:f></m:oMath>` built by hand -/
def swWitness : Xml :=
  ⟨M_NS ++ "oMath".toList, [], none, none,
    [⟨M_NS ++ "f".toList, [], none, none,
      [⟨M_NS ++ "x}num".toList, [], none, none, [⟨M_NS ++ "t".toList, [], some "a".toList, none, []⟩]⟩]⟩]⟩

/-- with the flag computed by `startswith` the model would print the run of the mis-tagged child as the numerator;
    the source (and the model under `abs`) prints an empty fraction -/
theorem startswith_flag_counterexample :
    omml_to_latex (some swWitness) = pure "\\frac{}{}".toList
    ∧ S2T.Omml.omml T (absSW M_NS swWitness) = "\\frac{a}{}".toList := by
  rw [omml_to_latex_eq]
  constructor
  · exact congrArg pure (by decide_chars swWitness M_NS)
  · decide_chars swWitness M_NS

end S2T.C19.Src
