import S2T.Lemmas.Py
import S2T.Lemmas.Router
import S2T.Gen.PyRouter
/-!
# C07 (source tie) — the translated router functions ARE the hand model `S2T.Router`

`S2T.Gen.PyRouter` is regenerated from the current text of `router.py` on every run
(`tools/gen/pyfun.py`).  For every path string, every `str.lower`, every answer of
`mimetypes.guess_type` (both are fields of `Env`): the translated `_file_type_from_extension`,
`is_supported_file`, `_get_extractor`, `get_extractor` equal `fileTypeFromExt`, `isSupported`,
`getExtractorByType`, `getExtractor` of `S2T/Model/Router.lean` at the generated tables.
`importlib.import_module` + `getattr` = the registry entry (prelude, trusted); logging is skipped.
-/
-- one simp set serves every leaf of a case split; a leaf does not use all of it
set_option linter.unusedSimpArgs false
namespace S2T.C07.Src
open S2T.Py S2T.Router S2T.Gen.PyRouter S2T.Gen.Router

/-- the translator understood every construct of the whitelisted functions -/
theorem gen_py_notes_empty : S2T.Gen.PyRouter.notes = [] := by decide

theorem gen_py_translated : S2T.Gen.PyRouter.translated =
    ["_get_extractor", "_file_type_from_extension", "is_supported_file", "get_extractor"] := by decide

/-- a `for x in xs: if p(x): return g(x)` loop finds the first match (any monad, any body shape:
    the body only has to agree with `p`/`g` element-wise) -/
theorem forIn_find {m : Type → Type} [Monad m] [LawfulMonad m] {α β : Type} (xs : List α)
    (f : α → Option β × Unit → m (ForInStep (Option β × Unit))) (p : α → Bool) (g : α → β)
    (hf : ∀ x, f x (none, ()) = pure (if p x = true then ForInStep.done (some (g x), ()) else ForInStep.yield (none, ()))) :
    forIn xs (none, ()) f = pure ((xs.find? p).map g, ()) := by
  induction xs with
  | nil => simp
  | cons x xs ih =>
    simp only [List.forIn_cons, hf, List.find?_cons]
    cases hp : p x <;> simp [ih]

theorem compoundMatch_isSome (c : List (Router.Str × Router.Str)) (pl : Router.Str) :
    (compoundMatch c pl).isSome = ((dictKeys c).find? (fun e => e.isSuffixOf pl)).isSome := by
  rw [compoundMatch_eq_find, dictKeys, List.find?_map, Option.isSome_map, Option.isSome_map]
  rfl

/-- **`_file_type_from_extension` is `fileTypeFromExt`** (all lower-cased paths) -/
theorem file_type_from_extension_eq (pl : Py.Str) :
    _file_type_from_extension pl = fileTypeFromExt tables pl := by
  -- the prelude's `splitext` is defined through the model's `splitextExt`; `simp` needs the projection as an equation
  -- (likewise in `is_supported_file_eq`)
  have hsx : (splitext pl).2 = splitextExt pl := rfl
  unfold _file_type_from_extension
  -- the monad plumbing of the translated body is normalised first, with no case hypothesis in the context
  -- (`+instances` keeps the `Decidable` instances of the rewritten `if`s in step); likewise in `is_supported_file_eq`
  simp +instances
  rw [forIn_find (p := fun x => x.1.isSuffixOf pl) (g := fun x => x.2)]
  · rcases hc : (compound.find? fun x => x.1.isSuffixOf pl) with _ | x <;>
    rcases hx : splitextExt pl with _ | ⟨d, _ | ⟨d2, ext⟩⟩ <;>
    simp +instances [fileTypeFromExt, tables, compoundMatch_eq_find, hsx, hc, hx, sliceFrom, dictGetD,
      dictContains, Id.run, pure] <;>
    -- with the compound match and the shape of the extension fixed, both sides are the same chain of tests on
    -- `ext = []`, the alias lookup and the registry lookup; a leaf where the chain is gone is `rfl`, on the others the
    -- `split`s walk it on the model's side; a leaf the `try` leaves open is reported as an unsolved goal of the theorem
    try (first | rfl | ((repeat' split) <;> simp_all))
  · intro x
    simp only [endswith]
    split <;> simp_all

/-- **`is_supported_file` is `isSupported`** of the lower-cased path and the MIME guess for it -/
theorem is_supported_file_eq (env : Env) (path : Py.Str) :
    is_supported_file env path
      = pure (isSupported tables (env.lower path) (env.guessType (env.lower path)).1) := by
  have hsx : (splitext (env.lower path)).2 = splitextExt (env.lower path) := rfl
  unfold is_supported_file
  simp +instances
  rw [forIn_find (p := fun e => e.isSuffixOf (env.lower path)) (g := fun _ => true)]
  · rcases hc : ((dictKeys compound).find? fun e => e.isSuffixOf (env.lower path)) with _ | x <;>
    rcases hm : (env.guessType (env.lower path)).1 with _ | m <;>
    simp +instances [isSupported, tables, compoundMatch_isSome, hsx, hc, hm, setContains, dictContains] <;>
    -- with the compound match and the MIME guess fixed, what is left on either side is the test of the extension
    -- against the supported set; the `split`s walk the model's `if`s (no leaf is `rfl` here, so it is not tried)
    try ((repeat' split) <;> simp_all)
  · intro x
    simp only [endswith]
    split <;> simp_all

/-- what a raised exception means in the model's vocabulary (`none`: nothing the model knows) -/
def classify (e : Exc) : Option Err :=
  if e.cls = "ExtractionFileFormatNotSupportedError" then some .formatNotSupported else none

/-- **`_get_extractor` is `getExtractorByType`**; its only raise is its first `raise` statement -/
theorem get_extractor_by_type_eq (t : Py.Str) :
    _get_extractor t = match getExtractorByType tables t with
      | .ok mf => .ok mf
      | .error _ => .error (exc_ExtractionFileFormatNotSupportedError "_get_extractor" 0) := by
  rcases hl : lookup t registry with _ | mf
  all_goals (
    unfold _get_extractor
    simp +instances [getExtractorByType, tables, dictContains, dictGetItem, importModule, moduleGetattr, hl])

private theorem get_extractor_by_type_tie (t : Py.Str) :
    (_get_extractor t).mapError classify = (getExtractorByType tables t).mapError some := by
  rw [get_extractor_by_type_eq]
  cases getExtractorByType tables t with
  | ok mf => rfl
  | error e => cases e <;> rfl

/-- **`get_extractor` is `getExtractor`** of the lower-cased path and the MIME guess for it: the same
    registry entry, or `ExtractionFileFormatNotSupportedError` exactly when the model fails. -/
theorem get_extractor_eq (env : Env) (path : Py.Str) :
    (get_extractor env path).mapError classify
      = (getExtractor tables (env.lower path) (env.guessType (env.lower path)).1).mapError some := by
  unfold get_extractor
  simp +instances only [file_type_from_extension_eq]
  -- source and model are the same tree: extension first, then the MIME guess, then the registry
  split
  · next h =>
    obtain ⟨t, ht, hne⟩ := truthy_option h
    rw [ht, unwrap_some, M.ok_bind, getExtractor_of_type _ ht ((Bool.not_eq_true' _).mp hne)]
    exact get_extractor_by_type_tie t
  · next h =>
    rw [getExtractor_of_no_type _ fun t ht => by simpa [ht] using h]
    rcases (env.guessType (env.lower path)).1 with _ | m
    · rfl
    · rcases hl : lookup m mimeMap with _ | t2
      · simp only [getExtractor.mimeBranch, tables, dictContains, dictGetItem, hl, Option.isSome_some,
          Option.isSome_none, if_true, unwrap_some, M.ok_bind, M.pure_def, Bool.false_eq_true, if_false]
        rfl
      · simp only [getExtractor.mimeBranch, tables, dictContains, dictGetItem, hl, Option.isSome_some, if_true,
          unwrap_some, M.ok_bind, M.pure_def]
        exact get_extractor_by_type_tie t2

end S2T.C07.Src
