import S2T.Lemmas.PyAes
import S2T.Lemmas.AesModes
import S2T.Gen.Aes
import S2T.Gen.PyAes
/-!
# C20 (source tie) — the translated functions of `_pypdf_aes_fallback.py` ARE the hand model `S2T.Aes`

`S2T.Gen.PyAes` is regenerated from the current text of `_pypdf_aes_fallback.py` on every run
(`tools/gen/pyfun_aes.py`, construct by construct; primitives: `S2T/Py/Bytes.lean`).  The theorems below say that every
translated function equals the function of `S2T/Model/Aes.lean` that all C20 theorems are about, at the tables
`S2T.Gen.Aes.tables` generated from the same source.

What the statements make explicit
* ints are `Nat` (the model's hypothesis, declared in the translator's whitelist); `bytes` parameters carry `IsBytes`;
* a list mutated in place is returned (`_add_round_key(state, rk)` ↦ the new state);
* Python raises `IndexError` / `ValueError` (from `bytes(...)`, unpacking, `range` step 0) / `ZeroDivisionError` where
  the model indexes with a default (`getD`) or uses truncated arithmetic.  The raise is KEPT in the translation; each
  equivalence is stated under the side condition under which it cannot fire (16-byte blocks, byte tables, round keys of
  16 bytes), and `*_outside` theorems exhibit the difference outside it (findings about the MODEL, none reachable from
  the ECB/CBC entry points, whose own length checks establish the side conditions);
* errors: the `k`-th `raise ValueError` of function `f` is `exc_ValueError "f" k`; the model has the single `valueError`.
  The theorems say WHICH raise statement fires (`liftV e`: the model's rejection is the exception `e`; `ecbExc` / `cbcExc`:
  own length check(s) first, then the key-length check of `_expand_key`).  Only `_pkcs7_unpad`, whose two `raise`
  statements are the same exception to every caller, is stated up to the statement number (`unsited`).
* `_get_round_keys` (OrderedDict cache) is not translated: its calls are translated as calls of `_expand_key`
  (`aliases` in the whitelist), which is what `S2T.Aes.aesEcbEncrypt` … do as well (`C20_cache` justifies both).
The only facts about the tables used here are their SHAPE (`TabShape`: 256 entries < 256, 15 round constants < 256),
re-decided on the generated tables; that they are the FIPS-197 tables is `C20_tables` in `Props/C20_Tables.lean`, which this
file does not import: a wrong table entry breaks `C20_tables` and no theorem here, so the model side of the key schedule
(`expandStep_words`, `keyWords_words`, `expandKey_blocks`) is proved from the shape and not taken from the specification's.
Names: `snake_case` as in the source for the translated functions and the theorems about them (`expand_key_ok`), `camelCase`
for the model's (`expandKey_ok`, Lemmas/AesKeys.lean).
-/
-- the `simp` sets name lemmas for more than one spelling of a test (`truthy_nat` for `if n:` beside `n != 0`), so that the
-- proofs close the goals an equivalent rewording of the source re-translates to
set_option linter.unusedSimpArgs false
namespace S2T.C20.Src
open S2T.Py S2T.Aes S2T.AesL S2T.Gen.PyAes

/-- the translator understood every construct of the whitelisted functions -/
theorem gen_py_notes_empty : S2T.Gen.PyAes.notes = [] := by decide

/-- the functions this file ties (a renamed / removed function breaks this) -/
theorem gen_py_translated : S2T.Gen.PyAes.translated =
    ["_xtime", "_gf_mul", "_build_mul_table", "_build_rcon", "_add_round_key", "_sub_bytes", "_inv_sub_bytes",
     "_shift_rows", "_inv_shift_rows", "_mix_columns", "_inv_mix_columns", "_rot_word", "_sub_word", "_expand_key",
     "_aes_encrypt_block", "_aes_decrypt_block", "_pkcs7_pad", "_pkcs7_unpad", "_chunks", "aes_ecb_encrypt",
     "aes_ecb_decrypt", "aes_cbc_encrypt", "aes_cbc_decrypt"] := rfl

/-- the tables of the current source -/
abbrev GT : Tables := S2T.Gen.Aes.tables

structure TabShape (T : Tables) : Prop where
  sbox : Tab T.sbox
  invSbox : Tab T.invSbox
  mul2 : Tab T.mul2
  mul3 : Tab T.mul3
  mul9 : Tab T.mul9
  mul11 : Tab T.mul11
  mul13 : Tab T.mul13
  mul14 : Tab T.mul14
  rcon : T.rcon.length = 15 ∧ IsBytes T.rcon

/-- the generated tables have the shape the code relies on (no index leaves a table, no entry leaves a byte) -/
theorem tables_shape : TabShape GT := by
  constructor <;> decide +kernel

/-! the same facts about the definitions the translated code mentions (`GT.sbox` is `S2T.Gen.Aes.sbox` by `rfl`) -/
theorem sbox_tab : Tab S2T.Gen.Aes.sbox := tables_shape.sbox
theorem invSbox_tab : Tab S2T.Gen.Aes.invSbox := tables_shape.invSbox
theorem mul2_tab : Tab S2T.Gen.Aes.mul2 := tables_shape.mul2
theorem mul3_tab : Tab S2T.Gen.Aes.mul3 := tables_shape.mul3
theorem mul9_tab : Tab S2T.Gen.Aes.mul9 := tables_shape.mul9
theorem mul11_tab : Tab S2T.Gen.Aes.mul11 := tables_shape.mul11
theorem mul13_tab : Tab S2T.Gen.Aes.mul13 := tables_shape.mul13
theorem mul14_tab : Tab S2T.Gen.Aes.mul14 := tables_shape.mul14
theorem rcon_shape : S2T.Gen.Aes.rcon.length = 15 ∧ IsBytes S2T.Gen.Aes.rcon := tables_shape.rcon

theorem xtime_eq (a : Nat) : _xtime a = xtime a := by
  simp [_xtime, xtime, truthy_nat]

/-- the `while b:` loop of `_gf_mul` (well-founded recursion on `b`, generated from the loop) computes what the
    model's `fuel`-step loop computes, for every `b` below `2^fuel` -/
theorem gf_mul_while (fuel : Nat) : ∀ (a b r : Nat), b < 2 ^ fuel →
    (_gf_mul.while_1 a b r).2.2 = gfMulLoop fuel r a b := by
  induction fuel with
  | zero =>
    intro a b r hb
    have : b = 0 := by omega
    subst this
    rw [_gf_mul.while_1]
    simp [gfMulLoop, truthy_nat]
  | succ n ih =>
    intro a b r hb
    rw [_gf_mul.while_1]
    by_cases h0 : b = 0
    · simp [gfMulLoop, truthy_nat, h0]
    · have hb' : b >>> 1 < 2 ^ n := by
        rw [Nat.shiftRight_eq_div_pow]; omega
      simp +instances only [truthy_nat, bne_iff_ne, ne_eq, h0, not_false_eq_true, dite_true, gfMulLoop, if_false]
      simp only [Id.run, pure, bind]
      -- the test `b & 1` of the body, on both sides: in either case the recursive call is `ih`
      split <;> simp_all [xtime_eq, truthy_nat]

theorem gf_mul_eq (a b : Nat) : _gf_mul a b = gfMul a b := by
  have hb : b &&& 255 < 2 ^ 8 := Nat.lt_of_le_of_lt Nat.and_le_right (by decide)
  simp [_gf_mul, gfMul, gf_mul_while 8 _ _ _ hb]

theorem build_mul_table_eq (m : Nat) : _build_mul_table m = buildMulTable m := by
  simp [_build_mul_table, buildMulTable, rangeN_zero, gf_mul_eq]

/-! round functions on the 16-byte state: under the side condition, the translated function returns (never raises) the model's
new state; on 16-byte blocks that is `Runs Block`, whose second component is the closure fact the block functions thread
through their calls. -/

theorem add_round_key_eq {s k : List Nat} (hs : s.length = 16) (hk : 16 ≤ k.length) :
    _add_round_key s k = Except.ok (addRoundKey s k) := by
  unfold _add_round_key addRoundKey
  py_loop_nf
  refine (forIn_fold (fun st => st.length = 16) _ _ _ ?_ s hs).1
  intro i hi st hst
  rw [List.mem_range] at hi
  constructor
  · simp (disch := omega) only [getItem_natCast, setItem_natCast, M.ok_bind, M.map_ok]
  · simp [hst]

private theorem add_round_key_runs {k : List Nat} (hk : Block k) : Runs Block (_add_round_key · k) (addRoundKey · k) :=
  fun _ hs => ⟨add_round_key_eq hs.1 (Nat.le_of_eq hk.1.symm),
    (addRoundKey_keeps hk).left hs⟩

theorem sub_bytes_runs : Runs Block _sub_bytes (subBytes GT) := fun s hs => by
  unfold _sub_bytes subBytes
  py_loop_nf
  exact forIn_fold Block _ _ _ (fun _ hi _ hst => tab_step sbox_tab hi hst) s hs

theorem inv_sub_bytes_runs : Runs Block _inv_sub_bytes (invSubBytes GT) := fun s hs => by
  unfold _inv_sub_bytes invSubBytes
  py_loop_nf
  exact forIn_fold Block _ _ _ (fun _ hi _ hst => tab_step invSbox_tab hi hst) s hs

/-- `_shift_rows`: each `for row` iteration is the model's `rotateRow`: the row is read (`mapM`), rotated by slicing,
    and written back by the inner loop (`row_forIn`) -/
theorem shift_rows_eq {s : List Nat} (hs : s.length = 16) : _shift_rows s = Except.ok (shiftRows s) := by
  unfold _shift_rows shiftRows
  py_loop_nf
  refine (forIn_fold (fun st => st.length = 16) (rotateRow false) _ _ ?_ s hs).1
  intro row hrow st hst
  obtain ⟨h1, h4⟩ := mem_rangeN.mp hrow
  rw [mapM_ok (fun col => st.getD (row + 4 * col) 0)]
  · simp only [M.ok_bind, slice_from_nat, slice_to_nat]
    rw [row_forIn hst (by simp; omega) h4 _ (fun _ _ => rfl)]
    exact ⟨rfl, (rotateRow_length ..).trans hst⟩
  · intro col hcol
    rw [List.mem_range] at hcol
    simp (disch := omega) only [getItem_natCast]

theorem inv_shift_rows_eq {s : List Nat} (hs : s.length = 16) : _inv_shift_rows s = Except.ok (invShiftRows s) := by
  unfold _inv_shift_rows invShiftRows
  py_loop_nf
  refine (forIn_fold (fun st => st.length = 16) (rotateRow true) _ _ ?_ s hs).1
  intro row hrow st hst
  obtain ⟨h1, h4⟩ := mem_rangeN.mp hrow
  rw [mapM_ok (fun col => st.getD (row + 4 * col) 0)]
  · simp only [M.ok_bind, slice_from_neg _ h1, slice_to_neg _ h1, List.length_map, List.length_range]
    rw [row_forIn hst (by simp) h4 _ (fun _ _ => rfl)]
    exact ⟨rfl, (rotateRow_length ..).trans hst⟩
  · intro col hcol
    rw [List.mem_range] at hcol
    simp (disch := omega) only [getItem_natCast]

private theorem shift_rows_runs : Runs Block _shift_rows shiftRows := fun _ hs =>
  ⟨shift_rows_eq hs.1, shiftRows_keeps.left hs⟩
private theorem inv_shift_rows_runs : Runs Block _inv_shift_rows invShiftRows := fun _ hs =>
  ⟨inv_shift_rows_eq hs.1, invShiftRows_keeps.left hs⟩

theorem mix_columns_runs : Runs Block _mix_columns (mixColumns GT) := fun s hs => by
  unfold _mix_columns mixColumns
  py_loop_nf
  refine forIn_fold Block _ _ _ ?_ s hs
  intro col hc st hst
  rw [List.mem_range] at hc
  have hl := hst.1
  have m2 := isBytes_getD mul2_tab.2
  have m3 := isBytes_getD mul3_tab.2
  have b := isBytes_getD hst.2
  constructor
  · -- side conditions: an index is below `st.length` (`omega`, from `hl`), or below the length after the `set`s before it
    simp (disch := first | omega | (simp only [List.length_set]; omega) | fail) only [slice_nat, Nat.add_sub_cancel_left,
      take4_drop st _ (by omega : 4 * col + 4 ≤ st.length), getItem_tab mul2_tab (b _), getItem_tab mul3_tab (b _),
      setItem_natCast, M.ok_bind, M.map_ok, Nat.add_zero]
    rfl
  · exact block_set (block_set (block_set (block_set hst (xor4_lt (m2 _) (m3 _) (b _) (b _)))
      (xor4_lt (b _) (m2 _) (m3 _) (b _))) (xor4_lt (b _) (b _) (m2 _) (m3 _))) (xor4_lt (m3 _) (b _) (b _) (m2 _))

theorem inv_mix_columns_runs : Runs Block _inv_mix_columns (invMixColumns GT) := fun s hs => by
  unfold _inv_mix_columns invMixColumns
  py_loop_nf
  refine forIn_fold Block _ _ _ ?_ s hs
  intro col hc st hst
  rw [List.mem_range] at hc
  have hl := hst.1
  have m9 := isBytes_getD mul9_tab.2
  have m11 := isBytes_getD mul11_tab.2
  have m13 := isBytes_getD mul13_tab.2
  have m14 := isBytes_getD mul14_tab.2
  have b := isBytes_getD hst.2
  constructor
  · -- side conditions as in `mix_columns_runs`
    simp (disch := first | omega | (simp only [List.length_set]; omega) | fail) only [slice_nat, Nat.add_sub_cancel_left,
      take4_drop st _ (by omega : 4 * col + 4 ≤ st.length), getItem_tab mul9_tab (b _), getItem_tab mul11_tab (b _),
      getItem_tab mul13_tab (b _), getItem_tab mul14_tab (b _), setItem_natCast, M.ok_bind, M.map_ok, Nat.add_zero]
    rfl
  · exact block_set (block_set (block_set (block_set hst (xor4_lt (m14 _) (m11 _) (m13 _) (m9 _)))
      (xor4_lt (m9 _) (m14 _) (m11 _) (m13 _))) (xor4_lt (m13 _) (m9 _) (m14 _) (m11 _)))
      (xor4_lt (m11 _) (m13 _) (m9 _) (m14 _))

theorem rot_word_eq (w : List Nat) : _rot_word w = rotWord w := by
  simp only [_rot_word, rotWord, slice_from_nat, slice_to_nat, Id.run, pure]

/-- `_sub_word` on bytes (a list element ≥ 256 raises `IndexError`: `sub_word_outside`) -/
theorem sub_word_eq {w : List Nat} (hw : IsBytes w) : _sub_word w = Except.ok (subWord GT w) := by
  unfold _sub_word subWord
  rw [mapM_ok (fun b => S2T.Gen.Aes.sbox.getD b 0)]
  · rfl
  · intro a ha
    exact getItem_tab sbox_tab (hw a ha)

/-- `_build_rcon(n)` for `n ≥ 1` (`_build_rcon(0)` raises `IndexError` at `rcon[1] = 1`: `build_rcon_outside`) -/
theorem build_rcon_eq {n : Nat} (hn : 1 ≤ n) : _build_rcon n = Except.ok (buildRcon n) := by
  unfold _build_rcon buildRcon
  py_loop_nf
  -- the side condition of `setItem_natCast` at `rcon[1] = 1` speaks of `(List.replicate (n + 1) 0).length`: `simp` computes it,
  -- then `omega`; `range(2, n + 1)` has `n + 1 - 2` elements
  simp (disch := (simp; omega)) only [repeat_singleton, setItem_natCast, M.ok_bind, rangeN]
  rw [show n + 1 - 2 = n - 1 by omega]
  refine (forIn_fold (fun st => st.length = n + 1) _ _ _ ?_ _ (by simp)).1
  intro i hi st hst
  rw [List.mem_range'_1] at hi
  have e : ((i : Int) - ((1 : Nat) : Int)) = ((i - 1 : Nat) : Int) := by omega
  constructor
  · simp (disch := omega) only [e, getItem_natCast, setItem_natCast, M.ok_bind, M.map_ok, xtime_eq]
  · simp [hst]

theorem model_subWord_word {x : List Nat} (h : Word x) : Word (subWord GT x) :=
  ⟨by simp [subWord, h.1], isBytes_map (fun a _ => isBytes_getD sbox_tab.2 a) h.2⟩

theorem expandStep_words {nk i : Nat} {w : List (List Nat)} (h0 : 0 < nk) (h1 : nk ≤ i) (hw : Words i w) :
    Words (i + 1) (expandStep GT S2T.Gen.Aes.rcon nk w i) :=
  -- by unfolding, as `expandStep_inv` (the model writes `xorWords` out as `List.zipWith (· ^^^ ·)`)
  words_step h0 h1 hw (f := fun t => xorHead (subWord GT (rotWord t)) (S2T.Gen.Aes.rcon.getD (i / nk) 0))
    (fun _ hx => xorHead_word (model_subWord_word (model_rotWord_word hx)) (isBytes_getD rcon_shape.2 _))
    fun _ => model_subWord_word

private theorem keyWords_words {key : List Nat} (hk : IsBytes key) (hlen : key.length = 16 ∨ key.length = 24 ∨ key.length = 32) :
    Words (4 * (key.length / 4 + 7)) (keyWords GT key) := by
  obtain ⟨nk, hkl, hnk4, hnk8⟩ := keyLen_nk hlen
  have hdiv : key.length / 4 = nk := by omega
  have := foldl_range'_inv Words _ (4 * (nk + 6 + 1) - nk) nk _ (words_init hk hkl)
    fun i st h1 _ h3 => expandStep_words (by omega) h1 h3
  rw [keyWords, hdiv]
  rwa [show nk + (4 * (nk + 6 + 1) - nk) = 4 * (nk + 7) by omega] at this

/-- the model's round keys are 16-byte blocks and there is at least one (from the shape of the tables only; which
    list it is, `nk + 7` keys cut from `keyWords`, is `expandKey_ok`) -/
theorem expandKey_blocks {key : List Nat} (hk : IsBytes key)
    (hlen : key.length = 16 ∨ key.length = 24 ∨ key.length = 32) :
    ∃ rks, expandKey GT key = .ok rks ∧ rks ≠ [] ∧ ∀ rk ∈ rks, Block rk := by
  refine ⟨_, expandKey_ok tables_shape.rcon.1 hlen, ?_, ?_⟩
  · intro h
    have := congrArg List.length h
    simp at this
  · obtain ⟨hwl, hW⟩ := keyWords_words hk hlen
    intro rk hrk
    simp only [List.mem_map, List.mem_range] at hrk
    obtain ⟨r, hr, rfl⟩ := hrk
    exact roundKey_block (n := key.length / 4 + 6) hwl hW (by omega)

/-- **`_expand_key` on a key of 16 / 24 / 32 bytes is the model's `expandKey`** (which returns round keys there:
    `expandKey_ok`) -/
theorem expand_key_ok {key : List Nat} (hk : IsBytes key)
    (hlen : key.length = 16 ∨ key.length = 24 ∨ key.length = 32) :
    _expand_key key = liftV (exc_ValueError "_expand_key" 0) (expandKey GT key) := by
  have hr := rcon_shape
  have hc : ([16, 24, 32].contains key.length) = true := by rcases hlen with h | h | h <;> simp [h]
  obtain ⟨nk, hkl, hnk4, hnk8⟩ := keyLen_nk hlen
  have hdiv : key.length / 4 = nk := by omega
  have hrl : nk + 6 < S2T.Gen.Aes.rcon.length := by rw [hr.1]; omega
  rw [expandKey_ok tables_shape.rcon.1 hlen]
  unfold _expand_key keyWords
  py_loop_nf
  simp +instances only [hc, hdiv, hrl, decide_true, ite_true, ite_false, if_true, if_false, Bool.not_true,
    Bool.false_eq_true, M.pure_def, M.ok_bind, liftV, rangeN, show GT.rcon = S2T.Gen.Aes.rcon from rfl,
    slice_nat, Nat.add_sub_cancel_left]
  -- `omega` splits on every disjunctive hypothesis in scope, in each call below
  clear hc hlen
  refine forIn_range'_bind Words (expandStep GT S2T.Gen.Aes.rcon nk) (words_init hk hkl) ?_ ?_
  · -- one iteration = the model's `expandStep`
    intro i w h1 h2 hw
    refine ⟨?_, expandStep_words (by omega) h1 hw⟩
    have hwl := hw.1
    have hpos : 0 < nk := by omega
    have e1 : ((i : Int) - ((1 : Nat) : Int)) = ((i - 1 : Nat) : Int) := by omega
    have e2 : ((i : Int) - ((nk : Nat) : Int)) = ((i - nk : Nat) : Int) := by omega
    have hT : Word (w.getD (i - 1) []) := hw.getD (by omega)
    have hS : Word (subWord GT (rotWord (w.getD (i - 1) []))) := model_subWord_word (model_rotWord_word hT)
    have hq : i / nk < S2T.Gen.Aes.rcon.length := by rw [hr.1]; exact (Nat.div_lt_iff_lt_mul hpos).mpr (by omega)
    have i1 : i - 1 < w.length := by omega
    have i2 : i - nk < w.length := by omega
    have i0 : 0 < (subWord GT (rotWord (w.getD (i - 1) []))).length := by rw [hS.1]; decide
    simp only [e1, e2, getItem_list_natCast w i1, getItem_list_natCast w i2, natMod_pos i hpos, natFloorDiv_pos i hpos,
      slice_all, rot_word_eq, sub_word_eq (model_rotWord_word hT).2, sub_word_eq hT.2, getItem_natCast _ i0,
      getItem_natCast _ hq, setItem_natCast _ _ i0, M.ok_bind, M.map_ok, set0_xorHead, map_zip_xor, expandStep]
    by_cases c1 : i % nk = 0
    · simp [c1]
    · by_cases c2 : nk > 6
      · by_cases c3 : i % nk = 4 <;> simp [c1, c2, c3]
      · simp [c1, c2]
  · -- the round keys: 4 words each
    intro ⟨hwl, hW⟩
    -- what follows holds of any words `W`: the loop's result is named so that the rewrites below do not traverse it
    generalize List.foldl (expandStep GT S2T.Gen.Aes.rcon nk) _ _ = W at hW ⊢
    have hflat : ∀ r, IsBytes ((W.drop (4 * r)).take 4).flatten := fun r =>
      (words_flatten fun x hx => hW x (List.mem_of_mem_drop (List.mem_of_mem_take hx))).2
    refine (forIn_fold (fun _ => True) (fun acc r => acc ++ [((W.drop (4 * r)).take 4).flatten]) _ _ ?_ []
      trivial).1.trans ?_
    · intro r _ acc _
      refine ⟨?_, trivial⟩
      rw [forIn_pure_fold (fun s (w : List Nat) => s ++ w)]
      simp only [M.ok_bind, foldl_append_flatten, List.nil_append, bytesOfList_ok (hflat r), M.map_ok]
    · rw [foldl_append_map]; rfl

/-- **`_expand_key` is the model's `expandKey`** for every byte string `key`: on a key of any other length than 16 / 24 / 32
    its first `raise ValueError` fires, as in the model -/
theorem expand_key_eq {key : List Nat} (hk : IsBytes key) :
    _expand_key key = liftV (exc_ValueError "_expand_key" 0) (expandKey GT key) := by
  by_cases hlen : key.length = 16 ∨ key.length = 24 ∨ key.length = 32
  · exact expand_key_ok hk hlen
  · have hne : key.length ≠ 16 ∧ key.length ≠ 24 ∧ key.length ≠ 32 := (not_or.mp hlen).imp_right not_or.mp
    have hc : ([16, 24, 32].contains key.length) = false := by
      simpa only [List.contains_cons, List.contains_nil, Bool.or_false, Bool.or_eq_false_iff, beq_eq_false_iff_ne, ne_eq]
        using hne
    rw [expandKey_bad GT hne]
    unfold _expand_key
    simp +instances only [hc, Bool.not_false, if_true, ite_true, M.throw_def, M.error_bind, liftV]

/-! block functions.  Side conditions: `block` is a byte string, there is at least one round key and every round key is a 16-byte
block (what `_expand_key` returns: `expandKey_blocks`).  Then `_aes_encrypt_block` / `_aes_decrypt_block` raise exactly
when the model does (`len(block) != 16`, their only `raise`) and otherwise return the model's block.
Outside: `block_functions_outside`. -/

/-- **`_aes_encrypt_block` is the model's `encryptBlock`** -/
theorem aes_encrypt_block_eq {block : List Nat} {rks : List (List Nat)} (hb : IsBytes block) (hne : rks ≠ [])
    (hr : ∀ rk ∈ rks, Block rk) :
    _aes_encrypt_block block rks = liftV (exc_ValueError "_aes_encrypt_block" 0) (encryptBlock GT block rks) ∧
      ∀ c, encryptBlock GT block rks = .ok c → Block c := by
  have hn : 0 < rks.length := List.length_pos_iff.mpr hne
  unfold _aes_encrypt_block encryptBlock
  py_loop_nf
  by_cases hl : block.length = 16
  · have e : ((rks.length : Int) - ((1 : Nat) : Int)) = ((rks.length - 1 : Nat) : Int) := by omega
    have hK : ∀ r, r < rks.length → Block (rks.getD r []) := fun r h => hr _ (List.getD_mem h)
    simp +instances (disch := omega) only [hl, bne_self_eq_false, Bool.false_eq_true, if_false, ne_eq, not_true_eq_false, e,
      rangeI_natCast, List.forIn_map, getItem_list_natCast, M.ok_bind, liftV]
    refine (add_round_key_runs (hK 0 hn)).bind ⟨hl, hb⟩ fun h0 => ?_
    refine forIn_bind_and Block
      (fun s r => addRoundKey (mixColumns GT (shiftRows (subBytes GT s))) (rks.getD r [])) h0 ?_ ?_
    · intro r hr' st hst
      rw [List.mem_range'_1] at hr'
      refine sub_bytes_runs.bind hst fun b1 => shift_rows_runs.bind b1 fun b2 => mix_columns_runs.bind b2 fun b3 => ?_
      rw [getItem_list_natCast _ (by omega : r < rks.length), M.ok_bind]
      exact (add_round_key_runs (hK r (by omega))).yield b3
    · intro hst
      refine sub_bytes_runs.bind hst fun b1 => shift_rows_runs.bind b1 fun b2 =>
        (add_round_key_runs (hK (rks.length - 1) (by omega))).bind b2 fun hfin => ?_
      exact ⟨by rw [bytesOfList_ok hfin.2], fun c hc => Except.ok.inj hc ▸ hfin⟩
  · refine ⟨?_, ?_⟩
    · simp [hl, liftV]
    · intro c hc
      simp [hl] at hc
/-- **`_aes_decrypt_block` is the model's `decryptBlock`** -/
theorem aes_decrypt_block_eq {block : List Nat} {rks : List (List Nat)} (hb : IsBytes block) (hne : rks ≠ [])
    (hr : ∀ rk ∈ rks, Block rk) :
    _aes_decrypt_block block rks = liftV (exc_ValueError "_aes_decrypt_block" 0) (decryptBlock GT block rks) ∧
      ∀ c, decryptBlock GT block rks = .ok c → Block c := by
  have hn : 0 < rks.length := List.length_pos_iff.mpr hne
  unfold _aes_decrypt_block decryptBlock
  py_loop_nf
  by_cases hl : block.length = 16
  · have e : ((rks.length : Int) - ((1 : Nat) : Int)) = ((rks.length - 1 : Nat) : Int) := by omega
    have ez : (((rks.length - 1 : Nat) : Int) - ((1 : Nat) : Int)).toNat = rks.length - 1 - 1 := by omega
    have hK : ∀ r, r < rks.length → Block (rks.getD r []) := fun r h => hr _ (List.getD_mem h)
    simp +instances (disch := omega) only [hl, bne_self_eq_false, Bool.false_eq_true, if_false, ne_eq, not_true_eq_false, e, ez,
      rangeStep_down, List.forIn_map, getItem_list_natCast, M.ok_bind, liftV]
    refine (add_round_key_runs (hK (rks.length - 1) (by omega))).bind ⟨hl, hb⟩ fun h0 => forIn_bind_and Block
      (fun s r => invMixColumns GT (addRoundKey (invSubBytes GT (invShiftRows s)) (rks.getD r []))) h0 ?_ ?_
    · intro r hr' st hst
      rw [List.mem_reverse, List.mem_range'_1] at hr'
      refine inv_shift_rows_runs.bind hst fun b1 => inv_sub_bytes_runs.bind b1 fun b2 => ?_
      rw [getItem_list_natCast _ (by omega : r < rks.length), M.ok_bind]
      exact (add_round_key_runs (hK r (by omega))).bind b2 inv_mix_columns_runs.yield
    · intro hst
      refine inv_shift_rows_runs.bind hst fun b1 => inv_sub_bytes_runs.bind b1 fun b2 =>
        (add_round_key_runs (hK 0 hn)).bind b2 fun hfin => ?_
      exact ⟨by rw [bytesOfList_ok hfin.2], fun c hc => Except.ok.inj hc ▸ hfin⟩
  · refine ⟨?_, ?_⟩
    · simp [hl, liftV]
    · intro c hc
      simp [hl] at hc

/-- `_pkcs7_pad(data, block_size)` for `block_size > 0` and a padding byte that fits a byte (always so for
    `block_size ≤ 255`; the code calls it with 16) -/
theorem pkcs7_pad_eq (data : List Nat) {bs : Nat} (h0 : 0 < bs) (h : bs - data.length % bs < 256) :
    _pkcs7_pad data bs = Except.ok (pkcs7Pad data bs) := by
  unfold _pkcs7_pad pkcs7Pad
  have hm : data.length % bs < bs := Nat.mod_lt _ h0
  have e : ((bs : Int) - ((data.length % bs : Nat) : Int)) = ((bs - data.length % bs : Nat) : Int) := by omega
  simp only [natMod_pos _ h0, M.ok_bind, e, bytesOfInts_single h, repeat_singleton, M.pure_def]

/-- **`_pkcs7_unpad` is the model's `pkcs7Unpad`** on every byte string and every block size: same result, and a
    `ValueError` raised by one of its own `raise` statements exactly when the model rejects -/
theorem pkcs7_unpad_eq {data : List Nat} (hd : IsBytes data) (bs : Nat) :
    unsited (_pkcs7_unpad data bs) = liftV (exc_ValueError "_pkcs7_unpad" 0) (pkcs7Unpad data bs) := by
  unfold _pkcs7_unpad pkcs7Unpad
  py_loop_nf
  rw [getItem_last]
  cases hl : data.getLast? with
  | none =>
    have : data = [] := List.getLast?_eq_none_iff.mp hl
    subst this
    simp
  | some p =>
    have hne : data ≠ [] := by intro h; subst h; simp at hl
    have hp : p < 256 := hd p (List.mem_of_getLast? hl)
    have ht : truthy data = true := by rw [truthy_list, List.isEmpty_eq_false_iff.mpr hne, Bool.not_false]
    have hb : bytesOfList [p] = Except.ok [p] := bytesOfList_ok (by simpa using hp)
    simp +instances only [ht, Bool.not_true, Bool.false_eq_true, if_false, M.ok_bind, hb, repeat_singleton, M.throw_def,
      M.error_bind, M.map_error, M.pure_def]
    -- the model's three conditions, in the model's order; whatever way the source tests them
    by_cases c0 : p < 1
    · simp [c0, exc_ValueError]
    · have hp1 : 0 < p := by omega
      simp +instances only [slice_from_neg _ hp1, slice_to_neg _ hp1]
      by_cases c1 : p > bs <;>
      by_cases c2 : List.drop (data.length - p) data = List.replicate p p <;>
      simp [c0, c1, c2, exc_ValueError]

/-- `_chunks(data, size)` (the list of the yielded views) for `size > 0` -/
theorem chunks_eq (data : List Nat) {size : Nat} (h0 : 0 < size) :
    _chunks data size = Except.ok (chunks data size) := by
  unfold _chunks chunks
  py_loop_nf
  have hr : rangeStepN 0 data.length size = Except.ok (List.range' 0 ((data.length + size - 1) / size) size) := by
    simp [rangeStepN, Nat.ne_of_gt h0]
  simp only [hr, M.ok_bind, M.pure_def]
  rw [forIn_pure_fold (fun acc i => acc ++ [slice data (some ((i : Nat) : Int)) (some ((i + size : Nat) : Int))]),
    foldl_append_map, List.range'_step]
  simp only [List.nil_append, List.map_map, slice_nat, Nat.add_sub_cancel_left, Function.comp_def]

/-- what every mode function does after its own length checks: `_expand_key`, then a computation `run` that is the
    model's `L` on round keys as `_expand_key` returns them -/
private theorem with_round_keys {β : Type} {key : List Nat} (hk : IsBytes key) (e : Py.Exc)
    (run : List (List Nat) → M β) (L : List (List Nat) → Except Aes.Exc β)
    (h : ∀ rks, rks ≠ [] → (∀ rk ∈ rks, Block rk) → run rks = liftV e (L rks)) :
    (_expand_key key >>= run)
      = liftV (if ¬ (key.length = 16 ∨ key.length = 24 ∨ key.length = 32) then exc_ValueError "_expand_key" 0 else e)
        (match expandKey GT key with
         | .error x => .error x
         | .ok rks => L rks) := by
  rw [expand_key_eq hk]
  by_cases hkl : key.length = 16 ∨ key.length = 24 ∨ key.length = 32
  · obtain ⟨rks, hrk, hne, hB⟩ := expandKey_blocks hk hkl
    rw [hrk]
    simp only [hkl, not_true_eq_false, if_false, liftV_ok, M.ok_bind]
    exact h rks hne hB
  · simp [hkl, expandKey_bad GT ((not_or.mp hkl).imp_right not_or.mp)]

/-- which `raise ValueError` fires when `aes_ecb_*` rejects: its own length check, the key length check of
    `_expand_key`, (never) the block length check -/
def ecbExc (fn blockfn : String) (key data : List Nat) : Py.Exc :=
  if data.length % 16 ≠ 0 then exc_ValueError fn 0
  else if ¬ (key.length = 16 ∨ key.length = 24 ∨ key.length = 32) then exc_ValueError "_expand_key" 0
  else exc_ValueError blockfn 0

/-- **`aes_ecb_encrypt` is the model's `aesEcbEncrypt`**, every byte string `key` and `data` -/
theorem aes_ecb_encrypt_eq {key data : List Nat} (hk : IsBytes key) (hd : IsBytes data) :
    aes_ecb_encrypt key data
      = liftV (ecbExc "aes_ecb_encrypt" "_aes_encrypt_block" key data) (aesEcbEncrypt GT key data) := by
  unfold aes_ecb_encrypt aesEcbEncrypt ecbExc
  py_loop_nf
  by_cases hdl : data.length % 16 = 0
  · simp +instances only [hdl, truthy_nat, bne_self_eq_false, Bool.false_eq_true, if_false, ne_eq, not_true_eq_false,
      M.ok_bind, chunks_eq data (by decide : 0 < 16)]
    refine with_round_keys hk _ _ (fun rks => ecbLoop (fun b => encryptBlock GT b rks) (chunks data 16)) fun rks hne hB => ?_
    rw [ecbLoop_chain]
    -- the loop state is the pair of the locals `out`, `offset` in the order of their first assignment in the source:
    -- both orders are tried, so that swapping the two assignments does not break the proof
    first
    | refine chain_forIn_start (fun o (_ : Unit) n => (o, n)) Prod.fst (fun _ _ _ => rfl) (fun _ => True) ?_ trivial
        (List.length_replicate.trans (chunks16_length hdl))
    | refine chain_forIn_start (fun o (_ : Unit) n => (n, o)) Prod.snd (fun _ _ _ => rfl) (fun _ => True) ?_ trivial
        (List.length_replicate.trans (chunks16_length hdl))
    intro b hb _ _
    obtain ⟨he, hc⟩ := aes_encrypt_block_eq (chunks16_blocks hd hdl b hb).2 hne hB
    simp only [he]
    -- the two outcomes of the block function: rejected, there is no result to speak of and both sides raise; accepted,
    -- its 16 bytes are written behind `pre` (`setSlice_block`) and the carried value is handed on
    cases hg : encryptBlock GT b rks with
    | error x => exact ⟨fun r hr => (by cases hr), fun _ _ _ => rfl⟩
    | ok c =>
      refine ⟨fun r hr => ?_, fun pre post hp => ?_⟩
      · cases hr; exact ⟨(hc c hg).1, trivial⟩
      · simp only [liftV_ok, M.map_ok, setSlice_block pre post c hp]
        rfl
  · simp +instances [hdl, truthy_nat]
/-- **`aes_ecb_decrypt` is the model's `aesEcbDecrypt`**, every byte string `key` and `data` -/
theorem aes_ecb_decrypt_eq {key data : List Nat} (hk : IsBytes key) (hd : IsBytes data) :
    aes_ecb_decrypt key data
      = liftV (ecbExc "aes_ecb_decrypt" "_aes_decrypt_block" key data) (aesEcbDecrypt GT key data) := by
  unfold aes_ecb_decrypt aesEcbDecrypt ecbExc
  py_loop_nf
  by_cases hdl : data.length % 16 = 0
  · simp +instances only [hdl, truthy_nat, bne_self_eq_false, Bool.false_eq_true, if_false, ne_eq, not_true_eq_false,
      M.ok_bind, chunks_eq data (by decide : 0 < 16)]
    refine with_round_keys hk _ _ (fun rks => ecbLoop (fun b => decryptBlock GT b rks) (chunks data 16)) fun rks hne hB => ?_
    rw [ecbLoop_chain]
    -- either order of `out`, `offset`, as in `aes_ecb_encrypt_eq`
    first
    | refine chain_forIn_start (fun o (_ : Unit) n => (o, n)) Prod.fst (fun _ _ _ => rfl) (fun _ => True) ?_ trivial
        (List.length_replicate.trans (chunks16_length hdl))
    | refine chain_forIn_start (fun o (_ : Unit) n => (n, o)) Prod.snd (fun _ _ _ => rfl) (fun _ => True) ?_ trivial
        (List.length_replicate.trans (chunks16_length hdl))
    intro b hb _ _
    obtain ⟨he, hc⟩ := aes_decrypt_block_eq (chunks16_blocks hd hdl b hb).2 hne hB
    simp only [he]
    -- the two outcomes, as in `aes_ecb_encrypt_eq`
    cases hg : decryptBlock GT b rks with
    | error x => exact ⟨fun r hr => (by cases hr), fun _ _ _ => rfl⟩
    | ok c =>
      refine ⟨fun r hr => ?_, fun pre post hp => ?_⟩
      · cases hr; exact ⟨(hc c hg).1, trivial⟩
      · simp only [liftV_ok, M.map_ok, setSlice_block pre post c hp]
        rfl
  · simp +instances [hdl, truthy_nat]

/-- which `raise ValueError` fires when `aes_cbc_*` rejects -/
def cbcExc (fn blockfn : String) (key iv data : List Nat) : Py.Exc :=
  if iv.length ≠ 16 then exc_ValueError fn 0
  else if data.length % 16 ≠ 0 then exc_ValueError fn 1
  else if ¬ (key.length = 16 ∨ key.length = 24 ∨ key.length = 32) then exc_ValueError "_expand_key" 0
  else exc_ValueError blockfn 0

/-- **`aes_cbc_encrypt` is the model's `aesCbcEncrypt`**, every byte string `key`, `iv`, `data` -/
theorem aes_cbc_encrypt_eq {key iv data : List Nat} (hk : IsBytes key) (hiv : IsBytes iv) (hd : IsBytes data) :
    aes_cbc_encrypt key iv data
      = liftV (cbcExc "aes_cbc_encrypt" "_aes_encrypt_block" key iv data) (aesCbcEncrypt GT key iv data) := by
  unfold aes_cbc_encrypt aesCbcEncrypt cbcExc
  py_loop_nf
  by_cases hil : iv.length = 16
  · by_cases hdl : data.length % 16 = 0
    · simp +instances only [hil, hdl, truthy_nat, bne_self_eq_false, Bool.false_eq_true, if_false, ne_eq,
        not_true_eq_false, M.ok_bind, chunks_eq data (by decide : 0 < 16)]
      refine with_round_keys hk _ _ (fun rks => cbcEncLoop GT rks iv (chunks data 16)) fun rks hne hB => ?_
      rw [cbcEncLoop_chain]
      -- the loop state is the triple `out`, `prev`, `offset` in the order of their first assignment in the source (the ECB
      -- proofs try both orders of their pair; here the one order is written)
      refine chain_forIn_start (fun o p n => (o, p, n)) Prod.fst (fun _ _ _ => rfl) Block ?_ ⟨hil, hiv⟩
        (List.length_replicate.trans (chunks16_length hdl))
      intro b hb prev hprev
      have hx : IsBytes (List.zipWith (· ^^^ ·) b prev) := isBytes_zipWith_xor (chunks16_blocks hd hdl b hb).2 hprev.2
      obtain ⟨he, hc⟩ := aes_encrypt_block_eq hx hne hB
      simp only [map_zip_xor, bytesOfList_ok hx, M.ok_bind, he]
      -- the two outcomes, as in `aes_ecb_encrypt_eq`; the ciphertext block is also the value carried on
      cases hg : encryptBlock GT (List.zipWith (· ^^^ ·) b prev) rks with
      | error x => exact ⟨fun r hr => (by cases hr), fun _ _ _ => rfl⟩
      | ok c =>
        refine ⟨fun r hr => ?_, fun pre post hp => ?_⟩
        · cases hr; exact ⟨(hc c hg).1, hc c hg⟩
        · simp only [liftV_ok, M.map_ok, setSlice_block pre post c hp]
          rfl
    · simp +instances [hil, hdl, truthy_nat]
  · simp +instances [hil, truthy_nat]
/-- `for idx in range(16): out[offset + idx] = dec[idx] ^ prev[idx]` on a bytearray whose next 16 bytes exist -/
theorem cbc_xor_forIn {dec prev pre post : List Nat} (hdec : Block dec) (hprev : Block prev) (hp : 16 ≤ post.length)
    (G : Nat → List Nat → M (ForInStep (List Nat)))
    (hG : ∀ idx o, G idx o = (do
      let x ← getItem dec ((idx : Nat) : Int)
      let y ← getItem prev ((idx : Nat) : Int)
      ForInStep.yield <$> bytearraySetItem o ((pre.length + idx : Nat) : Int) (x ^^^ y))) :
    forIn (List.range 16) (pre ++ post) G
      = Except.ok (pre ++ (List.range 16).map (fun idx => dec.getD idx 0 ^^^ prev.getD idx 0) ++ post.drop 16) := by
  rw [← List.foldl_set_append_range (fun idx => dec.getD idx 0 ^^^ prev.getD idx 0) pre 16 post hp]
  refine (forIn_fold (fun o => o.length = pre.length + post.length) _ _ _ ?_ _ (by simp)).1
  intro idx hi o ho
  rw [List.mem_range] at hi
  have h1 := hdec.1
  have h2 := hprev.1
  have hv : dec.getD idx 0 ^^^ prev.getD idx 0 < 256 := xor_lt (isBytes_getD hdec.2 _) (isBytes_getD hprev.2 _)
  have hnv : ¬ (256 ≤ dec.getD idx 0 ^^^ prev.getD idx 0) := by omega
  constructor
  · simp (disch := omega) only [hG, getItem_natCast, M.ok_bind, bytearraySetItem, hnv, if_false, setItem_natCast,
      M.map_ok]
  · simp [ho]

/-- **`aes_cbc_decrypt` is the model's `aesCbcDecrypt`**, every byte string `key`, `iv`, `data` -/
theorem aes_cbc_decrypt_eq {key iv data : List Nat} (hk : IsBytes key) (hiv : IsBytes iv) (hd : IsBytes data) :
    aes_cbc_decrypt key iv data
      = liftV (cbcExc "aes_cbc_decrypt" "_aes_decrypt_block" key iv data) (aesCbcDecrypt GT key iv data) := by
  unfold aes_cbc_decrypt aesCbcDecrypt cbcExc
  py_loop_nf
  by_cases hil : iv.length = 16
  · by_cases hdl : data.length % 16 = 0
    · simp +instances only [hil, hdl, truthy_nat, bne_self_eq_false, Bool.false_eq_true, if_false, ne_eq,
        not_true_eq_false, M.ok_bind, chunks_eq data (by decide : 0 < 16)]
      refine with_round_keys hk _ _ (fun rks => cbcDecLoop GT rks iv (chunks data 16)) fun rks hne hB => ?_
      rw [cbcDecLoop_chain]
      -- `out`, `prev`, `offset` in the order of the source, as in `aes_cbc_encrypt_eq`
      refine chain_forIn_start (fun o p n => (o, p, n)) Prod.fst (fun _ _ _ => rfl) Block ?_ ⟨hil, hiv⟩
        (List.length_replicate.trans (chunks16_length hdl))
      intro b hb prev hprev
      have hbb := chunks16_blocks hd hdl b hb
      obtain ⟨he, hc⟩ := aes_decrypt_block_eq hbb.2 hne hB
      simp only [he]
      -- the two outcomes, as in `aes_ecb_encrypt_eq`; the 16 bytes are written by the inner loop (`cbc_xor_forIn`)
      cases hg : decryptBlock GT b rks with
      | error x => exact ⟨fun r hr => (by cases hr), fun _ _ _ => rfl⟩
      | ok dec =>
        refine ⟨fun r hr => ?_, fun pre post hp => ?_⟩
        · cases hr; exact ⟨by simp, hbb⟩
        · simp only [liftV_ok, M.ok_bind]
          rw [cbc_xor_forIn (hc dec hg) hprev hp _ (fun _ _ => rfl)]
          rfl
    · simp +instances [hil, hdl, truthy_nat]
  · simp +instances [hil, truthy_nat]

/-! ## outside the side conditions: where the hand model and the source differ

The model indexes with a default (`getD`) and uses truncated `Nat` arithmetic; the source raises.  None of these inputs
is reachable from `aes_ecb_*` / `aes_cbc_*` / `CryptAES` (their length checks and `_expand_key` establish the side
conditions — that is what the entry-point theorems above prove), so these are findings about the MODEL's totalisation,
not about the library.  Each is decided by evaluating both sides. -/

/-- a state shorter than 16, or holding a non-byte: `IndexError` in the source, a default in the model -/
theorem round_functions_outside :
    (_sub_bytes [] = Except.error indexError ∧ subBytes GT [] = []) ∧
    (_add_round_key [] [] = Except.error indexError ∧ addRoundKey [] [] = []) ∧
    (_sub_bytes (List.replicate 16 256) = Except.error indexError ∧
      subBytes GT (List.replicate 16 256) = List.replicate 16 0) ∧
    (_shift_rows [1, 2, 3] = Except.error indexError ∧ shiftRows [1, 2, 3] = [1, 0, 0]) := by
  decide +kernel

theorem sub_word_outside : _sub_word [256] = Except.error indexError ∧ subWord GT [256] = [0] := by
  decide +kernel

/-- `_build_rcon(0)`: `rcon[1] = 0x01` on a one-element list -/
theorem build_rcon_outside : _build_rcon 0 = Except.error indexError ∧ buildRcon 0 = [0] := by
  decide +kernel

/-- no round keys: `round_keys[0]` raises `IndexError`, the model goes on with empty round keys -/
theorem block_functions_outside :
    _aes_encrypt_block (List.replicate 16 0) [] = Except.error indexError ∧
    (∃ c, encryptBlock GT (List.replicate 16 0) [] = .ok c) ∧
    _aes_decrypt_block (List.replicate 16 0) [] = Except.error indexError ∧
    (∃ c, decryptBlock GT (List.replicate 16 0) [] = .ok c) := by
  refine ⟨by decide +kernel, ⟨_, rfl⟩, by decide +kernel, ⟨_, rfl⟩⟩

/-- `_pkcs7_pad(data, 0)`: `ZeroDivisionError`; a padding value ≥ 256 (`block_size` ≥ 256): `ValueError` from `bytes([padding])` -/
theorem pkcs7_pad_outside :
    (_pkcs7_pad [] 0 = Except.error zeroDivisionError ∧ pkcs7Pad [] 0 = []) ∧
    (_pkcs7_pad [] 300 = Except.error valueError ∧ pkcs7Pad [] 300 = List.replicate 300 300) := by
  decide +kernel

/-- `_chunks(data, 0)`: `range(0, n, 0)` raises `ValueError`, the model yields nothing -/
theorem chunks_outside : _chunks [1] 0 = Except.error valueError ∧ chunks [1] 0 = [] := by
  decide +kernel

example : Block (List.range 16) ∧ IsBytes (List.range 32) := by decide
example : ∃ rks, expandKey GT (List.range 16) = .ok rks ∧ rks ≠ [] ∧ ∀ rk ∈ rks, Block rk :=
  expandKey_blocks (by decide) (Or.inl rfl)
example : (0 : Nat) < 16 ∧ 16 - [1, 2, 3].length % 16 < 256 := by decide

end S2T.C20.Src
