import S2T.Model.MailText
import S2T.Lemmas.Chars
import S2T.Lemmas.Mail
import S2T.Gen.Mail
import S2T.Gen.Router
import S2T.Lemmas.ListBasics
/-!
# C16 (part) — decoded texts are returned code point by code point, white space included

* the subject / plain body lose white space at their two ENDS only (`str.strip`), every interior character —
  runs of blanks, tabs, U+00A0, U+3000, C1 controls — stays (`C16_strip_interior_exact`);
* a header value changes by unfolding only, and unfolding a folded value gives back exactly the text that was
  folded (`C16_unfold_exact`), for LF and CRLF;
* a single-byte charset decodes byte by byte through the codec's own table: what was encoded comes back
  (`C16_decode_roundtrip`), ISO-8859-1 is the identity on 0..255 — C1 controls included (`C16_latin1_identity`).
The source facts these rest on (statements of `__post_init__`, the two folding patterns, the subject expressions,
every `.decode(` site with its codec argument, the white space set, the codec tables) are generated from the
current tree and re-decided here.
-/
namespace S2T.C16.Text
open S2T.Mail S2T.MailText
open S2T.Router (Str)

/-- `EmailContent.__post_init__` consists of exactly `self.subject = self.subject.strip()` and
    `self.body_plain = self.body_plain.strip()` -/
theorem gen_post_init : S2T.Gen.Mail.postInit =
    ["self.subject = self.subject.strip()", "self.body_plain = self.body_plain.strip()"] := rfl

/-- `str.isspace` of the running interpreter is `isPyWs` -/
theorem gen_whitespace : S2T.Gen.Mail.pyWhitespace = pyWsList := by decide

/-- both extractors unfold with the pattern `unfold` models, and the Subject goes through exactly these expressions -/
theorem gen_unfold : S2T.Gen.Mail.foldingPatterns = [("mbox", "\\r?\\n(?=[ \\t])", 32), ("eml", "\\r?\\n(?=[ \\t])", 32)] ∧
    S2T.Gen.Mail.subjectExprs = [("mbox", "decode_header_value(message.get('Subject'))"),
                                 ("eml", "HEADER_FOLDING_PATTERN.sub('', mail.subject or '')")] ∧
    S2T.Gen.Mail.unfoldProbe = (unfold "a\n b\r\n\tc\nd\r\n e \r \n".toList).map Char.toNat :=
  ⟨rfl, rfl, by decide⟩

/-- every `.decode(` of the mbox extractor decodes with a variable `charset` or with UTF-8 (the fallback), replacing
    undecodable bytes; and `charset` is only ever bound to the declared charset or `"utf-8"` — no alias table, no
    re-labelling between the declaration and the codec (where the calls sit, and how many there are, is free) -/
theorem gen_decode_sites :
    S2T.Gen.Mail.decodeSites = [("'utf-8'", "replace"), ("charset", "replace")] ∧
    S2T.Gen.Mail.charsetBindings.all (fun v =>
      ["charset or 'utf-8'", "part.get_content_charset() or 'utf-8'",
       "message.get_content_charset() or 'utf-8'"].contains v) = true ∧
    S2T.Gen.Mail.charsetBindings ≠ [] := ⟨rfl, by decide, by decide⟩

/-- **C16 (subject, plain body).** `strip` removes the white space before the first and after the last
    non-white-space character and nothing else: for EVERY text `core` that does not begin or end with white space —
    whatever it contains in its interior (runs of blanks, tabs, U+00A0, U+3000, U+0085 …) — and every white space
    `pre`/`suf` around it, the result is `core`, character by character. -/
theorem C16_strip_interior_exact (pre core suf : Str)
    (hp : ∀ c ∈ pre, isPyWs c = true) (hs : ∀ c ∈ suf, isPyWs c = true)
    (hh : ∀ c, core.head? = some c → isPyWs c = false)
    (hl : ∀ c, core.getLast? = some c → isPyWs c = false) :
    pyStrip (pre ++ core ++ suf) = core :=
  -- `pyStrip` is by definition the `dropWhile` / `reverse` expression of `List.strip_append`
  List.strip_append hp hs hh hl

/-- the subject comes back unchanged when it has no white space at its ends -/
theorem C16_strip_exact (s : Str) (hh : ∀ c, s.head? = some c → isPyWs c = false)
    (hl : ∀ c, s.getLast? = some c → isPyWs c = false) : pyStrip s = s :=
  List.strip_eq_self hh hl

/-- a header value written on several lines: the pieces joined by the line break `br` -/
def foldJoin (br : Str) : List Str → Str
  | [] => []
  | [a] => a
  | a :: b :: r => a ++ br ++ foldJoin br (b :: r)

/-- no line-break character inside a piece -/
def noBreak (s : Str) : Prop := ∀ c ∈ s, c ≠ '\n' ∧ c ≠ '\r'
instance (s : Str) : Decidable (noBreak s) := inferInstanceAs (Decidable (∀ c ∈ s, c ≠ '\n' ∧ c ≠ '\r'))

private theorem unfold_piece (s r : Str) (h : noBreak s) : unfold (s ++ r) = s ++ unfold r := by
  induction s with
  | nil => rfl
  | cons a t ih =>
    have ha := h a (by simp)
    have h1 : (a == '\n') = false := by simp [ha.1]
    have h2 : (a == '\r') = false := by simp [ha.2]
    simp only [List.cons_append, unfold, h1, h2, Bool.false_and, Bool.or_self]
    simp [ih (fun c hc => h c (by simp [hc]))]

private theorem unfold_lf (r : Str) (h : startsWsp r = true) : unfold ('\n' :: r) = unfold r := by
  simp [unfold, h]

private theorem unfold_crlf (r : Str) (h : startsWsp r = true) : unfold ('\r' :: '\n' :: r) = unfold r := by
  cases r with
  | nil => simp [startsWsp] at h
  | cons w t =>
    have hw : isWsp w = true := h
    have : crlfWsp ('\n' :: w :: t) = true := hw
    rw [unfold]
    simp only [this, Bool.and_true, beq_self_eq_true, Bool.or_true, if_true]
    exact unfold_lf (w :: t) h

private theorem foldJoin_starts (br : Str) (b : Str) (r : List Str) (h : startsWsp b = true) :
    startsWsp (foldJoin br (b :: r)) = true := by
  cases b with
  | nil => simp [startsWsp] at h
  | cons w t => cases r <;> simpa [foldJoin, startsWsp] using h

/-- **C16 (header unfolding).** For every header text cut into pieces without line breaks, every piece after
    the first beginning with the blank or tab it was folded before, and either line break: unfolding the folded
    value gives back exactly the concatenation of the pieces — no white space is added, dropped or merged. -/
theorem C16_unfold_exact (br : Str) (hbr : br = ['\n'] ∨ br = ['\r', '\n']) (segs : List Str)
    (hn : ∀ s ∈ segs, noBreak s) (hw : ∀ s ∈ segs.tail, startsWsp s = true) :
    unfold (foldJoin br segs) = segs.flatten := by
  induction segs with
  | nil => rfl
  | cons a rest ih =>
    cases rest with
    | nil => simpa [foldJoin, unfold] using unfold_piece a [] (hn a (by simp))
    | cons b r =>
      have hb : startsWsp b = true := hw b (by simp)
      have hst := foldJoin_starts br b r hb
      have ih' := ih (fun s hs => hn s (by simp [hs])) (fun s hs => hw s (List.mem_cons_of_mem b hs))
      simp only [foldJoin, List.append_assoc, List.flatten_cons]
      rw [unfold_piece a _ (hn a (by simp))]
      rcases hbr with rfl | rfl
      · simp only [List.cons_append, List.nil_append]
        rw [unfold_lf _ hst, ih']; simp
      · simp only [List.cons_append, List.nil_append]
        rw [unfold_crlf _ hst, ih']; simp

/-- a value without line breaks is not touched by unfolding -/
theorem C16_unfold_id (s : Str) (h : noBreak s) : unfold s = s := by
  simpa [unfold] using unfold_piece s [] h

/-- **C16 (any charset, single-byte).** Whatever table a codec has: every text over its repertoire, encoded with
    it, decodes back to the same code points — for every part of the repertoire alike. -/
theorem C16_decode_roundtrip (T : List Nat) (cps : List Nat) (h : ∀ c ∈ cps, c ∈ T) :
    decodeTable T (encodeTable T cps) = cps := by
  unfold decodeTable encodeTable
  rw [List.map_map]
  -- pointwise: `T[T.idxOf c] = c` for `c ∈ T`
  exact (List.map_congr_left fun c hc => by
    simp [List.getD_eq_getElem?_getD, List.getElem?_eq_getElem (List.idxOf_lt_length_iff.2 (h c hc))]).trans (List.map_id _)

/-- **C16 (ISO-8859-1).** Decoding ISO-8859-1 is the identity on byte values: byte 0x80..0x9F is the C1 control
    U+0080..U+009F, not a Windows-1252 character. -/
theorem C16_latin1_identity (bs : Bytes) (h : ∀ b ∈ bs, b < 256) : decodeTable (List.range 256) bs = bs :=
  (List.map_congr_left fun b hb => by simp [List.getD, h b hb]).trans (List.map_id _)

/-- the running codecs: iso-8859-1 is the identity table, us-ascii its lower half, and Windows-1252 differs from
    ISO-8859-1 exactly on 0x80..0x9F (so only characters from that part tell the two apart) -/
theorem gen_codecs :
    S2T.Gen.Mail.codecTables.lookup "iso-8859-1" = some (List.range 256) ∧
    S2T.Gen.Mail.codecTables.lookup "us-ascii" = some (List.range 128 ++ List.replicate 128 0xFFFD) ∧
    ((S2T.Gen.Mail.codecTables.lookup "windows-1252").map (fun t => (List.range 256).filter (fun b => t.getD b 0 != b)))
      = some ((List.range 32).map (· + 128)) := by
  refine ⟨by decide +kernel, by decide +kernel, ?_⟩
  -- `t.getD b` for every `b` walks the table once per position; `List.filter_range_getD_ne` turns the filter over positions
  -- into one pass over `zipIdx`, which the kernel can decide
  have h : ((S2T.Gen.Mail.codecTables.lookup "windows-1252").map fun t =>
      (t.length, (t.zipIdx.filter fun p => p.1 != p.2).map (·.2))) = some (256, (List.range 32).map (· + 128)) := by
    decide +kernel
  cases ht : S2T.Gen.Mail.codecTables.lookup "windows-1252" with
  | none => rw [ht] at h; cases h
  | some t =>
    rw [ht] at h
    simp only [Option.map_some, Option.some.injEq, Prod.mk.injEq] at h
    rw [Option.map_some, ← h.1, List.filter_range_getD_ne, h.2]

/-
  Full-strength statement for `.eml` texts: the subject (names, bodies) returned are the code points that were
  sent.  mailparser hands every string over in Unicode normalisation form C (open known finding
  `eml.nfc-normalised-text`), so the statement holds only with the excluding hypothesis "mailparser reports the
  text that was sent"; what is proved is that the extractor itself changes nothing but folds and the two ends.
-/
/-- **C16 (eml subject) — partial.** If mailparser reports the subject that was sent (`m.subject = folded`, the
    wire text folded anywhere before white space) the returned subject is that text, character by character. -/
theorem C16_eml_subject_partial (T : S2T.Router.Tables) (m : Mp) (r : EmlResult) (h : emlContent T m = .ok r)
    (br : Str) (hbr : br = ['\n'] ∨ br = ['\r', '\n']) (segs : List Str)
    (hn : ∀ s ∈ segs, noBreak s) (hw : ∀ s ∈ segs.tail, startsWsp s = true)
    (hm : m.subject = foldJoin br segs)
    (hh : ∀ c, segs.flatten.head? = some c → isPyWs c = false)
    (hl : ∀ c, segs.flatten.getLast? = some c → isPyWs c = false) :
    r.subject = segs.flatten := by
  unfold emlContent at h
  cases hr : readEml T m with
  | error e => simp [hr, Except.map] at h
  | ok r0 =>
    obtain ⟨f, to, _, rfl⟩ := S2T.Mail.readEml_ok T m r0 hr
    simp only [hr, Except.map, Except.ok.injEq] at h
    subst h
    simp only [postInit, hm, C16_unfold_exact br hbr segs hn hw]
    exact C16_strip_exact _ hh hl

/-- counterexample: for a Subject carrying U+F966 mailparser reports U+5FA9 (its NFC form); the result is not
    the subject that was sent -/
theorem C16_eml_nfc_counterexample :
    let m : Mp := { from_ := [["".toList, "a@b.c".toList]], to := [], cc := [], bcc := [], replyTo := [],
                    subject := [Char.ofNat 0x5FA9], textPlain := [], textHtml := [], attachments := [] }
    ∃ r, emlContent S2T.Gen.Router.tables m = .ok r ∧ r.subject = [Char.ofNat 0x5FA9] ∧
      r.subject ≠ [Char.ofNat 0xF966] := by
  refine ⟨_, rfl, by decide, by decide⟩

example : pyStrip " \t a  b\tc d　e \n".toList = "a  b\tc d　e".toList := by
  decide_chars
example : unfold "alpha  beta\n \tgamma\r\n  delta".toList = "alpha  beta \tgamma  delta".toList := by
  decide_chars
example : foldJoin ['\n'] ["a  b".toList, " \tc".toList] = "a  b\n \tc".toList := by decide
example : noBreak "a  b".toList := by decide
example : decodeTable (List.range 256) [0x41, 0x85, 0x93, 0xA0] = [0x41, 0x85, 0x93, 0xA0] := by decide

end S2T.C16.Text
