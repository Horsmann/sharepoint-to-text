import S2T.Lemmas.SharePointRaw
import S2T.Props.C18_Folders
import S2T.Gen.SharePointItems
import S2T.Lemmas.Chars
/-!
# C18, part "names as the server sees them / items as the client looks at them"

Two families of inputs of the property's quantifier ("names needing URL quoting", "optional fields missing") and
what the model says about them:

A. ESCAPE LOOK-ALIKES.  A folder may be NAMED `Rates %2B fees`, `Growth 100%25`, `Q%31`: a `%` followed by two hex
   digits that is data, not an escape — possibly beside a sibling carrying the decoded name (`Rates + fees`).  The
   server percent-decodes the request path exactly once (`pctDecode`); the healthy server of `Folders.C18_folders_complete`
   resolves names by comparing their encodings, which is the same thing (`C18_server_decodes`).

B. OPTIONAL MEMBERS.  `RawItem` is a driveItem before the client has looked at it; `classify` is the accessor code.
   What an item is depends on the presence of the facets, `name`, `id` and the two timestamps only — not on childCount,
   the other facet members, size, webUrl, parentReference, fileSystemInfo, listItem, unrelated facets.
-/
namespace S2T.C18.Items
open S2T.SP S2T.C18.Folders

theorem gen_items_notes_empty : S2T.Gen.SharePointItems.notes = [] := by decide

/-- keys that decide what is listed (the model reads them: `Obj`, `classify`) -/
def decidingKeys : List String :=
  ["value", "@odata.nextLink", "folder", "file", "name", "id", "createdDateTime", "lastModifiedDateTime", "access_token"]

/-- keys that are only copied into metadata fields the property does not mention, and the functions that do so -/
def carriedKeys : List String := ["webUrl", "@microsoft.graph.downloadUrl", "size", "mimeType", "listItem", "fields"]
def carriers : List String := ["_parse_file_item", "_extract_custom_fields"]

/-- CLOSED WORLD: every string key with which a function reachable from `list_all_files` / `list_files_filtered` /
    `list_files_modified_since` / `list_files_created_since` reads a dict is one the model accounts for -/
theorem gen_item_reads_accounted :
    ∀ p ∈ S2T.Gen.SharePointItems.itemReads,
      p.2 ∈ decidingKeys ∨ (p.2 ∈ carriedKeys ∧ p.1 ∈ carriers) := by decide +kernel

/-- what the walk does with one item of a page, according to the model -/
def viewOf : Item → S2T.Gen.SharePointItems.View
  | .folder n (some id) => if id.isEmpty then .nothing else .descends n id
  | .folder _ none => .nothing
  | .file f => .file f
  | .other => .nothing

/-- the real `_walk_drive_items`, run on every item shape of the probe lattice (facet shapes x name x id x optional
    members), did what `classify` says -/
theorem gen_classify_probes :
    ∀ p ∈ S2T.Gen.SharePointItems.classifyProbes, viewOf (classify p.1) = p.2 := by decide +kernel

/-- the real `_get_folder_by_path` accepts a by-path answer as a folder exactly when the `folder` member is present,
    whatever its shape (`{}`, with / without childCount, a childCount of 0) and whatever else the answer carries -/
theorem gen_by_path_probes :
    ∀ p ∈ S2T.Gen.SharePointItems.byPathProbes, p.1.present = p.2 := by decide +kernel

/-- the real `_get_folder_by_path` requests, for every start folder of the look-alike families (a literal `%XY` for
    all hex pairs in both cases, double escapes, `+`, NFC / NFD, …), the path the model requests: it neither decodes
    nor normalises what the caller wrote -/
theorem gen_escape_literal :
    ∀ p ∈ S2T.Gen.SharePointItems.pctProbes, quote (stripSlash p.1) = p.2 := by decide +kernel

/-- DECODE-ONCE SERVER: what the server decodes from the request for a start folder is, component by component, the
    UTF-8 encoding of the components the caller wrote — whatever characters they contain (`%2B` stays `%2B`) -/
theorem C18_start_decoded (st : Start) (h : st.Ok) :
    (splitSlash (quote (stripSlash st.raw))).map pctDecode = st.comps.map utf8Str := by
  rw [(C18_start_url st h).2.1, List.map_map]
  apply List.map_congr_left
  intro c _
  exact pctDecode_quote c

/-- the healthy server of the theorems compares percent-ENCODED names; on every request the client can build this is
    the same as comparing the DECODED request segment with the bytes of the name -/
theorem C18_server_decodes (nm c : Str) : (quote nm == quote c) = (utf8Str nm == pctDecode (quote c)) := by
  rw [quote_beq, pctDecode_quote, beq_of_injective utf8Str_injective]

/-- two start folders that differ after `strip("/")` are never looked up by the same request -/
theorem C18_lookalike_distinct (site a b : Str) (h : stripSlash a ≠ stripSlash b) :
    Url.byPath site (quote (stripSlash a)) ≠ Url.byPath site (quote (stripSlash b)) := by
  intro e
  injection e with _ e2
  exact h (quote_injective _ _ e2)

def exF (nm : String) : FileItem := ⟨nm.toList, ("ID" ++ nm).toList, some "2024-01-15T10:00:00Z".toList, some "2024-01-15T10:00:00Z".toList⟩

/-- siblings whose names differ by one escape only, a nested look-alike, a name ending in `%25` beside `…%` -/
def exLib : Lib :=
  .folder "Rates %2B fees".toList "E1".toList
    (.file (exF "encoded.pdf") (.folder "Q%31".toList "E2".toList (.file (exF "deep.txt") .nil) .nil))
  (.folder "Rates + fees".toList "P1".toList (.file (exF "plus.pdf") .nil)
  (.folder "Growth 100%25".toList "G1".toList (.file (exF "escape.xlsx") .nil)
  (.folder "Growth 100%".toList "G2".toList (.file (exF "plain.xlsx") .nil)
  (.file (exF "root.txt") .nil))))

def stEnc : Start := ⟨"Rates %2B fees".toList, ["Rates %2B fees".toList]⟩
def stDeep : Start := ⟨"/Rates %2B fees/Q%31/".toList, ["Rates %2B fees".toList, "Q%31".toList]⟩
def stPlus : Start := ⟨"Rates + fees".toList, ["Rates + fees".toList]⟩
def stPct : Start := ⟨"Growth 100%25".toList, ["Growth 100%25".toList]⟩

example : resolves exLib exLib = true ∧ exLib.size + 2 ≤ 14 := by
  unfold exLib exF
  -- `exF` builds the ids with `++` on `String`: that append is split before the literals become character lists
  simp only [String.toList_append]
  decide_chars

private theorem valid_of_all (cs : List Str) (h : cs.all (fun c => !c.isEmpty && !c.contains '/') = true) : ValidComps cs :=
  validComps_of_all cs h

example : stEnc.Ok ∧ stDeep.Ok ∧ stPlus.Ok ∧ stPct.Ok := by
  unfold stEnc stDeep stPlus stPct
  simp -index only [String.toList_ofList]  -- literals to character lists, as in `decide_chars`
  exact
   ⟨⟨valid_of_all _ (by decide +kernel), by decide +kernel, fun h => by cases h⟩,
    ⟨valid_of_all _ (by decide +kernel), by decide +kernel, fun h => by cases h⟩,
    ⟨valid_of_all _ (by decide +kernel), by decide +kernel, fun h => by cases h⟩,
    ⟨valid_of_all _ (by decide +kernel), by decide +kernel, fun h => by cases h⟩⟩

/-- the requests: the literal `%` is encoded, nothing is decoded -/
example : quote (stripSlash stDeep.raw) = "Rates%20%252B%20fees/Q%2531".toList ∧
    quote (stripSlash stPlus.raw) = "Rates%20%2B%20fees".toList := by
  decide_chars stDeep stPlus

/-- the run of the model (page size 1): each look-alike start folder yields ITS files with ITS name as parent path,
    with the sibling of the decoded name present -/
example : (listFilteredL .fixed (healthy exLib 1) isoStrict asciiLower globMatch {} [stEnc.raw, stPct.raw, stPlus.raw] 14 {}).1 =
    ⟨[parseFile "Rates %2B fees".toList (exF "encoded.pdf"), parseFile "Rates %2B fees/Q%31".toList (exF "deep.txt"),
      parseFile "Growth 100%25".toList (exF "escape.xlsx"), parseFile "Rates + fees".toList (exF "plus.pdf")], none⟩ := by
  unfold exLib exF stEnc stPct stPlus
  simp only [String.toList_append]
  decide_chars

/-- WHY NOTHING MAY BE DECODED BEFORE QUOTING: a client that percent-decodes the start folder first asks for the
    sibling — `Rates %2B fees` and `Rates + fees`, `Growth 100%25` and `Growth 100%`, `Q%31` and `Q1` collide -/
theorem decode_before_quote_collides :
    ("Rates %2B fees".toList ≠ "Rates + fees".toList ∧
      quote (pctDecodeAscii "Rates %2B fees".toList) = quote "Rates + fees".toList) ∧
    quote (pctDecodeAscii "Growth 100%25".toList) = quote "Growth 100%".toList ∧
    quote (pctDecodeAscii "Q%31".toList) = quote "Q1".toList ∧
    quote "Rates %2B fees".toList ≠ quote "Rates + fees".toList := by
  decide_chars

/-- what an item is depends on the presence of the facets, `name`, `id` and the two timestamps only -/
theorem C18_classify_ignores_optional (r r' : RawItem) (h : r.essence = r'.essence) : classify r = classify r' := by
  rw [← classify_essence r, ← classify_essence r', h]

/-- in particular: the shape of a present facet (childCount missing / 0 / n, other members) and every optional
    member can be replaced without changing what the item is -/
theorem C18_facet_shape_irrelevant (r : RawItem) (cc cc' : Option Nat) (x x' : Bool) (o o' : Optional)
    (h : r.folder = .obj cc x) :
    classify { r with folder := .obj cc' x', opt := o' } = classify { r with opt := o } := by
  apply C18_classify_ignores_optional
  simp [RawItem.essence, Facet.present, h]

/-- OPTIONAL MEMBERS NEVER MATTER: for any two servers (healthy or not) whose answers agree up to optional members,
    `list_all_files` and the generator `list_files_filtered` (any filter, any start folders, any client state) behave
    identically: same values handed out, same order, same error, same request log and open / close counters -/
theorem C18_optional_irrelevant (rt rt' : RawTransport) (h : ∀ i u, (rt i u).essence = (rt' i u).essence)
    (iso : Str → Option Int) (lower : Str → Str) (glob : Str → Str → Bool) (f : Filter) (folders : List Str)
    (fuel : Nat) (s : St) :
    listAll .fixed (ofRaw rt) fuel s = listAll .fixed (ofRaw rt') fuel s ∧
    listFilteredL .fixed (ofRaw rt) iso lower glob f folders fuel s =
      listFilteredL .fixed (ofRaw rt') iso lower glob f folders fuel s := by
  have e : ofRaw rt = ofRaw rt' := by
    rw [← ofRaw_essence rt, ← ofRaw_essence rt']
    funext i u
    show ((rt i u).essence).toOutcome = ((rt' i u).essence).toOutcome
    rw [h i u]
  rw [e]
  exact ⟨rfl, rfl⟩

/-- a faithful presentation: every item is shown as a raw item that IS that item, by-path answers carry a present
    `folder` facet of any shape -/
def Faithful (d : Decoration) (fd : Facet) : Prop := (∀ i u k it, classify (d i u k it) = it) ∧ fd.present = true

/-- the healthy server of library `L` presenting its items with decoration `d` -/
def healthyRaw (L : Lib) (n : Nat) (d : Decoration) (fd : Facet) : RawTransport :=
  fun i u => decorateOutcome (d i u) fd (healthy L n i u)

theorem healthyRaw_eq (L : Lib) (n : Nat) (d : Decoration) (fd : Facet) (h : Faithful d fd) :
    ofRaw (healthyRaw L n d fd) = healthy L n := by
  funext i u
  exact toOutcome_decorate (d i u) (h.1 i u) fd h.2 _

/-- COMPLETE for every presentation: whatever optional members the server adds to or leaves out of whichever item
    (childCount missing on a non-empty folder included), `list_all_files` returns the complete listing -/
theorem C18_complete_any_decoration (L : Lib) (n : Nat) (hn : 0 < n) (hL : resolves L L = true)
    (d : Decoration) (fd : Facet) (hd : Faithful d fd)
    (fuel : Nat) (hf : L.size + 2 ≤ fuel) (s : St) (hs : Consistent s) :
    ∃ out s', listAll .fixed (ofRaw (healthyRaw L n d fd)) fuel s = (.ok out, s') ∧
      out = clientListing [] L ∧ out.Perm (specListing [] L) := by
  rw [healthyRaw_eq L n d fd hd]
  obtain ⟨s', h⟩ := listAll_healthy .fixed L n hn hL fuel hf s hs
  exact ⟨_, s', h, rfl, clientListing_perm L []⟩

/-- … and so does the filtered listing with any start folders (`Folders.C18_folders_complete`) -/
theorem C18_folders_complete_any_decoration (iso : Str → Option Int) (lower : Str → Str) (glob : Str → Str → Bool)
    (f : Filter) (L : Lib) (n : Nat) (hn : 0 < n) (hL : resolves L L = true)
    (d : Decoration) (fd : Facet) (hd : Faithful d fd) (fuel : Nat) (hf : L.size + 2 ≤ fuel)
    (sts : List Start) (hsts : ∀ st ∈ sts, st.Ok) (s : St) (hs : Consistent s) :
    ∃ s', listFilteredL .fixed (ofRaw (healthyRaw L n d fd)) iso lower glob f (sts.map (·.raw)) fuel s =
        (⟨expected (matchesF .fixed iso lower glob f) L sts, none⟩, s') ∧ Consistent s' := by
  rw [healthyRaw_eq L n d fd hd]
  exact C18_folders_complete iso lower glob f L n hn hL fuel hf sts hsts s hs

theorem classify_rawOf (o : Optional) (fc : Facet) (h : fc.present = true) (it : Item) : classify (rawOf o fc it) = it := by
  cases it with
  | file fi => cases fc <;> simp_all [rawOf, classify, Facet.present, RawId.orEmpty]
  | folder n id => cases fc <;> cases id <;> simp_all [rawOf, classify, Facet.present, RawId.get]
  | other => rfl

/-- the hypotheses are satisfiable by the presentations that matter: NO childCount anywhere (`"folder": {}`), a
    childCount on every other answer only, size 0 / parentReference / fileSystemInfo / unrelated facets present -/
example : Faithful (fun _ _ _ => rawOf {} (.obj none false)) (.obj none false) :=
  ⟨fun _ _ _ it => classify_rawOf _ _ rfl it, rfl⟩

example : Faithful (fun i _ k => rawOf { size := some 0, parentRef := true, fileSystemInfo := true, extraFacet := k % 2 == 0 }
    (if i % 2 == 0 then .obj none true else .obj (some 7) false)) (.obj (some 0) false) :=
  ⟨fun i _ _ it => classify_rawOf _ _ (by split <;> rfl) it, rfl⟩

/-- a non-empty folder presented without childCount is descended into (model run, page size 2) -/
example : (listAll .fixed (ofRaw (healthyRaw exLib 2 (fun _ _ _ => rawOf {} (.obj none false)) (.obj none false))) 14 {}).1 =
    .ok (clientListing [] exLib) := by
  unfold exLib exF
  simp only [String.toList_append]
  decide_chars

/-! ### fnmatch character classes (the concrete `globMatch` of the driver; every theorem above holds for ANY `glob`) -/

theorem C18_glob_class_step (neg : Bool) (m : Str) (toks : List GTok) (x : Char) (s : Str) :
    globTok (.cls neg m :: toks) (x :: s) = ((classHas x m != neg) && globTok toks s) := rfl

/-- a class never accepts the empty rest: it stands for exactly one character (it is not literal text) -/
theorem C18_glob_class_needs_char (neg : Bool) (m : Str) (toks : List GTok) : globTok (.cls neg m :: toks) [] = false := rfl

/-- a class BEFORE the first `*` in the folder part selects the folder (the first four); ranges and negated ranges (the
    next two); a `[` without closing bracket is a literal character (the last) -/
theorem C18_glob_class_examples :
    globMatch "Reports/2024/jan.pdf".toList "[Rr]eports/*.pdf".toList = true ∧
    globMatch "reports/old.pdf".toList "[Rr]eports/*.pdf".toList = true ∧
    globMatch "Year 2024/sub/b.pdf".toList "Year 202[34]/*".toList = true ∧
    globMatch "Year 2022/a.pdf".toList "Year 202[34]/*".toList = false ∧
    globMatch "Reports/2024/jan.pdf".toList "Reports/202[0-9]/*".toList = true ∧
    globMatch "Reports/2024/jan.pdf".toList "Reports/202[!0-9]/*".toList = false ∧
    globMatch "a[b".toList "a[b".toList = true := by
  decide_chars

end S2T.C18.Items
