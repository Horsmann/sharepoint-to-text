import S2T.Lemmas.Chars
import S2T.Lemmas.ZipBomb
import S2T.Lemmas.ZipBombFloat
import S2T.Gen.ZipBomb
import S2T.Gen.ZipOpenSites
import S2T.Props.C11_Src
import S2T.Props.C11_Fields
/-!
# C11 — ZIP-container bomb guard decides exactly and runs before any read

Model: `S2T.ZipBomb` (`validate_zipfile`, `open_zipfile`, `validate_zip_bytesio`,
`ZipContext.__init__`).  Quantifiers: every limit setting `lim : Limits` (non-negative int
limits, ratio limits as exact fractions), every list of entries `(file_size, compress_size,
is_dir)` of any length with unbounded sizes, every behaviour `z : ZipOpen` of the third-party
`zipfile.ZipFile` constructor, every initial stream position.

The ratio clauses are decided *exactly* (`size·den > num·csize`).  That is the behaviour of the
source with `fix-exact-ratio.patch`; on the unpatched source the quotient is first rounded to a
double, which for sizes beyond 2^53/limit accepts ratios that exceed the limit — see
`float_rounding_counterexample` below and `S2T.Lemmas.ZipBombFloat` for when the two agree.
-/
namespace S2T.C11
open S2T.ZipBomb

/-- **C11 (exactness, accept side).** The guard accepts exactly the containers that are not bombs. -/
theorem accept_iff (lim : Limits) (es : List Entry) :
    validate lim (some es) = .ok () ↔ ¬ Bomb lim es := by
  have hbad : (∃ e ∈ es, e.isDir = false ∧ EntryBad lim e) ↔ ¬ ∀ e ∈ files es, ¬ EntryBad lim e := by
    simp [mem_files]
  have hok := loop_zero_ok_iff lim es
  unfold validate Bomb
  rw [hbad]
  by_cases hlen : es.length > lim.maxEntries
  · simp [hlen]
  · simp only [hlen, ↓reduceIte, false_or]
    cases hl : loop lim 0 0 es with
    | error r =>
      -- the loop accepts whenever no entry is bad and the total fits
      have := (hok (totalU es, totalC es)).mpr
      simp only [hl, reduceCtorEq, and_true, imp_false] at this
      simp only [reduceCtorEq, false_iff, Classical.not_not]
      grind
    | ok p =>
      obtain ⟨hall, htot, rfl⟩ := (hok p).mp hl
      -- a positive total has compressed bytes, so `finish` only tests the total ratio
      have hc := totalC_pos hall
      simp only [finish, ratioExceeds] at htot ⊢
      grind

/-- **C11 (exactness, reject side).** The guard raises the ZIP-bomb error exactly when the entry
    count, a single or the total uncompressed size, or a per-entry or total compression ratio
    exceeds its limit, or a non-empty entry claims zero compressed size — boundary values
    included (all inequalities are the strict ones of `Bomb`). -/
theorem C11_exact (lim : Limits) (es : List Entry) :
    (∃ r, validate lim (some es) = .error r) ↔ Bomb lim es := by
  rw [← Classical.not_not (a := Bomb lim es), ← accept_iff]
  cases validate lim (some es) <;> simp

/-- **C11 (a file member counts whatever its attributes say).** A record whose name does not end with
    '/' and which violates a per-entry limit makes every container that holds it a bomb — for every value
    of the external attributes (MS-DOS directory bit 0x10, unix `S_IFDIR` mode), creating system, flag
    bits, compression method, extra field, CRC, date and comment. -/
theorem C11_file_counted_whatever_attrs (lim : Limits) (pre post : List CdRecord) (r : CdRecord)
    (hn : nameIsDir r.filename = false) (hb : EntryBad lim (Entry.ofRecord r)) :
    ∃ reason, validate lim (some ((pre ++ r :: post).map Entry.ofRecord)) = .error reason := by
  rw [C11_exact]
  exact .of_entry (e := Entry.ofRecord r) (by simp) hn hb

/-- … and its size counts towards the totals: two containers that differ only in fields other than
    (file_size, compress_size, trailing slash of the name) are both bombs or both not. -/
theorem C11_bomb_depends_on_core_only (lim : Limits) (rs rs' : List CdRecord)
    (h : rs.map S2T.C11.Fields.core = rs'.map S2T.C11.Fields.core) :
    Bomb lim (rs.map Entry.ofRecord) ↔ Bomb lim (rs'.map Entry.ofRecord) := by
  rw [← C11_exact, ← C11_exact, S2T.C11.Fields.C11_other_fields_ignored lim rs rs' h]

/-- attributes of `ZipInfo` / `ZipFile` objects the guard module may consult -/
def allowedZipAttrs : List String := ["infolist", "is_dir", "filename", "file_size", "compress_size", "close"]

/-- **generated from the AST of the current `zip_bomb.py`**: no function of the guard module touches any
    other attribute of a `ZipInfo` / `ZipFile` (external_attr, create_system, flag_bits, compress_type,
    extra, CRC, date_time, comment, namelist, NameToInfo, …), by attribute access or `getattr`/`hasattr`. -/
theorem C11_fields_consulted :
    S2T.Gen.ZipBomb.zipAttrsConsulted.all (fun p => allowedZipAttrs.contains p.2) = true := by decide

example : nameIsDir S2T.C11.Fields.dosDirFile.filename = false
    ∧ EntryBad ⟨5, 10000, 1000, ⟨200, 1⟩, ⟨500, 1⟩⟩ (Entry.ofRecord S2T.C11.Fields.dosDirFile) := by
  refine ⟨by decide, Or.inl (by decide)⟩

/-- a container whose central directory cannot be listed is rejected with the same error -/
theorem C11_inspect_failure (lim : Limits) : validate lim none = .error .inspectFailed := rfl

theorem loop_never_total_zero (lim : Limits) : ∀ (es : List Entry) (tu tc : Nat),
    loop lim tu tc es ≠ .error .totalZeroCompressed
  | [], _, _ => nofun
  | e :: es, tu, tc => by
    unfold loop
    cases hs : step lim tu tc e with
    | error r => exact fun h => step_ne_totalZero lim tu tc e (hs.trans h)
    | ok q => exact loop_never_total_zero lim es _ _

/-- the raise of `validate_zipfile` for `total_compressed <= 0` can never fire: a positive
    total with zero compressed total needs an entry the per-entry clause has already rejected. -/
theorem total_zero_unreachable (lim : Limits) (infos : Option (List Entry)) :
    validate lim infos ≠ .error .totalZeroCompressed := by
  cases infos with
  | none => nofun
  | some es =>
    simp only [validate]
    split
    · nofun
    · split
      · rename_i r hl
        exact fun h => loop_never_total_zero lim es 0 0 (Except.error.inj h ▸ hl)
      · rename_i tu tc hl
        obtain ⟨hall, _, hp⟩ := (loop_zero_ok_iff lim es _).mp hl
        have := totalC_pos hall
        simp only [finish]
        grind

theorem loop_files (lim : Limits) (es : List Entry) : ∀ tu tc, loop lim tu tc es = loop lim tu tc (files es) := by
  induction es with
  | nil => intro tu tc; rfl
  | cons e es ih =>
    intro tu tc
    by_cases hd : e.isDir = true
    · rw [files_cons_dir e es hd]
      simp only [loop, step_dir lim tu tc e hd]
      exact ih tu tc
    · have hd' : e.isDir = false := by simpa using hd
      rw [files_cons_file e es hd']
      unfold loop
      cases step lim tu tc e with
      | error r => rfl
      | ok q => exact ih _ _

private theorem validate_congr_files (lim : Limits) {es es' : List Entry} (hl : es.length = es'.length)
    (hf : files es = files es') : validate lim (some es) = validate lim (some es') := by
  simp only [validate]
  rw [hl, loop_files lim es, hf, ← loop_files lim es']

/-- **C11 (directories).** Whatever sizes directory entries claim, they do not influence the
    verdict: rewriting the directory entries by any `f` that keeps them directories changes nothing. -/
theorem C11_dirs_ignored (lim : Limits) (es : List Entry) (f : Entry → Entry)
    (hf : ∀ e, e.isDir = true → (f e).isDir = true) :
    validate lim (some (es.map (fun e => if e.isDir then f e else e))) = validate lim (some es) := by
  refine validate_congr_files lim (List.length_map _) ?_
  induction es with
  | nil => rfl
  | cons e es ih =>
    by_cases hd : e.isDir = true
    · simpa [files, hd, hf e hd] using ih
    · simpa [files, hd] using ih

/-- … and below the entry-count limit the verdict is that of the container without its directory
    entries.  (Directory entries *do* count towards `max_entries`: `len(infos)` is taken before the
    loop — see `count_includes_dirs`.) -/
theorem C11_dirs_dropped (lim : Limits) (es : List Entry) (h : es.length ≤ lim.maxEntries) :
    validate lim (some es) = validate lim (some (files es)) := by
  have h2 : (files es).length ≤ lim.maxEntries := Nat.le_trans (List.length_filter_le _ _) h
  simp only [validate]
  rw [if_neg (by omega), if_neg (by omega), loop_files lim es]

/-- boundary of the entry count, any limits: a container of directory entries only is accepted
    exactly up to `max_entries` records -/
theorem entry_count_boundary (lim : Limits) (es : List Entry) (h : ∀ e ∈ es, e.isDir = true) :
    validate lim (some es) = .ok () ↔ es.length ≤ lim.maxEntries := by
  rw [accept_iff]
  have hf : files es = [] := by
    unfold files
    rw [List.filter_eq_nil_iff]
    intro e he; simp [h e he]
  unfold Bomb totalU totalC
  rw [hf]
  simp only [List.map_nil, List.sum_nil, gt_iff_lt, Nat.not_lt_zero, false_and, or_false]
  constructor
  · intro hn; exact Nat.le_of_not_lt (fun hlt => hn (Or.inl hlt))
  · intro hle hb
    rcases hb with hb | ⟨e, he, hd, _⟩
    · omega
    · rw [h e he] at hd; cases hd

/-- the entry count is the number of central-directory records, directories included -/
theorem count_includes_dirs :
    ∃ lim es, Bomb lim es ∧ ¬ Bomb lim (files es) :=
  ⟨⟨1, 10, 10, ⟨2, 1⟩, ⟨2, 1⟩⟩, [⟨0, 0, true⟩, ⟨1, 1, false⟩],
    .of_count (by decide),
    by rw [← accept_iff]; decide⟩

/-- **C11 (position).** `validate_zip_bytesio` leaves the stream where it found it — on
    acceptance, on rejection and when `zipfile` itself raises; wherever zipfile left the position. -/
theorem C11_position (lim : Limits) (s : Stream) (z : ZipOpen) :
    (validateZipBytesio lim s z).stream.pos = s.pos := by
  unfold validateZipBytesio
  cases z.infolist with
  | none => rfl
  | some infos =>
    simp only  -- reduces the `match` on `some infos` (so the bare `simp only` below)
    cases validate lim infos <;> rfl

/-- its verdict is the guard's verdict -/
theorem bytesio_verdict (lim : Limits) (s : Stream) (z : ZipOpen) (infos : Option (List Entry))
    (hz : z.infolist = some infos) :
    (validateZipBytesio lim s z).result = (match validate lim infos with
      | .ok () => .ok () | .error r => .error (.bomb r)) := by
  unfold validateZipBytesio
  rw [hz]
  simp only
  cases validate lim infos <;> rfl

/-- **C11 (no handle without validation).** `open_zipfile` hands out a `ZipFile` exactly when the
    constructor succeeded and the guard accepted; on rejection the object is closed again. -/
theorem C11_open_guarded (lim : Limits) (s : Stream) (z : ZipOpen) :
    ((∃ h, (openZipfile lim s z).result = .ok h) ↔
      ∃ infos, z.infolist = some infos ∧ validate lim infos = .ok ()) ∧
    (∀ r, (openZipfile lim s z).result = .error (.bomb r) → (openZipfile lim s z).trace.getLast? = some .close) := by
  unfold openZipfile
  cases hz : z.infolist with
  | none => simp
  | some infos =>
    simp only
    cases hv : validate lim infos with
    | error r => simp [hv]
    | ok u => cases u; simp [hv]

/-- in a trace, every `read` has a successful `validate` somewhere before it -/
def ReadsAfterValidate (tr : List Event) : Prop :=
  ∀ pre post, tr = pre ++ Event.read :: post → Event.validate true ∈ pre

private theorem readsAfter_of_prefix {pre tr : List Event} (hv : Event.validate true ∈ pre) (hr : Event.read ∉ pre) :
    ReadsAfterValidate (pre ++ tr) := by
  intro p post h
  -- `pre` holds no read, so it ends before the read that `p` leads up to
  rcases List.append_eq_append_iff.mp h with ⟨a, rfl, _⟩ | ⟨c, rfl, hc⟩
  · exact List.mem_append_left _ hv
  · cases c with
    | nil => simpa using hv
    | cons x c =>
      cases (List.cons.inj hc).1
      exact absurd (List.mem_append_right p List.mem_cons_self) hr

/-- **C11 (order).** A `ZipContext` session — constructor, any number of member reads, close —
    validates before the first read; when the guard rejects (or zipfile raises) there is no read at all. -/
theorem C11_context_order (lim : Limits) (s : Stream) (z : ZipOpen) (reads : Nat) :
    ReadsAfterValidate (zipContextSession lim s z reads).trace ∧
    ((zipContextSession lim s z reads).result ≠ .ok () → Event.read ∉ (zipContextSession lim s z reads).trace) := by
  -- a trace without a read has nothing to show
  have noRead {tr : List Event} (h : Event.read ∉ tr) : ReadsAfterValidate tr :=
    fun pre post e => absurd (e ▸ List.mem_append_right pre List.mem_cons_self) h
  unfold zipContextSession openZipfile
  cases hz : z.infolist with
  | none => exact ⟨noRead (by simp), by simp⟩
  | some infos =>
    simp only
    cases hv : validate lim infos with
    | error r => exact ⟨noRead (by simp), by simp⟩
    | ok u =>
      cases u
      exact ⟨readsAfter_of_prefix (pre := [.seek 0, .seek 0, .construct, .validate true]) (by simp) (by simp), by simp⟩

/-- meaning of the runtime monitor: if it accepts a log, every member read of a container was
    preceded by a successful validation of (a container with) the same bytes. -/
theorem monitor_sound : ∀ (tr : List Mon) (okd : List Nat), validatedBeforeRead okd tr = true →
    ∀ pre k post, tr = pre ++ Mon.read k :: post → k ∈ okd ∨ Mon.validated k true ∈ pre := by
  intro tr
  induction tr with
  | nil => intro okd _ pre k post h; simp at h
  | cons ev tr ih =>
    intro okd hacc pre k post h
    cases pre with
    | nil =>
      simp only [List.nil_append, List.cons.injEq] at h
      obtain ⟨h1, _⟩ := h
      subst h1
      simp only [validatedBeforeRead, Bool.and_eq_true] at hacc
      left; simpa using hacc.1
    | cons p pre =>
      simp only [List.cons_append, List.cons.injEq] at h
      obtain ⟨h1, h2⟩ := h
      subst h1
      cases ev with
      | construct k' => exact (ih okd hacc pre k post h2).imp id (List.mem_cons_of_mem _)
      | read k' =>
        exact (ih okd (Bool.and_eq_true_iff.mp hacc).2 pre k post h2).imp id (List.mem_cons_of_mem _)
      | validated k' b =>
        cases b with
        | false => exact (ih okd hacc pre k post h2).imp id (List.mem_cons_of_mem _)
        | true =>
          rcases ih (k' :: okd) hacc pre k post h2 with h | h
          · rcases List.mem_cons.mp h with rfl | h
            · exact Or.inr List.mem_cons_self
            · exact Or.inl h
          · exact Or.inr (List.mem_cons_of_mem _ h)

/-- files whose raw `zipfile.ZipFile(...)` calls *are* the sanctioned guard (they must be followed by
    `validate_zipfile`) -/
def guardFiles : List (List Char) := ["sharepoint2text/parsing/extractors/util/zip_bomb.py".toList]
/-- generic archives (.zip/.tar/.7z) are not ZIP-container *documents*; their confinement and cost
    are C09/C12 -/
def archiveFiles : List (List Char) := ["sharepoint2text/parsing/extractors/archive_extractor.py".toList]

/-- a site is accounted for: it is a validating call; or a raw open inside the guard module that
    is immediately validated; or a raw open / `load_workbook` that a validating call dominates in its
    function; or one whose every caller is so dominated; or it sits in a private function nothing
    refers to (dead code).  The archive extractor is outside the property. -/
def siteOk (s : Site) : Bool :=
  match s.kind with
  | .openZipfile | .validateBytesio => true
  | .zipContext => s.dominated
  | .rawZipFile =>
    (guardFiles.contains s.file && s.guardFollows) || archiveFiles.contains s.file
      || s.dominated || s.funcRefs == 0 || s.callersDominated
  | .loadWorkbook => s.dominated || s.funcRefs == 0 || s.callersDominated

/-- **C11 (closed world).** Every call in the package that opens a ZIP container is accounted for. -/
theorem C11_sites_guarded : S2T.Gen.ZipOpenSites.sites.all siteOk = true := by
  decide_chars S2T.Gen.ZipOpenSites.sites siteOk guardFiles archiveFiles

/-- the guard module really contains the two validating openers, and every container extractor
    family appears in the inventory (the inventory is not empty for the wrong reason) -/
theorem sites_nonempty :
    (S2T.Gen.ZipOpenSites.sites.filter (fun s => guardFiles.contains s.file && s.guardFollows)).length = 2
    ∧ (S2T.Gen.ZipOpenSites.sites.filter (fun s => s.kind == .zipContext || s.kind == .validateBytesio)).length ≥ 9 := by
  decide_chars S2T.Gen.ZipOpenSites.sites guardFiles

theorem gen_site_notes_empty : S2T.Gen.ZipOpenSites.notes = [] := by decide
theorem gen_limit_notes_empty : S2T.Gen.ZipBomb.notes = [] := by decide

/-- the defaults are the documented ones (50 000 entries, 4 GiB total, 1 GiB per entry, total ratio
    200, entry ratio 500) -/
theorem C11_defaults : S2T.Gen.ZipBomb.defaultLimits =
    { maxEntries := 50000, maxTotal := 4 * 1024 * 1024 * 1024, maxSingle := 1024 * 1024 * 1024,
      totalRatio := ⟨200, 1⟩, entryRatio := ⟨500, 1⟩ } := by decide +kernel

/-- **C11 on the current source.** -/
theorem C11_default_exact (es : List Entry) :
    (∃ r, validate S2T.Gen.ZipBomb.defaultLimits (some es) = .error r) ↔ Bomb S2T.Gen.ZipBomb.defaultLimits es :=
  C11_exact _ es

/-! `validateF rnd` is `validate_zipfile` as the source without `fix-exact-ratio.patch` computes it:
`ratio = size / compressed` rounded to a double by `rnd`, then `ratio > limit`.  The only thing
assumed of CPython's division is `Rounding`: monotone, exact on the limit and on the next double. -/

/-- **C11 (float = exact, any limits).** If both ratio limits pass the decidable arithmetic test
    `FloatOk` (against the size bound checked before the respective ratio test), rounding the
    quotient never changes the verdict — for every container. -/
theorem C11_float_exact (rnd : Rat → Rat) (lim : Limits) (en tn : Ratio)
    (hE : FloatOk lim.maxSingle lim.entryRatio en = true) (hT : FloatOk lim.maxTotal lim.totalRatio tn = true)
    (hrE : Rounding rnd lim.entryRatio.toRat en.toRat) (hrT : Rounding rnd lim.totalRatio.toRat tn.toRat)
    (infos : Option (List Entry)) : validateF rnd lim infos = validate lim infos :=
  validateWith_eq _ _ lim
    (fun a b hb ha => float_cmp_exact rnd _ _ en hE hrE a b hb ha)
    (fun a b hb ha => float_cmp_exact rnd _ _ tn hT hrT a b hb ha) infos

/-- the default limits (with their successor doubles, generated by `math.nextafter`) pass the test -/
theorem gen_float_ok :
    FloatOk S2T.Gen.ZipBomb.defaultLimits.maxSingle S2T.Gen.ZipBomb.defaultLimits.entryRatio S2T.Gen.ZipBomb.entryRatioNext = true
    ∧ FloatOk S2T.Gen.ZipBomb.defaultLimits.maxTotal S2T.Gen.ZipBomb.defaultLimits.totalRatio S2T.Gen.ZipBomb.totalRatioNext = true := by
  decide +kernel

open S2T.Gen.ZipBomb in
/-- **C11 (float = exact, default limits).** With `DEFAULT_ZIP_BOMB_LIMITS` the unpatched float
    guard and the exact guard give the same verdict on every container: the patch changes nothing
    for default-configured callers, and `C11_default_exact` holds for the unpatched source as well. -/
theorem C11_default_float_exact (rnd : Rat → Rat)
    (hrE : Rounding rnd defaultLimits.entryRatio.toRat entryRatioNext.toRat)
    (hrT : Rounding rnd defaultLimits.totalRatio.toRat totalRatioNext.toRat)
    (infos : Option (List Entry)) : validateF rnd defaultLimits infos = validate defaultLimits infos :=
  C11_float_exact rnd defaultLimits entryRatioNext totalRatioNext gen_float_ok.1 gen_float_ok.2 hrE hrT infos

/-- limits under which the unpatched source is *not* exact: per-entry sizes up to 2^62 allowed -/
def bigLimits : Limits :=
  { S2T.Gen.ZipBomb.defaultLimits with maxSingle := 2 ^ 62, maxTotal := 2 ^ 63, totalRatio := ⟨10 ^ 9, 1⟩ }
/-- one entry of 500·2^45 + 1 bytes claiming 2^45 compressed bytes: ratio 500 + 2^-45 > 500 -/
def floatWitness : List Entry := [⟨500 * 2 ^ 45 + 1, 2 ^ 45, false⟩]

/-- **Counterexample (unpatched source).** Full statement that fails without the patch:
    `∀ rnd lim infos, Rounding … → validateF rnd lim infos = validate lim infos`.
    With per-entry sizes beyond 2^53/limit allowed, a rounding that satisfies everything assumed of
    float division accepts a container whose entry ratio exceeds the limit; `FloatOk` is exactly
    what excludes it.  Reproduced on the real code: `validate_zipfile` (unpatched) accepts
    `file_size = 500·2^45+1, compress_size = 2^45` under `max_entry_compression_ratio = 500.0`. -/
theorem float_rounding_counterexample :
    let rnd := roundDown bigLimits.entryRatio.toRat S2T.Gen.ZipBomb.entryRatioNext.toRat
    Rounding rnd bigLimits.entryRatio.toRat S2T.Gen.ZipBomb.entryRatioNext.toRat
    ∧ validateF rnd bigLimits (some floatWitness) = .ok ()
    ∧ validate bigLimits (some floatWitness) = .error .entryRatio
    ∧ FloatOk bigLimits.maxSingle bigLimits.entryRatio S2T.Gen.ZipBomb.entryRatioNext = false := by
  refine ⟨roundDown_rounding _ _, ?_, ?_, ?_⟩ <;> decide +kernel

/-- the exact test of the model is the comparison of the rationals `size/csize > num/den` -/
theorem ratio_test_meaning (a b : Nat) (L : Ratio) (hb : 0 < b) (hd : 0 < L.den) :
    ratioExceeds a b L = true ↔ L.toRat < (a : Rat) / (b : Rat) := ratioExceeds_iff_rat a b L hb hd

section examples
open S2T.Gen.ZipBomb

-- exactly at a limit: accepted; one above: rejected
example : validate defaultLimits (some [⟨1073741824, 1073741824, false⟩]) = .ok () := by decide +kernel
example : validate defaultLimits (some [⟨1073741825, 1073741825, false⟩]) = .error .entryTooLarge := by decide +kernel
example : validate defaultLimits (some [⟨500, 1, false⟩, ⟨1, 1000, false⟩]) = .ok () := by decide +kernel
example : validate defaultLimits (some [⟨501, 1, false⟩, ⟨1, 1000, false⟩]) = .error .entryRatio := by decide +kernel
example : validate defaultLimits (some [⟨400, 1, false⟩, ⟨0, 1, false⟩]) = .ok () := by decide +kernel
example : validate defaultLimits (some [⟨401, 1, false⟩, ⟨0, 1, false⟩]) = .error .totalRatio := by decide +kernel
example : validate defaultLimits (some (List.replicate 4 ⟨1073741824, 1073741824, false⟩)) = .ok () := by decide +kernel
example : validate defaultLimits (some (⟨1, 1, false⟩ :: List.replicate 4 ⟨1073741824, 1073741824, false⟩))
    = .error .totalTooLarge := by decide +kernel
example : validate defaultLimits (some [⟨1, 0, false⟩]) = .error .entryZeroCompressed := by decide +kernel
example : validate defaultLimits (some [⟨0, 0, false⟩]) = .ok () := by decide +kernel
example : validate defaultLimits (some [⟨99999999999, 0, true⟩, ⟨5, 5, false⟩]) = .ok () := by decide +kernel
example (es : List Entry) (h : ∀ e ∈ es, e.isDir = true) :
    validate defaultLimits (some es) = .ok () ↔ es.length ≤ 50000 := entry_count_boundary _ es h
-- `Bomb` is satisfiable and refutable
example : Bomb defaultLimits [⟨501, 1, false⟩] := by
  exact .of_entry (List.mem_singleton.mpr rfl) rfl (by unfold EntryBad; decide)
example : ¬ Bomb defaultLimits [⟨200, 1, false⟩, ⟨7, 7, true⟩] := by rw [← accept_iff]; decide +kernel
-- the hypothesis of `C11_dirs_ignored` is satisfiable by a non-trivial rewrite
example : ∀ e : Entry, e.isDir = true → (({ e with fileSize := 2 ^ 64, compressSize := 0 } : Entry)).isDir = true :=
  fun _ h => h
-- the monitor accepts a validated read and rejects an unvalidated one
example : validatedBeforeRead [] [.construct 7, .validated 7 true, .construct 7, .read 7] = true := by decide
example : validatedBeforeRead [] [.construct 7, .read 7, .validated 7 true] = false := by decide
example : validatedBeforeRead [] [.construct 7, .validated 7 false, .read 7] = false := by decide
example : validatedBeforeRead [] [.validated 8 true, .read 7] = false := by decide
-- `Rounding` is satisfiable: by exact arithmetic, and by a rounding that really moves values
example (L Lp : Rat) : Rounding (fun x => x) L Lp := ⟨fun _ _ h => h, rfl, rfl⟩
example : Rounding (roundDown 500 (500 + 1 / 2 ^ 44)) 500 (500 + 1 / 2 ^ 44) := roundDown_rounding _ _
example : roundDown 500 (500 + 1 / 2 ^ 44) (500 + 1 / 2 ^ 45) = 500 := by decide +kernel
example : ratioExceeds 501 1 ⟨500, 1⟩ = true ∧ (0 < 1) ∧ (0 < (⟨500, 1⟩ : Ratio).den) := by decide
end examples

/-! `Props/C11_Src.lean` proves the `validate_zipfile` re-translated from `zip_bomb.py` on every run equal
to the hand model; composed with `accept_iff`, exactness is a statement about the function **as the
source has it now**: it returns exactly for the central directories that are not bombs, and whatever it
raises is `ExtractionZipBombError`, raised for a bomb. -/
section src
open S2T.Py S2T.Gen.PyZipBomb S2T.C11.Src

theorem floatSafe_defaults : FloatSafe S2T.Gen.ZipBomb.defaultLimits := by
  -- by comparing exponents, as in the `example` under `FloatSafe` (Props/C11_Src.lean)
  have h : (2:Nat) ^ 33 ≤ 2 ^ 1023 := Nat.pow_le_pow_right (by decide) (by decide)
  constructor <;> (simp only [fmax]; exact Nat.lt_of_lt_of_le (by decide) h)

/-- **C11 at the source level (exactness).** -/
theorem C11_src_exact (lim : Limits) (src : Option Py.Str) (infos : List ZipInfo) (hs : FloatSafe lim) :
    (validate_zipfile ⟨pure infos⟩ lim src = .ok () ↔ ¬ Bomb lim (infos.map entryOf)) ∧
    (∀ e, validate_zipfile ⟨pure infos⟩ lim src = .error e →
        e.cls = "ExtractionZipBombError" ∧ Bomb lim (infos.map entryOf)) := by
  rw [validate_zipfile_eq lim src infos hs, ← accept_iff, ← C11_exact]
  cases validate lim (some (infos.map entryOf)) with
  | ok u => exact ⟨⟨fun _ => rfl, fun _ => rfl⟩, nofun⟩
  | error r => exact ⟨⟨nofun, nofun⟩, fun e he => ⟨by cases he; rfl, r, rfl⟩⟩

/-- **C11 on the current source, documented defaults.** -/
theorem C11_src_default_exact (src : Option Py.Str) (infos : List ZipInfo) :
    validate_zipfile ⟨pure infos⟩ S2T.Gen.ZipBomb.defaultLimits src = .ok ()
      ↔ ¬ Bomb S2T.Gen.ZipBomb.defaultLimits (infos.map entryOf) :=
  (C11_src_exact _ src infos floatSafe_defaults).1

/-- **C11 at the source level (directories, names, order of attributes do not matter).** Two central
    directories whose file entries have the same sizes get the same verdict from the translated function,
    whatever the entry names are. -/
theorem C11_src_names_ignored (lim : Limits) (src src' : Option Py.Str) (infos infos' : List ZipInfo)
    (hs : FloatSafe lim) (h : infos.map entryOf = infos'.map entryOf) :
    validate_zipfile ⟨pure infos⟩ lim src = validate_zipfile ⟨pure infos'⟩ lim src' := by
  rw [validate_zipfile_eq lim src infos hs, validate_zipfile_eq lim src' infos' hs, h]

example : validate_zipfile ⟨pure [⟨"a".toList, 10, 1, false⟩, ⟨"d/".toList, 0, 0, true⟩]⟩
    S2T.Gen.ZipBomb.defaultLimits none = .ok () := by decide +kernel
example : Bomb S2T.Gen.ZipBomb.defaultLimits ([⟨"a".toList, 600, 1, false⟩].map entryOf) := by
  have h := C11_src_default_exact none [⟨"a".toList, 600, 1, false⟩]
  have hne : validate_zipfile ⟨pure [⟨"a".toList, 600, 1, false⟩]⟩ S2T.Gen.ZipBomb.defaultLimits none ≠ .ok () := by
    decide +kernel
  exact Classical.not_not.mp (fun hnb => hne (h.mpr hnb))
example : ([⟨"a".toList, 600, 1, false⟩] : List ZipInfo).map entryOf
    = [⟨"other-name".toList, 600, 1, false⟩].map entryOf := rfl

end src

end S2T.C11
