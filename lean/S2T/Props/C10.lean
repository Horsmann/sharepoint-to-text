import S2T.Model.ArchiveLoop
import S2T.Lemmas.SevenZip
import S2T.Lemmas.Varint
import S2T.Gen.SevenZip
import S2T.Props.C10_Header
import S2T.Props.C10_History
/-!
# C10 — Archive members come out as themselves: right bytes, name, order

Property statement (fixed): for an archive built by any standard packer from a set of files (ZIP stored or
deflated, TAR plain/gz/bz2/xz, 7z with copy, LZMA or LZMA2 coders, solid or one folder per file),
`read_archive` yields, in archive order, exactly the results of the supported visible members, each identical
in content to extracting that member's bytes on its own and labelled with the member's file name and an
`archive!/member` path.  A corrupt or unsupported member affects only itself.

The theorems are about the models in `S2T/Model/SevenZip.lean` and `S2T/Model/ArchiveLoop.lean`, which are the
repaired code (fix-7z-folder-pack-offset, fix-7z-empty-file, fix-7z-utf16-names,
fix-tar-detect-before-magic, and — part `C10_Header` — fix-7z-substream-digest-count, fix-7z-attributes-external-byte).  For each repair the previous behaviour is kept in the
model and a counterexample theorem shows the full statement false for it; the harness replays the same
witnesses on the real code every run.
-/
namespace S2T.C10
open S2T.SevenZip S2T.ArchiveLoop
open S2T.Spec.SevenZipWriter (Layout Opts WellFormed archive writeHeader startHeader)

/-- the translator found every constant to be the constant expression the source shows -/
theorem gen_notes_empty : S2T.Gen.SevenZip.notes = [] := by decide

/- `widthOf`, `writeNumber`, `writeNumberK` are defined in Lemmas/Varint.lean -/

/-- **varint round trip** for every `n < 2^64`: `_read_number` on what a writer emits, followed by anything,
    returns `n` and leaves exactly the rest (the other reader fields untouched). -/
theorem C10_varint (n : Nat) (h : n < 2 ^ 64) (rest : Bytes) (r : R) :
    readNumber { r with stream := writeNumber n ++ rest } = .ok (n, { r with stream := rest }) :=
  readNumber_writeNumberK (widthOf n) n rest (widthOf_le n) (widthOf_fit n h) r

/-- … and for every legal non-minimal width too (`k ≤ 8` extra bytes, value fits) -/
theorem C10_varint_any_width (k n : Nat) (hk : k ≤ 8) (hfit : n / 256 ^ k < 2 ^ (7 - k)) (rest : Bytes) (r : R) :
    readNumber { r with stream := writeNumberK k n ++ rest } = .ok (n, { r with stream := rest }) :=
  readNumber_writeNumberK k n rest hk hfit r

example : writeNumber 300 = [0x81, 0x2C] ∧ writeNumber 5 = [5] ∧ writeNumber (2 ^ 63) = 0xFF :: [0, 0, 0, 0, 0, 0, 0, 0x80] := by
  decide

/-
`gs` are the folders in archive order, each with its coder, its pack stream and the entries listed while
it is current (its files, with directories and empty files interleaved anywhere); `tail` are entries
after the last file (directories / empty files).  Solid = one group, one folder per file = every group
holds one file, mixed = anything else.  The archive file is `pre ++ pack streams ++ post` with the
pack streams at `packPos` after the 32-byte signature header (`post` = the header that was parsed).

`extractall(members=…)`: `wanted` = the indices in `list()` of the requested entries (`none` = `members=None`).
Only the requested files are written; a folder holding none of them is not decoded, any other folder is
decoded up to the end of its last requested file — and what is written is still each file's own bytes. -/

private theorem buildFileList_packR (gs : List Group) (tail : List Entry) (attr : Entry → Nat) (packPos : Nat)
    (hs : ∀ g ∈ gs, streamCount g.entries ≥ 1) (ht : ∀ e ∈ tail, e.hasStream = false)
    (hattr : ∀ e ∈ allEntries gs tail, e.isDir = false → attr e &&& 0x10 = 0)
    (hdir : ∀ e ∈ allEntries gs tail, e.isDir = true → e.data = []) :
    buildFileList (packR packPos gs tail) (rawEntries attr (allEntries gs tail)) (emptyFileBits (allEntries gs tail))
      = { stream := [], packPositions := [packPos + headerOffset], packSizes := gs.map (·.packed.length),
          folders := gs.map Group.folder, fileSizes := (packR packPos gs tail).fileSizes,
          files := setFolderIndex (((allEntries gs tail).map (info attr)).map (·.1)) (specAsg gs 0 0)
          emptyFileIdx := emptyIdx (allEntries gs tail) 0
          folderToFiles := (specAsg gs 0 0).foldl (fun m p => dictAppend m p.2 p.1) [] } := by
  have hinfos := buildInfos_spec attr (allEntries gs tail) [] [] hattr hdir
  have hasg := assign_all tail ht gs [] 0 hs
  simp only [List.append_nil, List.nil_append, List.length_nil, ← skipItems_info attr] at hinfos hasg
  simp only [buildFileList, packR, hinfos, hasg, emptyIdxLoop_info, List.nil_append]

theorem C10_7z_layout_members (ids : Ids) (c : Codec) (gs : List Group) (tail : List Entry) (attr : Entry → Nat)
    (pre post : Bytes) (packPos : Nat) (wanted : Option (List Nat))
    (hg : ∀ g ∈ gs, GroupOk ids c g)
    (ht : ∀ e ∈ tail, e.hasStream = false)
    (hpre : pre.length = packPos + headerOffset)
    (hattr : ∀ e ∈ allEntries gs tail, e.isDir = false → attr e &&& 0x10 = 0)
    (hdir : ∀ e ∈ allEntries gs tail, e.isDir = true → e.data = []) :
    let es := allEntries gs tail
    let r := buildFileList (packR packPos gs tail) (rawEntries attr es) (emptyFileBits es)
    r.files.map (fun f => (f.filename, f.isDirectory, f.uncompressed)) = es.map (fun e => (e.name, e.isDir, e.data.length))
    ∧ extractAll ids c (pre ++ gs.flatMap (·.packed) ++ post) r wanted
        = .ok (streamFilesW (isWanted wanted) es 0 ++ emptyFilesW (isWanted wanted) es 0) := by
  intro es r
  -- `r` stays a name while `hFA` and `hdict` are stated; at `subst hr` it becomes the record of `buildFileList_packR`
  have hr : r = _ := buildFileList_packR gs tail attr packPos (fun g h => (hg g h).streams) ht hattr hdir
  have hFA : FilesAt r.files es 0 := by
    intro j e (he : (allEntries gs tail)[j]? = some e)
    rw [hr]
    simp only [Nat.zero_add, getElem?_setFolderIndex, List.getElem?_map, he, Option.map_some, info]
    exact ⟨_, rfl, ⟨rfl, rfl, rfl⟩⟩
  have hdict : ∀ a g b, gs = a ++ g :: b →
      dictGet r.folderToFiles a.length = some (streamIdx g.entries (a.flatMap (·.entries)).length) := by
    intro a g b hab
    -- `specAsg_filter` speaks of folder `k0 + a.length`; here `k0 = 0`
    rw [hr, dictGet_foldl, hab, ← Nat.zero_add a.length, specAsg_filter]
    simp only [Nat.zero_add]
    rw [if_neg (List.ne_nil_of_length_pos (by rw [streamIdx_length]; exact (hg g (by rw [hab]; simp)).streams))]
    simp [dictGet]
  clear_value r
  subst hr
  constructor
  · apply List.ext_getElem?
    intro i
    simp only [List.getElem?_map, getElem?_setFolderIndex]
    cases es[i]? <;> rfl
  · have hrun := runPlan_spec ids c gs tail _ pre post (packPos + headerOffset) wanted rfl hpre hdict hFA
      gs [] rfl hg
    simp only [List.length_nil, List.flatMap_nil] at hrun
    unfold extractAll
    rw [show packPosOf _ = packPos + headerOffset from rfl, hrun, emptyWrites_ok _ wanted es 0 hFA,
      streamFilesW_all _ gs tail ht]

/-- **`members=None`**: every non-empty file with its own bytes in archive order,
    then the empty files. -/
theorem C10_7z_layout (ids : Ids) (c : Codec) (gs : List Group) (tail : List Entry) (attr : Entry → Nat)
    (pre post : Bytes) (packPos : Nat)
    (hg : ∀ g ∈ gs, GroupOk ids c g)
    (ht : ∀ e ∈ tail, e.hasStream = false)
    (hpre : pre.length = packPos + headerOffset)
    (hattr : ∀ e ∈ allEntries gs tail, e.isDir = false → attr e &&& 0x10 = 0)
    (hdir : ∀ e ∈ allEntries gs tail, e.isDir = true → e.data = []) :
    let es := allEntries gs tail
    let r := buildFileList (packR packPos gs tail) (rawEntries attr es) (emptyFileBits es)
    r.files.map (fun f => (f.filename, f.isDirectory, f.uncompressed)) = es.map (fun e => (e.name, e.isDir, e.data.length))
    ∧ extractAll ids c (pre ++ gs.flatMap (·.packed) ++ post) r = .ok (streamFiles es ++ emptyFiles es) := by
  intro es r
  have h := C10_7z_layout_members ids c gs tail attr pre post packPos none hg ht hpre hattr hdir
  simpa only [filesW_none, streamFiles, emptyFiles] using h

/-- the dictionary size an LZMA2 property byte stands for: xz file format 5.3.1 / 7-Zip `Lzma2Dec.c`
    (`LZMA2_DIC_SIZE_FROM_PROP(p) = (2 | (p & 1)) << (p / 2 + 11)`, 40 = 4 GiB - 1, larger bytes are invalid):
    4K, 6K, 8K, 12K, 16K, 24K, ... -/
def lzma2SpecDict (p : Nat) : Nat := if p = 40 then 0xFFFFFFFF else (2 ||| (p &&& 1)) <<< (p / 2 + 11)

/-- **the reader sets the LZMA2 decoder up with the dictionary the property byte stands for**, every valid byte below 40
    (both the 2^n and the 3·2^(n-1) sizes, and byte 0 = 4 KiB) -/
theorem lzma2Dict_spec : ∀ p, p < 40 → lzma2Dict p = some (lzma2SpecDict p) := by decide +kernel

/-- SOURCE TIE, exhaustive over the input domain: for every property byte 0..255 the filter chain the source function
    `_decompress_lzma2` hands to `lzma.LZMADecompressor` (recorded by the generator from the function itself, current
    source) is the model's `lzma2Dict` -/
theorem gen_lzma2_dict_is_model :
    S2T.Gen.SevenZip.lzma2DictTable = (List.range 256).map lzma2Dict := by decide +kernel

/-- hence: the SOURCE sets the decoder up with exactly the format's dictionary for every valid property byte below 40 -/
theorem gen_lzma2_dict_is_spec : ∀ p, p < 40 → S2T.Gen.SevenZip.lzma2DictTable[p]? = some (some (lzma2SpecDict p)) := by
  rw [gen_lzma2_dict_is_model]; decide +kernel

/-- byte 40 (4 GiB - 1) gets `preset=6` (8 MiB, as `lzma2Dict` gives every byte from 40 on): NOT the format's dictionary
    for it; a folder written with it is outside `Method.wf` (no packer the statement quantifies over writes a 4 GiB dictionary for files
    `read_archive` accepts, `MAX_7Z_FILE_SIZE`) -/
theorem lzma2Dict_40_is_preset : lzma2Dict 40 = none ∧ 2 ^ 23 < lzma2SpecDict 40 := by decide

/-- the variant `1 <<< (p / 2 + 12)` (mantissa bit of the byte dropped) asks for LESS than the format's dictionary at
    every odd byte — 2/3 of it — so `CodecOk` says nothing about it, and a match beyond 2/3 of the window is lost
    (witness replayed on the real code: `7z.lzma2-dictionary-3x2n`) -/
theorem lzma2Dict_without_mantissa_counterexample :
    ∀ p, p < 40 → p % 2 = 1 → 1 <<< (p / 2 + 12) < lzma2SpecDict p ∧ 3 * (1 <<< (p / 2 + 12)) = 2 * lzma2SpecDict p := by decide +kernel

/-- little-endian 8-byte size as `struct.pack("<Q", n)`, in the shape `decompressLzma` writes it (`packGroup_ok` matches the
    two by unfolding) -/
def le64 (u : Nat) : Bytes := (List.range 8).map fun i => (u >>> (8 * i)) % 256

/-- the raw encoders of a reference packer (stdlib `lzma` with `FORMAT_RAW` filters) -/
structure Enc where
  lzma : Bytes → Bytes → Bytes        -- 5 property bytes, data ↦ raw LZMA stream
  lzma2 : Nat → Bytes → Bytes         -- property byte, data ↦ raw LZMA2 stream

/-- ASSUMPTION on stdlib `lzma` (third party, not verified): decoding what was encoded gives the data back,
    when called exactly as `_decompress_lzma` / `_decompress_lzma2` call it on the folder's own pack stream —
    and, with `max_length = m`, its first `m` bytes (`capTo`); an encoder never emits an empty stream. -/
structure CodecOk (c : Codec) (e : Enc) : Prop where
  lzma : ∀ props x mo, props.length = 5 →
    c.lzmaAlone (props ++ le64 x.length ++ e.lzma props x) mo = some (capTo mo x)
  /-- the encoder works with the dictionary its property byte STANDS FOR (`lzma2SpecDict`, the format's table, not the
      reader's computation); any decoder whose dictionary is at least that large gives the data back.  Nothing is
      assumed about a decoder set up with a smaller dictionary — it fails as soon as a match reaches further back. -/
  lzma2 : ∀ p x mo d, p < 40 → lzma2SpecDict p ≤ d → c.lzma2Raw (some d) (e.lzma2 p x) mo = some (capTo mo x)
  lzma_ne : ∀ props x, e.lzma props x ≠ []
  lzma2_ne : ∀ p x, e.lzma2 p x ≠ []

/- The packer's coders, with the data-carrying `Group`s; the writer specification has its own `Method` for the header bytes
   (`Method.spec` below maps one to the other).  `Method.wf` asks for an LZMA2 byte below 40, where the reader's dictionary is
   the format's (`lzma2Dict_spec`); the specification's `methodOk` only for a byte. -/
inductive Method
  | copy
  | lzma (props : Bytes)
  | lzma2 (prop : Nat)

def packGroup (e : Enc) (m : Method) (es : List Entry) : Group :=
  match m with
  | .copy => { coder := ⟨specIds.coderCopy, none⟩, packed := streamData es, entries := es }
  | .lzma p => { coder := ⟨specIds.coderLzma, some p⟩, packed := e.lzma p (streamData es), entries := es }
  | .lzma2 p => { coder := ⟨specIds.coderLzma2, some [p]⟩, packed := e.lzma2 p (streamData es), entries := es }

private theorem packGroup_entries (e : Enc) (m : Method) (es : List Entry) : (packGroup e m es).entries = es := by
  cases m <;> rfl

def Method.wf : Method → Prop
  | .lzma p => p.length = 5
  | .lzma2 p => p < 40
  | .copy => True

private theorem streamData_ne (es : List Entry) (h : streamCount es ≥ 1) : streamData es ≠ [] := by
  obtain ⟨e, he⟩ := List.exists_mem_of_length_pos (show 0 < (es.filter (·.hasStream)).length from h)
  exact fun h0 => (hasStream_iff.mp (List.mem_filter.mp he).2).2 (List.flatMap_eq_nil_iff.mp h0 e he)

theorem packGroup_ok (c : Codec) (e : Enc) (hc : CodecOk c e) (m : Method) (hm : m.wf) (es : List Entry)
    (hs : streamCount es ≥ 1) : GroupOk S2T.Gen.SevenZip.ids c (packGroup e m es) := by
  rw [Header.gen_ids]
  cases m with
  | copy =>
    exact ⟨hs, streamData_ne es hs, by intro mo; simp [packGroup, applyDecoder]⟩
  | lzma p =>
    refine ⟨hs, hc.lzma_ne _ _, ?_⟩
    have hp : p.length = 5 := hm
    have h5 : p.take 5 = p := by rw [← hp]; exact List.take_length
    intro mo
    have := hc.lzma p (streamData es) mo hp
    simp only [le64, List.append_assoc] at this
    simp [packGroup, applyDecoder, specIds, decompressLzma, hp, h5, this]
  | lzma2 p =>
    refine ⟨hs, hc.lzma2_ne _ _, ?_⟩
    intro mo
    have hp : p < 40 := hm
    simp [packGroup, applyDecoder, specIds, decompressLzma2, lzma2Dict_spec p hp,
      hc.lzma2 p (streamData es) mo (lzma2SpecDict p) hp (Nat.le_refl _)]

/-- every folder a reference packer writes is decoded by its coder -/
theorem packGroups_ok (c : Codec) (e : Enc) (hc : CodecOk c e) (layout : List (Method × List Entry))
    (hm : ∀ l ∈ layout, l.1.wf ∧ streamCount l.2 ≥ 1) :
    ∀ g ∈ layout.map (fun l => packGroup e l.1 l.2), GroupOk S2T.Gen.SevenZip.ids c g := by
  intro g hg
  obtain ⟨l, hl, rfl⟩ := List.mem_map.mp hg
  exact packGroup_ok c e hc l.1 (hm l hl).1 l.2 (hm l hl).2

/-- **7z, all layouts, reference packer.**  For every list of folders `layout` (each: a coder COPY / LZMA /
    LZMA2 and the entries listed while it is current, at least one of them a non-empty file), every trailing
    list of directories / empty files, the repaired reader lists every entry with its name, kind and size, and
    `extractall` writes exactly the non-empty files with their own bytes, in archive order, followed by the
    empty files.  (For a requested subset: `C10_7z_layout_members` with `packGroups_ok`.) -/
theorem C10_7z_reference (c : Codec) (e : Enc) (hc : CodecOk c e) (layout : List (Method × List Entry))
    (tail : List Entry) (attr : Entry → Nat) (pre post : Bytes) (packPos : Nat)
    (hm : ∀ l ∈ layout, l.1.wf ∧ streamCount l.2 ≥ 1)
    (ht : ∀ x ∈ tail, x.hasStream = false)
    (hpre : pre.length = packPos + headerOffset)
    (hattr : ∀ x ∈ allEntries (layout.map fun l => packGroup e l.1 l.2) tail, x.isDir = false → attr x &&& 0x10 = 0)
    (hdir : ∀ x ∈ allEntries (layout.map fun l => packGroup e l.1 l.2) tail, x.isDir = true → x.data = []) :
    let gs := layout.map fun l => packGroup e l.1 l.2
    let es := allEntries gs tail
    let r := buildFileList (packR packPos gs tail) (rawEntries attr es) (emptyFileBits es)
    r.files.map (fun f => (f.filename, f.isDirectory, f.uncompressed)) = es.map (fun x => (x.name, x.isDir, x.data.length))
    ∧ extractAll S2T.Gen.SevenZip.ids c (pre ++ gs.flatMap (·.packed) ++ post) r = .ok (streamFiles es ++ emptyFiles es) :=
  C10_7z_layout _ c _ tail attr pre post packPos (packGroups_ok c e hc layout hm) ht hpre hattr hdir

/-- a toy coder pair (prefix a marker byte) satisfying `CodecOk` -/
def toyEnc : Enc := { lzma := fun _ x => 0 :: x, lzma2 := fun _ x => 0 :: x }
def toyCodec : Codec :=
  { lzmaAlone := fun s mo => some (capTo mo (s.drop 14)), lzma2Raw := fun _ s mo => some (capTo mo (s.drop 1)) }

theorem toy_ok : CodecOk toyCodec toyEnc := by
  refine ⟨?_, ?_, ?_, ?_⟩
  · intro p x mo hp
    simp only [toyCodec, toyEnc]
    rw [show p ++ le64 x.length ++ 0 :: x = (p ++ le64 x.length ++ [0]) ++ x by simp,
      List.drop_left' (by simp [le64, hp])]
  · intro p x mo d _ _; simp [toyCodec, toyEnc]
  · intro p x; simp [toyEnc]
  · intro p x; simp [toyEnc]

def exA : Entry := { name := [97, 46, 116, 120, 116], isDir := false, data := [1, 2, 3] }      -- a.txt
def exB : Entry := { name := [98, 46, 116, 120, 116], isDir := false, data := [4, 5] }         -- b.txt
def exD : Entry := { name := [100], isDir := true, data := [] }                                -- d/
def exE : Entry := { name := [101, 46, 116, 120, 116], isDir := false, data := [] }            -- e.txt (empty)
def exAttr (e : Entry) : Nat := if e.isDir then 0x10 else 0x20

/-- a mixed layout with a directory and an empty file interleaved: folder 0 = LZMA{a}, folder 1 = COPY{b} -/
def exLayout : List (Method × List Entry) := [(.lzma [93, 0, 0, 1, 0], [exD, exA, exE]), (.copy, [exB])]

example : ∀ l ∈ exLayout, l.1.wf ∧ streamCount l.2 ≥ 1 := by
  intro l hl
  simp only [exLayout, List.mem_cons, List.mem_nil_iff, or_false] at hl
  rcases hl with rfl | rfl <;> exact ⟨by simp [Method.wf], by decide⟩

example : ∀ x ∈ allEntries (exLayout.map fun l => packGroup toyEnc l.1 l.2) [exD], x.isDir = false → exAttr x &&& 0x10 = 0 := by
  decide +kernel

/-- the reference theorem evaluated on that layout: the reader returns the packed files -/
example :
    extractAll S2T.Gen.SevenZip.ids toyCodec
      (List.replicate 32 0 ++ (exLayout.map fun l => packGroup toyEnc l.1 l.2).flatMap (·.packed) ++ [9, 9])
      (buildFileList (packR 0 (exLayout.map fun l => packGroup toyEnc l.1 l.2) [exD])
        (rawEntries exAttr [exD, exA, exE, exB, exD]) (emptyFileBits [exD, exA, exE, exB, exD]))
      = .ok [(exA.name, [1, 2, 3]), (exB.name, [4, 5]), (exE.name, [])] := by
  decide +kernel

/-- `members` = only `b.txt` (index 3): folder 0 (LZMA{a}) is not decoded, only `b.txt` is written -/
example :
    extractAll S2T.Gen.SevenZip.ids toyCodec
      (List.replicate 32 0 ++ (exLayout.map fun l => packGroup toyEnc l.1 l.2).flatMap (·.packed) ++ [9, 9])
      (buildFileList (packR 0 (exLayout.map fun l => packGroup toyEnc l.1 l.2) [exD])
        (rawEntries exAttr [exD, exA, exE, exB, exD]) (emptyFileBits [exD, exA, exE, exB, exD]))
      (some [3])
      = .ok [(exB.name, [4, 5])] := by
  decide +kernel

/-- solid COPY folder {a, b}, `members` = only `a.txt`: decoded up to the end of `a.txt` (3 bytes), cut right;
    `members` = only `b.txt`: `a.txt` is stepped over -/
example :
    let gs := [packGroup toyEnc .copy [exA, exB]]
    let file := List.replicate 32 0 ++ [1, 2, 3, 4, 5]
    let r := buildFileList (packR 0 gs []) (rawEntries exAttr [exA, exB]) (emptyFileBits [exA, exB])
    folderCap r.files (some [0]) [0, 1] = .ok (some (some 3))
    ∧ extractAll specIds toyCodec file r (some [0]) = .ok [(exA.name, [1, 2, 3])]
    ∧ extractAll specIds toyCodec file r (some [1]) = .ok [(exB.name, [4, 5])]
    ∧ extractAll specIds toyCodec file r (some []) = .ok [] := by
  decide +kernel

/-- **counterexample (previous `extractall`)**: two folders, COPY coder.  The second member comes out with the
    first pack stream's bytes; the repaired loop returns its own.  (Witness replayed on the real code:
    key `7z.multi-folder-first-pack-stream`.)

    Full statement, false for the previous code:  ∀ gs …, extractAllOld … = .ok (streamFiles es). -/
theorem C10_7z_previous_two_folders_counterexample :
    let gs := [packGroup toyEnc .copy [exA], packGroup toyEnc .copy [exB]]
    let file := List.replicate 32 0 ++ [1, 2, 3] ++ [4, 5]
    let r := buildFileList (packR 0 gs []) (rawEntries exAttr [exA, exB]) (emptyFileBits [exA, exB])
    extractAllOld specIds toyCodec file r = .ok [(exA.name, [1, 2, 3]), (exB.name, [1, 2])]
    ∧ extractAll specIds toyCodec file r = .ok [(exA.name, [1, 2, 3]), (exB.name, [4, 5])] := by
  decide +kernel

/-- where the previous loop was right: with a single folder that owns one pack stream both loops make the same
    `_decompress_folder` call -/
theorem C10_7z_previous_plan_partial (n pp : Nat) (f : Folder) (h : f.numPackStreams = 1) :
    folderPlanOld [n] pp [f] 0 = folderPlan [n] pp [f] 0 0 := by
  simp [folderPlanOld, folderPlan, h]

/-- **counterexample (previous `_build_file_list`)**: an empty file is listed as a directory and is not written -/
theorem C10_7z_previous_empty_file_counterexample :
    let gs := [packGroup toyEnc .copy [exE, exA]]
    let file := List.replicate 32 0 ++ [1, 2, 3]
    let raw := rawEntries exAttr [exE, exA]
    (buildFileListOld (packR 0 gs []) raw).files.map (·.isDirectory) = [true, false]
    ∧ extractAllOld specIds toyCodec file (buildFileListOld (packR 0 gs []) raw) = .ok [(exA.name, [1, 2, 3])]
    ∧ extractAll specIds toyCodec file (buildFileList (packR 0 gs []) raw (emptyFileBits [exE, exA]))
        = .ok [(exA.name, [1, 2, 3]), (exE.name, [])] := by
  decide +kernel

/-- **counterexample (previous name decoding)**: U+1F600 is stored as the pair D83D DE00; `chr` per code unit
    gives two lone surrogates (a name `open()` cannot encode, which aborted the whole archive) -/
theorem C10_7z_previous_name_counterexample :
    decodeNameOld [0x61, 0xD83D, 0xDE00] = [0x61, 0xD83D, 0xDE00] ∧ decodeUtf16 [0x61, 0xD83D, 0xDE00] = [0x61, 0x1F600] := by
  decide +kernel

section loops
variable {ρ : Type} (env : Env ρ) (ap : Option Str)

/-- the member extracted on its own, labelled `archive!/member`, extractor chosen by the base name -/
def alone (name : Str) (data : Bytes) : List ρ := (env.extract (baseName name) data (fullPath ap name)).1

theorem label_eq (a name : Str) (ha : a ≠ []) : fullPath (some a) name = a ++ s "!/" ++ name := by
  cases a with
  | nil => exact absurd rfl ha
  | cons x xs => rfl

/-- supported visible member (`_should_skip_file` negated) -/
def visibleSupported (name : Str) : Bool := !shouldSkip env name (baseName name)

private theorem processEntry_small (name : Str) (data : Bytes) (h : data.length ≤ env.consts.maxArchiveFileSize) :
    processEntry env ap name data (baseName name) = alone env ap name data := by
  unfold processEntry alone
  rw [if_neg (by omega)]

def tarData (m : TarMember) : Bytes := match m.read with | .data b => b | _ => []

def tarKeep (m : TarMember) : Bool :=
  m.isReg && visibleSupported env m.name && decide (m.size ≤ env.consts.maxMemorySize)

theorem C10_members_tar (hlim : env.consts.maxMemorySize ≤ env.consts.maxArchiveFileSize) (ms : List TarMember)
    (hread : ∀ m ∈ ms, m.isReg = true → ∃ b, m.read = .data b ∧ m.size = b.length) :
    readTar env ap ms = (ms.filter (tarKeep env)).flatMap fun m => alone env ap m.name (tarData m) := by
  induction ms with
  | nil => rfl
  | cons m ms ih =>
    rw [List.forall_mem_cons] at hread
    have ih' := ih hread.2
    unfold readTar
    cases hreg : m.isReg with
    | false => simp [tarKeep, hreg, ih']
    | true =>
      obtain ⟨b, hb, hsz⟩ := hread.1 hreg
      by_cases hskip : shouldSkip env m.name (baseName m.name) = true
      · simp [tarKeep, hreg, visibleSupported, hskip, ih']
      · by_cases hbig : m.size > env.consts.maxMemorySize
        · have : ¬ m.size ≤ env.consts.maxMemorySize := by omega
          simp [tarKeep, hreg, visibleSupported, hskip, hbig, this, ih']
        · have hle : m.size ≤ env.consts.maxMemorySize := by omega
          have hp := processEntry_small env ap m.name b (by omega)
          simp [tarKeep, hreg, visibleSupported, hskip, hbig, hle, ih', hb, hp, tarData]

/-- **isolation (TAR)**: the results are the concatenation of the per-member results, whatever any member does -/
theorem C10_isolation_tar (a b : List TarMember) :
    readTar env ap (a ++ b) = readTar env ap a ++ readTar env ap b := by
  induction a with
  | nil => rfl
  | cons m a ih =>
    simp only [List.cons_append, readTar]
    cases m.read <;> simp only [apply_ite (· ++ readTar env ap b), ih, List.append_assoc]

/-- a member that cannot be read, or whose extractor raises before yielding, contributes nothing -/
theorem C10_failing_member_tar (m : TarMember)
    (h : m.read = .raised ∨ m.read = .noFile ∨ ∃ b, m.read = .data b ∧ alone env ap m.name b = []
      ∧ b.length ≤ env.consts.maxArchiveFileSize) :
    readTar env ap [m] = [] := by
  unfold readTar
  rcases h with h | h | ⟨b, hb, he, hl⟩
  · simp [h, readTar]
  · simp [h, readTar]
  · simp [hb, readTar, processEntry_small env ap m.name b hl, he]

def zipData (i : ZipInfo) : Bytes := match i.read with | .data b => b | _ => []

def zipKeep (i : ZipInfo) : Bool :=
  !i.isDir && visibleSupported env i.filename && decide (i.fileSize ≤ env.consts.maxMemorySize)

private theorem zipScan_ok (infos : List ZipInfo) (henc : ∀ i ∈ infos, i.isDir = false → i.flagBits &&& 1 = 0) :
    zipScan env infos = .ok (infos.filter fun i => !i.isDir && visibleSupported env i.filename) := by
  induction infos with
  | nil => rfl
  | cons i infos ih =>
    rw [List.forall_mem_cons] at henc
    have ih' := ih henc.2
    unfold zipScan
    cases hd : i.isDir with
    | true => simp [hd, ih']
    | false =>
      have := henc.1 hd
      by_cases hskip : shouldSkip env i.filename (baseName i.filename) = true <;>
        simp [hd, this, hskip, visibleSupported, ih']

private theorem zipLoop_ok (hlim : env.consts.maxMemorySize ≤ env.consts.maxArchiveFileSize) (l : List ZipInfo)
    (hread : ∀ i ∈ l, ∃ b, i.read = .data b ∧ i.fileSize = b.length) :
    zipLoop env ap l = { yields := (l.filter fun i => decide (i.fileSize ≤ env.consts.maxMemorySize)).flatMap
                            fun i => alone env ap i.filename (zipData i),
                          terminal := none } := by
  induction l with
  | nil => rfl
  | cons i l ih =>
    rw [List.forall_mem_cons] at hread
    have ih' := ih hread.2
    obtain ⟨b, hb, hsz⟩ := hread.1
    unfold zipLoop
    by_cases hbig : i.fileSize > env.consts.maxMemorySize
    · have : ¬ i.fileSize ≤ env.consts.maxMemorySize := by omega
      simp [hbig, this, ih']
    · have hle : i.fileSize ≤ env.consts.maxMemorySize := by omega
      have hp := processEntry_small env ap i.filename b (by omega)
      simp [hbig, hle, hb, ih', hp, zipData]

theorem C10_members_zip (hlim : env.consts.maxMemorySize ≤ env.consts.maxArchiveFileSize) (infos : List ZipInfo)
    (henc : ∀ i ∈ infos, i.isDir = false → i.flagBits &&& 1 = 0)
    (hread : ∀ i ∈ infos, i.isDir = false → ∃ b, i.read = .data b ∧ i.fileSize = b.length) :
    readZip env ap infos = { yields := (infos.filter (zipKeep env)).flatMap fun i => alone env ap i.filename (zipData i),
                             terminal := none } := by
  unfold readZip
  rw [zipScan_ok env infos henc]
  simp only  -- the `match` of `readZip` on `.ok`
  rw [zipLoop_ok env ap hlim]
  · simp only [List.filter_filter]
    congr 2
    apply List.filter_congr
    intro i _
    unfold zipKeep
    cases i.isDir <;> cases visibleSupported env i.filename <;> simp
  · intro i hi
    have := List.mem_filter.mp hi
    have hd : i.isDir = false := by
      have := this.2; cases h : i.isDir <;> simp_all
    exact hread i this.1 hd

def sevenKeep (e : Entry) : Bool :=
  !e.isDir && visibleSupported env e.name && decide (e.data.length ≤ env.consts.maxMemorySize)

private theorem sevenFilter_cons (e : Entry) (f : FileInfo) (fs : List FileInfo) (i : Nat)
    (h : (f.filename, f.isDirectory, f.uncompressed) = (e.name, e.isDir, e.data.length)) :
    sevenFilter env (f :: fs) i
      = if sevenKeep env e then (i, f) :: sevenFilter env fs (i + 1) else sevenFilter env fs (i + 1) := by
  simp only [Prod.mk.injEq] at h
  simp only [sevenFilter, sevenKeep, visibleSupported, h.1, h.2.1, h.2.2]
  by_cases hd : e.isDir = true <;> by_cases hs : shouldSkip env e.name (baseName e.name) = true <;>
    by_cases hbig : e.data.length > env.consts.maxMemorySize <;> simp [hd, hs, hbig]

private theorem sevenLoop_spec (hlim : env.consts.maxMemorySize ≤ env.consts.maxArchiveFileSize)
    (writes : List (Str × Bytes)) : ∀ (es : List Entry) (files : List FileInfo) (i0 : Nat),
    files.map (fun f => (f.filename, f.isDirectory, f.uncompressed)) = es.map (fun e => (e.name, e.isDir, e.data.length)) →
    (∀ e ∈ es, sevenKeep env e = true → readBack writes e.name = some e.data) →
    sevenLoop env ap writes ((sevenFilter env files i0).map (·.2))
      = (es.filter (sevenKeep env)).flatMap fun e => alone env ap e.name e.data := by
  intro es
  induction es with
  | nil => intro files i0 hf _; cases files <;> simp_all [sevenFilter, sevenLoop]
  | cons e es ih =>
    intro files i0 hf hrb
    cases files with
    | nil => simp at hf
    | cons f fs =>
      simp only [List.map_cons, List.cons.injEq] at hf
      rw [List.forall_mem_cons] at hrb
      rw [sevenFilter_cons env e f fs i0 hf.1, List.filter_cons]
      have ih' := ih fs (i0 + 1) hf.2 hrb.2
      by_cases hk : sevenKeep env e = true
      · have hle : e.data.length ≤ env.consts.maxMemorySize := by simp [sevenKeep] at hk; exact hk.2
        simp only [Prod.mk.injEq] at hf
        simp [hk, sevenLoop, hf.1.1, hrb.1 hk, processEntry_small env ap e.name e.data (by omega), ih']
      · simp [hk, ih']

private theorem sevenFilter_idx : ∀ (es : List Entry) (files : List FileInfo) (i0 : Nat),
    files.map (fun f => (f.filename, f.isDirectory, f.uncompressed)) = es.map (fun e => (e.name, e.isDir, e.data.length)) →
    (sevenFilter env files i0).map (·.1) = keepIdx (sevenKeep env) es i0 := by
  intro es
  induction es with
  | nil => intro files i0 hf; cases files <;> simp_all [sevenFilter, keepIdx]
  | cons e es ih =>
    intro files i0 hf
    cases files with
    | nil => simp at hf
    | cons f fs =>
      simp only [List.map_cons, List.cons.injEq] at hf
      rw [sevenFilter_cons env e f fs i0 hf.1, keepIdx]
      split <;> simp [ih fs (i0 + 1) hf.2]

private theorem readBack_none (ws : List (Str × Bytes)) (n : Str) (h : n ∉ ws.map (·.1)) : readBack ws n = none := by
  induction ws with
  | nil => rfl
  | cons w ws ih =>
    obtain ⟨m, b⟩ := w
    simp only [List.map_cons, List.mem_cons, not_or] at h
    have hmn : ¬ m = n := fun e => h.1 e.symm
    simp [readBack, ih h.2, hmn]

private theorem readBack_mem (ws : List (Str × Bytes)) (n : Str) (d : Bytes) (hn : (ws.map (·.1)).Nodup) (h : (n, d) ∈ ws) :
    readBack ws n = some d := by
  induction ws with
  | nil => simp at h
  | cons w ws ih =>
    obtain ⟨m, b⟩ := w
    simp only [List.map_cons, List.nodup_cons] at hn
    rcases List.mem_cons.mp h with heq | hin
    · cases heq
      simp [readBack, readBack_none ws n hn.1]
    · simp [readBack, ih hn.2 hin]

private theorem inj_of_nodup_map {α β : Type} (f : α → β) (l : List α) (hn : (l.map f).Nodup) :
    ∀ a ∈ l, ∀ b ∈ l, f a = f b → a = b := by
  induction l with
  | nil => intro a ha; simp at ha
  | cons x xs ih =>
    intro a ha b hb h
    simp only [List.map_cons, List.nodup_cons, List.mem_map, not_exists, not_and] at hn
    rcases List.mem_cons.mp ha with rfl | ha' <;> rcases List.mem_cons.mp hb with rfl | hb'
    · rfl
    · exact absurd h.symm (hn.1 b hb')
    · exact absurd h (hn.1 a ha')
    · exact ih hn.2 a ha' b hb' h

private theorem writes_nodup (es : List Entry) (hn : (es.map (·.name)).Nodup) :
    ((streamFiles es ++ emptyFiles es).map (·.1)).Nodup := by
  have hinj : ∀ a ∈ es, ∀ b ∈ es, a.name = b.name → a = b := fun a ha b hb h => inj_of_nodup_map (·.name) es hn a ha b hb h
  simp only [streamFiles, emptyFiles, List.map_append, List.map_map, Function.comp_def]
  rw [List.nodup_append]
  refine ⟨?_, ?_, ?_⟩
  · exact (List.Sublist.map _ List.filter_sublist).nodup hn
  · exact (List.Sublist.map _ List.filter_sublist).nodup hn
  · intro x hx y hy hxy
    obtain ⟨a, ha, rfl⟩ := List.mem_map.mp hx
    obtain ⟨b, hb, rfl⟩ := List.mem_map.mp hy
    have ha' := List.mem_filter.mp ha
    have hb' := List.mem_filter.mp hb
    have := hinj a ha'.1 b hb'.1 hxy
    subst this
    exact (hasStream_iff.mp ha'.2).2 (isEmptyFile_iff.mp hb'.2).2

private theorem readBack_writes (es : List Entry) (hn : (es.map (·.name)).Nodup) :
    ∀ e ∈ es, e.isDir = false → readBack (streamFiles es ++ emptyFiles es) e.name = some e.data := by
  intro e he hd
  apply readBack_mem _ _ _ (writes_nodup es hn)
  cases hdata : e.data with
  | nil =>
    apply List.mem_append_right
    simp only [emptyFiles, List.mem_map, List.mem_filter]
    exact ⟨e, ⟨he, isEmptyFile_iff.mpr ⟨hd, hdata⟩⟩, by simp⟩
  | cons b bs =>
    apply List.mem_append_left
    simp only [streamFiles, List.mem_map, List.mem_filter]
    exact ⟨e, ⟨he, hasStream_iff.mpr ⟨hd, by simp [hdata]⟩⟩, by simp [hdata]⟩

private theorem sevenKeep_not_dir {e : Entry} (h : sevenKeep env e = true) : e.isDir = false := by
  unfold sevenKeep at h
  cases hd : e.isDir <;> simp_all

/-- **7z member loop** (the code path: `extractall(members = the entries that passed the filters)`).  If the
    reader lists the entries `es` (name, kind, size) and `extractall` wrote the files of the kept entries
    (`C10_7z_layout_members` with `wanted` = their indices), and the member names are distinct (a *set* of
    files), then the results are exactly the visible supported non-directory members, each extracted on its
    own from its own bytes, in archive order. -/
theorem C10_members_7z (hlim : env.consts.maxMemorySize ≤ env.consts.maxArchiveFileSize)
    (es : List Entry) (files : List FileInfo) (i0 : Nat) (hn : (es.map (·.name)).Nodup)
    (hf : files.map (fun f => (f.filename, f.isDirectory, f.uncompressed)) = es.map (fun e => (e.name, e.isDir, e.data.length))) :
    sevenLoop env ap (streamFiles (es.filter (sevenKeep env)) ++ emptyFiles (es.filter (sevenKeep env)))
        ((sevenFilter env files i0).map (·.2))
      = (es.filter (sevenKeep env)).flatMap fun e => alone env ap e.name e.data := by
  apply sevenLoop_spec env ap hlim _ es files i0 hf
  intro e he hk
  have hn' : ((es.filter (sevenKeep env)).map (·.name)).Nodup :=
    (List.Sublist.map _ List.filter_sublist).nodup hn
  exact readBack_writes _ hn' e (List.mem_filter.mpr ⟨he, hk⟩) (sevenKeep_not_dir env hk)

/-- the same when everything was extracted (`members=None`): the extra files in the directory change nothing -/
theorem C10_members_7z_all (hlim : env.consts.maxMemorySize ≤ env.consts.maxArchiveFileSize)
    (es : List Entry) (files : List FileInfo) (i0 : Nat) (hn : (es.map (·.name)).Nodup)
    (hf : files.map (fun f => (f.filename, f.isDirectory, f.uncompressed)) = es.map (fun e => (e.name, e.isDir, e.data.length))) :
    sevenLoop env ap (streamFiles es ++ emptyFiles es) ((sevenFilter env files i0).map (·.2))
      = (es.filter (sevenKeep env)).flatMap fun e => alone env ap e.name e.data :=
  sevenLoop_spec env ap hlim _ es files i0 hf
    (fun e he hk => readBack_writes es hn e he (sevenKeep_not_dir env hk))

/-- **7z end to end on the model** (reader state → results), for every layout a reference packer produces.
    `parse` is `SevenZipReader.__init__`, here a parameter with the hypothesis `hparse` that it returns the state
    `packR`/`_build_file_list` describe; for the bytes a packer writes `C10_7z_written_end_to_end` discharges it with
    the header round trip.  `needs_password` is the parameter `fun _ => false` (no coder of the reference packer is
    AES; that `needsPassword` then answers no is not proved here).  `extractall` is
    called with `members` = the entries that passed the filters: skipped entries are neither decoded nor
    written, and the results are unchanged. -/
theorem C10_7z_end_to_end (c : Codec) (e : Enc) (hc : CodecOk c e) (layout : List (Method × List Entry))
    (tail : List Entry) (attr : Entry → Nat) (pre post : Bytes) (packPos : Nat)
    (parse : Bytes → Except Err R) (gs : List Group) (es : List Entry) (file : Bytes)
    (hgs : gs = layout.map fun l => packGroup e l.1 l.2) (hes : es = allEntries gs tail)
    (hfile : file = pre ++ gs.flatMap (·.packed) ++ post)
    (hlim : env.consts.maxMemorySize ≤ env.consts.maxArchiveFileSize)
    (hm : ∀ l ∈ layout, l.1.wf ∧ streamCount l.2 ≥ 1)
    (ht : ∀ x ∈ tail, x.hasStream = false)
    (hpre : pre.length = packPos + headerOffset)
    (hattr : ∀ x ∈ es, x.isDir = false → attr x &&& 0x10 = 0)
    (hdir : ∀ x ∈ es, x.isDir = true → x.data = [])
    (hn : (es.map (·.name)).Nodup)
    (hsize : file.length ≤ env.consts.max7zFileSize)
    (hparse : parse file = .ok (buildFileList (packR packPos gs tail) (rawEntries attr es) (emptyFileBits es))) :
    (read7z env ap file parse (fun _ => false) (fun f r w => extractAll S2T.Gen.SevenZip.ids c f r w)).yields
        = (es.filter (sevenKeep env)).flatMap (fun x => alone env ap x.name x.data)
    ∧ (read7z env ap file parse (fun _ => false) (fun f r w => extractAll S2T.Gen.SevenZip.ids c f r w)).terminal = none := by
  subst hgs hes hfile
  have ⟨h1, h2⟩ := C10_7z_layout_members _ c _ tail attr pre post packPos
    (some (keepIdx (sevenKeep env) (allEntries (layout.map fun l => packGroup e l.1 l.2) tail) 0))
    (packGroups_ok c e hc layout hm) ht hpre hattr hdir
  have hidx := sevenFilter_idx env _ _ 0 h1
  simp only [filesW_keepIdx] at h2
  unfold read7z
  rw [if_neg (Nat.not_lt.mpr hsize), hparse]
  simp only [Bool.false_eq_true, if_false, hidx]
  rw [h2]
  exact ⟨C10_members_7z env ap hlim _ _ 0 hn h1, rfl⟩

end loops

def compatible (a b : Bytes) : Bool :=
  a.take (min a.length b.length) == b.take (min a.length b.length)

/-- no signature shadows a later one of another type; declared lengths are the real lengths -/
def sigsOk : List (Bytes × Str × Nat) → Bool
  | [] => true
  | (m, ty, len) :: r => (m.length == len) && r.all (fun x => !compatible m x.1 || ty == x.2.1) && sigsOk r

theorem gen_sigs_ok : sigsOk S2T.Gen.SevenZip.consts.signatures = true := by decide +kernel

private theorem compatible_of_prefixes (header m m' : Bytes) (h1 : header.take m.length = m) (h2 : header.take m'.length = m') :
    compatible m m' = true := by
  unfold compatible
  -- the `min` gets a name first: `rw [← h1]` rewrites every `m`, the one inside it too; `omega` then knows `k` from `hk`
  generalize hk : min m.length m'.length = k
  rw [← h1, ← h2, List.take_take, List.take_take, show min k m.length = k by omega, show min k m'.length = k by omega]
  exact beq_self_eq_true _

private theorem sigsOk_len : ∀ (sigs : List (Bytes × Str × Nat)), sigsOk sigs = true →
    ∀ m ty len, (m, ty, len) ∈ sigs → m.length = len
  | [], _, m, ty, len, h => by simp at h
  | (m1, ty1, len1) :: ys, hok, m, ty, len, h => by
    simp only [sigsOk, Bool.and_eq_true, beq_iff_eq] at hok
    rcases List.mem_cons.mp h with heq | hin
    · cases heq; exact hok.1.1
    · exact sigsOk_len ys hok.2 m ty len hin

theorem sigMatch_spec (header : Bytes) : ∀ (sigs : List (Bytes × Str × Nat)), sigsOk sigs = true →
    ∀ m ty len, (m, ty, len) ∈ sigs → header.take len = m → sigMatch header sigs = some ty := by
  intro sigs
  induction sigs with
  | nil => intro _ m ty len h; simp at h
  | cons x sigs ih =>
    obtain ⟨m0, ty0, len0⟩ := x
    intro hok m ty len hmem hp
    simp only [sigsOk, Bool.and_eq_true, beq_iff_eq, List.all_eq_true, Bool.or_eq_true, Bool.not_eq_true'] at hok
    obtain ⟨⟨hlen0, hall⟩, hrest⟩ := hok
    unfold sigMatch
    by_cases h0 : header.take len0 = m0
    · simp only [h0, beq_self_eq_true, if_true]
      rcases List.mem_cons.mp hmem with heq | hin
      · cases heq; rfl
      · have hlen : m.length = len := sigsOk_len sigs hrest m ty len hin
        have hc := compatible_of_prefixes header m0 m (by rw [hlen0]; exact h0) (by rw [hlen]; exact hp)
        rcases hall (m, ty, len) hin with hnc | hty
        · simp [hc] at hnc
        · simp at hty; rw [hty]
    · have hne : (header.take len0 == m0) = false := by simpa using h0
      simp only [hne, Bool.false_eq_true, if_false]
      rcases List.mem_cons.mp hmem with heq | hin
      · cases heq; exact absurd hp h0
      · exact ih hrest m ty len hin hp

private theorem take_isEmpty {file : Bytes} (h : file ≠ []) : (file.take 512).isEmpty = false := by
  cases file <;> simp_all

/-- **plain TAR is recognised whatever its first member is called** (repaired order) and opened with `r:tar` -/
theorem C10_detect_tar (file : Bytes) (hlen : 262 ≤ file.length) (hm : (file.drop 257).take 5 = [117, 115, 116, 97, 114]) :
    detect S2T.Gen.SevenZip.consts file = some (s "tar") ∧ route (s "tar") = .tar (s "r:tar") := by
  refine ⟨?_, by decide⟩
  unfold detect
  have h1 := take_isEmpty (file := file) (by intro h; simp [h] at hlen)
  have h2 : isTarAt S2T.Gen.SevenZip.consts (file.take 512) = true := by
    unfold isTarAt
    have hb : ((file.take 512).drop 257).take 5 = (file.drop 257).take 5 := by
      rw [List.drop_take, List.take_take]
      congr 1
    have ha' : 262 ≤ min 512 file.length := by omega
    simp only [S2T.Gen.SevenZip.consts]
    simp [ha', hb, hm]
  simp [h1, h2]

/-- **every signature of the table leads to its type** when the file is not a plain TAR -/
theorem C10_detect_signature (file m : Bytes) (ty : Str) (len : Nat)
    (hsig : (m, ty, len) ∈ S2T.Gen.SevenZip.consts.signatures)
    (hne : file ≠ []) (hnt : isTarAt S2T.Gen.SevenZip.consts (file.take 512) = false)
    (hp : (file.take 512).take len = m) :
    detect S2T.Gen.SevenZip.consts file = some ty := by
  unfold detect
  simp only [take_isEmpty hne, hnt, Bool.false_eq_true, if_false]
  exact sigMatch_spec _ _ gen_sigs_ok m ty len hsig hp

/-- the dispatch: each detected type goes to its reader, TAR flavours with the matching `tarfile` mode -/
theorem C10_routes :
    route (s "zip") = .zip ∧ route (s "7z") = .sevenZ ∧ route (s "tar.gz") = .tar (s "r:gz")
    ∧ route (s "tar.bz2") = .tar (s "r:bz2") ∧ route (s "tar.xz") = .tar (s "r:xz")
    ∧ S2T.Gen.SevenZip.consts.signatures.all (fun x => route x.2.1 != .unsupported) = true := by
  decide +kernel

/-- `NESTED_ARCHIVE_EXTENSIONS` is the documented list (archives inside archives are never unpacked) -/
theorem gen_nested_are_spec :
    S2T.Gen.SevenZip.consts.nested = [s ".7z", s ".tar", s ".tar.bz2", s ".tar.gz", s ".tar.xz", s ".tbz2", s ".tgz", s ".txz", s ".zip"] := by
  decide +kernel

/-- the limits nest as the member-loop theorems assume -/
theorem gen_limits : S2T.Gen.SevenZip.consts.maxMemorySize ≤ S2T.Gen.SevenZip.consts.maxArchiveFileSize := by decide

/-- **counterexample (previous detection order)**: the first block of a TAR whose first member is called
    `BZ…` was taken for bzip2 -/
theorem C10_detect_previous_counterexample :
    let block := [66, 90] ++ List.replicate 255 0 ++ [117, 115, 116, 97, 114] ++ List.replicate 250 0
    detectOld S2T.Gen.SevenZip.consts block = some (s "tar.bz2") ∧ detect S2T.Gen.SevenZip.consts block = some (s "tar") := by
  decide +kernel

example : (([80, 75, 3, 4] : Bytes), s "zip", 4) ∈ S2T.Gen.SevenZip.consts.signatures := by decide

/-- the coder of the reference packer, as the writer specification names it -/
def Method.spec : Method → S2T.Spec.SevenZipWriter.Method
  | .copy => .copy
  | .lzma p => .lzma p
  | .lzma2 p => .lzma2 p

section written
variable {ρ : Type} (env : Env ρ) (ap : Option Str)

/-- **7z end to end, from the written bytes** (model of `read_archive`'s 7z path on the file a standard packer
    writes).  `layout` = the folders (coder COPY / LZMA / LZMA2, entries listed while the folder is current),
    `tail` = trailing directories / empty files, `o` = the header options, `x` = the attribute / mtime / CRC values
    stored per entry.  The file is `archive crc L packs`: 32-byte start header, the pack streams, the header block
    `writeHeader L` of the writer specification.  Then the reader (`SevenZipReader.__init__` = `parseHeader`, not
    a parameter here; `needs_password` still is: `fun _ => false`, as in `C10_7z_end_to_end`) followed by the member
    loop yields exactly the supported visible members, each extracted on its own from its own bytes, in archive order.
    Hypotheses that stay explicit: `CodecOk` (stdlib lzma; not used for COPY-only layouts), the layout is well formed,
    no folder CRCs (`hfc`: the layout theorems start from folders without a CRC; the header round trip itself holds
    with them), a stored attribute of a non-directory does not carry the directory bit 0x10 (`hattr`), distinct
    member names, size limits. -/
theorem C10_7z_written_end_to_end (c : Codec) (e : Enc) (hc : CodecOk c e) (crc : Bytes → Nat) (hcrc : ∀ b, crc b < 2 ^ 32)
    (layout : List (Method × List Entry)) (tail : List Entry) (x : Entry → Nat × Nat × Nat) (o : Opts)
    (gs : List Group) (es : List Entry) (L : Layout) (file : Bytes)
    (hgs : gs = layout.map fun l => packGroup e l.1 l.2) (hes : es = allEntries gs tail)
    (hL : L = layoutOf x (layout.map fun l => (l.1.spec, packGroup e l.1 l.2)) tail o)
    (hfile : file = archive crc L (gs.flatMap (·.packed)))
    (hwf : WellFormed L) (hfc : o.folderCrc = false) (hne : layout ≠ [])
    (hlim : env.consts.maxMemorySize ≤ env.consts.maxArchiveFileSize)
    (hm : ∀ l ∈ layout, l.1.wf ∧ streamCount l.2 ≥ 1)
    (ht : ∀ y ∈ tail, y.hasStream = false)
    (hattr : ∀ y ∈ es, y.isDir = false → o.attrs = true → (x y).1 &&& 0x10 = 0)
    (hdir : ∀ y ∈ es, y.isDir = true → y.data = [])
    (hn : (es.map (·.name)).Nodup)
    (hsize : file.length ≤ env.consts.max7zFileSize) (hfit : file.length < 2 ^ 63) :
    (read7z env ap file (parseHeader S2T.Gen.SevenZip.ids fixed crc c) (fun _ => false)
        (fun f r w => extractAll S2T.Gen.SevenZip.ids c f r w)).yields
        = (es.filter (sevenKeep env)).flatMap (fun y => alone env ap y.name y.data)
    ∧ (read7z env ap file (parseHeader S2T.Gen.SevenZip.ids fixed crc c) (fun _ => false)
        (fun f r w => extractAll S2T.Gen.SevenZip.ids c f r w)).terminal = none := by
  have hmgs : (layout.map fun l => (l.1.spec, packGroup e l.1 l.2)).map (·.2) = gs := by
    rw [hgs]; simp [List.map_map, Function.comp_def]
  have hesne : es ≠ [] := by
    cases layout with
    | nil => exact absurd rfl hne
    | cons l ls =>
      have h1 := (hm l (List.mem_cons_self ..)).2
      have h2 : l.2 ≠ [] := by intro h0; rw [h0] at h1; exact absurd h1 (by decide)
      rw [hes, hgs, allEntries, List.map_cons, List.flatMap_cons, packGroup_entries]
      simp [h2]
  rw [hfile, archive_length] at hfit
  have hrt := S2T.C10.Header.header_round_trip crc hcrc c L hwf (gs.flatMap (·.packed))
    ⟨by omega, by omega⟩
  have hst := stateOf_layoutOf x (layout.map fun l => (l.1.spec, packGroup e l.1 l.2)) tail o
    (by intro p hp; obtain ⟨l, _, rfl⟩ := List.mem_map.mp hp; cases l.1 <;> rfl) ht hfc
    (by simpa using hne) (by rw [hmgs, ← hes]; exact hesne)
  rw [hmgs, ← hes, ← hL] at hst
  rw [hst, ← hfile] at hrt
  refine C10_7z_end_to_end env ap c e hc layout tail (attrOf x o)
    (startHeader crc (gs.flatMap (·.packed)).length (writeHeader L)) (writeHeader L) 0
    (parseHeader S2T.Gen.SevenZip.ids fixed crc c) gs es file hgs hes (by rw [hfile]; rfl) hlim hm ht
    (by simp [startHeader_length, headerOffset]) ?_ hdir hn hsize hrt
  intro y hy hd
  unfold attrOf
  split
  · rename_i ha; exact hattr y hy hd ha
  · rfl

end written

/-- the hypotheses of `C10_7z_written_end_to_end` on a concrete layout: folder 0 = COPY{d/, a.txt, e.txt (empty)},
    folder 1 = COPY{b.txt}; Windows attributes (0x10 / 0x20) are stored -/
example :
    let layout : List (Method × List Entry) := [(.copy, [exD, exA, exE]), (.copy, [exB])]
    let x : Entry → Nat × Nat × Nat := fun e => (exAttr e, 0, 0)
    let gs := layout.map fun l => packGroup toyEnc l.1 l.2
    let es := allEntries gs []
    let L := layoutOf x (layout.map fun l => (l.1.spec, packGroup toyEnc l.1 l.2)) [] {}
    WellFormed L ∧ (∀ l ∈ layout, l.1.wf ∧ streamCount l.2 ≥ 1)
    ∧ (∀ y ∈ es, y.isDir = false → ({} : Opts).attrs = true → (x y).1 &&& 0x10 = 0)
    ∧ (∀ y ∈ es, y.isDir = true → y.data = []) ∧ (es.map (·.name)).Nodup := by
  refine ⟨by decide, ?_, by decide, by decide, by decide⟩
  intro l hl
  simp only [List.mem_cons, List.mem_nil_iff, or_false] at hl
  rcases hl with rfl | rfl <;> exact ⟨by simp [Method.wf], by decide⟩

/-
`R` is the router behind the module's `lru_cache`s, `hist` the reads that ran before in the process — any number
of archives of any container type, each as the sequence of cache questions it asked (`β`: whatever they returned).
The member-loop theorems above are restated for the read run against the store that history left behind. -/
section history
open S2T.ArchiveHistory S2T.C10History
variable {ε ρ β : Type} (R : Router ε ρ) (c : Consts) (ap : Option Str) (hist : List (Prog ε β))

theorem C10_members_tar_after_any_history (hlim : c.maxMemorySize ≤ c.maxArchiveFileSize) (ms : List TarMember)
    (hread : ∀ m ∈ ms, m.isReg = true → ∃ b, m.read = .data b ∧ m.size = b.length) :
    (runMemo R (readTarP R c ap ms) (afterReads R Store.empty hist)).1
      = (ms.filter (tarKeep (envOf R c))).flatMap fun m => alone (envOf R c) ap m.name (tarData m) := by
  rw [C10_history_free, tar_prog_pure]
  exact C10_members_tar (envOf R c) ap hlim ms hread

theorem C10_members_zip_after_any_history (hlim : c.maxMemorySize ≤ c.maxArchiveFileSize) (infos : List ZipInfo)
    (henc : ∀ i ∈ infos, i.isDir = false → i.flagBits &&& 1 = 0)
    (hread : ∀ i ∈ infos, i.isDir = false → ∃ b, i.read = .data b ∧ i.fileSize = b.length) :
    (runMemo R (readZipP R c ap infos) (afterReads R Store.empty hist)).1
      = { yields := (infos.filter (zipKeep (envOf R c))).flatMap fun i => alone (envOf R c) ap i.filename (zipData i),
          terminal := none } := by
  rw [C10_history_free, zip_prog_pure]
  exact C10_members_zip (envOf R c) ap hlim infos henc hread

open S2T.SevenZip in
/-- the 7z path: whatever `SevenZipReader` / `extractall` do with the file (they touch no process state), the results
    after any history are those of the single-call model, to which `C10_7z_end_to_end` / `C10_7z_written_end_to_end` apply -/
theorem C10_7z_after_any_history (file : Bytes) (parse : Bytes → Except Err S2T.SevenZip.R)
    (needsPw : S2T.SevenZip.R → Bool)
    (extract : Bytes → S2T.SevenZip.R → Option (List Nat) → Except Err (List (Str × Bytes))) :
    (runMemo R (read7zP R c ap file parse needsPw extract) (afterReads R Store.empty hist)).1
      = read7z (envOf R c) ap file parse needsPw extract := by
  rw [C10_history_free, seven_prog_pure]

/-- the label of a member is made from the path of the archive being read and nothing else: after any history (earlier
    reads of the same member bytes under other archive paths among them) a read under `a` gives the label `a!/name` -/
theorem C10_label_is_own_archive (a name : Str) (ha : a ≠ []) (data : Bytes) (base : Str)
    (hsmall : data.length ≤ c.maxArchiveFileSize) :
    (runMemo R (processEntryP R c (some a) name data base) (afterReads R Store.empty hist)).1
      = (R.run (R.getExt base) data (a ++ s "!/" ++ name)).1 := by
  rw [C10_history_free, processEntry_prog_pure, ← label_eq a name ha]
  unfold processEntry
  rw [if_neg (by simp only [envOf]; omega)]
  rfl

end history

end S2T.C10
