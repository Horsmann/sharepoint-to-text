import S2T.Lemmas.Chars
import S2T.Lemmas.CacheConc
import S2T.Model.Cells
import S2T.Gen.GlobalWrites
/-!
# C15, part "Conc" — the shared memo caches under concurrent use, and what their keys are

* §6 `_get_round_keys` called by any number of threads at once, any keys, any schedule
     (`S2T.CacheConc.Fixed`, fix-round-key-cache-lock.patch): every call returns what `_expand_key` returns
     (or raises what it raises), never a `KeyError`, and the cache stays consistent.  Counterexample for
     the code before the fix (`Legacy`): a hit whose key is evicted between `get` and `move_to_end` raises
     `KeyError` — the extraction of one thread fails because of what other threads extract.
* §7 a cache keyed by a function `keyOf` of its input is transparent for every history when nothing but the
     input decides the key (`keyOf` injective); counterexample for a key that is only "length + table directory"
     of a font program.
* §8 generated facts that tie §6/§7 (and `S2T.Cache.FontFixed`, `S2T.Cache.lruGet`) to the current source:
     the key expression of every access of a keyed cache is a whole, never rebound parameter; every access of
     a lock-protected cell is inside a `with <its lock>:` block.
-/
namespace S2T.C15.Conc
open S2T.Cache S2T.CacheConc

/-- the state reached from a consistent cache `c` by the threads asking for `keys` under the schedule `sched` -/
abbrev reached {K V E : Type} [DecidableEq K] (cap : Nat) (f : K → Except E V) (c : Cache K V) (keys : List K) (sched : List Nat) :
    St K V E := Fixed.run cap f (init c keys) sched

/-- Every call that has returned, in any interleaving with any other calls (same key, other keys, hits,
    misses, evictions, failing keys), returned exactly what the uncached function gives for ITS key —
    in particular never the schedule of another key, never a half-built entry, never a `KeyError`. -/
theorem conc_results_transparent {K V E : Type} [DecidableEq K] (cap : Nat) (f : K → Except E V) (c : Cache K V)
    (hc : Consistent f c) (keys : List K) (sched : List Nat) :
    ∀ x ∈ (reached cap f c keys sched).thr, ∀ r, x.res = some r → r = expected f x.key := by
  intro x hx r hr
  have G := fixed_run_good cap f _ (good_init False f c hc keys) sched
  rcases (G.thr x hx).res r hr with h | h
  · exact h
  · exact absurd h.1 id

/-- … and whatever the interleaving, the cache only ever holds `(key, f key)` pairs, so every later
    extraction of the process is served correctly as well -/
theorem conc_cache_consistent {K V E : Type} [DecidableEq K] (cap : Nat) (f : K → Except E V) (c : Cache K V)
    (hc : Consistent f c) (keys : List K) (sched : List Nat) :
    Consistent f (reached cap f c keys sched).cache :=
  (fixed_run_good cap f _ (good_init False f c hc keys) sched).cache

/-- two threads ask for the same not-yet-cached key while one of them is inside `_expand_key`
    (the interleaving of the "most recently used key" fast path): both get `f key` -/
example : let f : Nat → Except Unit Nat := fun k => .ok (k + 1000)
    results (reached 4 f [(7, 1007)] [5, 5] [0, 1, 1, 1, 0, 0]) = [some (.ok 1005), some (.ok 1005)] := by decide

/-- a hit that is overtaken by four misses of other threads (the legacy `KeyError` schedule) on the fixed code -/
example : let f : Nat → Except Unit Nat := fun k => .ok (k + 1000)
    let s := reached 4 f [(0, 1000)] [0, 1, 2, 3, 4] [1,1,1, 2,2,2, 3,3,3, 4,4,4, 0,0,0]
    allDone s = true ∧ results s = [some (.ok 1000), some (.ok 1001), some (.ok 1002), some (.ok 1003), some (.ok 1004)]
      ∧ s.cache.map (·.1) = [2, 3, 4, 0] := by decide

/-! ### §6b the code before fix-round-key-cache-lock.patch

Full-strength statement, FALSE for the unlocked code:
  `∀ x ∈ (Legacy.run cap f (init c keys) sched).thr, ∀ r, x.res = some r → r = expected f x.key` -/

/-- thread 0 finds its key (a hit) and is preempted before `move_to_end`; threads 1–4 miss on four other
    keys, the fourth insertion evicts thread 0's key; `move_to_end` raises `KeyError`. -/
theorem conc_legacy_keyerror :
    let f : Nat → Except Unit Nat := fun k => .ok (k + 1000)
    ∃ sched, (results (Legacy.run 4 f (init [(0, 1000)] [0, 1, 2, 3, 4]) sched))[0]? = some (some .keyError) :=
  ⟨[0, 1,1,1,1, 2,2,2,2, 3,3,3,3, 4,4,4,4, 0], by decide⟩

/-- what remains true of the unlocked code: a call that returns a value returns the right one
    (the failure mode is a spurious exception, not a wrong key schedule). -/
theorem conc_legacy_partial {K V E : Type} [DecidableEq K] (cap : Nat) (f : K → Except E V) (c : Cache K V)
    (hc : Consistent f c) (keys : List K) (sched : List Nat) :
    ∀ x ∈ (Legacy.run cap f (init c keys) sched).thr, ∀ r, x.res = some r → r = expected f x.key ∨ r = .keyError := by
  intro x hx r hr
  have G := legacy_run_good cap f _ (good_init True f c hc keys) sched
  rcases (G.thr x hx).res r hr with h | h
  · exact Or.inl h
  · exact Or.inr h.2

/-- a cache keyed by `keyOf input` with `keyOf` injective (the current source: the input itself) is
    transparent for every history of calls -/
theorem keyed_cache_history_independent {K Q P G V : Type} [DecidableEq Q] (keyOf : K → Q)
    (inj : ∀ a b, keyOf a = keyOf b → a = b) (parse : K → P) (feat : K → P → G → V)
    (h : List (K × G)) (k : K) (g : G) :
    (Keyed.get keyOf parse feat (Keyed.run keyOf parse feat [] h) k g).1 = feat k (parse k) g :=
  Keyed.history keyOf inj parse feat h k g

/-- `FontFixed.get` (the model the font correspondence runs) is the keyed cache with the identity key -/
theorem keyed_id_is_fontFixed {K P G V} [DecidableEq K] (parse : K → P) (feat : K → P → G → V)
    (c : Cache K P) (k : K) (g : G) : Keyed.get id parse feat c k g = FontFixed.get parse feat c k g := rfl

example : ∀ a b : List Nat, id a = id b → a = b := fun _ _ h => h

/-- Full-strength statement FALSE for a key that looks at a part of the input only
    (`(len(font), font[:12 + 16 * numTables])`): two font programs of equal length and equal table directory
    but different `loca` contents share an entry; the second one is decoded with the first one's offsets. -/
theorem keyed_cache_weak_key_counterexample :
    let keyOf : List Nat → Nat × List Nat := fun font => (font.length, font.take 4)   -- length + "directory"
    let parse : List Nat → List Nat := fun font => font.drop 4                      -- the table contents
    let feat : List Nat → List Nat → Nat → Nat := fun _ p gid => p.getD gid 0
    let x := [1, 1, 1, 1, 10, 20]
    let y := [1, 1, 1, 1, 20, 10]
    (Keyed.get keyOf parse feat (Keyed.run keyOf parse feat [] [(x, 0)]) y 0).1 ≠ feat y (parse y) 0 := by decide

open S2T.Cells S2T.Gen.GlobalWrites

/-- the key expression of every access of `_FONT_CACHE` / `_ROUND_KEY_CACHE` is a parameter of the enclosing
    function that the function never rebinds: the caches are keyed by the WHOLE input (`keyOf = id`) -/
theorem cache_keys_are_whole_inputs :
    ∀ a ∈ cacheAccesses, a.cell ∈ keyedCaches → a.key ≠ [] → a.key ∈ a.params := by
  decide_chars cacheAccesses keyedCaches

/-- every keyed cache is really looked up and filled by key somewhere (the fact above is not vacuous) -/
theorem cache_keys_present :
    ∀ c ∈ keyedCaches, (∃ a ∈ cacheAccesses, a.cell = c ∧ a.key ≠ [] ∧ a.how = "setitem".toList) ∧
                       (∃ a ∈ cacheAccesses, a.cell = c ∧ a.key ≠ [] ∧ a.how ≠ "setitem".toList) := by
  decide_chars cacheAccesses keyedCaches

/-- every occurrence of a lock-protected cell is inside a `with <its lock>:` block — the two regions of
    `_get_round_keys` (and of the patch section) are atomic with respect to each other, which is what makes
    `lookup` and `store` single steps of `S2T.CacheConc.Fixed` -/
theorem cache_accesses_locked :
    ∀ a ∈ cacheAccesses, ∀ l ∈ lockedCells, a.cell = l.1 → a.guard = l.2 := by
  decide_chars cacheAccesses lockedCells

/-- … and these cells are accessed at all, and only from the one function the model describes -/
theorem cache_access_sites :
    (∀ a ∈ cacheAccesses, a.cell = "_ROUND_KEY_CACHE".toList → a.func = "_get_round_keys".toList) ∧
    (∀ a ∈ cacheAccesses, a.cell = "_FONT_CACHE".toList → a.func = "_ttf_parse_font".toList) ∧
    (∀ l ∈ lockedCells, ∃ a ∈ cacheAccesses, a.cell = l.1) := by
  decide_chars cacheAccesses lockedCells

end S2T.C15.Conc
