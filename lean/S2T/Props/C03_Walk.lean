import S2T.Gen.UnitsWalk
/-!
# C03, part "Walk" — every walk over the units sees the same units; no part of the source is skipped

The property speaks about `iterate_units()` — a generator a caller may abandon after the first unit, run twice at the
same time, or run again after `get_full_text()`.  "One unit per sheet, numbered by position" has to hold for EVERY such
walk, not only for the first complete one.

* Model (`run`): a result with unit list `us`; a schedule is any sequence of `next` calls on any number of walks (walk
  ids are arbitrary numbers, a walk starts with its first `next`).  For a result whose walks read nothing but the
  fields (`cursor` per walk, no shared state) walk `w` receives exactly the first `count w sched` entries of `us`
  whatever the other walks did (`walk_schedule_independent`), so a walk that is run to its end receives all of `us`
  (`complete_walk_yields_all`) — in particular after any number of abandoned walks.
* Why the tie is needed (`lazy_memo_partial_walk_counterexample`, `lazy_memo_interleaved_counterexample`): with a
  per-object list that is published before it is complete and filled by the first walk, a walk that follows an
  abandoned one ends after the units built so far.
* Ties to the CURRENT source, two closed-world inventories: no method of data_types.py keeps state on the object a walk
  runs on (`walk_methods_keep_no_state`), and no unit-building loop skips an item unaccounted
  (`unit_loops_skip_nothing_unaccounted`); what each admits is said at the theorem.
-/
namespace S2T.C03.Walk

/-- state-changing methods of data_types.py the model accounts for: path bookkeeping of the file metadata (called by the
router, not by a walk) and the dict/attribute mirror + legacy setters of `ImageMetadata` -/
def allowedSelfWrites : List (String × String) :=
  [("FileMetadataInterface", "populate_from_path"), ("ImageMetadata", "__setattr__"), ("ImageMetadata", "__setitem__"),
   ("ImageMetadata", "image_index"), ("ImageMetadata", "unit_index")]

/-- closed world: no other method of data_types.py (no `iterate_units`, `get_full_text`, `get_text`, `get_metadata`,
`get_images`, `get_tables`, `_join_unit_text` …) changes the object it is called on or handed — no per-instance memo,
no cursor kept on the result, no list that a walk drains -/
theorem walk_methods_keep_no_state :
    ∀ w ∈ S2T.Gen.UnitsWalk.selfWrites, (w.1, w.2.1) ∈ allowedSelfWrites := by decide

/-- skips the model accounts for: a spine entry whose content document is missing gives no chapter (the model's
`epubUnits` keeps the spine position as number), and an empty slice between two separator lines is no message -/
def allowedLoopFilters : List (String × String × String) :=
  [("read_epub#0", "guarded-append", "chapter is not None"),
   ("_split_mbox_messages#0", "guarded-append", "p0[ITEM.end():msg_end].rstrip(b'\\r\\n')")]

/-- closed world: no other unit-building loop (read_pdf, read_xlsx / _read_content_from_workbook, read_ods, read_odp,
read_pptx, read_epub, read_mbox_format_mail, _split_mbox_messages, _build_slides_from_text_blocks, and the loop of every
page / sheet / slide / chapter `iterate_units`) filters its iterable, skips an iteration, stops early or appends under a
condition — every page / sheet / slide the container lists reaches the result -/
theorem unit_loops_skip_nothing_unaccounted :
    ∀ f ∈ S2T.Gen.UnitsWalk.loopFilters, f ∈ allowedLoopFilters := by decide

variable {U : Type}

/-- cursors of the walks: walk `w` has received `cur w` units so far -/
abbrev Cursors := Nat → Nat

def bump (cur : Cursors) (w : Nat) : Cursors := fun v => if v = w then cur v + 1 else cur v

/-- a schedule is a list of `next(walk w)` calls; the trace records what each call returned (`none` = StopIteration) -/
def run (us : List U) : Cursors → List Nat → List (Nat × Option U)
  | _, [] => []
  | cur, w :: ws => (w, us[cur w]?) :: run us (bump cur w) ws

/-- what walk `w` received, in order -/
def received (w : Nat) (tr : List (Nat × Option U)) : List (Option U) :=
  tr.filterMap (fun p => if p.1 = w then some p.2 else none)

/-- whatever the schedule — other walks started, abandoned or running in between — walk `w` receives the units from
its own position on, one per call -/
theorem walk_schedule_independent (us : List U) (w : Nat) (sched : List Nat) (cur : Cursors) :
    received w (run us cur sched) = (List.range (sched.count w)).map (fun i => us[cur w + i]?) := by
  induction sched generalizing cur with
  | nil => simp [run, received]
  | cons v vs ih =>
    by_cases h : v = w
    · subst h
      have := ih (bump cur v)
      simp only [received] at this ⊢
      simp only [run, List.filterMap_cons, if_true, List.count_cons_self]
      rw [this, List.range_succ_eq_map]
      simp [bump, Nat.add_assoc, Nat.add_comm 1]
    · have := ih (bump cur v)
      simp only [received] at this ⊢
      simp only [run, List.filterMap_cons, h, if_false]
      rw [this]
      have hc : (v :: vs).count w = vs.count w := by simp [h]
      have hb : bump cur v w = cur w := by simp [bump, Ne.symm h]
      rw [hc, hb]

/-- a fresh walk that is called `us.length` times receives exactly the units, in order, whatever else ran -/
theorem complete_walk_yields_all (us : List U) (w : Nat) (sched : List Nat) (cur : Cursors)
    (hfresh : cur w = 0) (hn : sched.count w = us.length) :
    received w (run us cur sched) = us.map some := by
  rw [walk_schedule_independent, hfresh, hn]
  apply List.ext_getElem?
  intro i
  by_cases hi : i < us.length <;> simp [hi]

/-- the hypotheses are satisfiable: peek at the first unit with walk 7, abandon it, then walk 1 completely -/
example : received 1 (run ["A", "B", "C"] (fun _ => 0) [7, 1, 1, 1]) = ["A", "B", "C"].map some := by decide

/-- a result that memoises its units in a per-object list: the first walk publishes the (empty) list and appends to
it as it goes; every later walk replays the list as it is. `memo = none`: nothing published yet. A walk is a builder
(`true`) or a replayer. -/
structure MemoSt where
  memo : Option Nat            -- number of units published so far
  kind : Nat → Option Bool     -- none: walk not started
  cur : Nat → Nat

def memoStep (n : Nat) (s : MemoSt) (w : Nat) : MemoSt × Option Nat :=
  let k : Bool := match s.kind w with
    | some b => b
    | none => s.memo.isNone          -- started now: builder iff nothing is published yet
  let memo0 := match s.memo with | none => 0 | some m => m
  let kind' := fun v => if v = w then some k else s.kind v
  let i := s.cur w
  if k then
    if i < n then ({ memo := some (memo0 + 1), kind := kind', cur := bump s.cur w }, some i)
    else ({ memo := some memo0, kind := kind', cur := s.cur }, none)
  else
    if i < memo0 then ({ memo := some memo0, kind := kind', cur := bump s.cur w }, some i)
    else ({ memo := some memo0, kind := kind', cur := s.cur }, none)

def memoRun (n : Nat) : MemoSt → List Nat → List (Nat × Option Nat)
  | _, [] => []
  | s, w :: ws => let r := memoStep n s w; (w, r.2) :: memoRun n r.1 ws

def memoInit : MemoSt := { memo := none, kind := fun _ => none, cur := fun _ => 0 }

/-- three sheets; walk 7 peeks at the first unit and is abandoned; the complete walk 1 that follows ends after ONE
unit — with the stateless result it receives all three (`complete_walk_yields_all`) -/
theorem lazy_memo_partial_walk_counterexample :
    received 1 (memoRun 3 memoInit [7, 1, 1, 1, 1]) = [some 0, none, none, none]
    ∧ received 1 (run [0, 1, 2] (fun _ => 0) [7, 1, 1, 1, 1]) = [some 0, some 1, some 2, none] := by decide

/-- two walks at the same time: the inner walk (2), started after the outer (1) took one unit and run to its end,
sees one unit only -/
theorem lazy_memo_interleaved_counterexample :
    received 2 (memoRun 3 memoInit [1, 2, 2, 1, 1, 1]) = [some 0, none] := by decide

end S2T.C03.Walk
