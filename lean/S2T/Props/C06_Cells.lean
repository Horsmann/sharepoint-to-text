import S2T.Lemmas.History
import S2T.Model.Exhaust
import S2T.Model.CellKinds
import S2T.Spec.C06Cells
import S2T.Gen.ModCells
import S2T.Gen.ValueKinds
/-!
# C06 (cells) — process-global state that is not a container, and third-party values that become output

(1) A module-level ONE-SHOT ITERATOR scanned by every extraction: a fresh process is right (`scan_fresh`), but after
ANY earlier extraction the first entry is gone (`exhaustible_first_entry_lost`), and after an extraction that
matched nothing everything is (`exhaustible_miss_blinds`) — history dependence for every table, every predicate,
every pair of documents of that shape.  The same loop over a re-iterable table is history free
(`const_table_history_free`).  Decided on the current source: every module- / class-level value, default value and
element of a module-level container that is not immutable by construction is a reviewed one (`stateful_cells_reviewed`),
none of them an iterator, a stream, a random generator or an instance with writable fields.

(2) A value handed out by a third-party reader and rendered through a generic `str()` fallback: rendering is a
function of the content iff the kind is rendered by content (`render_address_free`, `identity_fallback_address_dependent`);
decided on the current source and the installed reader: every kind of value every reader call site hands out under
the flags written at that site is rendered by content (`reader_values_by_content`).
-/
namespace S2T.C06Cells
open S2T.History S2T.Exhaust S2T.CellKinds S2T.Spec.C06Cells

/-- in a fresh process the iterator still is the whole table: the loop finds what the `if / elif` chain finds -/
theorem scan_fresh {κ ν δ} (p : δ → κ → Bool) (tbl : List (κ × ν)) (d : δ) : (scan p tbl d).1 = sniff p tbl d := by
  induction tbl with
  | nil => rfl
  | cons e es ih => simp only [scan, sniff]; split <;> simp_all

theorem scan_suffix {κ ν δ} (p : δ → κ → Bool) (e : κ × ν) (es : List (κ × ν)) (d : δ) :
    (scan p (e :: es) d).2 <:+ es := by
  induction es generalizing e with
  | nil => rw [scan]; split <;> exact List.suffix_refl _
  | cons e' es ih =>
    rw [scan]; split
    · exact List.suffix_refl _
    · exact (ih e').trans (List.suffix_cons e' es)

theorem sniff_none {κ ν δ} (p : δ → κ → Bool) (s : List (κ × ν)) (d : δ) (h : ∀ x ∈ s, p d x.1 = false) :
    sniff p s d = none := by
  induction s with
  | nil => rfl
  | cons e es ih =>
    simp only [sniff, h e List.mem_cons_self]
    exact ih (fun x hx => h x (List.mem_cons_of_mem _ hx))

theorem scan_miss_empties {κ ν δ} (p : δ → κ → Bool) (tbl : List (κ × ν)) (d : δ) (h : sniff p tbl d = none) :
    (scan p tbl d).2 = [] := by
  induction tbl with
  | nil => rfl
  | cons e es ih =>
    simp only [sniff] at h
    simp only [scan]
    split at h
    · cases h
    · simp_all

/-- **C06 (history, exhaustible table)**: after ANY earlier extraction `a`, a document that matches only the FIRST
    entry of the table is no longer recognised — whatever the table, the predicate and `a` are -/
theorem exhaustible_first_entry_lost {κ ν δ} (p : δ → κ → Bool) (e : κ × ν) (es : List (κ × ν)) (a b : δ)
    (hb : p b e.1 = true) (hes : ∀ x ∈ es, p b x.1 = false) :
    (scan p (after (scan p) (e :: es) [a]) b).1 = none ∧ (scan p (e :: es) b).1 = some e.2 := by
  constructor
  · rw [scan_fresh]
    apply sniff_none
    intro x hx
    apply hes
    exact (scan_suffix p e es a).subset hx
  · simp [scan, hb]

/-- … and after an extraction that matched nothing (a document without any mark), EVERY later document is treated
    as if the table were empty, although a fresh process recognises it -/
theorem exhaustible_miss_blinds {κ ν δ} (p : δ → κ → Bool) (tbl : List (κ × ν)) (a b : δ) (v : ν)
    (ha : sniff p tbl a = none) (hb : sniff p tbl b = some v) :
    (scan p (after (scan p) tbl [a]) b).1 ≠ (scan p tbl b).1 := by
  simp only [after, scan_miss_empties p tbl a ha, scan_fresh, hb]
  simp [sniff]

/-- the same loop over a re-iterable table (tuple, list, dict, `if / elif` chain) is history free -/
theorem const_table_history_free {κ ν δ} (p : δ → κ → Bool) (tbl : List (κ × ν)) (hist : List δ) (d : δ) :
    (runConst p (after (runConst p) tbl hist) d).1 = sniff p tbl d :=
  congrArg (sniff p · d) (after_frame (runConst p) (fun _ _ => rfl) tbl hist)

/-- **C06 (no hidden cells), decided on the current source**: every value bound at module / class level, stored in a
    module-level container or used as a default value that is not immutable by construction (and not a builtin
    container, which `module_state_sealed` covers) is a reviewed one -/
theorem stateful_cells_reviewed :
    S2T.Gen.ModCells.statefulCells.all (fun c => reviewedStatefulCells.contains (c.1, c.2.1, c.2.2.2)) = true := by decide +kernel

/-- … in particular nothing an extraction could exhaust, move or reseed -/
theorem no_exhaustible_cells :
    S2T.Gen.ModCells.statefulCells.all (fun c => c.2.2.2 == "lock") = true := by decide +kernel

theorem modcells_translation_clean : S2T.Gen.ModCells.notes = [] := by decide

theorem render_address_free (k : Kind) (h : k.byContent = true) (c a a' : Nat) : render k c a = render k c a' := by
  simp [render, h]

/-- the generic `str()` fallback on a class without `__str__` shows the address: two runs differ -/
theorem identity_fallback_address_dependent (k : Kind) (h : k.byContent = false) (c a a' : Nat) (ha : a ≠ a') :
    render k c a ≠ render k c a' := by
  simp [render, h, ha]

/-- **C06 (reader values), decided on the current source and the installed readers**: every kind of value a reader call
    site hands out under the flags written at that site is rendered by content -/
theorem reader_values_by_content : S2T.Gen.ValueKinds.sites.all Site.ok = true := by decide +kernel

/-- hence: for every inventoried site and every kind it hands out, the rendering does not depend on the address -/
theorem reader_values_address_free (s : Site) (hs : s ∈ S2T.Gen.ValueKinds.sites) (k : Kind) (hk : k ∈ s.kinds)
    (c a a' : Nat) : render k c a = render k c a' := by
  have h := List.all_eq_true.mp reader_values_by_content s hs
  exact render_address_free k (List.all_eq_true.mp h k hk) c a a'

theorem valuekinds_translation_clean : S2T.Gen.ValueKinds.notes = [] := by decide

/-- the BOM table of `read_html`: a document without a mark, then a UTF-16 document -/
example : (scan (fun (d : List Nat) (k : List Nat) => k.isPrefixOf d) (after (scan (fun d k => k.isPrefixOf d))
    [([239, 187, 191], 8), ([255, 254], 16), ([254, 255], 17)] [[60, 104]]) [255, 254, 60, 0]).1 = none
  ∧ (scan (fun (d : List Nat) (k : List Nat) => k.isPrefixOf d) [([239, 187, 191], 8), ([255, 254], 16), ([254, 255], 17)] [255, 254, 60, 0]).1 = some 16 := by decide
example : render ⟨"ArrayFormula", false⟩ 5 1000 ≠ render ⟨"ArrayFormula", false⟩ 5 2000 := by decide
example : S2T.Gen.ValueKinds.sites.length ≥ 1 ∧ (S2T.Gen.ValueKinds.sites.map (·.kinds.length)).all (· ≥ 5) = true := by decide

end S2T.C06Cells
