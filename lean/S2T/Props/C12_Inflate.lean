import S2T.Model.Inflate
import S2T.Gen.C12Sites
/-!
# C12 — compressed streams that understate themselves; closed-world inventory of the places where packed data expands

"archive members above the per-member limit are skipped without being decompressed into memory": the member loops of
ZIP / TAR / 7z (Props/C12_Limits, Props/C12_Archive) are bounded because each tests a size that the CONTAINER guarantees
(zipfile / tarfile deliver at most the declared size of an entry; the 7z decoder gets max_output).  A compressed STREAM
has no such guarantee: the only size a gzip file states about itself is ISIZE of its LAST member, mod 2^32.

* `trailer_guard_unbounded`: a site that trusts the trailer and then inflates in one go is unbounded — for every limit and
  every K there is a stream that passes the guard and expands to more than K bytes (two members: K + 1 bytes, then 0 bytes);
  `trailer_guard_wraps`: even a SINGLE member does it (2^32 + n bytes state n).
* `bounded_read_within_limit` / `bounded_read_exact`: reading at most limit + 1 bytes holds at most limit + 1 bytes for every
  stream and hands on exactly the streams that expand to at most the limit.
* `gen_inflate_sites_closed`: in the CURRENT archive_extractor.py every call that opens a container is one of the three
  modelled ones (+ the read-back of a 7z member from the temp directory), no module-level one-shot decompress function is
  called, and every yield without an explicit bound is one of the two modelled ones (tar extractfile().read() — bounded by
  the header size the loop tested, `S2T.C12.Limits`; the 7z read-back — only members within the limit are ever written,
  `S2T.C12.Archive`).  A new way of expanding packed data re-decides this theorem.
-/
namespace S2T.C12.Inflate
open S2T.Inflate S2T.Gen.C12Sites

/-- trusting ISIZE: for every limit and every K a stream passes the guard, is handed on, and expands to more than K bytes -/
theorem trailer_guard_unbounded (limit K : Nat) :
    ∃ s : Stream, handedOn .oneShotTrailerGuard limit s = true ∧ produced .oneShotTrailerGuard limit s > K := by
  refine ⟨[K + 1, 0], ?_, ?_⟩ <;> simp [handedOn, produced, isize, inflated]

/-- … a single member suffices: ISIZE is the size mod 2^32 -/
theorem trailer_guard_wraps (limit n : Nat) (h : n ≤ limit) (hn : n < 2 ^ 32) :
    handedOn .oneShotTrailerGuard limit [2 ^ 32 + n] = true ∧ produced .oneShotTrailerGuard limit [2 ^ 32 + n] = 2 ^ 32 + n := by
  have : (2 ^ 32 + n) % 2 ^ 32 = n := by omega
  simp [handedOn, produced, isize, inflated, this]
  omega
-- the hypotheses `h`, `hn` can be met
example : (5 : Nat) ≤ 10485760 ∧ (5 : Nat) < 2 ^ 32 := by decide

/-- the witness the harness replays: 24 MiB, then 5 bytes, under the default limit of 10 MiB -/
theorem trailer_guard_counterexample :
    isize [25165824, 5] = 5 ∧ handedOn .oneShotTrailerGuard 10485760 [25165824, 5] = true ∧
      produced .oneShotTrailerGuard 10485760 [25165824, 5] = 25165829 := by decide

/-- without any guard everything is produced -/
theorem one_shot_produces_everything (limit : Nat) (s : Stream) : produced .oneShotNoGuard limit s = inflated s := rfl

/-- a bounded read never holds more than limit + 1 bytes, whatever the stream -/
theorem bounded_read_within_limit (limit : Nat) (s : Stream) : produced .boundedRead limit s ≤ limit + 1 := by
  simp [produced]; omega

/-- … and hands on exactly the streams that expand to at most the limit -/
theorem bounded_read_exact (limit : Nat) (s : Stream) :
    handedOn .boundedRead limit s = true ↔ inflated s ≤ limit := by simp [handedOn]

/-- what is handed on by a bounded read was produced in full -/
theorem bounded_read_handed_on_complete (limit : Nat) (s : Stream) (h : handedOn .boundedRead limit s = true) :
    produced .boundedRead limit s = inflated s := by
  simp [handedOn] at h; simp [produced]; omega
-- the hypothesis `h` can be met
example : handedOn .boundedRead 10 [3, 4] = true := by decide

/-- the container openers and unbounded yields that the member-loop theorems cover -/
def modelledOpeners : List String := ["zipfile.ZipFile", "tarfile.open", "SevenZipFile", "open"]
def modelledUnboundedYields : List String := ["tarfile.open().extractfile().read", "open().read"]

def sitesClosed (sites : List (String × String × String × String)) : Bool :=
  sites.all (fun s =>
    (s.2.1 != "open" || modelledOpeners.contains s.2.2.1) &&
    (s.2.1 != "one-shot") &&
    (!siteUnbounded s || modelledUnboundedYields.contains s.2.2.1)) &&
  modelledOpeners.all (fun o => sites.any (fun s => s.2.1 == "open" && s.2.2.1 == o))

/-- closed world on the current source (see the header) -/
theorem gen_inflate_sites_closed : sitesClosed inflateSites = true := by decide +kernel

/-- a tree with one more site — a made-up function that inflates in one shot, guarded by the trailer only — is NOT closed -/
theorem one_shot_site_not_closed :
    sitesClosed (inflateSites ++ [("_extract_from_plain_gzip", "one-shot", "gzip.decompress", "none")]) = false := by decide +kernel

end S2T.C12.Inflate
