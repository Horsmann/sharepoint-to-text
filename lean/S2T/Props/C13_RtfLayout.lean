import S2T.Props.C13_Rtf
/-!
# C13 for RTF — row layouts: what a writer puts behind `\row`

`C13_Rtf` speaks about ONE way of writing a table down (a line end behind every `\row`).  The format allows others:
a control word ends at the next backslash, so compact writers put the next row's `\trowd` directly behind `\row`;
others write a space, CR LF, or wrap every row in a group.  Here every row carries its own separator (`STable`: rows
× what stands behind their `\row`), any text `sepOk` accepts: no backslash (white space, line ends, braces, …), at most
`rawGap` characters, empty or starting with a character that ends a control word.  For every such document the
statements of `C13_Rtf` hold unchanged — in particular the closing `\row` of a row is the first one that ENDS BEHIND
the row's `\trowd`, also when the previous `\row` ends exactly where this `\trowd` starts (`C13_rtf_rows_adjacent`).
-/
namespace S2T.C13.RtfLayout
open S2T.Tables S2T.Tables.Rtf S2T.C13.Rtf
open S2T.HtmlSkip (Str)

/-- a table of the theorems: at least one row, every row at least one cell, plain cells, every separator `sepOk` -/
def stableOk (P : Params) (t : STable) : Bool :=
  !t.isEmpty && t.all (fun r => !r.1.isEmpty && r.1.all plainCell && sepOk P r.2)

def docOkS (P : Params) (lead : List Str) (ts : List (STable × List Str)) : Bool :=
  lead.all plainText && ts.all (fun tp => stableOk P tp.1 && tp.2.all plainText)

theorem of_stableOk {P : Params} {t : STable} (h : stableOk P t = true) : STableOk P t := by
  simp only [stableOk, Bool.and_eq_true, Bool.not_eq_true', List.all_eq_true] at h
  refine ⟨by intro he; subst he; simp at h, fun r hr => ?_, fun r hr => (h.2 r hr).2⟩
  obtain ⟨⟨h1, h2⟩, _⟩ := h.2 r hr
  exact ⟨by intro he; rw [he] at h1; simp at h1, h2⟩

theorem docOkS_parts {P : Params} {lead : List Str} {ts : List (STable × List Str)} (h : docOkS P lead ts = true) :
    (∀ p ∈ lead, plainText p = true) ∧ ∀ tp ∈ ts, STableOk P tp.1 ∧ ∀ p ∈ tp.2, plainText p = true := by
  simp only [docOkS, Bool.and_eq_true, List.all_eq_true] at h
  exact ⟨h.1, fun tp htp => ⟨of_stableOk (h.2 tp htp).1, (h.2 tp htp).2⟩⟩

/-- all the gaps in front of the tables of `gtsOfS g ts` make the row-grouping heuristic start a new table -/
def sepFromS (P : Params) : Str → List (STable × List Str) → Bool
  | _, [] => true
  | g, tp :: rest => breaks P g && sepFromS P (lastSep [] tp.1 ++ parasRtf tp.2) rest

/-- the excluding hypothesis of `C13_Rtf`, with the separator of the last row counted into the text between the tables -/
def SeparatedS (P : Params) : List (STable × List Str) → Bool
  | [] => true
  | tp :: rest => sepFromS P (lastSep [] tp.1 ++ parasRtf tp.2) rest

/-- RTF, every document of plain tables whose rows are separated by ANYTHING `sepOk` accepts (nothing, a space, LF,
    CR LF, braces, …; every row its own separator), any text between the tables: `_extract_tables` returns the tables
    in order, every row and every cell in place, a table glued to its predecessor exactly where the text between them
    is no break for the heuristic — and never a row lost, whatever stands between `\row` and the next `\trowd` -/
theorem C13_rtf_layout_behaviour (P : Params) (hP : paramsOk P = true) (lead : List Str) (ts : List (STable × List Str))
    (hd : docOkS P lead ts = true) :
    extractTables P (docRtfS lead ts) = groupTables P [] (gtsOfS (header ++ parasRtf lead) ts) := by
  obtain ⟨hlead, hts⟩ := docOkS_parts hd
  exact extractTables_docRtfS P hP lead ts hlead hts

theorem allBreak_gtsOfS (P : Params) : ∀ (ts : List (STable × List Str)) (g : Str),
    (gtsOfS g ts).all (fun gt => breaks P gt.1) = sepFromS P g ts
  | [], _ => rfl
  | tp :: rest, g => by simp [gtsOfS, sepFromS, allBreak_gtsOfS P rest]

private theorem tail_gtsOfS (P : Params) (g : Str) : ∀ (ts : List (STable × List Str)),
    (gtsOfS g ts).tail.all (fun gt => breaks P gt.1) = SeparatedS P ts
  | [] => rfl
  | _ :: rest => allBreak_gtsOfS P rest _

/-- RTF, PARTIAL (the open finding `rtf.adjacent-tables-merged` excluded by `SeparatedS`): every table comes back, in
    source order, none lost, merged or invented, every cell in place, short rows filled up as `_save_table` does (r × c for an
    r × c table, `C13_rtf_rect`) — for every row layout -/
theorem C13_rtf_layout_partial (P : Params) (hP : paramsOk P = true) (lead : List Str) (ts : List (STable × List Str))
    (hne : ts ≠ []) (hd : docOkS P lead ts = true) (hs : SeparatedS P ts = true) :
    extractTables P (docRtfS lead ts) = ts.map (fun tp => tableSpec (rowsOfS tp.1)) := by
  obtain ⟨hlead, hts⟩ := docOkS_parts hd
  exact extractTables_separated P hP lead ts hlead hts (by rw [tail_gtsOfS]; exact hs)

/-- … with the patterns, `SPECIAL_CHARS` and the two literals of the current source -/
theorem C13_rtf_layout_gen (lead : List Str) (ts : List (STable × List Str)) (hne : ts ≠ [])
    (hd : docOkS S2T.Gen.TablesRtf.params lead ts = true) (hs : SeparatedS S2T.Gen.TablesRtf.params ts = true) :
    extractTables S2T.Gen.TablesRtf.params (docRtfS lead ts) = ts.map (fun tp => tableSpec (rowsOfS tp.1)) :=
  C13_rtf_layout_partial _ gen_rtf_params_ok lead ts hne hd hs

/-- the hypothesis stays exact for every row layout: as many tables come back as were written iff `SeparatedS` -/
theorem C13_rtf_layout_separated_exact (P : Params) (hP : paramsOk P = true) (lead : List Str)
    (ts : List (STable × List Str)) (hne : ts ≠ []) (hd : docOkS P lead ts = true) :
    (extractTables P (docRtfS lead ts)).length = ts.length ↔ SeparatedS P ts = true := by
  obtain ⟨hlead, hts⟩ := docOkS_parts hd
  rw [extractTables_length_iff P hP lead ts hlead hts, tail_gtsOfS]

/-- the layout of `docRtf` (LF behind every `\row`) is one of the layouts: same text -/
theorem C13_rtf_layout_default (lead : List Str) (ts : List (RTable × List Str)) :
    docRtfS lead (ts.map (fun tp => (withNl tp.1, tp.2))) = docRtf (docOf lead ts) :=
  docRtfS_withNl lead ts

/-- every row followed by the same separator -/
def withSep (sep : Str) (t : RTable) : STable := t.map (fun r => (r, sep))

theorem rowsOfS_withSep (sep : Str) (t : RTable) : rowsOfS (withSep sep t) = t := rowsOfS_map_sep sep t

/-- ONE table whose rows are written DIRECTLY one after the other (`…\cell \row\trowd\cellx…`: the `\row` of a row ends
    exactly where the `\trowd` of the next starts): all r rows come back, every cell in place -/
theorem C13_rtf_rows_adjacent (P : Params) (hP : paramsOk P = true) (lead after : List Str) (t : RTable)
    (hd : docOk lead [(t, after)] = true) :
    extractTables P (docRtfS lead [(withSep [] t, after)]) = [tableSpec t] := by
  simp only [docOk, List.all_cons, List.all_nil, Bool.and_true, Bool.and_eq_true, List.all_eq_true] at hd
  have := extractTables_separated P hP lead [(withSep [] t, after)] hd.1
    (by simpa using ⟨sTableOk_sep P (by simp [sepOk]) (of_tableOk hd.2.1), hd.2.2⟩) rfl
  simpa [rowsOfS_withSep] using this

theorem cellxsL_nil : ∀ (n i : Nat), cellxsL [] i n = cellxs i n := by
  intro n
  induction n with
  | zero => intro i; rfl
  | succ n ih =>
    intro i
    -- one step of `cellxsL` written out, so that `ite_self` fires and the literal `"\\cellx"` stays closed
    show _ ++ _ ++ ((if n = 0 then [] else []) ++ cellxsL [] (i + 1) n) = _
    rw [ite_self, List.nil_append, ih]
    rfl

theorem closeOf_cellStart : closeOf sCellStart = [] := by rfl
theorem closeOf_nil : closeOf ([] : Str) = [] := by rfl

/-- the default layout with another text behind `\row` -/
def dflt (s : Str) : RowLayout := { RowLayout.default with rowEnd := s }

theorem cellRtfL_default (s : Str) (c : RCell) : cellRtfL (dflt s) c = cellRtf c := by
  unfold cellRtfL
  simp only [dflt, RowLayout.default, closeOf_cellStart, closeOf_nil, cellRtf, List.append_nil, List.nil_append]

/-- the default layout with any text behind `\row` is the row of the theorems followed by that text: the documents the
    harness writes through `rowRtfL` with only `row_end` varied ARE the documents of `C13_rtf_layout_partial` -/
theorem C13_rtf_layout_tie (s : Str) (r : RRow) : rowRtfL (dflt s) r = rowRtf r ++ s := by
  have hf : r.flatMap (cellRtfL (dflt s)) = r.flatMap cellRtf := by rw [funext (cellRtfL_default s)]
  -- the six slots by `rfl`, one by one: `simp` with `dflt` would open the literal-valued ones (`sCellStart`, `sPar`) as well
  have h1 : (dflt s).rowOpen = [] := rfl
  have h2 : (dflt s).defsOpen = [] := rfl
  have h3 : (dflt s).cellxSep = [] := rfl
  have h4 : (dflt s).defsClose = [' '] := rfl
  have h5 : (dflt s).rowEnd = s := rfl
  have h6 : (dflt s).beforeRow = [] := rfl
  unfold rowRtfL
  rw [hf, h1, h2, h3, h4, h5, h6, cellxsL_nil, closeOf_nil]
  unfold rowRtf
  simp only [List.nil_append, List.append_nil, List.append_assoc]

theorem C13_rtf_layout_tie_table : ∀ (t : STable), tableRtfL (t.map (fun r => (dflt r.2, r.1))) = tableRtfS t
  | [] => rfl
  | r :: rs => by
    have ih := C13_rtf_layout_tie_table rs
    simp only [tableRtfL, tableRtfS, List.map_cons, List.flatMap_cons] at ih ⊢
    rw [ih, C13_rtf_layout_tie]

private def longPara : Str :=
  "between the tables there is a paragraph that is clearly longer than one hundred and twenty characters, so that the row grouping heuristic sees a break here.".toList

/-- rows separated by nothing, a space, CR LF, a group boundary; the last separator of a table counts into the gap -/
example : docOkS S2T.Gen.TablesRtf.params ["before".toList]
      [([([["a".toList], ["b c".toList, "Ünï €".toList]], []), ([["1".toList], []], " ".toList), ([["x".toList]], "}\r\n{".toList)], [longPara]),
       ([([["x-y".toList]], []), ([["z".toList]], [])], ["after".toList])] = true
    ∧ SeparatedS S2T.Gen.TablesRtf.params
      [([([["a".toList], ["b c".toList, "Ünï €".toList]], []), ([["1".toList], []], " ".toList), ([["x".toList]], "}\r\n{".toList)], [longPara]),
       ([([["x-y".toList]], []), ([["z".toList]], [])], ["after".toList])] = true := by
  -- as in `C13_Rtf`: character lists instead of string literals for the kernel
  unfold longPara
  repeat rw [String.toList_ofList]
  constructor <;> decide +kernel

/-- a 4 × 3 table, rows directly adjacent, on the model with the parameters of the current source: 4 × 3 -/
theorem C13_rtf_adjacent_witness :
    extractTables S2T.Gen.TablesRtf.params (docRtfS ["Intro".toList]
      [(withSep [] [[["Name".toList], ["Qty".toList], ["Price".toList]], [["apple".toList], ["3".toList], ["1.50".toList]],
          [["pear".toList], ["12".toList], ["0.80".toList]], [["plum".toList], ["7".toList], ["2.10".toList]]], ["After".toList])])
      = [[["Name".toList, "Qty".toList, "Price".toList], ["apple".toList, "3".toList, "1.50".toList],
          ["pear".toList, "12".toList, "0.80".toList], ["plum".toList, "7".toList, "2.10".toList]]] :=
  (C13_rtf_rows_adjacent _ gen_rtf_params_ok _ _ _ (by decide +kernel)).trans (by decide +kernel)

end S2T.C13.RtfLayout
