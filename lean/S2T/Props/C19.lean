import S2T.Lemmas.OmmlMain
import S2T.Lemmas.OmmlRuns
import S2T.Gen.Omml
import S2T.Props.C19_Src
import S2T.Props.C19_Hist
import S2T.Lemmas.Chars
/-!
# C19 — OMML → LaTeX conversion is total, order-preserving and balanced

Statement (fixed): *Converting any OMML formula tree terminates without raising and is deterministic;
it emits every run's text (Greek and symbol characters mapped to their commands) exactly once and in
source order, and for trees without literal braces it produces balanced braces.  Each structural
element (fraction, sub/superscript, radical, n-ary operator, delimiter, matrix, function, bar, accent)
is rendered in its documented LaTeX form with its operands in place.*

The model is `S2T.Omml.omml` (file `Model/Omml.lean`; its header says what of an element it reads and how the pending
radicals are kept); `Props/C19_Src.lean` proves it equal to the `omml_to_latex` re-translated from the source on every run.

* Termination / no exception / determinism: `omml` is a total Lean function defined by structural
  recursion on the tree (no `partial`, no fuel).  The raising operations the source keeps (`[-1]`, `pop()`, a dict
  subscript, `partition`) are proved unreachable in `Props/C19_Src.lean` (`omml_to_latex_total`); the tie to the code
  is that translation (`C19_src_balanced`, `C19_src_runs` below) and the correspondence.
* Theorems are generic in the tables (`TablesOk`, decidable) and instantiated at the tables generated
  from the current source, for which the kernel re-decides `TablesOk` on every run.
* Quantifiers: every tree (`Xml`, any depth/width), every tag name, every text.
* Determinism along HISTORIES on one mutable element object (convert, edit in place, convert again) and the generated
  fact that `omml_to_latex.py` keeps no inter-call state: part file `Props/C19_Hist.lean`.
-/
namespace S2T.C19
open S2T.Omml

/-- the table conditions hold for the tables of the current source -/
theorem gen_tables_ok : TablesOk S2T.Gen.Omml.tables = true := by
  decide_chars S2T.Gen.Omml.tables S2T.Gen.Omml.greek S2T.Gen.Omml.skip S2T.Gen.Omml.naryOps S2T.Gen.Omml.funcs S2T.Gen.Omml.accents S2T.Gen.Omml.opens S2T.Gen.Omml.brackets

/-- the translator found every table to be the literal the source shows -/
theorem gen_notes_empty : S2T.Gen.Omml.notes = [] := by decide

/-! ## Documented tables (module docstring): the generated tables contain them -/

def docOps : List (Str × Str) :=
  [(['∑'], "\\sum".toList), (['∏'], "\\prod".toList), (['∫'], "\\int".toList),
   (['∬'], "\\iint".toList), (['∭'], "\\iiint".toList)]
def docFuncs : List Str :=
  ["sin".toList, "cos".toList, "tan".toList, "log".toList, "ln".toList, "lim".toList,
   "exp".toList, "max".toList, "min".toList]
def docAccents : List (Str × Str) :=
  [([Char.ofNat 0x302], "\\hat".toList), ([Char.ofNat 0x303], "\\tilde".toList),
   ([Char.ofNat 0x304], "\\bar".toList), ([Char.ofNat 0x20d7], "\\vec".toList),
   ([Char.ofNat 0x307], "\\dot".toList)]
def docSkip : List Str :=
  ["rPr".toList, "fPr".toList, "radPr".toList, "ctrlPr".toList, "oMathParaPr".toList]
def structuralNames : List Str :=
  [n_t, n_f, n_sSup, n_sSub, n_sSubSup, n_rad, n_nary, n_d, n_m, n_func, n_bar, n_acc,
   n_num, n_den, n_e, n_sub, n_sup, n_deg, n_fName, n_mr]

/-- `\sum \prod \int \iint \iiint`, the nine function names, the five accents are mapped as documented;
    run property elements are skipped; no structural or operand element is skipped -/
theorem gen_documented_tables :
    (docOps.all (fun kv => lookup kv.1 S2T.Gen.Omml.naryOps == some kv.2)
    && docFuncs.all (fun k => lookup k S2T.Gen.Omml.funcs == some ('\\' :: k))
    && docAccents.all (fun kv => lookup kv.1 S2T.Gen.Omml.accents == some kv.2)
    && docSkip.all (fun k => S2T.Gen.Omml.skip.contains k)
    && structuralNames.all (fun k => !S2T.Gen.Omml.skip.contains k)
    && S2T.Gen.Omml.opens == [['('], ['['], ['{']]
    && [['('], ['['], ['{']].map (closerOf S2T.Gen.Omml.tables) == [')', ']', '}']) = true := by
  decide_chars docOps docFuncs docAccents docSkip S2T.Gen.Omml.tables S2T.Gen.Omml.skip S2T.Gen.Omml.naryOps S2T.Gen.Omml.funcs S2T.Gen.Omml.accents S2T.Gen.Omml.opens S2T.Gen.Omml.brackets

/-- every symbol replacement is a backslash command or a single Latin letter, no key is a blank,
    a brace, a bracket or a backslash, and no entry is shadowed (the lookup of its key finds it) -/
theorem gen_symbols_wellformed :
    S2T.Gen.Omml.greek.all (fun kv =>
      (match kv.2 with
        | '\\' :: c :: _ => c.isAlpha
        | [c] => c.isAlpha
        | _ => false)
      && !S2T.Gen.Omml.spaces.contains kv.1.toNat
      && !['{', '}', '(', ')', '[', ']', '\\'].contains kv.1
      && (lookup kv.1 S2T.Gen.Omml.greek == some kv.2)) = true := by
  decide_chars S2T.Gen.Omml.greek

/-- **C19 (balanced), generic.** For every table set with `TablesOk` and every tree whose run texts and
    `m:val` attributes contain no `{`/`}`: in `omml_to_latex(root)` every prefix has at least as many `{`
    as `}` and the totals agree — whatever the nesting, order, multiplicity or namespace of the elements,
    including any number of bracket-only ("malformed") radicals, closed or not. -/
theorem balanced_of_tablesOk {T : Tables} (h : TablesOk T = true) (root : Xml)
    (hnb : noBracesL root.kids = true) : balanced (omml T root) = true :=
  omml_balanced (TOk_of h) root hnb

/-- **C19 (balanced) on the current source.** -/
theorem C19_balanced (root : Xml) (hnb : noBracesL root.kids = true) :
    balanced (omml S2T.Gen.Omml.tables root) = true :=
  balanced_of_tablesOk gen_tables_ok root hnb

/-- every element on its own: `process_element(x)` started with `k` pending radicals reads as balanced
    above depth `k` and ends at the new number of pending radicals -/
theorem C19_balanced_element (x : Xml) (hnb : noBraces x = true) (s : Stack)
    (hs : ∀ c ∈ s, closerOk S2T.Gen.Omml.tables c = true) :
    Bal (proc S2T.Gen.Omml.tables x s).1 s.length (proc S2T.Gen.Omml.tables x s).2.length :=
  (proc_good (TOk_of gen_tables_ok) x hnb s hs).bal

/-- **C19 (runs), generic.** For a schema-ordered tree (`shapeOkL`) without bracket-only radicals
    (`quietL`): the output characters that come from run text are, in output order and blanks aside,
    exactly the converted texts of all `t` elements in document order — nothing lost, nothing twice,
    nothing reordered.  (Blanks: the code strips the degree of a radical and a recognised function name
    and omits an all-blank limit of an n-ary operator.) -/
theorem runs_of_tablesOk {T : Tables} (h : TablesOk T = true) (root : Xml)
    (hs : shapeOkL T root.kids = true) (hq : quietL T root.kids = true) :
    nonWs T (runsOf (ommlOut T root)) = nonWs T (sourceText T root) :=
  omml_runs (TOk_of h) root hs hq

/-- **C19 (runs) on the current source.** -/
theorem C19_runs (root : Xml) (hs : shapeOkL S2T.Gen.Omml.tables root.kids = true)
    (hq : quietL S2T.Gen.Omml.tables root.kids = true) :
    nonWs S2T.Gen.Omml.tables (runsOf (ommlOut S2T.Gen.Omml.tables root))
      = nonWs S2T.Gen.Omml.tables (sourceText S2T.Gen.Omml.tables root) :=
  runs_of_tablesOk gen_tables_ok root hs hq

theorem runsOf_sublist (o : Out) : (runsOf o).Sublist (render o) := by
  unfold runsOf render
  exact (List.filter_sublist).map _

/-- flag-free consequence: the converted runs (blanks aside) occur, in document order, inside the
    returned string -/
theorem C19_runs_sublist (root : Xml) (hs : shapeOkL S2T.Gen.Omml.tables root.kids = true)
    (hq : quietL S2T.Gen.Omml.tables root.kids = true) :
    (nonWs S2T.Gen.Omml.tables (sourceText S2T.Gen.Omml.tables root)).Sublist
      (nonWs S2T.Gen.Omml.tables (omml S2T.Gen.Omml.tables root)) := by
  rw [← C19_runs root hs hq]
  exact (runsOf_sublist _).filter _

/-- with nothing pending, a run is its converted text -/
theorem C19_form_text (m : Bool) (v : Option Str) (t : Str) (ks : List Xml) :
    proc S2T.Gen.Omml.tables (.node m n_t v t ks) [] = (run (convert S2T.Gen.Omml.tables t), []) := by
  rw [proc_kind, kindOf_text (TOk_of gen_tables_ok) n_t _ |>.mpr rfl]
  rfl

/-! ## Documented forms, operands in place
`opndX T n ks` is `process_element(elem.find(M_NS+n))` (`""` when absent); states thread left to right. -/
section forms
open S2T.Gen.Omml

/-- no structural or operand element is skipped: the fifth of the seven conjuncts of `gen_documented_tables` -/
private theorem kindOf_structural {n : Str} (hn : n ∈ structuralNames) (ht : n ≠ n_t) (b : Bool) :
    kindOf tables n b = kindRest n b := by
  have := gen_documented_tables
  simp only [Bool.and_eq_true, List.all_eq_true, Bool.not_eq_true'] at this
  exact kindOf_rest (this.1.1.2 n hn) ht b

variable (m : Bool) (v : Option Str) (t : Str) (ks : List Xml)

/-- `m:f` → `\frac{num}{den}` -/
theorem C19_form_frac (s : Stack) :
    let a := opndX tables n_num ks s
    let b := opndX tables n_den ks a.2
    proc tables (.node m n_f v t ks) s = (lit s_frac ++ a.1 ++ lit s_mid ++ b.1 ++ lit s_close, b.2) := by
  rw [proc_kind, kindOf_structural (by decide) (by decide)]; rfl

/-- `m:sSup` → `base^{sup}` -/
theorem C19_form_sup (s : Stack) :
    let a := opndX tables n_e ks s
    let b := opndX tables n_sup ks a.2
    proc tables (.node m n_sSup v t ks) s = (a.1 ++ lit s_supO ++ b.1 ++ lit s_close, b.2) := by
  rw [proc_kind, kindOf_structural (by decide) (by decide)]; rfl

/-- `m:sSub` → `base_{sub}` -/
theorem C19_form_sub (s : Stack) :
    let a := opndX tables n_e ks s
    let b := opndX tables n_sub ks a.2
    proc tables (.node m n_sSub v t ks) s = (a.1 ++ lit s_subO ++ b.1 ++ lit s_close, b.2) := by
  rw [proc_kind, kindOf_structural (by decide) (by decide)]; rfl

/-- `m:sSubSup` → `base_{sub}^{sup}` -/
theorem C19_form_subsup (s : Stack) :
    let a := opndX tables n_e ks s
    let b := opndX tables n_sub ks a.2
    let c := opndX tables n_sup ks b.2
    proc tables (.node m n_sSubSup v t ks) s
      = (a.1 ++ lit s_subO ++ b.1 ++ lit s_subsup ++ c.1 ++ lit s_close, c.2) := by
  rw [proc_kind, kindOf_structural (by decide) (by decide)]; rfl

/-- `m:rad` whose content is not a lone opening bracket → `\sqrt{e}` / `\sqrt[deg]{e}` (degree stripped) -/
theorem C19_form_rad (s : Stack) :
    let d := opndX tables n_deg ks s
    let c := opndX tables n_e ks d.2
    tables.opens.contains (render (strip tables c.1)) = false →
    proc tables (.node m n_rad v t ks) s = (radHead (strip tables d.1) ++ c.1 ++ lit s_close, c.2) := by
  intro d c hq
  rw [proc_kind, kindOf_structural (by decide) (by decide), show kindRest n_rad _ = .rad from rfl]
  simp only [procKind, tRad]
  rw [if_neg (by simpa using hq)]

/-- `m:rad` whose content is a lone opening bracket → `\sqrt{` / `\sqrt[deg]{`, the closer is pushed -/
theorem C19_form_rad_open (s : Stack) :
    let d := opndX tables n_deg ks s
    let c := opndX tables n_e ks d.2
    tables.opens.contains (render (strip tables c.1)) = true →
    proc tables (.node m n_rad v t ks) s
      = (radHead (strip tables d.1), closerOf tables (render (strip tables c.1)) :: c.2) := by
  intro d c hq
  rw [proc_kind, kindOf_structural (by decide) (by decide), show kindRest n_rad _ = .rad from rfl]
  simp only [procKind, tRad]
  rw [if_pos (by simpa using hq)]
  rfl

theorem radHead_forms (dg : Out) :
    render (radHead dg) = (if dg = [] then s_sqrt else s_sqrtB ++ render dg ++ s_sqrtBmid) :=
  render_radHead dg

/-- `m:nary` → `op_{sub}^{sup} e`; the operator is `m:naryPr/m:chr/@m:val` (default `∑`), blank limits omitted -/
theorem C19_form_nary (s : Stack) :
    let a := opndX tables n_sub ks s
    let b := opndX tables n_sup ks a.2
    let c := opndX tables n_e ks b.2
    proc tables (.node m n_nary v t ks) s
      = (lit (naryOp tables (attrOr d_nary (pathFind n_naryPr n_chr ks))) ++ limit tables s_subO a.1
          ++ limit tables s_supO b.1 ++ lit s_space ++ c.1, c.2) := by
  rw [proc_kind, kindOf_structural (by decide) (by decide)]; rfl

/-- `m:d` → `left e₁, e₂, … right` with `m:dPr/m:begChr`, `m:dPr/m:endChr` (defaults `(`, `)`) -/
theorem C19_form_delim (s : Stack) :
    let r := seqAll ((ks.filter (isTag n_e)).map (proc tables)) s
    proc tables (.node m n_d v t ks) s
      = (lit (attrOr d_beg (pathFind n_dPr n_begChr ks)) ++ joinWith (lit s_comma) r.1
          ++ lit (attrOr d_end (pathFind n_dPr n_endChr ks)), r.2) := by
  rw [proc_kind, kindOf_structural (by decide) (by decide)]; rfl

/-- `m:m` with rows → `\begin{matrix} a & b \\ c & d \end{matrix}` -/
theorem C19_form_matrix (s : Stack) (hmr : (ks.find? (isTag n_mr)).isSome = true) :
    let rows := (ks.filter (isTag n_mr)).map (fun r => (r.kids.filter (isTag n_e)).map (proc tables))
    let r := seqAll (rows.map rowM) s
    proc tables (.node m n_m v t ks) s
      = (lit s_begin ++ joinWith (lit s_rowsep) r.1 ++ lit s_end, r.2) := by
  rw [proc_kind, hmr, kindOf_structural (by decide) (by decide)]; rfl

/-- `m:func` → `\name{e}` for the documented names (name stripped), otherwise `name{e}` -/
theorem C19_form_func (s : Stack) :
    let a := opndX tables n_fName ks s
    let c := opndX tables n_e ks a.2
    proc tables (.node m n_func v t ks) s
      = (funcName tables a.1 ++ lit s_open ++ c.1 ++ lit s_close, c.2) := by
  rw [proc_kind, kindOf_structural (by decide) (by decide)]; rfl

/-- `m:bar` → `\overline{e}` -/
theorem C19_form_bar (s : Stack) :
    let c := opndX tables n_e ks s
    proc tables (.node m n_bar v t ks) s = (lit s_overline ++ c.1 ++ lit s_close, c.2) := by
  rw [proc_kind, kindOf_structural (by decide) (by decide)]; rfl

/-- `m:acc` → `\hat{e}`, `\tilde{e}`, … by `m:accPr/m:chr/@m:val` (unknown or absent: `\hat`) -/
theorem C19_form_acc (s : Stack) :
    let c := opndX tables n_e ks s
    proc tables (.node m n_acc v t ks) s
      = (lit (accentCmd tables (attrOr d_acc (pathFind n_accPr n_chr ks))) ++ lit s_open ++ c.1
          ++ lit s_close, c.2) := by
  rw [proc_kind, kindOf_structural (by decide) (by decide)]; rfl

/-- the rendered name of a function: documented names get a backslash -/
theorem C19_funcName_documented (x : Out) (k : Str) (hk : k ∈ docFuncs)
    (hx : render (strip tables x) = k) : render (funcName tables x) = '\\' :: k := by
  -- the second of the seven conjuncts of `gen_documented_tables`
  have hl : lookup k funcs = some ('\\' :: k) := by
    have := gen_documented_tables
    simp only [Bool.and_eq_true, List.all_eq_true, beq_iff_eq] at this
    exact this.1.1.1.1.1.2 k hk
  rw [render_funcName, hx, show lookup k tables.funcs = _ from hl]
  rfl

end forms

section examples
open S2T.Gen.Omml

def R (s : String) : Xml := .node true "r".toList none [] [.node true "rPr".toList none [] [], .node true n_t none s.toList []]
def E (n : Str) (ks : List Xml) : Xml := .node true n none [] ks

/-- `<m:oMath><m:f><m:fPr/><m:num>aα</m:num><m:den>b</m:den></m:f><m:rad><m:deg> 3 </m:deg><m:e>x</m:e></m:rad></m:oMath>` -/
def ex1 : Xml := E "oMath".toList
  [E n_f [E "fPr".toList [], E n_num [R "aα"], E n_den [R "b"]], E n_rad [E n_deg [R " 3 "], E n_e [R "x"]]]

example : shapeOkL tables ex1.kids = true ∧ quietL tables ex1.kids = true ∧ noBracesL ex1.kids = true := by
  decide_chars ex1 E R tables greek skip naryOps funcs accents opens brackets
example : omml tables ex1 = "\\frac{a\\alpha}{b}\\sqrt[3]{x}".toList := by
  decide_chars ex1 E R tables greek skip naryOps funcs accents opens brackets
example : runsOf (ommlOut tables ex1) = "a\\alphab3x".toList := by
  decide_chars ex1 E R tables greek skip naryOps funcs accents opens brackets

/-- two bracket-only radicals, one closed later, one never: `√( √[ y ] z` -/
def ex2 : Xml := E "oMath".toList [E n_rad [E n_e [R "("]], E n_rad [E n_e [R "["]], R "y] z"]
example : noBracesL ex2.kids = true ∧ quietL tables ex2.kids = false := by
  decide_chars ex2 E R tables greek skip naryOps funcs accents opens brackets
example : omml tables ex2 = "\\sqrt{\\sqrt{y} z}".toList := by
  decide_chars ex2 E R tables greek skip naryOps funcs accents opens brackets

/-- a stack satisfying the hypothesis of `C19_balanced_element` -/
example : ∀ c ∈ [')', ']'], closerOk tables c = true := by
  decide_chars tables greek brackets

/-- `noBraces` is needed: a literal `{` in a run is copied and unbalances the output -/
theorem literal_brace_unbalances :
    balanced (omml tables (E "oMath".toList [R "{"])) = false := by
  decide_chars E R tables greek skip naryOps funcs accents opens brackets

/-- `quiet` is needed: a bracket-only radical swallows its bracket and the matching closer (documented
    malformed-input handling), so those run characters are not emitted -/
theorem bracket_only_radical_swallows :
    let x := E "oMath".toList [E n_rad [E n_e [R "("]], R "y)"]
    shapeOkL tables x.kids = true ∧ runsOf (ommlOut tables x) = "y".toList
      ∧ sourceText tables x = "(y)".toList := by
  decide_chars E R tables greek skip naryOps funcs accents opens brackets

/-- `shapeOk` is needed: operands out of schema order are emitted in template order, and a second
    operand of the same kind is not emitted at all -/
theorem out_of_schema_order_reorders :
    let x := E "oMath".toList [E n_f [E n_den [R "b"], E n_num [R "a"], E n_num [R "c"]]]
    shapeOkL tables x.kids = false ∧ omml tables x = "\\frac{a}{b}".toList
      ∧ sourceText tables x = "bac".toList := by
  decide_chars E R tables greek skip naryOps funcs accents opens brackets

end examples

/-- **the translated source is a function of the tree**: two ElementTree elements with the same abstraction (same
    namespace flags, local names, `m:val`, texts, children — whatever their identity, tails, other attributes) are
    converted to the same string; neither raises -/
theorem C19_function_of_tree (x y : S2T.Py.Omml.Xml)
    (h : S2T.Py.Omml.abs S2T.Gen.PyOmml.M_NS x = S2T.Py.Omml.abs S2T.Gen.PyOmml.M_NS y) :
    S2T.Gen.PyOmml.omml_to_latex (some x) = S2T.Gen.PyOmml.omml_to_latex (some y)
    ∧ ∃ r, S2T.Gen.PyOmml.omml_to_latex (some x) = Except.ok r := by
  rw [S2T.C19.Src.omml_to_latex_eq, S2T.C19.Src.omml_to_latex_eq, h]
  exact ⟨rfl, _, rfl⟩

/-- … and along a history: the translated function applied to any element representing the edited tree gives the
    demanded output -/
theorem C19_history_translated (t : Xml) (steps : List S2T.OmmlHist.Step) (x : S2T.Py.Omml.Xml) (p : List Nat) (sub : Xml)
    (hsub : S2T.OmmlHist.subAt p (steps.foldl (fun t s => match s with | .edit q e => S2T.OmmlHist.editAt q e t | .conv _ => t) t) = some sub)
    (hx : S2T.Py.Omml.abs S2T.Gen.PyOmml.M_NS x = sub) :
    S2T.Gen.PyOmml.omml_to_latex (some x) = pure (omml S2T.Gen.Omml.tables sub) := by
  rw [S2T.C19.Src.omml_to_latex_eq, hx]

/-! ## The translated `omml_to_latex` itself (end to end)

`Props/C19_Src.lean` proves the `omml_to_latex` re-translated from `omml_to_latex.py` on every run equal to the
model's `omml` on every ElementTree element; composed with `C19_balanced` / `C19_runs_sublist`, brace balance
and "every run of the formula reaches the output in order" are statements about the converter **as the source
has it**, for every element tree (`abs` = what the converter can see of it). -/

/-- **C19 at the source level (balanced braces).** -/
theorem C19_src_balanced (x : S2T.Py.Omml.Xml)
    (hnb : noBracesL (S2T.Py.Omml.abs S2T.Gen.PyOmml.M_NS x).kids = true) :
    ∃ r, S2T.Gen.PyOmml.omml_to_latex (some x) = Except.ok r ∧ balanced r = true := by
  refine ⟨_, S2T.C19.Src.omml_to_latex_eq x, ?_⟩
  exact C19_balanced _ hnb

/-- **C19 at the source level (every run of the formula reaches the output, in order).** -/
theorem C19_src_runs (x : S2T.Py.Omml.Xml)
    (hs : shapeOkL S2T.Gen.Omml.tables (S2T.Py.Omml.abs S2T.Gen.PyOmml.M_NS x).kids = true)
    (hq : quietL S2T.Gen.Omml.tables (S2T.Py.Omml.abs S2T.Gen.PyOmml.M_NS x).kids = true) :
    ∃ r, S2T.Gen.PyOmml.omml_to_latex (some x) = Except.ok r ∧
      (nonWs S2T.Gen.Omml.tables (sourceText S2T.Gen.Omml.tables (S2T.Py.Omml.abs S2T.Gen.PyOmml.M_NS x))).Sublist
        (nonWs S2T.Gen.Omml.tables r) := by
  refine ⟨_, S2T.C19.Src.omml_to_latex_eq x, ?_⟩
  exact C19_runs_sublist _ hs hq

/-- `<m:oMath><m:f><m:num><m:r><m:t>a</m:t></m:r></m:num><m:den><m:r><m:t>b</m:t></m:r></m:den></m:f></m:oMath>` -/
def srcFrac : S2T.Py.Omml.Xml :=
  let ns := S2T.Gen.PyOmml.M_NS
  let run (s : String) : S2T.Py.Omml.Xml := ⟨ns ++ "r".toList, [], none, none, [⟨ns ++ "t".toList, [], some s.toList, none, []⟩]⟩
  ⟨ns ++ "oMath".toList, [], none, none,
    [⟨ns ++ "f".toList, [], none, none,
      [⟨ns ++ "num".toList, [], none, none, [run "a"]⟩, ⟨ns ++ "den".toList, [], none, none, [run "b"]⟩]⟩]⟩
example : noBracesL (S2T.Py.Omml.abs S2T.Gen.PyOmml.M_NS srcFrac).kids = true := by
  decide_chars srcFrac S2T.Gen.PyOmml.M_NS
example : shapeOkL S2T.Gen.Omml.tables (S2T.Py.Omml.abs S2T.Gen.PyOmml.M_NS srcFrac).kids = true
    ∧ quietL S2T.Gen.Omml.tables (S2T.Py.Omml.abs S2T.Gen.PyOmml.M_NS srcFrac).kids = true := by
  decide_chars srcFrac S2T.Gen.PyOmml.M_NS S2T.Gen.Omml.tables S2T.Gen.Omml.greek S2T.Gen.Omml.skip S2T.Gen.Omml.naryOps
    S2T.Gen.Omml.funcs S2T.Gen.Omml.accents S2T.Gen.Omml.opens S2T.Gen.Omml.brackets
example : S2T.Gen.PyOmml.omml_to_latex (some srcFrac) = pure "\\frac{a}{b}".toList := by
  rw [S2T.C19.Src.omml_to_latex_eq]
  exact congrArg pure (by
    decide_chars srcFrac S2T.Gen.PyOmml.M_NS S2T.C19.Src.T S2T.Gen.Omml.tables S2T.Gen.Omml.greek S2T.Gen.Omml.skip
      S2T.Gen.Omml.naryOps S2T.Gen.Omml.funcs S2T.Gen.Omml.accents S2T.Gen.Omml.opens S2T.Gen.Omml.brackets)

end S2T.C19
