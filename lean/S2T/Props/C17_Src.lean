import S2T.Lemmas.PyHtml
import S2T.Lemmas.Chars
import S2T.Lemmas.HtmlSkip
import S2T.Gen.PyHtmlTree
import S2T.Gen.PyEpubXhtml
import S2T.Gen.HtmlSkip
/-!
# C17 (source tie) — the translated handler methods of the two parsers ARE the transitions of `S2T.HtmlSkip`

`S2T.Gen.PyHtmlTree` / `S2T.Gen.PyEpubXhtml` are regenerated on every run from the current text of
`html_extractor._HtmlTreeBuilder` and `epub_extractor._XhtmlTextExtractor` (`tools/gen/pyfun_html.py`, construct by
construct): every handler method is a state transformer on a record of the parser's own fields.  `html.parser.HTMLParser`
(text → handler calls) stays the parameter it is in the model.

For EVERY parser state (satisfying the invariant `Inv` where there is one), EVERY argument and EVERY `str.lower`
(`env.lower`, a parameter), each translated handler computes — through the explicit abstraction functions `absE` /
`absT` — exactly the transition of the hand model, gate AND class-specific rest (node tree / text, table and title
collection):

    absE (handle_starttag env s tag attrs) = handleStarttag epubTables (Epub.down epubBlock) (absE s) (env.lower tag) attrs
    Inv s → ∃ s', handle_starttag env s tag attrs = ok s' ∧ Inv s' ∧
                   absT s' = handleStarttag htmlTables (Tree.down htmlVoid) (absT s) (env.lower tag) attrs     … per handler

so every theorem of `Props/C17.lean` about `run T D st evs` is a theorem about code regenerated from the source
(`html_run_eq`, `epub_run_eq`; `html_source_C17` / `epub_source_C17` spell out the main theorem for the translation).

* `_XhtmlTextExtractor`: the record IS the model state (`absE` renames fields); no invariant is needed.  The cell text
  `_normalize_ws(" ".join(cell).strip())` is proved equal to the model's `cellText` (`S2T.Py.Html.cellText_eq`).
* `_HtmlTreeBuilder`: its node dicts are shared between `self.stack`, the parent's `children` list and
  `self.last_closed` and are updated in place, so the translation keeps them in a HEAP (`S2T/Py/Html.lean`) and the
  handlers read and write through addresses.  `absT` (`S2T.Py.Html.absTree`) reads the model's frames and finished nodes
  out of the heap; `Inv` (`S2T.Py.Html.InvAt`) is the object invariant.  The model's invariant-free statement is recovered because
  `__init__` establishes `Inv` and every handler preserves it (each theorem below says so).  No handler can raise:
  `self.stack[-1]` (`IndexError`), the dereferences and the narrowing of `last_closed` never fail under `Inv`.
* `handle_comment` is `pass` (the translation has no result state), `handle_decl` / `handle_pi` / `unknown_decl` are not
  overridden (`C17.gen_overrides_modelled`).

The proofs never mention a local variable of the source, the order of its statements or the form of its conditions:
case analysis on the MODEL's conditions, `simp` with the case hypotheses evaluates the source's `if`s, heap updates are
discharged by the operation lemmas `InvAt.grow` … `InvAt.init` of `S2T/Lemmas/PyHtml.lean`.  The leaves of the EPUB case
analyses (`epub_leaf`) rest on three facts: `setContains` is list membership, `cellText_eq`, and `absE` unfolded, so that
the two records are compared field by field.
-/
-- the leaves of the case analyses hand `simp` every case hypothesis, used on that path or not
set_option linter.unusedSimpArgs false
namespace S2T.C17.Src
open S2T.Py S2T.Py.Html S2T.HtmlSkip S2T.Gen.HtmlSkip

-- `self.stack[-1]` and `self.stack.pop()` on a stack `rs.reverse ++ [t]`, for the `simp` calls below
attribute [local simp] listGetItem_snoc listPop_snoc

/-- the translator understood every construct of the whitelisted methods -/
theorem gen_py_notes_empty : S2T.Gen.PyHtmlTree.notes = [] ∧ S2T.Gen.PyEpubXhtml.notes = [] := by decide

/-- the methods this file ties (a renamed / removed method breaks this) -/
theorem gen_py_translated :
    S2T.Gen.PyHtmlTree.translated =
      ["_HtmlTreeBuilder.__init__", "_HtmlTreeBuilder.handle_starttag", "_HtmlTreeBuilder.handle_endtag",
       "_HtmlTreeBuilder.handle_startendtag", "_HtmlTreeBuilder.handle_data", "_HtmlTreeBuilder.handle_comment",
       "_HtmlTreeBuilder.get_tree"] ∧
    S2T.Gen.PyEpubXhtml.translated =
      ["_XhtmlTextExtractor._normalize_ws", "_XhtmlTextExtractor.__init__", "_XhtmlTextExtractor.handle_starttag",
       "_XhtmlTextExtractor.handle_endtag", "_XhtmlTextExtractor.handle_startendtag",
       "_XhtmlTextExtractor.handle_data"] := ⟨rfl, rfl⟩

/-- every method of the two classes that mentions the gate's fields is translated (closed world, from the generated
    inventory of `tools/gen/htmlskip.py`) -/
theorem gate_methods_translated :
    (∀ m ∈ htmlSkipTouch, ("_HtmlTreeBuilder.".toList ++ m) ∈ S2T.Gen.PyHtmlTree.translated.map String.toList) ∧
    (∀ m ∈ epubSkipTouch, ("_XhtmlTextExtractor.".toList ++ m) ∈ S2T.Gen.PyEpubXhtml.translated.map String.toList) := by
  unfold S2T.Gen.PyHtmlTree.translated S2T.Gen.PyEpubXhtml.translated
  simp only [List.map_cons, List.map_nil]
  decide_chars htmlSkipTouch epubSkipTouch

/-- ABSTRACTION function of `_XhtmlTextExtractor`: the record of the object's fields ↦ the state of the hand model -/
def absE (s : XhtmlExtractor) : St Epub.State :=
  { skipDepth := s.skipDepth, skipTag := s.skipTag,
    down := { textParts := s.textParts, inBlock := s.inBlock, tables := s.tables, currentTable := s.currentTable,
              currentRow := s.currentRow, currentCell := s.currentCell, inTable := s.inTable, inCell := s.inCell,
              title := s.title, inTitle := s.inTitle } }

@[simp] theorem absE_skipDepth (s : XhtmlExtractor) : (absE s).skipDepth = s.skipDepth := rfl
@[simp] theorem absE_skipTag (s : XhtmlExtractor) : (absE s).skipTag = s.skipTag := rfl

section epub
open S2T.Gen.PyEpubXhtml

/-- one leaf of a case analysis on the MODEL's conditions: evaluate the source's `if`s under the case hypotheses
    (whatever their arrangement), then compare the resulting record with the model's -/
local macro "epub_leaf" : tactic => `(tactic| (
  subst_vars
  simp [absE, setContains, cellText_eq, _XhtmlTextExtractor._normalize_ws, Id.run, pure, *]))

/-- `handle_starttag` and `handle_endtag` together: they compare the tag with the same names -/
theorem epub_handle_tags_eq (env : Env) (s : XhtmlExtractor) (tag : S2T.Py.Str) :
    (∀ attrs : Attrs, absE (_XhtmlTextExtractor.handle_starttag env s tag attrs)
      = handleStarttag epubTables (Epub.down epubBlock) (absE s) (env.lower tag) attrs) ∧
    absE (_XhtmlTextExtractor.handle_endtag env s tag)
      = handleEndtag (Epub.down epubBlock) (absE s) (env.lower tag) := by
  unfold _XhtmlTextExtractor.handle_starttag _XhtmlTextExtractor.handle_endtag handleStarttag handleEndtag
  simp only [Id.run, pure, Epub.down, Epub.start, Epub.end_, epubTables]
  generalize env.lower tag = t
  -- the tag names the two sides compare with become opaque constants (no literal is ever normalised differently in a
  -- hypothesis and in the goal)
  generalize "title".toList = kTitle
  generalize "table".toList = kTable
  generalize "tr".toList = kTr
  generalize "td".toList = kTd
  generalize "th".toList = kTh
  generalize "br".toList = kBr
  refine ⟨fun attrs => ?_, ?_⟩
  · by_cases h1 : 0 < s.skipDepth
    · by_cases h2 : some t = s.skipTag <;> epub_leaf
    by_cases h3 : t ∈ epubRemove
    · by_cases h4 : t ∈ epubVoid <;> epub_leaf
    by_cases h5 : t = kTitle
    · epub_leaf
    by_cases h6 : t = kTable
    · epub_leaf
    by_cases h7 : s.inTable = true
    · by_cases h8 : t = kTr <;> by_cases h9 : t = kTd ∨ t = kTh <;>
        by_cases h10 : t ∈ epubBlock <;> by_cases h11 : t = kBr <;> epub_leaf
    · by_cases h10 : t ∈ epubBlock <;> by_cases h11 : t = kBr <;> epub_leaf
  · by_cases h1 : 0 < s.skipDepth
    · by_cases h2 : some t = s.skipTag <;> by_cases h2' : s.skipDepth - 1 = 0 <;> epub_leaf
    by_cases h5 : t = kTitle
    · epub_leaf
    by_cases h6 : t = kTable
    · by_cases h6' : s.currentTable = [] <;> epub_leaf
    by_cases h7 : s.inTable = true
    · by_cases h8 : t = kTr <;> by_cases h8' : s.currentRow = [] <;>
        by_cases h9 : t = kTd ∨ t = kTh <;> by_cases h10 : t ∈ epubBlock <;> epub_leaf
    · by_cases h10 : t ∈ epubBlock <;> epub_leaf

theorem epub_handle_starttag_eq (env : Env) (s : XhtmlExtractor) (tag : S2T.Py.Str) (attrs : Attrs) :
    absE (_XhtmlTextExtractor.handle_starttag env s tag attrs)
      = handleStarttag epubTables (Epub.down epubBlock) (absE s) (env.lower tag) attrs :=
  (epub_handle_tags_eq env s tag).1 attrs

theorem epub_handle_endtag_eq (env : Env) (s : XhtmlExtractor) (tag : S2T.Py.Str) :
    absE (_XhtmlTextExtractor.handle_endtag env s tag)
      = handleEndtag (Epub.down epubBlock) (absE s) (env.lower tag) :=
  (epub_handle_tags_eq env s tag).2

theorem epub_handle_data_eq (s : XhtmlExtractor) (data : S2T.Py.Str) :
    absE (_XhtmlTextExtractor.handle_data s data) = handleData (Epub.down epubBlock) (absE s) data := by
  unfold _XhtmlTextExtractor.handle_data handleData
  simp only [Id.run, pure, Epub.down, Epub.data]
  by_cases h1 : 0 < s.skipDepth
  · epub_leaf
  by_cases h2 : s.inTitle = true
  · epub_leaf
  by_cases h3 : s.inCell = true <;> epub_leaf

theorem epub_handle_startendtag_eq (env : Env) (s : XhtmlExtractor) (tag : S2T.Py.Str) (attrs : Attrs) :
    absE (_XhtmlTextExtractor.handle_startendtag env s tag attrs)
      = handleStartendtag epubTables (Epub.down epubBlock) (absE s) (env.lower tag) attrs := by
  unfold _XhtmlTextExtractor.handle_startendtag handleStartendtag
  simp only [Id.run, pure]
  by_cases h1 : 0 < s.skipDepth
  · simp [setContains, h1, epubTables]
  by_cases h2 : env.lower tag ∈ epubRemove
  · simp [setContains, h1, h2, epubTables]
  · simp [setContains, h1, h2, epubTables, epub_handle_endtag_eq, epub_handle_starttag_eq]

theorem epub_init_eq (s : XhtmlExtractor) : absE (_XhtmlTextExtractor.__init__ s) = init Epub.initState := by
  simp [_XhtmlTextExtractor.__init__, Id.run, pure, absE, init, Epub.initState]

end epub

section html
open S2T.Gen.PyHtmlTree

theorem html_handle_data_eq (s : TreeBuilder) (data : S2T.Py.Str) (hI : Inv s) :
    ∃ s', _HtmlTreeBuilder.handle_data s data = Except.ok s' ∧ Inv s' ∧
      absT s' = handleData (Tree.down htmlVoid) (absT s) data := by
  obtain ⟨t, rs, hA⟩ := hI
  obtain ⟨o, ho⟩ := hA.top_alloc
  have hstk := hA.stack
  unfold _HtmlTreeBuilder.handle_data
  by_cases h1 : 0 < s.skipDepth
  · simp [h1]
    exact ⟨⟨t, rs, hA⟩, by simp [handleData, h1]⟩
  cases hlc : s.lastClosed with
  | some l =>
    obtain ⟨ol, hol⟩ := hA.last_alloc hlc
    simp [h1, hlc, hol]
    -- `(by rfl)`: as a term, `rfl` would be elaborated before the new object `s'` is known from the goal
    refine square_of (hA.data_last hlc hol rfl (by simp [hstk]) (by simp [hlc]) (by rfl)) ?_
    simp [handleData, Tree.down, h1]
  | none =>
    simp [h1, hlc, hstk, ho]
    refine square_of (hA.data_top hlc ho rfl (by simp [hstk]) (by simp [hlc]) (by rfl)) ?_
    simp [handleData, Tree.down, h1]

theorem html_handle_endtag_eq (env : Env) (s : TreeBuilder) (tag : S2T.Py.Str) (hI : Inv s) :
    ∃ s', _HtmlTreeBuilder.handle_endtag env s tag = Except.ok s' ∧ Inv s' ∧
      absT s' = handleEndtag (Tree.down htmlVoid) (absT s) (env.lower tag) := by
  obtain ⟨t, rs, hA⟩ := hI
  obtain ⟨o, ho⟩ := hA.top_alloc
  have hstk := hA.stack
  unfold _HtmlTreeBuilder.handle_endtag
  simp only []  -- beta / zeta only: the `let mut` bindings of the translation
  generalize env.lower tag = tg
  by_cases h1 : 0 < s.skipDepth
  · by_cases h2 : some tg = s.skipTag <;> by_cases h3 : s.skipDepth - 1 = 0 <;>
    · simp [h1, h2, h3]
      refine square_of (hA.grow (by simp) rfl rfl (by rfl)) ?_
      simp [handleEndtag, h1, h2, h3, absT]
  by_cases h4 : rs = []
  · subst h4
    simp [h1, hstk, len]
    refine square_of (hA.grow (by simp) rfl rfl (by rfl)) ?_
    simp [handleEndtag, Tree.down, h1, hA.end_nil, absT]
  by_cases h5 : o.tag = tg
  · simp [h1, hstk, h4, ho, h5]
    obtain ⟨p, rs', rfl⟩ := List.exists_cons_of_ne_nil h4
    refine square_of (hA.pop ho rfl (by simp) (by simp) (by rfl)) ?_
    simp [handleEndtag, Tree.down, h1, h5]
  · simp [h1, hstk, h4, ho, h5]
    refine square_of (hA.grow (by simp) rfl rfl (by rfl)) ?_
    simp [handleEndtag, Tree.down, h1, hA.end_ne ho h5, absT]

theorem html_handle_starttag_eq (env : Env) (s : TreeBuilder) (tag : S2T.Py.Str) (attrs : Attrs) (hI : Inv s) :
    ∃ s', _HtmlTreeBuilder.handle_starttag env s tag attrs = Except.ok s' ∧ Inv s' ∧
      absT s' = handleStarttag htmlTables (Tree.down htmlVoid) (absT s) (env.lower tag) attrs := by
  obtain ⟨t, rs, hA⟩ := hI
  obtain ⟨o, ho⟩ := hA.top_alloc
  have hstk := hA.stack
  unfold _HtmlTreeBuilder.handle_starttag
  simp only []  -- as in `html_handle_endtag_eq`
  generalize env.lower tag = tg
  rw [mapM_unwrap_filter _ _ (by intros; rfl) (by intros; rfl)]
  simp only [M.ok_bind, dictOfPairs_filterMap]
  by_cases h1 : 0 < s.skipDepth
  · by_cases h2 : some tg = s.skipTag <;>
    · simp [h1, h2]
      refine square_of (hA.grow (by simp) rfl rfl (by rfl)) ?_
      simp [handleStarttag, h1, h2, absT]
  by_cases h3 : tg ∈ htmlRemove
  · by_cases h4 : tg ∈ htmlVoid <;>
    · simp [h1, h3, h4, setContains]
      refine square_of (hA.grow (by simp) rfl rfl (by rfl)) ?_
      simp [handleStarttag, htmlTables, h1, h3, h4, absT]
  by_cases h5 : tg ∈ htmlVoid
  · simp [h1, h3, h5, setContains, hstk, getElem?_append_of_some ho]
    refine square_of (hA.push_void ho rfl rfl rfl rfl (by rfl) (by simp [hstk]) (by simp)) ?_
    simp [handleStarttag, htmlTables, Tree.down, Tree.start, h1, h3, h5, absT]
  · simp [h1, h3, h5, setContains, hstk, getElem?_append_of_some ho]
    refine square_of (hA.push_open ho rfl rfl rfl rfl (by rfl) (by simp [hstk]) (by simp)) ?_
    simp [handleStarttag, htmlTables, Tree.down, Tree.start, h1, h3, h5, absT]

theorem html_handle_startendtag_eq (env : Env) (s : TreeBuilder) (tag : S2T.Py.Str) (attrs : Attrs) (hI : Inv s) :
    ∃ s', _HtmlTreeBuilder.handle_startendtag env s tag attrs = Except.ok s' ∧ Inv s' ∧
      absT s' = handleStartendtag htmlTables (Tree.down htmlVoid) (absT s) (env.lower tag) attrs := by
  unfold _HtmlTreeBuilder.handle_startendtag handleStartendtag
  by_cases h1 : 0 < s.skipDepth
  · simp [h1]; exact hI
  by_cases h2 : env.lower tag ∈ htmlRemove
  · simp [h1, h2, setContains, htmlTables]; exact hI
  obtain ⟨s1, e1, hI1, a1⟩ := html_handle_starttag_eq env s tag attrs hI
  obtain ⟨s2, e2, hI2, a2⟩ := html_handle_endtag_eq env s1 tag hI1
  simp [h1, h2, setContains, htmlTables, e1, e2]
  exact ⟨hI2, by rw [a2, a1]; rfl⟩

/-- OUTSIDE the invariant (a stack that has been emptied — no handler does that): a start tag that passes the gate
    raises the `IndexError` of `self.stack[-1]`, as the source does; the model has no such state. -/
theorem html_handle_starttag_outside (env : Env) (s : TreeBuilder) (tag : S2T.Py.Str) (attrs : Attrs)
    (h0 : s.stack = []) (h1 : ¬ 0 < s.skipDepth) (h3 : env.lower tag ∉ htmlRemove) :
    _HtmlTreeBuilder.handle_starttag env s tag attrs = Except.error pIndexError := by
  unfold _HtmlTreeBuilder.handle_starttag
  simp only []  -- as in `html_handle_endtag_eq`
  rw [mapM_unwrap_filter _ _ (by intros; rfl) (by intros; rfl)]
  simp [h0, h1, h3, setContains, listGetItem]

/-- `handle_comment` is `pass`: it returns `None` and, having no access to the object other than reading, leaves it
    as it is (the translation has no result state at all) — the model's `.comment _ => st` -/
theorem html_handle_comment_eq (s : TreeBuilder) (data : S2T.Py.Str) :
    _HtmlTreeBuilder.handle_comment s data = () := rfl

theorem html_init_eq (s : TreeBuilder) :
    Inv (_HtmlTreeBuilder.__init__ s) ∧ absT (_HtmlTreeBuilder.__init__ s) = init Tree.initState := by
  unfold _HtmlTreeBuilder.__init__
  simp [Id.run, pure]
  refine square_of (InvAt.init (h0 := s.heap) rfl rfl rfl (by rfl)) ?_
  simp [init]

/-- `get_tree()` returns `self.root`; under the invariant the tree at that address is the model's `Tree.getTree` — what
    `_HtmlTextExtractor` goes on to read is the tree the model builds -/
theorem html_get_tree_eq (s : TreeBuilder) (hI : Inv s) :
    readNode s.heap (_HtmlTreeBuilder.get_tree s) = Tree.getTree (absT s).down := by
  obtain ⟨t, rs, hA⟩ := hI
  simpa [_HtmlTreeBuilder.get_tree, Id.run, pure] using hA.get_tree
end html

/-- HTMLParser lower-cases tag names; the handlers lower-case them again (`tag.lower()`): the model sees the result -/
def lowerEv (env : Env) : Ev → Ev
  | .start t a => .start (env.lower t) a
  | .end_ t => .end_ (env.lower t)
  | .startend t a => .startend (env.lower t) a
  | e => e

open S2T.Gen.PyHtmlTree in
/-- one handler call on a `_HtmlTreeBuilder` (`handle_decl` / `handle_pi` / `unknown_decl`: base class, nothing) -/
def htmlStep (env : Env) (s : TreeBuilder) : Ev → M TreeBuilder
  | .start t a => _HtmlTreeBuilder.handle_starttag env s t a
  | .end_ t => _HtmlTreeBuilder.handle_endtag env s t
  | .startend t a => _HtmlTreeBuilder.handle_startendtag env s t a
  | .data d => _HtmlTreeBuilder.handle_data s d
  | .comment d => let _ := _HtmlTreeBuilder.handle_comment s d; pure s
  | _ => pure s

open S2T.Gen.PyEpubXhtml in
/-- one handler call on a `_XhtmlTextExtractor` (`handle_comment` is not overridden there: it is not in `Gen/HtmlSkip.epubOverrides`) -/
def epubStep (env : Env) (s : XhtmlExtractor) : Ev → XhtmlExtractor
  | .start t a => _XhtmlTextExtractor.handle_starttag env s t a
  | .end_ t => _XhtmlTextExtractor.handle_endtag env s t
  | .startend t a => _XhtmlTextExtractor.handle_startendtag env s t a
  | .data d => _XhtmlTextExtractor.handle_data s d
  | _ => s

theorem html_step_eq (env : Env) (s : TreeBuilder) (e : Ev) (hI : Inv s) :
    ∃ s', htmlStep env s e = Except.ok s' ∧ Inv s' ∧
      absT s' = step htmlTables (Tree.down htmlVoid) (absT s) (lowerEv env e) := by
  cases e with
  | start t a => exact html_handle_starttag_eq env s t a hI
  | end_ t => exact html_handle_endtag_eq env s t hI
  | startend t a => exact html_handle_startendtag_eq env s t a hI
  | data d => exact html_handle_data_eq s d hI
  | comment _ | decl _ | pi _ | unknownDecl _ => exact ⟨s, rfl, hI, rfl⟩

theorem epub_step_eq (env : Env) (s : XhtmlExtractor) (e : Ev) :
    absE (epubStep env s e) = step epubTables (Epub.down epubBlock) (absE s) (lowerEv env e) := by
  cases e with
  | start t a => exact epub_handle_starttag_eq env s t a
  | end_ t => exact epub_handle_endtag_eq env s t
  | startend t a => exact epub_handle_startendtag_eq env s t a
  | data d => exact epub_handle_data_eq s d
  | comment _ | decl _ | pi _ | unknownDecl _ => rfl

/-- the translated handlers of `_HtmlTreeBuilder`, called in the order of ANY event list from ANY state satisfying the
    invariant, never raise, keep the invariant, and compute the model's `run` -/
theorem html_run_eq (env : Env) (evs : List Ev) : ∀ (s : TreeBuilder), Inv s →
    ∃ s', evs.foldlM (htmlStep env) s = Except.ok s' ∧ Inv s' ∧
      absT s' = run htmlTables (Tree.down htmlVoid) (absT s) (evs.map (lowerEv env)) := by
  induction evs with
  | nil => intro s hI; exact ⟨s, rfl, hI, rfl⟩
  | cons e r ih =>
    intro s hI
    obtain ⟨s1, e1, hI1, a1⟩ := html_step_eq env s e hI
    obtain ⟨s2, e2, hI2, a2⟩ := ih s1 hI1
    refine ⟨s2, ?_, hI2, ?_⟩
    · simp [List.foldlM_cons, e1, e2]
    · rw [a2, a1]; rfl

/-- the same for `_XhtmlTextExtractor` (no invariant needed) -/
theorem epub_run_eq (env : Env) (evs : List Ev) : ∀ (s : XhtmlExtractor),
    absE (evs.foldl (epubStep env) s) = run epubTables (Epub.down epubBlock) (absE s) (evs.map (lowerEv env)) := by
  induction evs with
  | nil => intro s; rfl
  | cons e r ih => intro s; rw [List.foldl_cons, ih, epub_step_eq]; rfl

/-- **C17 for the translated `_HtmlTreeBuilder`.**  A fresh object (`__init__` on any record), fed with the handler
    calls of any document of the Spec grammar whose tags are delivered lower-cased, does not raise and holds exactly
    the tree the visible items build. -/
theorem html_source_C17 (env : Env) (s0 : TreeBuilder) (doc : Doc) (hd : DocOk htmlTables doc = true)
    (hlow : (events doc).map (lowerEv env) = events doc) :
    ∃ s', (events doc).foldlM (htmlStep env) (S2T.Gen.PyHtmlTree._HtmlTreeBuilder.__init__ s0) = Except.ok s' ∧
      absT s' = init ((Tree.down htmlVoid).feed Tree.initState (downEvents doc)) := by
  obtain ⟨hI, a0⟩ := html_init_eq s0
  obtain ⟨s', e, _, a⟩ := html_run_eq env (events doc) _ hI
  refine ⟨s', e, ?_⟩
  rw [a, hlow, a0]
  exact run_doc htmlTables (Tree.down htmlVoid) doc (init Tree.initState) hd (clean_init _)

/-- **C17 for the translated `_XhtmlTextExtractor`.** -/
theorem epub_source_C17 (env : Env) (s0 : XhtmlExtractor) (doc : Doc) (hd : DocOk epubTables doc = true)
    (hlow : (events doc).map (lowerEv env) = events doc) :
    absE ((events doc).foldl (epubStep env) (S2T.Gen.PyEpubXhtml._XhtmlTextExtractor.__init__ s0))
      = init ((Epub.down epubBlock).feed Epub.initState (downEvents doc)) := by
  rw [epub_run_eq, hlow, epub_init_eq]
  exact run_doc epubTables (Epub.down epubBlock) doc (init Epub.initState) hd (clean_init _)

/-- the invariant is satisfiable: a fresh object has it, and so has every state reached from it -/
example : Inv (S2T.Gen.PyHtmlTree._HtmlTreeBuilder.__init__ default) := (html_init_eq default).1

/-- `<p>a<img>b</p>` on a fresh object: no exception, and a state with a non-trivial tree (tail text after a void
    element inside a closed element) -/
example (env : Env) : ∃ s', [Ev.start "p".toList [], .data "a".toList, .start "img".toList [], .data "b".toList,
      .end_ "p".toList].foldlM (htmlStep env) (S2T.Gen.PyHtmlTree._HtmlTreeBuilder.__init__ default) = Except.ok s' ∧ Inv s' :=
  let ⟨s', e, hI, _⟩ := html_run_eq env _ _ (html_init_eq default).1
  ⟨s', e, hI⟩

/-- the hypothesis `hlow` holds for a document whose tags `str.lower` leaves alone (here: the identity) -/
example (doc : Doc) : (events doc).map (lowerEv ⟨id, fun _ => (none, none), []⟩) = events doc := by
  have : lowerEv ⟨id, fun _ => (none, none), []⟩ = id := by funext e; cases e <;> rfl
  rw [this, List.map_id]

end S2T.C17.Src
