import S2T.Model.ArchiveChain
import S2T.Gen.C12Consts
import S2T.Props.C12_Limits
/-!
# C12 — archives: duplicate member names, 7z coder chains

"archive members above the per-member limit are skipped without being decompressed into memory or onto disk":

* the member loops of ZIP and TAR test the size of ONE entry and then fetch a payload.  Fetched through the entry's own
  handle, the payload is the tested entry's (`by_handle_within_limit`, `by_handle_total_le_payload`); fetched through
  the entry's NAME it is the payload of the LAST entry of that name — the same thing when names are distinct
  (`by_name_eq_by_handle_of_distinct`: why archives with unique names never show the difference), an oversize member
  otherwise (`by_name_counterexample`).  The translator reads from the current source which of the two the loops do
  (`gen_zip_reads_by_handle`, `gen_tar_reads_by_handle`).
* a 7z folder is decoded by a CHAIN of stages.  If `max_output` reaches every stage, every stage's output is within it
  (`chain_every_stage_bounded`), hence within what the wanted members need (`chain_within_needed`); if it reaches only
  the stage whose output is returned, single-coder folders behave the same (`chain_last_only_single`) and a
  filter <- LZMA2 folder decodes everything (`chain_last_only_counterexample`).  `gen_sz_bound_reaches_every_stage`
  re-decides on every run that the current source hands the bound on unchanged at every site.
-/
namespace S2T.C12.Archive
open S2T.Limits S2T.ArcChain S2T.Bounds S2T.Gen.C12Consts

private theorem loopDelivered_handle (o : Ops) (k : Kind) (limit : Nat) (es : List Entry) :
    loopDelivered o k .handle limit es =
      es.filterMap fun e => if memberSkipped o k limit e.declared then none else some e.delivers := rfl

/-- read through the tested entry's own handle: every byte string read is within the per-member limit -/
theorem by_handle_within_limit (k : Kind) (limit : Nat) (es : List Entry) (h : Faithful es) :
    ∀ n ∈ loopDelivered Ops.documented k .handle limit es, n ≤ limit := by
  intro n hn
  simp only [loopDelivered_handle, memberSkipped_documented, List.mem_filterMap] at hn
  obtain ⟨e, he, hd⟩ := hn
  split at hd
  · cases hd
  · rename_i hs
    cases hd
    exact Nat.le_trans (h e he) (by simpa using hs)
-- the hypothesis `Faithful es` can be met
example : Faithful [⟨0, 5, 5⟩, ⟨0, 11534336, 11534336⟩, ⟨1, 7, 3⟩] := by
  intro e he; simp at he; rcases he with rfl | rfl | rfl <;> simp

/-- … and the bytes read in total never exceed the archive's payload (no entry is read twice) -/
theorem by_handle_total_le_payload (k : Kind) (limit : Nat) (es : List Entry) (h : Faithful es) :
    (loopDelivered Ops.documented k .handle limit es).sum ≤ payload es := by
  rw [loopDelivered_handle, payload]
  exact sum_filterMap_le _ _ es fun e he n hn => by
    split at hn
    · cases hn
    · cases hn
      exact h e he

private theorem find?_unique {p : Entry → Bool} (l : List Entry) (e : Entry) (he : e ∈ l) (hp : p e = true)
    (hu : ∀ x ∈ l, p x = true → x = e) : l.find? p = some e := by
  induction l with
  | nil => simp at he
  | cons a rest ih =>
    by_cases ha : p a = true
    · have := hu a (by simp) ha
      subst this
      simp [List.find?, ha]
    · have hne : a ≠ e := fun h => ha (h ▸ hp)
      have he' : e ∈ rest := List.mem_of_ne_of_mem hne.symm he
      simp only [List.find?, Bool.not_eq_true] at ha ⊢
      rw [ha]
      exact ih he' (fun x hx => hu x (by simp [hx]))

theorem resolveLast_of_distinct (es : List Entry) (h : NamesDistinct es) (e : Entry) (he : e ∈ es) :
    resolveLast es e.name = some e := by
  unfold resolveLast
  apply find?_unique _ e (by simpa using he) (by simp)
  intro x hx hpx
  have hx' : x ∈ es := by simpa using hx
  exact h x hx' e he (by simpa using hpx)

/-- with pairwise distinct names a name resolves to the entry itself, so reading by name and reading by handle are the same loop: archives with unique member names (every archive a
    well-behaved writer produces) cannot tell the two apart -/
theorem by_name_eq_by_handle_of_distinct (o : Ops) (k : Kind) (limit : Nat) (es : List Entry) (h : NamesDistinct es) :
    loopDelivered o k .name limit es = loopDelivered o k .handle limit es := by
  unfold loopDelivered
  suffices H : ∀ l : List Entry, (∀ e ∈ l, e ∈ es) →
      loopDeliveredIn es o k .name limit l = loopDeliveredIn es o k .handle limit l from H es (fun _ h => h)
  intro l hl
  induction l with
  | nil => rfl
  | cons e rest ih =>
    have ih' := ih (fun x hx => hl x (by simp [hx]))
    simp only [loopDeliveredIn, List.filterMap_cons] at *
    rw [resolveLast_of_distinct es h e (hl e (by simp)), ih']
    rfl
-- the hypothesis `NamesDistinct es` can be met
example : NamesDistinct [⟨0, 5, 5⟩, ⟨1, 11534336, 11534336⟩] := by
  intro x hx y hy hn; simp at hx hy; rcases hx with rfl | rfl <;> rcases hy with rfl | rfl <;> simp_all

/-
FULL STATEMENT for a loop that reads by name (false): every byte string read is within the limit.
-/
/-- two entries named alike, the first within the limit, the last 11 MiB: the loop tests the first (5 bytes) and
    inflates the last; the second entry itself is skipped, as it should be -/
theorem by_name_counterexample :
    let es : List Entry := [⟨0, 5, 5⟩, ⟨0, 11534336, 11534336⟩]
    loopDelivered Ops.documented .zip .name maxMemorySize es = [11534336] ∧ 11534336 > maxMemorySize ∧
    loopDelivered Ops.documented .zip .handle maxMemorySize es = [5] ∧ Faithful es := by
  refine ⟨by decide, by decide, by decide, ?_⟩
  intro e he; simp at he; rcases he with rfl | rfl <;> simp

/-- the other order: the in-limit entry comes last — by name it is read once per entry of that name that passes the test
    (here: all three), by handle once; k in-limit entries of one name read the last one k times -/
theorem by_name_multiplied :
    loopDelivered Ops.documented .tar .name 1000 [⟨0, 1, 1⟩, ⟨0, 2, 2⟩, ⟨0, 1000, 1000⟩] = [1000, 1000, 1000] := by decide

/-- the ZIP loop of the current source reads through the ZipInfo it tested -/
theorem gen_zip_reads_by_handle : ReadBy.ofString zipReadBy = .handle ∧ zipReadSites ≠ [] := by decide

/-- the TAR loop of the current source hands the TarInfo it tested to `extractfile` -/
theorem gen_tar_reads_by_handle : ReadBy.ofString tarReadBy = .handle ∧ tarReadSites ≠ [] := by decide

/-- on the operators and read sites of the current source: every ZIP / TAR payload read is within the default limit,
    whatever the names of the entries -/
theorem named_members_within_default_limit (es : List Entry) (h : Faithful es) :
    ∀ o, Ops.ofSites limitSites = some o →
      (∀ n ∈ loopDelivered o .zip (ReadBy.ofString zipReadBy) configMaxMemorySize es, n ≤ 10 * 2 ^ 20) ∧
      (∀ n ∈ loopDelivered o .tar (ReadBy.ofString tarReadBy) configMaxMemorySize es, n ≤ 10 * 2 ^ 20) := by
  intro o ho
  rw [S2T.C12.Limits.gen_ops_documented] at ho
  cases ho
  rw [gen_zip_reads_by_handle.1, gen_tar_reads_by_handle.1]
  have hz := by_handle_within_limit .zip configMaxMemorySize es h
  have ht := by_handle_within_limit .tar configMaxMemorySize es h
  simp only [configMaxMemorySize] at hz ht
  exact ⟨fun n hn => by simpa using hz n hn, fun n hn => by simpa using ht n hn⟩

/-- 7z: members are written to / read back from the temp directory by NAME, but only members that passed the size
    filter are ever written, so whatever a read-back finds under a name is within the limit -/
theorem sevenzip_read_back_within_limit (limit : Nat) (es : List Entry) :
    ∀ n ∈ readBack Ops.documented limit es, n ≤ limit := by
  intro n hn
  simp only [readBack, List.mem_filterMap, Option.map_eq_some_iff] at hn
  obtain ⟨e, _, x, hr, rfl⟩ := hn
  have hx := List.mem_of_find?_eq_some hr
  simp only [List.mem_reverse, List.mem_filter, memberSkipped_documented, Bool.not_eq_true', decide_eq_false_iff_not] at hx
  exact Nat.le_of_not_lt hx.2

private theorem cut_le (m n : Nat) : cut (some m) n ≤ m := by simp [cut]; omega

private theorem chainGo_all_le (m len : Nat) (stages : List Stage) (i inp : Nat) :
    ∀ n ∈ chainGo Policy.all (some m) len i inp stages, n ≤ m := by
  induction stages generalizing i inp with
  | nil => simp [chainGo]
  | cons s rest ih =>
    intro n hn
    simp only [chainGo, Policy.all, ↓reduceIte] at hn
    cases s with
    | decoder real =>
      simp only [stageOut, List.mem_cons] at hn
      rcases hn with rfl | hn
      · exact cut_le _ _
      · exact ih _ _ n hn
    | filter =>
      simp only [stageOut, List.mem_cons] at hn
      rcases hn with rfl | hn
      · exact cut_le _ _
      · exact ih _ _ n hn
    | unsupported => simp [stageOut] at hn

/-- the bound reaches every stage ⇒ EVERY stage's output is within it — for every chain (any length, any mix of
    decoders, filters and unsupported coders), whatever the streams would expand to -/
theorem chain_every_stage_bounded (m : Nat) (stages : List Stage) (packed : Nat) :
    ∀ n ∈ chainOutputs Policy.all (some m) stages packed, n ≤ m :=
  chainGo_all_le m _ stages 0 packed

/-- … with the bound `extractall` computes (`_needed_output`): every stage's output is within the declared sizes of the
    members up to the last WANTED one; a folder without a wanted member is not decoded at all
    (`Limits.sevenzip_fixed_skips_unwanted_folder`) -/
theorem chain_within_needed (f : SzFolder) (m : Nat) (hm : neededOutput f 0 none = some m) (stages : List Stage) (packed : Nat) :
    ∀ n ∈ chainOutputs Policy.all (some m) stages packed, n ≤ m ∧ m ≤ (f.map (·.declared)).sum := by
  intro n hn
  refine ⟨chain_every_stage_bounded m stages packed n hn, ?_⟩
  have := S2T.C12.Limits.neededOutput_le f 0 none (by simp) m hm
  simpa using this
-- the hypothesis `hm` can be met: the last wanted member is the first of the folder
example : neededOutput [⟨23, true⟩, ⟨12582912, false⟩] 0 none = some 23 := by decide

/-- a small wanted member in front of a skipped one: no stage yields more than the small member -/
theorem chain_small_before_skipped (small big : Nat) (stages : List Stage) (packed : Nat) :
    neededOutput [⟨small, true⟩, ⟨big, false⟩] 0 none = some small ∧
    ∀ n ∈ chainOutputs Policy.all (some small) stages packed, n ≤ small := by
  refine ⟨by simp [neededOutput], chain_every_stage_bounded small stages packed⟩

/-- one coder per folder (every archive a default 7-Zip run writes): bounding only the returned stage is the same -/
theorem chain_last_only_single (m : Option Nat) (s : Stage) (packed : Nat) :
    chainOutputs Policy.lastOnly m [s] packed = chainOutputs Policy.all m [s] packed := by
  simp [chainOutputs, chainGo, Policy.lastOnly, Policy.all]

/-
FULL STATEMENT for a source that bounds only the returned stage (false): every stage's output ≤ max_output.
-/
/-- BCJ <- LZMA2 (7-Zip `-mf=BCJ`), note.txt 23 bytes + big.txt 12 MiB, 23 bytes needed: the LZMA2 stage yields the
    whole folder, the filter stage cuts it to 23 — the RESULT is the same, the memory is not -/
theorem chain_last_only_counterexample :
    chainOutputs Policy.lastOnly (some 23) [.decoder 12582935, .filter] 2047 = [12582935, 23] ∧
    chainOutputs Policy.all (some 23) [.decoder 12582935, .filter] 2047 = [23, 23] := by decide

/-- the same through a filter the library refuses (Delta, ARM, …): the decoder stage has run before the refusal -/
theorem chain_last_only_unsupported_counterexample :
    chainOutputs Policy.lastOnly (some 23) [.decoder 12582935, .unsupported] 2047 = [12582935] ∧
    chainOutputs Policy.all (some 23) [.decoder 12582935, .unsupported] 2047 = [23] := by decide

/-- every site the bound passes through in the current source — extractall, the loop over the coders, every return of
    `_apply_decoder`, both lzma calls — hands it on unchanged -/
theorem gen_sz_bound_reaches_every_stage : szStageBoundSites.all (·.2) = true ∧ szStageBoundSites.length ≥ 6 := by decide

/-- on the current source: every stage of every chain is within `max_output` -/
theorem chain_gen_every_stage_bounded (m : Nat) (stages : List Stage) (packed : Nat) :
    ∀ n ∈ chainOutputs (Policy.ofSites szStageBoundSites) (some m) stages packed, n ≤ m := by
  have : Policy.ofSites szStageBoundSites = Policy.all := by
    funext i n; simp [Policy.ofSites, Policy.all, gen_sz_bound_reaches_every_stage.1]
  rw [this]
  exact chain_every_stage_bounded m stages packed

end S2T.C12.Archive
