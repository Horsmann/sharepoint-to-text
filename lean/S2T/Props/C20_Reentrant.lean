import S2T.Lemmas.AesThreads
import S2T.Lemmas.AesKeys
import S2T.Lemmas.AesKatFips
import S2T.Gen.Aes
import S2T.Gen.PyAes
import S2T.Gen.AesState
import S2T.Props.C20_Tables
/-!
# C20 (re-entrancy) — the built-in AES is FIPS-197 AES for every call, also when several threads are inside it

"For every key and block" is a statement about every call of `aes_ecb_* / aes_cbc_* / CryptAES`; the library is used
from thread pools, so calls overlap.  Every C20 theorem reads the block / mode / padding functions as functions of
their parameters (that is what `Gen.PyAes` translates and `Props/C20_Src.lean` proves equal to the model).  That
reading is only legitimate if no function on the way keeps or shares state between calls.  This file

1. decides, on the inventory `Gen.AesState` regenerated from the CURRENT source on every run, that
   * the only writes of module state are those of `_get_round_keys` to `_ROUND_KEY_CACHE`, all under
     `_ROUND_KEY_CACHE_LOCK` (modelled: `C20_cache`, concurrent histories in C15), and the attribute stores of
     `patch_pypdf_fallback_aes` on pypdf's modules (`state_writes_accounted`);
   * everything reachable from the ECB / CBC entry points, the PKCS#7 helpers and the `CryptAES` methods is a function
     translated by `Gen.PyAes` (or `_get_round_keys`, or the two wrapper methods) — `hot_path_is_translated` — and none
     of them writes a cell, lets a cell escape, declares a `global`, has a mutable default argument, mutates a
     parameter it did not get as a fresh object, or mutates a local that may be shared (`hot_path_keeps_no_state`,
     `mutated_parameters_are_fresh`);
2. proves what that buys: ANY number of threads, each running the step program of a block function on its own state,
   under ANY schedule, end with FIPS-197 Cipher / InvCipher of their own key and block (`C20_reentrant`);
3. shows the other reading fails: with one shared scratch state two threads computing FIPS-197 C.1 and C.3 under the
   schedule "A loads and runs up to its first MixColumns, B runs a whole block, A resumes" leave A with a block that
   is not the known answer (`shared_scratch_counterexample`) — the schedule the harness forces on the code
   (`harness/props/c20_threads.py`).
-/
namespace S2T.C20.Reentrant
open S2T.Aes S2T.AesL S2T.AesThreads S2T.AesThreadsL S2T.Spec S2T.Gen.AesState

/-- the extractor of the state inventory met nothing in the source it could not classify -/
theorem gen_state_notes_empty : S2T.Gen.AesState.notes = [] := by decide

/-- the entry points the property statement is about -/
def roots : List String :=
  ["aes_ecb_encrypt", "aes_ecb_decrypt", "aes_cbc_encrypt", "aes_cbc_decrypt", "_pkcs7_pad", "_pkcs7_unpad",
   "patch_pypdf_fallback_aes._cryptaes_encrypt", "patch_pypdf_fallback_aes._cryptaes_decrypt"]

/-- one round of the reachability closure over the call graph -/
def grow (edges : List (String × String)) (s : List String) : List String :=
  edges.foldl (fun acc e => if acc.contains e.1 && !acc.contains e.2 then acc ++ [e.2] else acc) s

/-- the functions reachable from `s` (`n` rounds; `n` = number of edges suffices) -/
def reach (edges : List (String × String)) : Nat → List String → List String
  | 0, s => s
  | n + 1, s => reach edges n (grow edges s)

/-- every function a call of the built-in AES can execute -/
def hot : List String := reach calls calls.length roots

/-- `reach` that stops at the first round which adds nothing: the same list (`reachFix_eq`); the kernel evaluates
    the rounds up to the closure only -/
private def reachFix (edges : List (String × String)) : Nat → List String → List String
  | 0, s => s
  | n + 1, s => if grow edges s = s then s else reachFix edges n (grow edges s)

private theorem reach_closed {edges : List (String × String)} {s : List String} (h : grow edges s = s) :
    ∀ n, reach edges n s = s
  | 0 => rfl
  | n + 1 => by rw [reach, h]; exact reach_closed h n

private theorem reachFix_eq (edges : List (String × String)) : ∀ n s, reachFix edges n s = reach edges n s
  | 0, _ => rfl
  | n + 1, s => by
    rw [reachFix, reach]
    split
    · next h => rw [h, reach_closed h]
    · exact reachFix_eq edges n _

/-- Everything the theorems below say about `hot`, in one declaration: the kernel computes `hot` once. -/
private theorem hot_checks :
    grow calls hot = hot ∧
    hot.all (fun f => S2T.Gen.PyAes.translated.contains f || f == "_get_round_keys" ||
      f == "patch_pypdf_fallback_aes._cryptaes_encrypt" || f == "patch_pypdf_fallback_aes._cryptaes_decrypt") = true ∧
    hot.all (fun f =>
      writes.all (fun w => w.fn != f || f == "_get_round_keys") &&
      escapes.all (fun e => e.1 != f) && globalDecls.all (fun g => g.1 != f) &&
      mutableDefaults.all (fun d => d.1 != f) && unresolvedWrites.all (fun u => u.1 != f)) = true ∧
    (mutatingCalls.all (fun c => !hot.contains c.1 || c.2.2.2 == "fresh") = true ∧
     paramWrites.all (fun p => !hot.contains p.1 ||
      mutatingCalls.any (fun c => c.2.1 == p.1 && c.2.2.1 == p.2.1)) = true) ∧
    (hot.contains "_mix_columns" = true ∧ hot.contains "_get_round_keys" = true ∧ hot.contains "_expand_key" = true ∧
      hot.contains "_aes_decrypt_block" = true ∧ hot.contains "_chunks" = true ∧ 20 ≤ hot.length) := by
  rw [show hot = reachFix calls calls.length roots from (reachFix_eq ..).symm]
  decide +kernel

/-- closure check: one more round adds nothing -/
theorem hot_closed : grow calls hot = hot := hot_checks.1

/-- a write that the model accounts for -/
def WriteOk (w : Write) : Bool :=
  (w.fn == "_get_round_keys" && w.cell == "_ROUND_KEY_CACHE" && w.lock == "_ROUND_KEY_CACHE_LOCK") ||
  (("patch_pypdf_fallback_aes" == w.fn || "patch_pypdf_fallback_aes._cryptaes_init" == w.fn) && w.cell.startsWith "<")

/-- the only state written by any function of the file: the round-key cache (by `_get_round_keys`, under its lock) and
    attributes of other modules / of the `CryptAES` instance (by `patch_pypdf_fallback_aes`, `__init__`) -/
theorem state_writes_accounted : writes.all WriteOk = true := by decide +kernel

/-- everything a call can execute is a translated function (a function of its parameters by construction, see
    `Props/C20_Src.lean`), the cache wrapper, or one of the two wrapper methods -/
theorem hot_path_is_translated :
    hot.all (fun f => S2T.Gen.PyAes.translated.contains f || f == "_get_round_keys" ||
      f == "patch_pypdf_fallback_aes._cryptaes_encrypt" || f == "patch_pypdf_fallback_aes._cryptaes_decrypt") = true :=
  hot_checks.2.1

/-- every translated function exists in the file under that name -/
theorem translated_are_functions : S2T.Gen.PyAes.translated.all (fun f => functions.contains f) = true := by
  decide +kernel

/-- no function a call can execute keeps state: apart from `_get_round_keys` none writes a cell; none lets a cell
    object escape, declares a `global`, has a mutable default, or mutates a possibly shared local -/
theorem hot_path_keeps_no_state :
    hot.all (fun f =>
      writes.all (fun w => w.fn != f || f == "_get_round_keys") &&
      escapes.all (fun e => e.1 != f) && globalDecls.all (fun g => g.1 != f) &&
      mutableDefaults.all (fun d => d.1 != f) && unresolvedWrites.all (fun u => u.1 != f)) = true :=
  hot_checks.2.2.1

/-- no translated function writes anything but its parameters / fresh locals -/
theorem translated_write_nothing :
    S2T.Gen.PyAes.translated.all (fun f => writes.all (fun w => w.fn != f) && escapes.all (fun e => e.1 != f) &&
      globalDecls.all (fun g => g.1 != f) && mutableDefaults.all (fun d => d.1 != f)) = true := by
  decide +kernel

/-- a function that mutates a parameter in place is only ever handed an object its caller has just built
    (`state = list(block)`): no two calls can reach the same state object -/
theorem mutated_parameters_are_fresh :
    mutatingCalls.all (fun c => !hot.contains c.1 || c.2.2.2 == "fresh") = true ∧
    paramWrites.all (fun p => !hot.contains p.1 ||
      mutatingCalls.any (fun c => c.2.1 == p.1 && c.2.2.1 == p.2.1)) = true :=
  hot_checks.2.2.2.1

/-- the module-level mutable objects of the file: the two S-box lists (never written: `state_writes_accounted`),
    the round-key cache and its lock.  A new cell is not by itself a defect — a new WRITER is, and breaks the
    theorems above; this theorem pins that every cell is of a kind the reading above covers. -/
theorem cells_accounted :
    cells.all (fun c => c.1 == "_ROUND_KEY_CACHE" || c.1 == "_ROUND_KEY_CACHE_LOCK" ||
      writes.all (fun w => w.cell != c.1)) = true := by decide +kernel

/-- the thread that executes a block function on its own state -/
def blockThread (T : Tables) (job : Bool × List Nat × List Nat) : Thread (List Nat) :=
  ⟨(if job.1 then encProgram T else decProgram T) (specRoundKeys job.2.1), job.2.2⟩

/-- what FIPS-197 says the job returns -/
def fips (job : Bool × List Nat × List Nat) : List Nat :=
  if job.1 then Fips197.aesEnc job.2.1 job.2.2 else Fips197.aesDec job.2.1 job.2.2

theorem blockThread_alone {T : Tables} (hT : TablesOk T) (job : Bool × List Nat × List Nat) (hk : KeyOk job.2.1)
    (hb : Block job.2.2) : (blockThread T job).alone = fips job := by
  obtain ⟨enc, key, b⟩ := job
  cases enc
  · have h := decProgram_alone T (specRoundKeys key) hb.1
    rw [decryptBlock_eq hT hk hb] at h
    simpa [blockThread, fips] using (Except.ok.inj h).symm
  · have h := encProgram_alone T (specRoundKeys key) hb.1
    rw [encryptBlock_eq hT hk hb] at h
    simpa [blockThread, fips] using (Except.ok.inj h).symm

private theorem alone_fips {T : Tables} (hT : TablesOk T) (jobs : List (Bool × List Nat × List Nat))
    (hj : ∀ j ∈ jobs, KeyOk j.2.1 ∧ Block j.2.2) : (jobs.map (blockThread T)).map Thread.alone = jobs.map fips := by
  rw [List.map_map]
  exact List.map_congr_left fun j hjm => blockThread_alone hT j (hj j hjm).1 (hj j hjm).2

/-- **Re-entrancy.** Any number of threads, each encrypting or decrypting its own block under its own key (equal or
    different), preempted between round functions in ANY order: when all have finished, every thread holds exactly
    FIPS-197 Cipher / InvCipher of its own key and block. -/
theorem C20_reentrant {T : Tables} (hT : TablesOk T) (jobs : List (Bool × List Nat × List Nat))
    (hj : ∀ j ∈ jobs, KeyOk j.2.1 ∧ Block j.2.2) (sched : List Nat)
    (hfin : finished (run (jobs.map (blockThread T)) sched) = true) :
    (run (jobs.map (blockThread T)) sched).map (·.st) = jobs.map fips := by
  rw [run_private _ _ hfin]
  exact alone_fips hT jobs hj

/-- … and at every moment before: what a thread is going to return never depends on what the others do -/
theorem C20_reentrant_invariant {T : Tables} (hT : TablesOk T) (jobs : List (Bool × List Nat × List Nat))
    (hj : ∀ j ∈ jobs, KeyOk j.2.1 ∧ Block j.2.2) (sched : List Nat) :
    (run (jobs.map (blockThread T)) sched).map Thread.alone = jobs.map fips := by
  rw [run_alone]
  exact alone_fips hT jobs hj

/-- the private-state reading is generic: any step programs, any state type -/
theorem private_state_any_schedule {σ : Type} (ts : List (Thread σ)) (sched : List Nat)
    (h : finished (run ts sched) = true) : (run ts sched).map (·.st) = ts.map Thread.alone := run_private ts sched h

/-- FIPS-197 Appendix C plaintext -/
def katPt : List Nat := [0x00,0x11,0x22,0x33,0x44,0x55,0x66,0x77,0x88,0x99,0xaa,0xbb,0xcc,0xdd,0xee,0xff]

/-- `_expand_key(key)` of the current tables -/
def rksOf (key : List Nat) : List (List Nat) :=
  match expandKey S2T.Gen.Aes.tables key with
  | .ok r => r
  | .error _ => []

/-- thread A: FIPS-197 C.1 (AES-128), thread B: C.3 (AES-256), both working on ONE scratch state -/
def sharedA : SThread := { input := katPt, todo := encProgram S2T.Gen.Aes.tables (rksOf (List.range 16)) }
def sharedB : SThread := { input := katPt, todo := encProgram S2T.Gen.Aes.tables (rksOf (List.range 32)) }

/-- A loads its block and runs up to its first `_mix_columns` (4 steps), B runs a whole block (58 steps), A resumes.
    The program of AES-128 has 40 steps, that of AES-256 56 (`encProgram_length`), a thread takes one more to load its block
    and one to return it: 42 and 58 one after the other; A pauses after the load and `k = 3` steps, and has the other
    37 and the return, 38, to go -/
def pausedInMixColumns : List Nat := List.replicate 4 0 ++ List.replicate 58 1 ++ List.replicate 38 0

private theorem rksOf_eq {key : List Nat} (hk : KeyOk key) : rksOf key = specRoundKeys key := by
  unfold rksOf; rw [expandKey_eq S2T.C20.C20_tables hk]

private theorem encProgram_fips {key b : List Nat} (hk : KeyOk key) (hb : Block b) :
    Thread.alone ⟨encProgram S2T.Gen.Aes.tables (rksOf key), b⟩ = Fips197.aesEnc key b := by
  rw [rksOf_eq hk]
  exact blockThread_alone S2T.C20.C20_tables (true, key, b) hk hb

private theorem encProgram_rksOf_length {key : List Nat} (hk : KeyOk key) :
    (encProgram S2T.Gen.Aes.tables (rksOf key)).length = 4 * (Fips197.Nr key - 1) + 4 := by
  rw [encProgram_length, rksOf_eq hk, specRoundKeys_length]
  rfl

/-- one after the other the shared scratch state does no harm: both known answers come out
    (why no single-threaded test, known answer or table check sees such a change) -/
theorem shared_scratch_sequential :
    (srun [sharedA, sharedB] [] (List.replicate 42 0 ++ List.replicate 58 1)).1.map (·.out) =
      [some [0x69,0xc4,0xe0,0xd8,0x6a,0x7b,0x04,0x30,0xd8,0xcd,0xb7,0x80,0x70,0xb4,0xc5,0x5a],
       some [0x8e,0xa2,0xb7,0xca,0x51,0x67,0x45,0xbf,0xea,0xfc,0x49,0x90,0x4b,0x49,0x60,0x89]] := by
  -- each thread runs alone (`srun_sequential`), alone it computes FIPS-197 Cipher, and C.1 / C.3 are known answers
  have h := srun_sequential katPt katPt (encProgram S2T.Gen.Aes.tables (rksOf (List.range 16)))
    (encProgram S2T.Gen.Aes.tables (rksOf (List.range 32))) []
  rw [encProgram_rksOf_length (by decide), encProgram_rksOf_length (by decide), encProgram_fips (by decide) (by decide),
    encProgram_fips (by decide) (by decide), show Fips197.aesEnc (List.range 16) katPt = _ from S2T.AesL.Kat.c1_cipher,
    show Fips197.aesEnc (List.range 32) katPt = _ from S2T.AesL.Kat.c3_cipher] at h
  exact h

/-- **Counterexample of the shared reading.** Under `pausedInMixColumns` thread B still returns the C.3 answer, but
    thread A returns `9b6b09be…`, not the FIPS-197 C.1 answer `69c4e0d8…` (the block thread A gets from the trial change
    `seeded/C20-6`, whose block functions refill one module-level scratch list, when its demonstration forces this schedule) -/
theorem shared_scratch_counterexample :
    (srun [sharedA, sharedB] [] pausedInMixColumns).1.map (·.out) =
      [some [0x9b,0x6b,0x09,0xbe,0x44,0xe6,0xa2,0x7b,0x93,0xcd,0x99,0xc6,0xab,0x1b,0xfd,0xa4],
       some [0x8e,0xa2,0xb7,0xca,0x51,0x67,0x45,0xbf,0xea,0xfc,0x49,0x90,0x4b,0x49,0x60,0x89]] ∧
    [0x9b,0x6b,0x09,0xbe,0x44,0xe6,0xa2,0x7b,0x93,0xcd,0x99,0xc6,0xab,0x1b,0xfd,0xa4] ≠
      Fips197.aesEnc (List.range 16) katPt := by
  refine ⟨?_, ?_⟩
  · -- B returns its known answer and A the rest of its program applied to that (`srun_preempted`); that rest, 37 steps
    -- of AES-128 on the C.3 ciphertext, is evaluated
    have h := srun_preempted katPt katPt (encProgram S2T.Gen.Aes.tables (rksOf (List.range 16)))
      (encProgram S2T.Gen.Aes.tables (rksOf (List.range 32))) [] (k := 3)
      (by rw [encProgram_rksOf_length (by decide)]; decide)
    rw [List.length_drop, encProgram_rksOf_length (by decide), encProgram_rksOf_length (by decide),
      encProgram_fips (by decide) (by decide), show Fips197.aesEnc (List.range 32) katPt = _ from S2T.AesL.Kat.c3_cipher,
      show ((encProgram S2T.Gen.Aes.tables (rksOf (List.range 16))).drop 3).foldl (fun s f => f s)
          [0x8e,0xa2,0xb7,0xca,0x51,0x67,0x45,0xbf,0xea,0xfc,0x49,0x90,0x4b,0x49,0x60,0x89]
        = [0x9b,0x6b,0x09,0xbe,0x44,0xe6,0xa2,0x7b,0x93,0xcd,0x99,0xc6,0xab,0x1b,0xfd,0xa4] from by decide +kernel] at h
    exact h
  · rw [show Fips197.aesEnc (List.range 16) katPt = _ from S2T.AesL.Kat.c1_cipher]
    decide

example : hot.contains "_mix_columns" = true ∧ hot.contains "_get_round_keys" = true ∧ hot.contains "_expand_key" = true ∧
    hot.contains "_aes_decrypt_block" = true ∧ hot.contains "_chunks" = true ∧ 20 ≤ hot.length := hot_checks.2.2.2.2
example : writes.any (fun w => w.fn == "_get_round_keys") = true ∧ mutatingCalls.length ≥ 8 ∧ paramWrites.length ≥ 7 := by
  decide +kernel
/-- two threads that finish under an interleaved schedule -/
example : finished (run [(⟨[(· + 1), (· * 2)], 1⟩ : Thread Nat), ⟨[(· + 5)], 0⟩] [0, 1, 0]) = true := by decide
example : KeyOk (List.range 16) ∧ Block katPt := by decide

end S2T.C20.Reentrant
