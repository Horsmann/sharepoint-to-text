import S2T.Model.C02Plain
import S2T.Lemmas.C02OdfStr
import S2T.Gen.C02Plain
/-!
# C02 (part 'plain') — plain-text files (txt / csv / tsv / md / json) from the BYTES of the file

The 'odf' part is about `PlainTextContent.get_full_text()` on the DECODED string (`plain_tokens`); this part is about
the way from the file's bytes to that string (`_detect_and_decode`), for files of ANY size.  charset_normalizer is a parameter (`detect`); the theorems say what the extractor makes of its verdict:

* `plain_file_text` / `plain_file_tokens`: for every text `s` (any length, any characters the codec can represent),
  written with or without signature, if the detector names the codec the file was written with, the full text is
  `s.strip()` and its tokens are exactly the tokens of `s` - nothing lost, replaced, merged or invented, wherever in
  the file a character stands and however large the file is;
* `plain_no_loss`: for ANY content and ANY verdict whose strict decoding succeeds, the text re-encodes to exactly the
  bytes behind the signature: every byte of the file is accounted for by the characters of the text;
* `plain_size_independent`: the text of the file depends on the content only through the verdict and the strict
  decoding of the WHOLE payload - two detectors that agree on this file give the same text (no sampling);
* `sites_ok`: the facts about the CURRENT source that make `detectAndDecode` the right model are regenerated on every
  run (S2T.Gen.C02Plain) and re-decided: the detector is handed the complete, unsliced content; the text of the
  match branch is `str(<best match>)`; the only `.decode(` is the `utf-8`/`replace` fallback on the whole content;
  `read()` has no size argument; the module has no `len(...)` comparison, no slice and no integer literal, i.e. no
  size threshold at all.
-/
namespace S2T.C02.Plain
open S2T.Tok S2T.Plain S2T.Rtf

private theorem toNat_byteChar (x : UInt8) : (byteChar x).toNat = x.toNat := by
  have hv : x.toNat.isValidChar := Or.inl (by have := x.toNat_lt; omega)
  rw [byteChar, Char.ofNat, dif_pos hv]
  simp [Char.ofNatAux, Char.toNat]

private theorem toNat_charByte (c : Char) (h : c.toNat < 256) : (charByte c).toNat = c.toNat := by
  simp [charByte, Nat.toUInt8]; omega

/-- below 256, `charByte` and `byteChar` are inverse to each other and keep the code: a text below a bound `n` is
    encoded by bytes below `n` that decode to it (ASCII: `n = 128`, Latin-1: `n = 256`) -/
private theorem bytes_of_chars {n : Nat} (hn : n ≤ 256) (s : Str) (h : s.all (fun c => c.toNat < n) = true) :
    ((s.map charByte).all fun x => decide (x.toNat < n)) = true ∧ (s.map charByte).map byteChar = s := by
  induction s with
  | nil => exact ⟨rfl, rfl⟩
  | cons c r ih =>
    simp only [List.all_cons, Bool.and_eq_true, decide_eq_true_eq] at h
    have hc : c.toNat < 256 := by omega
    have e : byteChar (charByte c) = c := by
      rw [byteChar, toNat_charByte c hc]; exact Char.ofNat_toNat c
    simpa [toNat_charByte c hc, h.1, e] using ih h.2

private theorem chars_of_bytes {n : Nat} (l : List UInt8) (h : l.all (fun x => x.toNat < n) = true) :
    ((l.map byteChar).all fun c => decide (c.toNat < n)) = true ∧ (l.map byteChar).map charByte = l := by
  induction l with
  | nil => exact ⟨rfl, rfl⟩
  | cons x r ih =>
    simp only [List.all_cons, Bool.and_eq_true, decide_eq_true_eq] at h
    simpa [toNat_byteChar, h.1, charByte] using ih h.2

/-- decoding what was encoded gives the text back, for every codec that can represent it -/
theorem decode_encode (c : Codec) (s : Str) (b : ByteArray) (h : encode c s = some b) : decode c b = some s := by
  cases c with
  | utf8 =>
    simp only [encode, Option.some.injEq] at h
    subst h
    simp [decode]
  | latin1 =>
    simp only [encode] at h
    split at h
    · rename_i hs
      cases h
      simp [decode, (bytes_of_chars (Nat.le_refl _) s hs).2]
    · cases h
  | ascii =>
    simp only [encode] at h
    split at h
    · rename_i hs
      cases h
      obtain ⟨h1, h2⟩ := bytes_of_chars (by decide : 128 ≤ 256) s hs
      simp [decode, h1, h2]
    · cases h

/-- and back: whatever strict decoding accepts re-encodes to exactly the bytes it was given -/
theorem encode_decode (c : Codec) (b : ByteArray) (t : Str) (h : decode c b = some t) : encode c t = some b := by
  cases c with
  | utf8 =>
    simp only [decode, Option.map_eq_some_iff] at h
    obtain ⟨a, ha, rfl⟩ := h
    have hs : b.utf8Decode?.isSome := by simp [ha]
    have := ByteArray.utf8Encode_get_utf8Decode? (b := b) (h := hs)
    simp only [ha, Option.get_some] at this
    simp [encode, this]
  | latin1 =>
    simp only [decode, Option.some.injEq] at h
    subst h
    obtain ⟨h1, h2⟩ := chars_of_bytes (n := 256) b.data.toList (List.all_eq_true.2 fun x _ => decide_eq_true x.toNat_lt)
    simp [encode, h1, h2]
  | ascii =>
    simp only [decode] at h
    split at h
    · rename_i hb
      cases h
      obtain ⟨h1, h2⟩ := chars_of_bytes b.data.toList hb
      simp [encode, h1, h2]
    · cases h

theorem payload_render (c : Codec) (sig : Bool) (e : ByteArray) :
    payload ⟨c, (sigBytes c sig).size⟩ (sigBytes c sig ++ e) = e := by
  unfold payload
  exact ByteArray.extract_append_eq_right rfl (by simp)

/-- **plain-text files, any size**: if the detector names the codec the file was written with (and the signature it
    carries), the full text is the stripped text of the file -/
theorem plain_file_text (p : Char → Bool) (detect : ByteArray → Option Verdict) (fallback : ByteArray → Str)
    (c : Codec) (sig : Bool) (s : Str) (b : ByteArray) (hr : renderText c sig s = some b) (hne : b.size ≠ 0)
    (hd : detect b = some ⟨c, (sigBytes c sig).size⟩) :
    fileFullText p detect fallback b = plainFullText p s := by
  simp only [renderText, Option.map_eq_some_iff] at hr
  obtain ⟨e, he, rfl⟩ := hr
  have hdec := decode_encode c s e he
  unfold fileFullText detectAndDecode
  rw [if_neg hne]
  simp only [hd, payload_render, hdec]

/-- … hence `get_full_text().split()` is `s.split()`: every token once, in order, separated, nothing else -/
theorem plain_file_tokens (p : Char → Bool) (detect : ByteArray → Option Verdict) (fallback : ByteArray → Str)
    (c : Codec) (sig : Bool) (s : Str) (b : ByteArray) (hr : renderText c sig s = some b) (hne : b.size ≠ 0)
    (hd : detect b = some ⟨c, (sigBytes c sig).size⟩) :
    tokens p (fileFullText p detect fallback b) = tokens p s := by
  rw [plain_file_text p detect fallback c sig s b hr hne hd, plain_tokens]

/-- the hypotheses are satisfiable: a UTF-8 file with signature, non-ASCII text at the END -/
example : ∃ b, renderText .utf8 true "id;name\n1;Köln €".toList = some b ∧ b.size ≠ 0 := by
  refine ⟨_, rfl, ?_⟩
  simp [sigBytes, utf8Sig, ByteArray.size_append]

/-- **nothing lost, nothing replaced** for ANY content: when the verdict's strict decoding succeeds, the text is that
    decoding and it re-encodes to exactly the bytes behind the signature -/
theorem plain_no_loss (detect : ByteArray → Option Verdict) (fallback : ByteArray → Str) (content : ByteArray)
    (v : Verdict) (t : Str) (hne : content.size ≠ 0) (hd : detect content = some v)
    (ht : decode v.codec (payload v content) = some t) :
    detectAndDecode detect fallback content = (t, v.codec) ∧ encode v.codec t = some (payload v content) := by
  refine ⟨?_, encode_decode _ _ _ ht⟩
  simp [detectAndDecode, hne, hd, ht]

/-- **no sampling**: the result is determined by the verdict for THIS content and the whole payload; detectors that
    agree on the file give the same text whatever they say about any prefix of it -/
theorem plain_size_independent (d₁ d₂ : ByteArray → Option Verdict) (fallback : ByteArray → Str) (content : ByteArray)
    (h : d₁ content = d₂ content) :
    detectAndDecode d₁ fallback content = detectAndDecode d₂ fallback content := by
  simp [detectAndDecode, h]

/-- counterexample to the sampled variant (what a "detect on the head only, decode with errors=replace" extractor
    does): an ASCII verdict for a file whose tail is not ASCII has NO strict decoding -/
theorem ascii_verdict_on_utf8_tail_undecodable :
    decode .ascii (String.ofList "ab;cd\nKöln".toList).toByteArray = none := by
  decide

/-- what the model assumes about `plain_extractor.py` (see the module docstring) -/
def SitesOk (s : S2T.Gen.C02Plain.Sites) : Prop :=
  s.detectCalls = 1 ∧ s.detectArgWhole = true ∧ s.textFromMatch = true ∧ s.readSizeArgs = 0 ∧
  s.decodeCalls = [("content", "utf-8", "replace")] ∧ s.lenCompares = 0 ∧ s.slices = 0 ∧ s.intLiterals = [] ∧
  s.emptyGuard = true

instance (s : S2T.Gen.C02Plain.Sites) : Decidable (SitesOk s) := by unfold SitesOk; infer_instance

theorem sites_ok : SitesOk S2T.Gen.C02Plain.sites := by decide

theorem gen_notes_empty : S2T.Gen.C02Plain.notes = [] := by decide

end S2T.C02.Plain
