import S2T.Model.IfaceStreams
import S2T.Gen.Iface
/-!
# C04 (stream identity, tie to the source)

`S2T.C04.Streams` proves: images whose stored stream objects are pairwise distinct can be collected first and read
afterwards, in any order — every stream is found at position 0 and delivers `size_bytes` bytes; and what a
constructor loop builds from FRESH sources has pairwise distinct objects.  Here the current source is shown to be of
that shape: every constructor call site of an image class stores a stream object created at the site itself
(`io.BytesIO(v)` written in the argument — a new object per image built), immutable bytes, or nothing; and
`get_bytes()` of every class either wraps the bytes in a new stream or rewinds and returns the stored one.
-/
namespace S2T.C04.StreamSites
open S2T.Iface

/-- no constructor site stores an object that may also be stored in another image (a name, an attribute, a cache
entry, a call result) -/
theorem stream_sites_own_object :
    ∀ s ∈ S2T.Gen.Iface.streamSites, (match s.origin with | .other _ => false | _ => true) = true := by decide

/-- a class that stores a stream gets it from `io.BytesIO(..)` at the site or not at all; a class that stores bytes
stores bytes -/
theorem stream_sites_match_class :
    ∀ s ∈ S2T.Gen.Iface.streamSites, ∀ ic ∈ S2T.Gen.Iface.imageClasses, ic.name = s.cls →
      (match ic.payloadKind, s.origin with
        | .stream, .freshObject | .stream, .noPayload | .bytes, .immutable | .bytes, .noPayload => true
        | _, _ => false) = true := by decide +kernel

/-- the inventory is not empty: both origins occur among the sites -/
theorem stream_sites_nonempty :
    (S2T.Gen.Iface.streamSites.any fun s => s.origin == StreamOrigin.freshObject) = true ∧
    (S2T.Gen.Iface.streamSites.any fun s => s.origin == StreamOrigin.immutable) = true := by decide

/-- `get_bytes()` of a class storing bytes wraps them in a new stream on every call; of a class storing a stream it
rewinds the stored object and returns it (so: no stream remembered anywhere else, e.g. in a table keyed by content) -/
theorem get_bytes_forms_ok :
    ∀ e ∈ S2T.Gen.Iface.getBytesForms,
      (match e.2.1, e.2.2 with
        | .bytes, .wrapBytes | .stream, .rewindStored => true
        | _, _ => false) = true := by decide

/-- … for every image class of the inventory -/
theorem get_bytes_forms_complete :
    S2T.Gen.Iface.getBytesForms.map (·.1) = S2T.Gen.Iface.imageClasses.map (·.name) := by decide

end S2T.C04.StreamSites
