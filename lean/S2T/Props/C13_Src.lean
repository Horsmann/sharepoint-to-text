import S2T.Lemmas.PySheetsOds
import S2T.Lemmas.TablesSheet
import S2T.Gen.PyOdsSheet
import S2T.Gen.PyXlsxSheet
/-!
# C13 (source tie) — the translated sheet shaping code IS the hand model `S2T.Tables.Ods` / `S2T.Tables.Xlsx`

`S2T.Gen.PyOdsSheet` / `S2T.Gen.PyXlsxSheet` are regenerated from the current text of `ods_extractor.py` /
`xlsx_extractor.py` on every run (`tools/gen/pyfun_sheets.py`, construct by construct: the whole body of
`_extract_sheet` with its four loop nests, the `while … pop()` trimming loop as well-founded recursion, in-place list
building, record updates; the XLSX helpers with `isinstance` narrowing, backwards `range` scans with `break` /
early `return`, comprehensions over `enumerate`).

ODS.  For every table element, every `int()`, every behaviour of `_extract_cell_value` / `_extract_annotations` /
`_extract_images` (parameters `OdsEnv`, each may raise):

* `extract_sheet_eq`: `_extract_sheet` = parse the repeat counts and cell values in document order (`odsParse`: the
  first exception is the function's exception), then `_extract_images`, then the sheet whose `data` is
  **`Ods.sheetData Gen.Tables.odsCaps`** of the parsed rows (repeat counts enter as `n.toNat`: `[x] * n` is empty for
  `n ≤ 0`, and `n > 100` is false there) — so every `C13_ods_*` theorem and C12's amplification bound speak about code
  regenerated from the source.  The two literals `100` of the translation are compared with `odsCaps` in the proof.
* the guarded index / pop operations (`raw_rows[-1]`, `row[i]`, `row_values[i]`, `raw_rows.pop()`) never raise, and
  the `while` loop's measure decreases (`whileNoProgress` never fires): all inside the equation.

XLSX.  `_is_cell_non_empty`, `_is_meaningful_value`, `_get_cell_value`, `_find_last_data_row`,
`_find_last_data_column`, `_is_table_name_row`, `_read_sheet_data` equal `Xlsx.isCellNonEmpty`, `isMeaningful`,
`getCellValue`, `findLastDataRow`, `findLastDataColumn`, `isTableNameRow`, `readSheetData` and never raise;
`_read_content_from_workbook` (workbook = mapping name ↦ worksheet) builds every `XlsxSheet.data` as `Xlsx.sheetData`.
Hypothesis `StrOfOk` (what `str()` answers for a `str` and for the model's `Val.other`) where `str(x)` is used.
-/
-- the monad-normalising lemmas (`bind_assoc`, `pure_bind`, `bind_pure_comp`, `M.ok_bind` …) are given to `simp` as one set at
-- every step; which of them fire depends on the text of the regenerated function at that step
set_option linter.unusedSimpArgs false
namespace S2T.C13.Src
open S2T.Py S2T.Py.Sheets S2T.Py.Sheets.OdsSpec S2T.Tables S2T.Gen.PyOdsSheet S2T.Gen.PyXlsxSheet

/-- the translator understood every construct of the whitelisted functions -/
theorem gen_py_notes_empty : S2T.Gen.PyOdsSheet.notes = [] ∧ S2T.Gen.PyXlsxSheet.notes = [] := by decide

/-- the functions this file ties (a renamed / removed function breaks this) -/
theorem gen_py_translated : S2T.Gen.PyOdsSheet.translated = ["_extract_sheet"] ∧
    S2T.Gen.PyXlsxSheet.translated = ["_get_cell_value", "_is_cell_non_empty", "_is_meaningful_value",
      "_find_last_data_column", "_find_last_data_row", "_is_table_name_row", "_read_sheet_data",
      "_format_sheet_as_text", "_read_content_from_workbook"] := by decide

abbrev caps := S2T.Gen.Tables.odsCaps
/-- `raw_rows` -/
abbrev RawRows := List (List (Val × Py.Str))

/-- everything `_extract_sheet` reads off the table element (generated tag / attribute names) -/
def odsParse (env : OdsEnv) (table : Node) : M (List PRow) :=
  parseRows env S2T.Gen.Tables.ods.row S2T.Gen.C02Sheets.ods.repRows S2T.Gen.Tables.ods.cell
    S2T.Gen.C02Sheets.ods.repCols table

/-- **`_extract_sheet` is its specification over the parsed rows** (all inputs, all behaviours of the call-outs) -/
theorem extract_sheet_spec (env : OdsEnv) (ctx : OdsCtx) (table : Node) (n ic : Int) :
    _extract_sheet env ctx table n ic = (do
      let rows ← odsParse env table
      let im ← env.extractImages ctx table ic
      pure ({ name := elemGetD table S2T.Gen.C02Sheets.ods.nameAttr [], data := dataOf caps rows,
              text := textOf caps rows, annotations := annOf rows, images := im.1 }, im.2)) := by
  unfold _extract_sheet
  simp +instances only [M.pure_def, bind_pure_comp, pure_bind, bind_assoc]
  -- first pass: the row loop and, inside it, the cell loop
  -- (the loop state in the model's order `(raw_rows, all_annotations, max_cols)`, or any other declaration order)
  have rowLoop {σ} (e : RawRows × List Annot × Int → σ) := forIn_mapM_collect e
    (parseRow env S2T.Gen.C02Sheets.ods.repRows S2T.Gen.Tables.ods.cell S2T.Gen.C02Sheets.ods.repCols) (rowPiece2 caps)
    (fun r => r.2.flatMap (·.2.2)) (fun m r => bif (rowVals2 caps r.2).isEmpty then m else max m (len (rowVals2 caps r.2)))
  first
    | rw [rowLoop (fun t => t)]
    | rw [rowLoop (fun t => (t.1, t.2.2, t.2.1)) (a := []) (b := []) (c := 0)]
    | rw [rowLoop (fun t => (t.2.1, t.1, t.2.2)) (a := []) (b := []) (c := 0)]
    | rw [rowLoop (fun t => (t.2.1, t.2.2, t.1)) (a := []) (b := []) (c := 0)]
    | rw [rowLoop (fun t => (t.2.2, t.1, t.2.1)) (a := []) (b := []) (c := 0)]
    | rw [rowLoop (fun t => (t.2.2, t.2.1, t.1)) (a := []) (b := []) (c := 0)]
  rotate_left
  · intro row raw ann mc
    have cellLoop {σ} (e : List Annot × List (Val × Py.Str) × Unit → σ) :=
      forIn_mapM_collect e (parseCell env S2T.Gen.C02Sheets.ods.repCols) (·.2.2) (cellPiece2 caps) (fun _ _ => ())
    first
      | rw [cellLoop (fun t => (t.1, t.2.1)) (a := ann) (b := []) (c := ())]
      | rw [cellLoop (fun t => (t.2.1, t.1)) (a := ann) (b := []) (c := ())]
    rotate_left
    · intro cell a v _
      simp +instances only [parseCell, bind_assoc, M.pure_def, M.ok_bind, pure_bind, listAppend_def, repeatList]
      refine bind_congr (fun rep => ?_)
      refine bind_congr (fun tv => ?_)
      refine bind_congr (fun ann => ?_)
      simp +instances only [cellPiece2, show ((caps.cell : Nat) : Int) = 100 from rfl,
        List.flatten_replicate_singleton, gt_iff_lt]
      -- both sides are the same Boolean function of the two tests, written in two orders
      generalize decide (_ < rep) = a
      generalize (tv.1 == Val.none) = b
      cases a <;> cases b <;> rfl
    simp +instances only [parseRow, bind_assoc, M.pure_def, M.ok_bind, pure_bind, listAppend_def, repeatList,
      List.nil_append, truthy_list, List.flatten_replicate_singleton]
    refine bind_congr (fun rep => ?_)
    refine bind_congr (fun cells => ?_)
    rw [show List.flatMap (cellPiece2 caps) cells = rowVals2 caps cells from rfl]
    simp +instances only [rowPiece2, show ((caps.row : Nat) : Int) = 100 from rfl, gt_iff_lt]
    generalize decide (_ < rep) = a
    generalize (rowVals2 _ cells).all _ = b
    generalize (rowVals2 _ cells).isEmpty = c
    cases a <;> cases b <;> cases c <;> rfl
  simp only [bind_assoc, M.ok_bind, M.pure_def, odsParse, parseRows, pure_bind, List.nil_append]
  refine bind_congr (fun rows => ?_)
  rw [show List.flatMap (rowPiece2 caps) rows = rawOf caps rows from rfl,
    show List.flatMap (fun r : PRow => r.2.flatMap (·.2.2)) rows = annOf rows from rfl]
  -- trailing rows without data: the `while` loop
  rw [whileM_trim emptyRow2]
  rotate_left
  · simp
  · intro ys a; simp [listGetItem_snoc, emptyRow2]
  · intro ys a; simp [listPop_snoc]
  simp only [M.ok_bind]
  rw [show (List.dropWhile emptyRow2 (rawOf caps rows).reverse).reverse = trim2 (rawOf caps rows) from rfl]
  simp only [dataOf, textOf]
  generalize trim2 (rawOf caps rows) = T
  by_cases hT : T = []
  · subst hT
    rfl
  · simp only [truthy_ne_nil hT, if_true]
    -- last column with data: the two backwards scans
    rw [forIn_scan_table (fun v => v.1 != Val.none) T]
    rotate_left
    · intro row acc; rfl
    · intro row i hi acc
      rw [listGetItem_natCast _ _ hi]
      py_scan_leaf
    simp only [M.ok_bind]
    rw [show (List.foldl (fun m row => max m (Xlsx.lastIdx (fun v => v.1 != Val.none) row)) 0 T) = lastCol2 T from rfl]
    -- padding
    first
      | rw [pad_outer (fun t => (t.1, t.2.1)) (lastCol2 T) T]
      | rw [pad_outer (fun t => (t.2.1, t.1)) (lastCol2 T) T]
    rotate_left
    · intro row a b
      first
        | rw [pad_inner (fun t => (t.1, t.2.1)) row (lastCol2 T : Int)]
        | rw [pad_inner (fun t => (t.2.1, t.1)) row (lastCol2 T : Int)]
      rotate_left
      · intro i a b
        rw [guarded_getItem, valAt, textAt]
        cases row[i]? with
        | none => simp
        | some v => obtain ⟨x, t⟩ := v; cases t <;> simp
      simp +instances only [M.ok_bind, lineOf, Int.toNat_natCast, listAppend_def, truthy_list]
      generalize (rowTexts (lastCol2 T) row).isEmpty = c
      cases c <;> simp
    simp [Int.toNat_natCast]

/-- **C13 source tie (ODS).**  `OdsSheet.data` of the translated `_extract_sheet` is the hand model
    `Ods.sheetData` at the generated caps, applied to the parsed rows -/
theorem extract_sheet_eq (env : OdsEnv) (ctx : OdsCtx) (table : Node) (n ic : Int) :
    _extract_sheet env ctx table n ic = (do
      let rows ← odsParse env table
      let im ← env.extractImages ctx table ic
      pure ({ name := elemGetD table S2T.Gen.C02Sheets.ods.nameAttr [],
              data := Ods.sheetData S2T.Gen.Tables.odsCaps (toRRows rows),
              text := textOf caps rows, annotations := annOf rows, images := im.1 }, im.2)) := by
  rw [extract_sheet_spec]
  simp only [dataOf_eq]

/-- which exception: the first one of the parse phase in document order … -/
theorem extract_sheet_parse_error (env : OdsEnv) (ctx : OdsCtx) (table : Node) (n ic : Int) (e : Exc)
    (h : odsParse env table = .error e) : _extract_sheet env ctx table n ic = .error e := by
  rw [extract_sheet_eq, h]; rfl

/-- … otherwise the one of `_extract_images`; nothing else raises (no `IndexError` from the guarded `[...]` / `pop()`,
    no non-terminating `while`) -/
theorem extract_sheet_images_error (env : OdsEnv) (ctx : OdsCtx) (table : Node) (n ic : Int) (rows : List PRow) (e : Exc)
    (h : odsParse env table = .ok rows) (hi : env.extractImages ctx table ic = .error e) :
    _extract_sheet env ctx table n ic = .error e := by
  rw [extract_sheet_eq, h]; simp [hi]

/-- a returned sheet is the specification's sheet of the parsed rows; its table is the hand model's -/
theorem extract_sheet_data (env : OdsEnv) (ctx : OdsCtx) (table : Node) (n ic : Int) (sheet : OdsSheet) (k : Int)
    (h : _extract_sheet env ctx table n ic = .ok (sheet, k)) :
    ∃ rows, odsParse env table = .ok rows ∧ sheet.data = Ods.sheetData S2T.Gen.Tables.odsCaps (toRRows rows)
      ∧ sheet.annotations = annOf rows ∧ sheet.text = textOf caps rows := by
  simp only [extract_sheet_eq, bind_eq_ok, M.pure_def, Except.ok.injEq, Prod.mk.injEq] at h
  obtain ⟨rows, hp, im, _, rfl, _⟩ := h
  exact ⟨rows, hp, rfl, rfl, rfl⟩

/-- **`C13_ods_cells_partial` on the regenerated code**: without a collapsed run of empty cells in front of data, every
    cell of the returned table is the cell of the plain expansion of the parsed sheet at that position -/
theorem extract_sheet_cells (env : OdsEnv) (ctx : OdsCtx) (table : Node) (n ic : Int) (sheet : OdsSheet) (k : Int)
    (h : _extract_sheet env ctx table n ic = .ok (sheet, k)) :
    ∃ rows, odsParse env table = .ok rows ∧
      (Ods.noGapRows S2T.Gen.Tables.odsCaps (toRRows rows) = true →
        ∀ i j, Ods.cellAt sheet.data i j = Ods.cellAt (Ods.expand (toRRows rows)) i j) := by
  obtain ⟨rows, hp, hd, _⟩ := extract_sheet_data env ctx table n ic sheet k h
  exact ⟨rows, hp, fun hg i j => by rw [hd]; exact Ods.sheetData_cells _ _ hg i j⟩

/-- the returned table is rectangular (the rectangle part of `C13_ods_shape_partial` on the regenerated code) -/
theorem extract_sheet_rect (env : OdsEnv) (ctx : OdsCtx) (table : Node) (n ic : Int) (sheet : OdsSheet) (k : Int)
    (h : _extract_sheet env ctx table n ic = .ok (sheet, k)) : ∃ w, ∀ row ∈ sheet.data, row.length = w := by
  obtain ⟨rows, _, hd, _⟩ := extract_sheet_data env ctx table n ic sheet k h
  rw [hd, Ods.sheetData_eq_sheetOf]
  exact Ods.sheetOf_rect _

/-- the hypotheses are satisfiable: an environment, a table with a repeated row -/
def exEnv : OdsEnv :=
  { intOfStr := fun s => if s = "1".toList then pure 1 else if s = "3".toList then pure 3 else throw emptySeqError,
    extractCellValue := fun c => pure (Val.str c.text, c.text),
    extractAnnotations := fun _ => pure [], extractImages := fun _ _ k => pure ([], k) }
def exTable : Node :=
  .mk [] [] [] [.mk S2T.Gen.Tables.ods.row [(S2T.Gen.C02Sheets.ods.repRows, "3".toList)] []
    [.mk S2T.Gen.Tables.ods.cell [] "x".toList [] []] []] []
example : (odsParse exEnv exTable).toOption.map toRRows = some [(3, [(1, Val.str "x".toList)])] := by
  decide_chars odsParse exEnv exTable S2T.Gen.Tables.ods S2T.Gen.C02Sheets.ods

theorem is_cell_non_empty_eq (v : Val) : _is_cell_non_empty v = pure (Xlsx.isCellNonEmpty v) := by
  cases v <;> simp +instances [_is_cell_non_empty, isInstance, isInst, asStr, Xlsx.isCellNonEmpty, Xlsx.isBlankStr, bne_nil]

theorem is_meaningful_value_eq (v : Val) : _is_meaningful_value v = pure (Xlsx.isMeaningful v) := by
  cases v <;> simp +instances [_is_meaningful_value, isInstance, isInst, asStr, Xlsx.isMeaningful, Xlsx.isBlankStr, Xlsx.startsWith, startswith]
  rename_i s
  cases h : pyStrip s <;> simp

def StrOfOk (env : XlsxEnv) : Prop := (∀ s, env.strOf (.str s) = s) ∧ (∀ s, env.strOf (.other s) = s)

theorem get_cell_value_eq (env : XlsxEnv) (h : StrOfOk env) (v : Val) : _get_cell_value env v = pure (Xlsx.getCellValue v) := by
  cases v <;> simp +instances [_get_cell_value, isInstance, isInst, dtIso, Xlsx.getCellValue, h.2]

theorem find_last_data_row_eq (rows : VGrid) : _find_last_data_row rows = pure (Xlsx.findLastDataRow rows : Int) := by
  unfold _find_last_data_row
  simp +instances only [M.pure_def, bind_pure_comp, pure_bind, bind_assoc, is_cell_non_empty_eq, anyM_ok]
  by_cases hr : rows = []
  · subst hr; rfl
  · simp only [truthy_ne_nil hr, Bool.not_true, Bool.false_eq_true, if_false]
    rw [forIn_scan_return (fun row => row.any Xlsx.isCellNonEmpty) rows]
    · simp only [M.ok_bind, Xlsx.findLastDataRow]
      split <;> simp_all
    · intro i hi s
      rw [listGetItem_natCast _ _ hi]
      py_scan_leaf

theorem find_last_data_column_eq (rows : VGrid) : _find_last_data_column rows = pure (Xlsx.findLastDataColumn rows : Int) := by
  unfold _find_last_data_column
  simp +instances only [M.pure_def, bind_pure_comp, pure_bind, bind_assoc, is_cell_non_empty_eq]
  by_cases hr : rows = []
  · subst hr; rfl
  · simp only [truthy_ne_nil hr, Bool.not_true, Bool.false_eq_true, if_false]
    rw [forIn_scan_table Xlsx.isCellNonEmpty rows]
    · rfl
    · intro row acc; rfl
    · intro row i hi acc
      rw [listGetItem_natCast _ _ hi]
      py_scan_leaf

theorem sumInt_ones (l : List Int) (h : ∀ x ∈ l, x = 1) : sumInt l = (l.length : Int) := by
  have key : ∀ (l : List Int) (a : Int), (∀ x ∈ l, x = 1) → l.foldl (· + ·) a = a + (l.length : Int) := by
    intro l
    induction l with
    | nil => intro a _; simp
    | cons x r ih =>
      intro a h
      rw [List.foldl_cons, ih _ (fun y hy => h y (List.mem_cons_of_mem _ hy)), h x (List.mem_cons_self ..)]
      simp; omega
  rw [sumInt, key l 0 h]; simp

theorem filterMap_one_eq {α} (p : α → Bool) (l : List α) :
    l.filterMap (fun v => if p v = true then some (1 : Int) else none) = (l.filter p).map (fun _ => (1 : Int)) := by
  induction l with
  | nil => rfl
  | cons a r ih => by_cases h : p a = true <;> simp [List.filterMap_cons, List.filter_cons, h, ih]

theorem is_table_name_row_eq (row : List Val) : _is_table_name_row row = pure (Xlsx.isTableNameRow row) := by
  unfold _is_table_name_row
  simp +instances only [M.pure_def, bind_pure_comp, pure_bind, bind_assoc, is_meaningful_value_eq, M.ok_bind]
  rw [filterMapM_ok (fun v => if Xlsx.isMeaningful v then some (1 : Int) else none)]
  · simp only [M.ok_bind, M.map_ok, Xlsx.isTableNameRow]
    rw [filterMap_one_eq, sumInt_ones _ (by intro x hx; simp at hx; exact hx.2.symm)]
    simp +instances only [List.length_map, gt_iff_lt]
    generalize (List.filter Xlsx.isMeaningful row).length = k
    have e1 : ((k : Int) == 1) = (k == 1) := by
      by_cases h : k = 1
      · subst h; rfl
      · have h' : ¬ ((k : Int) = 1) := by omega
        rw [(beq_eq_false_iff_ne (a := (k : Int)) (b := 1)).mpr h', (beq_eq_false_iff_ne (a := k) (b := 1)).mpr h]
    have e2 : decide ((1 : Int) < len row) = decide (1 < row.length) := by
      apply decide_eq_decide.mpr; simp only [len]; omega
    simp only [e1, e2]
    -- (closed already when the conjuncts stand in the model's order)
    try (generalize (k == 1) = a; generalize decide (1 < row.length) = b; cases a <;> cases b <;> rfl)
  · intro v _
    split <;> simp_all

/-- `str()` of the first-row value of column `i`, as the hand model's `strOf` parameter -/
def strOfFirst (env : XlsxEnv) (rows : VGrid) : Nat → Py.Str := fun i => env.strOf ((rows.headD []).getD i Val.none)

/-- the first-row values that get a generated header name -/
def unnamedCell : Val → Bool
  | .none => true
  | .str s => Xlsx.isBlankStr s
  | _ => false

/-- the header string of column `i` for the first-row value `v` -/
def hdrOf (env : XlsxEnv) (i : Int) (v : Val) : Py.Str :=
  if unnamedCell v then "Unnamed: ".toList ++ intStr i else env.strOf v

theorem hdrOf_eq (env : XlsxEnv) (h : StrOfOk env) (i : Nat) (v : Val) :
    Val.str (hdrOf env (i : Int) v) = Xlsx.headerName i v (env.strOf v) := by
  unfold hdrOf Xlsx.headerName
  rw [intStr_natCast]
  cases v <;> simp only [unnamedCell, if_true, if_false, Bool.false_eq_true]
  rename_i s
  by_cases hb : Xlsx.isBlankStr s = true <;> simp only [hb, if_true, if_false, Bool.false_eq_true, h.1]

/-- the record dict of one data row (not part of the hand model's table) -/
def recordOf (hdrs : List Py.Str) (row : List Val) : List (Py.Str × Val) :=
  dictOfPairs ((enumerate row).filterMap (fun x => match hdrs[x.1.toNat]? with
    | some hd => some (hd, Xlsx.getCellValue x.2)
    | none => none))

/-- `tuple(row[:n]) + (None,) * (n - len(row))` is the hand model's `padTake` -/
theorem padTake_src (c : Nat) (row : List Val) :
    row.take c ++ repeatList [Val.none] ((c : Int) - len row) = Xlsx.padTake c row := by
  have e : ((c : Int) - len row).toNat = c - row.length := by simp only [len]; omega
  simp only [repeatList, e, List.flatten_replicate_singleton, Xlsx.padTake]

theorem read_sheet_data_eq (env : XlsxEnv) (h : StrOfOk env) (ws : Worksheet) :
    ∃ recs, _read_sheet_data env ws = Except.ok (recs, Xlsx.readSheetData ws.rows (strOfFirst env ws.rows)) := by
  obtain ⟨rows0⟩ := ws
  unfold _read_sheet_data
  simp +instances only [M.pure_def, bind_pure_comp, pure_bind, bind_assoc, find_last_data_row_eq, find_last_data_column_eq,
    get_cell_value_eq env h, M.ok_bind, pSlice_to_nat, pSlice_from_nat, padTake_src]
  -- `if not rows`: a sheet without rows
  by_cases h0 : rows0 = []
  · subst h0; exact ⟨[], rfl⟩
  have he0 : rows0.isEmpty = false := by cases rows0 <;> simp_all
  simp only [truthy_ne_nil h0, Bool.not_true, Bool.false_eq_true, if_false, Xlsx.readSheetData, he0]
  -- the second `if not rows`: nothing left in front of the last data row
  rcases h1 : rows0.take (Xlsx.findLastDataRow rows0) with _ | ⟨first, rest⟩
  · exact ⟨[], by simp⟩
  · simp only [truthy_list, List.isEmpty_cons, Bool.not_false, Bool.not_true, Bool.false_eq_true, if_false, List.map_cons,
      listGetItem_cons_zero, M.ok_bind, List.drop_succ_cons, List.drop_zero]
    -- the width and the padded first row as variables: nothing below looks inside them but `hfp`
    generalize Xlsx.findLastDataColumn (first :: rest) = c
    generalize hfp : Xlsx.padTake c first = fp
    -- the header comprehension never raises: the name of column `i` is `hdrOf env i v`
    rw [mapM_ok (fun x => hdrOf env x.1 x.2)]
    rotate_left
    · intro x hx
      obtain ⟨i, v⟩ := x
      simp only [hdrOf]
      -- the generated name as a variable keeps `simp` off its literal
      generalize "Unnamed: ".toList ++ intStr i = u
      cases v <;> simp +instances [isInstance, isInst, asStr, Xlsx.isBlankStr, unnamedCell]
    simp only [M.ok_bind]
    generalize hh : (enumerate fp).map (fun x => hdrOf env x.1 x.2) = hdrs
    -- the `for` loop appends one record and one row per data row (the two alternatives: the two orders in which the
    -- translator may list the loop's variables `records`, `all_rows`)
    have recLoop {σ : Type} (e : List (List (Py.Str × Val)) × VGrid × Unit → σ) :=
      forIn_collect e (fun row => [recordOf hdrs row]) (fun row => [row.map Xlsx.getCellValue]) (fun _ _ => ())
    first
      | rw [recLoop (fun t => (t.1, t.2.1)) (a := []) (c := ())]
      | rw [recLoop (fun t => (t.2.1, t.1)) (a := []) (c := ())]
    rotate_left
    · intro row a b _
      rw [filterMapM_ok (fun x => match hdrs[x.1.toNat]? with
        | some hd => some (hd, Xlsx.getCellValue x.2)
        | none => none)]
      · rw [mapM_ok Xlsx.getCellValue _ _ (fun _ _ => rfl)]
        rfl
      · intro x hx
        obtain ⟨j, hj, _⟩ := mem_enumerate hx
        obtain ⟨i, v⟩ := x
        simp only at hj
        subst hj
        simp only [Int.toNat_natCast]
        rw [guarded_getItem]
        cases hdrs[j]? <;> rfl
    rw [mapM_ok Xlsx.getCellValue _ _ (fun _ _ => rfl)]
    simp only [M.ok_bind, List.nil_append, List.singleton_append, ← List.map_eq_flatMap]
    -- what is left to compare is the header row: the names are the model's `headerName` of the padded first row
    refine ⟨rest.map (fun row => recordOf hdrs (Xlsx.padTake c row)), ?_⟩
    have hd : rows0.headD [] = first := by
      rw [← List.take_append_drop (Xlsx.findLastDataRow rows0) rows0, h1]; rfl
    have hhead : List.map Val.str hdrs
        = List.zipWith (fun i v => Xlsx.headerName i v (strOfFirst env rows0 i)) (List.range fp.length) fp := by
      rw [← hh, List.map_map, map_enumerate_zipIdx, List.zipWith_comm, List.range_eq_range']
      refine (List.map_congr_left (g := fun vi => Xlsx.headerName vi.2 vi.1 (strOfFirst env rows0 vi.2)) fun vi hvi => ?_).trans ?_
      · have hv := List.mem_zipIdx_iff_getElem?.mp hvi
        have hjc : vi.2 < c := by rw [← Xlsx.padTake_length c first, hfp]; exact (List.getElem?_eq_some_iff.mp hv).1
        rw [← hfp, Xlsx.padTake_get c first vi.2 hjc] at hv
        simp only [Function.comp, hdrOf_eq env h, strOfFirst, hd, ← Option.some.inj hv, List.getD_eq_getElem?_getD]
      · rw [List.zipIdx_eq_zip_range', List.zip_eq_zipWith, List.map_zipWith]
    rw [show (1 : Int) = ((1 : Nat) : Int) from rfl, pSlice_from_nat]
    simp only [List.drop_succ_cons, List.drop_zero, hhead, List.map_map, Function.comp_def]

/-- `StrOfOk` is satisfiable -/
example : StrOfOk ⟨fun v => match v with | .str s => s | .other s => s | _ => [], fun _ => pure []⟩ :=
  ⟨fun _ => rfl, fun _ => rfl⟩

/-- `all_rows` / `first_row` of the translated `_read_sheet_data` are the hand model's (what `XlsxSheet.data` is built from) -/
theorem read_sheet_data_table (env : XlsxEnv) (h : StrOfOk env) (ws : Worksheet) (r) (hr : _read_sheet_data env ws = .ok r) :
    (r.2.1, r.2.2) = Xlsx.readSheetData ws.rows (strOfFirst env ws.rows) := by
  obtain ⟨recs, he⟩ := read_sheet_data_eq env h ws
  rw [he] at hr
  cases hr
  rfl

/-! ## XLSX `_read_content_from_workbook`: which rows become `XlsxSheet.data` -/

/-- one sheet of `_read_content_from_workbook` -/
def readSheet (env : XlsxEnv) (wb : List (Py.Str × Worksheet)) (name : Py.Str) : M XlsxSheet := do
  let ws ← dictGetItem wb name
  let text ← _format_sheet_as_text env (Xlsx.readSheetData ws.rows (strOfFirst env ws.rows)).1
  pure { name := name, data := Xlsx.sheetData ws.rows (strOfFirst env ws.rows), text := text, images := [] }

/-- **C13 source tie (XLSX).**  `XlsxSheet.data` of every sheet the translated `_read_content_from_workbook` builds is the hand
    model `Xlsx.sheetData` of the worksheet's rows (the table-name-row test included); a missing sheet name is the
    `KeyError` of `wb[name]`, an exception of `_format_value_for_display` propagates -/
theorem read_content_from_workbook_eq (env : XlsxEnv) (h : StrOfOk env) (wb : List (Py.Str × Worksheet)) (names : List Py.Str) :
    _read_content_from_workbook env wb names = names.mapM (readSheet env wb) := by
  unfold _read_content_from_workbook
  simp +instances only [M.pure_def, bind_pure_comp, pure_bind, bind_assoc, M.ok_bind, is_table_name_row_eq, listAppend_def]
  rw [forIn_mapM_fold (fun t => t) (readSheet env wb) (fun s y => s ++ [y])]
  · simp only [foldl_append_map (fun y : XlsxSheet => y), List.map_id', List.nil_append]
    cases List.mapM (readSheet env wb) names <;> rfl
  · intro name s
    simp only [readSheet, bind_assoc, M.pure_def, M.ok_bind]
    refine bind_congr (fun ws => ?_)
    obtain ⟨recs, he⟩ := read_sheet_data_eq env h ws
    rw [he]
    simp only [M.ok_bind]
    refine bind_congr (fun text => ?_)
    simp only [Xlsx.sheetData]
    generalize Xlsx.readSheetData ws.rows (strOfFirst env ws.rows) = r
    obtain ⟨allRows, firstRow⟩ := r
    cases allRows with
    | nil => simp
    | cons hd rest =>
      simp only [truthy_list, List.isEmpty_cons, Bool.not_false, if_true, listGetItem_cons_zero, M.ok_bind,
        show (1 : Int) = ((1 : Nat) : Int) from rfl, pSlice_from_nat, List.drop_succ_cons, List.drop_zero]
      cases Xlsx.isTableNameRow hd <;> simp

/-- the data of the sheets that come back -/
theorem read_content_data (env : XlsxEnv) (h : StrOfOk env) (wb : List (Py.Str × Worksheet)) (names : List Py.Str)
    (sheets : List XlsxSheet) (hr : _read_content_from_workbook env wb names = .ok sheets) :
    ∀ sh ∈ sheets, ∃ name ∈ names, ∃ ws, dictGetItem wb name = .ok ws ∧ sh.name = name ∧
      sh.data = Xlsx.sheetData ws.rows (strOfFirst env ws.rows) := by
  rw [read_content_from_workbook_eq env h] at hr
  intro sh hsh
  obtain ⟨name, hname, hs⟩ := mapM_ok_mem hr sh hsh
  simp only [readSheet, bind_eq_ok, M.pure_def, Except.ok.injEq] at hs
  obtain ⟨ws, hw, text, _, rfl⟩ := hs
  exact ⟨name, hname, ws, hw, rfl, rfl⟩

end S2T.C13.Src
