import S2T.Model.InputStream
import S2T.Gen.Effects
/-!
# C06 (input buffer) — read-only is a property of modelled `BytesIO` operations

`S2T.C06.input_methods_readonly` compares the inventoried method names with a list; here the names are
mapped to operations of a `BytesIO` model that also has the mutators, the read-only ones are proved
to keep the content for every call sequence, the mutators are proved able to change it (so none of them
could be moved to the read-only side), and the inventory — which follows the caller's stream through
aliases, `self.<attr>` and package callees — is decided to contain modelled read-only methods only.
-/
namespace S2T.C06Input
open S2T.Observe S2T.InputStream S2T.Gen.Effects

theorem readOnly_step_content (s : Stream) (op : InOp) (h : readOnly op = true) : (inStep s op).content = s.content := by
  cases op <;> simp_all [readOnly, inStep]

/-- **C06 (input untouched)**: any sequence of the read-only operations, at any positions, leaves the
    caller's buffer content as it was -/
theorem readOnly_run_content (s : Stream) (ops : List InOp) (h : ops.all readOnly = true) :
    (inRun s ops).content = s.content := by
  induction ops generalizing s with
  | nil => rfl
  | cons op ops ih =>
    simp only [List.all_cons, Bool.and_eq_true] at h
    simp only [inRun]
    rw [ih _ h.2, readOnly_step_content s op h.1]

/-- the classification is tight: every operation not classified read-only changes some buffer -/
theorem mutators_change_content :
    (∃ s b, (inStep s (.write b)).content ≠ s.content) ∧
    (∃ s n, (inStep s (.truncate n)).content ≠ s.content) ∧
    (∃ s b, (inStep s (.writelines b)).content ≠ s.content) :=
  ⟨⟨⟨[1, 2, 3], 0⟩, [9], by decide⟩, ⟨⟨[1, 2, 3], 1⟩, none, by decide⟩, ⟨⟨[1, 2, 3], 5⟩, [9], by decide⟩⟩

/-- the shape of "drop what precedes the header": seek(k); rest = read(); seek(0); write(rest); truncate()
    shortens the caller's buffer whenever k > 0 and the buffer is longer than k -/
theorem drop_prefix_in_place_changes (content : List Nat) (k : Nat) (hk : 0 < k) (hl : k < content.length) :
    (inRun ⟨content, 0⟩ [.seek k, .readAll, .seek 0, .write (content.drop k), .truncate none]).content ≠ content := by
  intro h
  have hlen := congrArg List.length h
  have hd : content.drop k ≠ [] := by
    intro hd; have := congrArg List.length hd; simp at this; omega
  simp [inRun, inStep, writeAt, hd] at hlen
  omega

/-- **C06 (input methods), decided on the current source**: every method called on the caller's stream —
    under whatever name it is held — is a modelled read-only operation -/
theorem input_methods_modelled_readonly :
    inputMethods.all (fun m => methodReadOnly m == some true) = true := by decide +kernel

example : (inRun ⟨[1, 2, 3, 4], 0⟩ [.read 2, .seek 9, .readAll, .getvalue, .readline]).content = [1, 2, 3, 4] := by decide
example : (inRun ⟨[7, 7, 37, 80, 68, 70], 0⟩ [.seek 2, .readAll, .seek 0, .write [37, 80, 68, 70], .truncate none]).content = [37, 80, 68, 70] := by decide
example : (inStep ⟨[1, 2], 4⟩ (.write [9])).content = [1, 2, 0, 0, 9] := by decide
example : inputMethods.length ≥ 3 := by decide

end S2T.C06Input
