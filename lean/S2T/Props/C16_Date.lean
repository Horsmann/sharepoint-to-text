import S2T.Model.MailDate
import S2T.Lemmas.Chars
import S2T.Gen.Mail
/-!
# C16 (part) — the ISO date is the date-time the Date header denotes, offset exactly as written

`parse_email_message` returns `parsedate_to_datetime(decode_header_value(message.get("Date"))).isoformat()`.
For every date, time of day and zone (RFC 5322 years, i.e. >= 1900):

* the canonical header `Www, DD Mon YYYY HH:MM:SS ±HHMM` yields `YYYY-MM-DDTHH:MM:SS±HH:MM` with the SAME local time
  and the SAME offset (`C16_date_exact`, `C16_date_offset_as_written`) — no conversion to another zone;
* the zone `-0000` ("UTC, nothing known about the local zone", what `email.utils.formatdate()` writes) yields the
  naive ISO text without any offset (`C16_date_minus_zero_naive`), and that text differs from the one of `+0000`
  (`C16_date_zero_zones_differ`);
* the ISO text loses nothing: it determines all fields and the offset (`C16_date_iso_injective`);
* a value `datetime` rejects is rejected, never replaced (`C16_date_rejects`).

Tie to the current source (`tools/gen/mail.py`, re-decided on every run): the expression bound to
`EmailMetadata(date=…)` in both extractors, the run-time identity of the functions it names, and the result of the
running `parse_email_message` on canonical Date headers (`-0000`, `+0000`, non-zero offsets, leap day, the year
window 0068/0069) — recomputed here with the model (`gen_date_probe`).
-/
namespace S2T.C16.Date
open S2T.MailDate

/-- the date of the result is, in the mbox extractor, the stdlib's `parsedate_to_datetime` of the decoded `Date`
    header printed by `isoformat()` — no other parser in front of it, nothing after it; in the .eml extractor
    mailparser's `date` printed by `isoformat()` (or empty when there is none) -/
theorem gen_date :
    S2T.Gen.Mail.dateExprs =
      [("mbox", ["parsedate_to_datetime(decode_header_value(message.get('Date'))).isoformat()"]),
       ("eml", ["''", "mail.date.isoformat()"])] ∧
    S2T.Gen.Mail.dateCallees =
      [("parsedate_to_datetime", "email.utils.parsedate_to_datetime"),
       ("decode_header_value", "sharepoint2text.parsing.extractors.mail.mbox_email_extractor.decode_header_value")] :=
  ⟨rfl, rfl⟩

/-- the running `parse_email_message` agrees with the model on every probe header (at least 6 of them, `-0000` and
    `+0000` among them) -/
theorem gen_date_probe :
    (S2T.Gen.Mail.dateProbe.all fun p =>
      match isoOfHeader p.1.toList with
      | .ok r => r == p.2.toList
      | .error _ => false) = true ∧
    6 ≤ S2T.Gen.Mail.dateProbe.length ∧
    (S2T.Gen.Mail.dateProbe.map (·.1)).contains "Fri, 05 Jan 2024 10:00:00 -0000" = true ∧
    (S2T.Gen.Mail.dateProbe.map (·.1)).contains "Fri, 05 Jan 2024 10:00:00 +0000" = true := by
  -- the probes as pairs of character lists, so that `decide_chars` finds the literals under `toList`
  refine ⟨Eq.trans (List.all_map (f := fun p : String × String => (p.1.toList, p.2.toList))
    (p := fun q => match isoOfHeader q.1 with | .ok r => r == q.2 | .error _ => false)).symm ?_, by decide +kernel⟩
  unfold S2T.Gen.Mail.dateProbe
  simp only [List.map_cons, List.map_nil]
  decide_chars

private theorem digitVal_digit : ∀ k, k < 10 → digitVal? (digit k) = some k := by decide

private theorem num2_pad (n : Nat) (h : n < 100) : num2 (digit (n / 10)) (digit (n % 10)) = some n := by
  have h1 := digitVal_digit (n / 10) (by omega)
  have h2 := digitVal_digit (n % 10) (by omega)
  simp [num2, h1, h2]; omega

private theorem num4_pad (n : Nat) (h : n < 10000) :
    num4 (digit (n / 1000)) (digit (n / 100 % 10)) (digit (n / 10 % 10)) (digit (n % 10)) = some n := by
  have h1 := num2_pad (n / 100) (by omega)
  have h2 := num2_pad (n % 100) (by omega)
  have e1 : n / 100 / 10 = n / 1000 := by omega
  have e3 : n % 100 / 10 = n / 10 % 10 := by omega
  have e4 : n % 100 % 10 = n % 10 := by omega
  rw [e1] at h1; rw [e3, e4] at h2
  simp [num4, h1, h2]; omega

private theorem monthOf_chars : ∀ m, m < 13 → 1 ≤ m →
    monthOf (monthChars m).1 (monthChars m).2.1 (monthChars m).2.2 = some m := by decide

/-- every field `datetime.datetime` accepts fits its column; a conjunction for `simp`, which takes it as six rewrite rules -/
private theorem pads {s : Stamp} (h : FieldsOk s) :
    num4 (digit (s.year / 1000)) (digit (s.year / 100 % 10)) (digit (s.year / 10 % 10)) (digit (s.year % 10)) = some s.year ∧
    num2 (digit (s.month / 10)) (digit (s.month % 10)) = some s.month ∧
    num2 (digit (s.day / 10)) (digit (s.day % 10)) = some s.day ∧
    num2 (digit (s.hour / 10)) (digit (s.hour % 10)) = some s.hour ∧
    num2 (digit (s.minute / 10)) (digit (s.minute % 10)) = some s.minute ∧
    num2 (digit (s.second / 10)) (digit (s.second % 10)) = some s.second := by
  have : daysIn s.year s.month ≤ 31 := by unfold daysIn; split <;> (try split) <;> omega
  unfold FieldsOk at h
  obtain ⟨hy, hmo, hd, hh, hmi, hsec⟩ :
      s.year < 10000 ∧ s.month < 100 ∧ s.day < 100 ∧ s.hour < 100 ∧ s.minute < 100 ∧ s.second < 100 := by omega
  exact ⟨num4_pad _ hy, num2_pad _ hmo, num2_pad _ hd, num2_pad _ hh, num2_pad _ hmi, num2_pad _ hsec⟩

private theorem FieldsOk.month_pos {s : Stamp} (h : FieldsOk s) : 1 ≤ s.month := h.2.2.1
private theorem FieldsOk.month_le {s : Stamp} (h : FieldsOk s) : s.month ≤ 12 := h.2.2.2.1

private theorem zoneOf_text_none : zoneOf '-' 0 0 = some none := by decide

/-- hours `A` and minutes `B` of an offset `datetime.timezone` accepts: two digits each, and with the sign they are the
    offset again.  (They are variables in the statement: `simp` must not rewrite inside `z.natAbs / 60`.) -/
private theorem zone_digits (z : Int) (hz : z.natAbs < 1440) :
    ∃ A B : Nat, z.natAbs / 60 = A ∧ z.natAbs % 60 = B ∧
      num2 (digit (A / 10)) (digit (A % 10)) = some A ∧ num2 (digit (B / 10)) (digit (B % 10)) = some B ∧
      zoneOf (if z < 0 then '-' else '+') A B = some (some z) ∧
      offsetOf (if z < 0 then '-' else '+') A B = some z := by
  have hAB : 60 * (z.natAbs / 60) + z.natAbs % 60 = z.natAbs := by omega
  refine ⟨_, _, rfl, rfl, num2_pad _ (by omega), num2_pad _ (by omega), ?_⟩
  generalize z.natAbs / 60 = A at *
  generalize z.natAbs % 60 = B at *
  by_cases hneg : z < 0
  · have hne : ¬ (A = 0 ∧ B = 0) := by omega
    have hval : -(60 * (A : Int) + (B : Int)) = z := by omega
    simp [hneg, zoneOf, offsetOf, hne, hval]
  · have hval : 60 * (A : Int) + (B : Int) = z := by omega
    simp [hneg, zoneOf, offsetOf, hval]

/-- reading the canonical form gives back exactly what was written: date, time of day and the zone AS WRITTEN
    (`-0000` = no zone information, distinct from `+0000`) -/
theorem C16_date_parse_render (w1 w2 w3 : Char) (s : Stamp) (h : WF s) (hy : 1900 ≤ s.year) : parseCanonical (render w1 w2 w3 s) = some s := by
  obtain ⟨y, mo, d, hh, mi, sec, z⟩ := s
  have np := pads h.1
  have hz := h.2
  simp only at hy np hz  -- the fields of the stamp that is written out
  have nm := monthOf_chars mo (by have := FieldsOk.month_le h.1; simp only at this; omega) (FieldsOk.month_pos h.1)
  have hyr : yearOf y = y := by unfold yearOf; split <;> (try split) <;> omega
  cases z with
  | none =>
    have n00 : num2 '0' '0' = some 0 := by decide
    simp [render, parseCanonical, pad2, pad4, zoneText, np, nm, n00, zoneOf, hyr]
  | some z =>
    obtain ⟨A, B, eA, eB, nzh, nzm, hzone, _⟩ := zone_digits z hz
    simp only [render, zoneText, eA, eB]
    simp [parseCanonical, pad2, pad4, np, nm, nzh, nzm, hyr, hzone]

/-- the ISO text determines the date, the time of day and the offset (or its absence) -/
theorem C16_date_iso_roundtrip (s : Stamp) (h : WF s) : parseIso (iso s) = some s := by
  obtain ⟨y, mo, d, hh, mi, sec, z⟩ := s
  have np := pads h.1
  have hz := h.2
  simp only at np hz  -- as in `C16_date_parse_render`
  cases z with
  | none => simp [iso, isoLocal, isoOffset, parseIso, parseIsoLocal, pad2, pad4, np]
  | some z =>
    obtain ⟨A, B, eA, eB, nzh, nzm, _, hoff⟩ := zone_digits z hz
    simp only [iso, isoLocal, isoOffset, eA, eB]
    simp [parseIso, parseIsoLocal, pad2, pad4, np, nzh, nzm, hoff]

theorem C16_date_iso_injective (a b : Stamp) (ha : WF a) (hb : WF b) (h : iso a = iso b) : a = b := by
  have h1 := C16_date_iso_roundtrip a ha
  have h2 := C16_date_iso_roundtrip b hb
  rw [h] at h1
  rw [h1] at h2
  exact Option.some.inj h2

theorem C16_date_exact (w1 w2 w3 : Char) (s : Stamp) (h : WF s) (hy : 1900 ≤ s.year) :
    isoOfHeader (render w1 w2 w3 s) = .ok (iso s) := by
  simp [isoOfHeader, C16_date_parse_render w1 w2 w3 s h hy, isoChecked, h.1, h.2]

theorem C16_date_minus_zero_naive (w1 w2 w3 : Char) (s : Stamp) (h : WF s) (hy : 1900 ≤ s.year) (hz : s.zone = none) :
    isoOfHeader (render w1 w2 w3 s) = .ok (isoLocal s) ∧ (isoLocal s).length = 19 := by
  rw [C16_date_exact w1 w2 w3 s h hy]
  simp [iso, hz, isoOffset, isoLocal, pad2, pad4]

theorem C16_date_offset_as_written (w1 w2 w3 : Char) (s : Stamp) (h : WF s) (hy : 1900 ≤ s.year) (z : Int) (hz : s.zone = some z) :
    isoOfHeader (render w1 w2 w3 s) =
      .ok (isoLocal s ++ [if z < 0 then '-' else '+'] ++ pad2 (z.natAbs / 60) ++ [':'] ++ pad2 (z.natAbs % 60)) := by
  rw [C16_date_exact w1 w2 w3 s h hy]
  simp [iso, hz, isoOffset]

theorem C16_date_zero_zones_differ (s : Stamp) : iso { s with zone := some 0 } ≠ iso { s with zone := none } := by
  intro h
  have := congrArg List.length h
  simp [iso, isoOffset, isoLocal, pad2, pad4] at this

theorem C16_date_tuple (y mo d h mi sec : Nat) (z : Int) :
    ofTuple y mo d h mi sec (some (60 * z)) = isoChecked ⟨y, mo, d, h, mi, sec, some z⟩ ∧
    ofTuple y mo d h mi sec none = isoChecked ⟨y, mo, d, h, mi, sec, none⟩ := by
  constructor
  · simp [ofTuple]
  · simp [ofTuple]

theorem C16_date_rejects (s : Stamp) : (isoChecked s).isOk = true ↔ WF s := by
  unfold isoChecked WF
  by_cases h1 : FieldsOk s <;> by_cases h2 : ZoneOk s.zone <;> simp [h1, h2, Except.isOk, Except.toBool]

/-- the hypotheses are satisfiable: a leap day with the zone `-0000`, and a negative half-hour offset -/
example : WF ⟨2024, 2, 29, 23, 59, 59, none⟩ ∧ 1900 ≤ (⟨2024, 2, 29, 23, 59, 59, none⟩ : Stamp).year := by decide
-- (the literals as character lists by the rewrite `decide_chars` uses; `Except DateErr` has no `DecidableEq`, hence `rfl`)
example : isoOfHeader (render 'T' 'h' 'u' ⟨2024, 2, 29, 23, 59, 59, none⟩) = .ok "2024-02-29T23:59:59".toList := by
  simp -index only [String.toList_ofList]
  rfl
example : isoOfHeader (render 'T' 'h' 'u' ⟨2024, 2, 29, 23, 59, 59, some (-210)⟩) = .ok "2024-02-29T23:59:59-03:30".toList := by
  simp -index only [String.toList_ofList]
  rfl
example : render 'F' 'r' 'i' ⟨2024, 1, 5, 10, 0, 0, none⟩ = "Fri, 05 Jan 2024 10:00:00 -0000".toList := by
  decide_chars
/-- `datetime` refuses the 30th of February and an offset of 24 hours -/
example : isoOfHeader "Fri, 30 Feb 2024 10:00:00 +0000".toList = .error .fieldRange := by
  simp -index only [String.toList_ofList]
  rfl
example : isoOfHeader "Fri, 05 Jan 2024 10:00:00 +2400".toList = .error .zoneRange := by
  simp -index only [String.toList_ofList]
  rfl

end S2T.C16.Date
