import S2T.Model.ObserveArgs
import S2T.Lemmas.History
import S2T.Spec.C06Ambient
import S2T.Gen.Observers
/-!
# C06 (observers with arguments) — an answer does not depend on the arguments of earlier calls

`text s flag` is a function of the slide and the argument, so any call sequence is trivially history free as long as
the source computes it afresh.  The interesting statements are about keeping part of the answer per instance:
`cachedCopy` is unobservable for EVERY sequence of calls, `cachedAlias` is observable on every slide that has a
caption.  The tie: the accessor parameters of the current source are exactly the modelled ones, each of a kind the
observer-sequence generator varies, and no result class keeps per-instance state outside its dataclass fields.
-/
namespace S2T.C06Observers
open S2T.ObserveArgs S2T.History S2T.Spec.C06Ambient S2T.Gen.Observers

private theorem cachedCopy_keep (s : Slide) (c : Option (List String)) (f : Bool)
    (hc : c = none ∨ c = some (baseParts s)) : (cachedCopy s c f).2 = none ∨ (cachedCopy s c f).2 = some (baseParts s) := by
  rcases hc with rfl | rfl <;> simp [cachedCopy]

private theorem cachedCopy_ans (s : Slide) (c : Option (List String)) (f : Bool)
    (hc : c = none ∨ c = some (baseParts s)) : (cachedCopy s c f).1 = parts s f := by
  rcases hc with rfl | rfl <;> simp [cachedCopy, parts]

/-- **C06 (observer arguments, copy)**: after ANY sequence of calls with any arguments, a call answers what it
    answers on a fresh result -/
theorem cachedCopy_sequence_free (s : Slide) (hist : List Bool) (flag : Bool) :
    (cachedCopy s (after (cachedCopy s) none hist) flag).1 = parts s flag :=
  cachedCopy_ans s _ flag (after_inv _ _ (cachedCopy_keep s) (.inl rfl) hist)

/-- … so every call of a sequence gets the stateless answer -/
theorem cachedCopy_outputs (s : Slide) (flags : List Bool) (c : Option (List String))
    (hc : c = none ∨ c = some (baseParts s)) :
    outputs (cachedCopy s) c flags = flags.map (parts s) :=
  outputs_inv _ _ (cachedCopy_keep s) _ (cachedCopy_ans s) hc flags

/-- **C06 (observer arguments, alias)**: on EVERY slide with a caption, the default request after one caption request
    returns the captions too -/
theorem cachedAlias_sequence_dependent (s : Slide) (h : captions s ≠ []) :
    (cachedAlias s (after (cachedAlias s) none [true]) false).1 ≠ parts s false := by
  simp only [after, cachedAlias, parts, Option.getD_none, Option.getD_some, if_true]
  intro heq
  have := congrArg List.length heq
  simp only [List.length_append] at this
  have hpos : 0 < (captions s).length := List.length_pos_iff.mpr h
  omega

/-- … and a second caption request returns them twice -/
theorem cachedAlias_grows (s : Slide) :
    (cachedAlias s (after (cachedAlias s) none [true]) true).1 = baseParts s ++ captions s ++ captions s := by
  simp [after, cachedAlias]

/-- every optional parameter of every observer method is of a kind the observer-sequence generator has values for -/
theorem accessor_params_exercised : accessorParams.all (fun p => exercisedKinds.contains p.2.2.2) = true := by decide +kernel

/-- … and is one whose meaning the model has -/
theorem accessor_params_modelled : accessorParams.all (fun p => modelledParams.contains (p.1, p.2.1, p.2.2.1)) = true := by decide +kernel

/-- public methods of result classes that need an argument (none in the current source) -/
theorem required_arg_methods_reviewed : requiredArgMethods = [] := by decide

/-- no result / unit / image / table class keeps state outside its dataclass fields (`__dict__`, `vars`, `setattr`,
    cached properties) -/
theorem no_instance_caches : instanceCaches = [] := by decide

example : text ⟨"Quarterly results", [(false, "x^2")], ["Bar chart", ""]⟩ true = "Quarterly results\n$x^2$\n[Image: Bar chart]" := by decide
example : text ⟨"", [(true, "a")], ["d"]⟩ false = "$$a$$" := by decide
example : captions ⟨"t", [], ["", "x"]⟩ ≠ [] := by decide
example : accessorParams.length ≥ 3 := by decide

end S2T.C06Observers
