import S2T.Lemmas.SharePoint
import S2T.Gen.SharePoint
import S2T.Props.C18_Folders
import S2T.Props.C18_Src
import S2T.Props.C18_Items
import S2T.Lemmas.Chars
/-!
# C18 — SharePoint listing is complete, exact and fault-contained

FULL STATEMENT (fixed, from properties.jsonl):
  Against any document library (any folder tree, any page size, any number of pages) `list_all_files`
  and the filtered listings return every matching file exactly once with its correct parent path and
  nothing that does not match: date bounds are inclusive-after and exclusive-before, extension match is
  case-insensitive, patterns apply to the full path.  If a request fails at any point of the sequence
  the call raises an error of the client's own family (for HTTP and network failures the request error
  carrying status and URL), every response opened so far has been closed, and repeating the call against
  a healthy transport returns the complete listing.

On the upstream tree the statement is FALSE in three places (reproduced on the real client, see
`harness/props/c18.py::KNOWN_LEGACY`); each has a fix patch, the model has a switch per defect (`Cfg`),
the property theorems below are about `Cfg.fixed` and are tied to the source by `gen_cfg_fixed`
(re-decided on the behaviour probed from the current tree on every run); the counterexample theorems
`legacy_*` show that each switch is needed.

Start folders addressed by path (`folder_paths`) and the lazy (generator) delivery of partial results are in
the part file `Props/C18_Folders.lean` (namespace `S2T.C18.Folders`); `listFiltered` below is
`list(list_files_filtered(...))` with `folder_paths = []` (`Folders.C18_lazy_is_eager`).

Quantifiers: every library `L : Lib` (any tree), every page size `n > 0`, every fuel above an explicit
bound (fuel only limits how long the model follows the *server's* nextLink chains / folder depth), every
client state the client can be in (caches empty or filled), every transport for the fault-containment
theorems (not only "one fault at request k"), every filter, every `fromisoformat` / `lower` / `fnmatch`.
-/
namespace S2T.C18
open S2T.SP

/-- every folder id is non-empty and addresses that folder's own children on the server
    (what unique ids give; decidable, see `wellAddressed_example`) -/
def WellAddressed (L : Lib) : Prop := resolves L L = true

/-- unique, non-empty folder ids (what Graph guarantees) are enough -/
theorem C18_unique_ids_wellAddressed (L : Lib) (hn : L.folderIds.Nodup) (he : ∀ id ∈ L.folderIds, id ≠ []) :
    WellAddressed L := resolves_of_nodup L hn he

/-- The tree under check behaves, on the three repaired points, like the model the theorems are about. -/
theorem gen_cfg_fixed : S2T.Gen.SharePoint.cfg = Cfg.fixed := by decide

/-- the translator found the constants to be the literals the source shows and the URL shapes it expects -/
theorem gen_notes_empty : S2T.Gen.SharePoint.notes = [] := by decide

/-- the status range of the model is the one `_send` compares against, and the real `_send` accepted /
    rejected every probed status as the model does -/
theorem gen_status_range :
    (∀ st, ok2xx st = (decide (S2T.Gen.SharePoint.statusLo ≤ st) && decide (st < S2T.Gen.SharePoint.statusHi))) ∧
    S2T.Gen.SharePoint.statusProbes.all (fun p => ok2xx p.1 == p.2) = true := by
  refine ⟨fun st => rfl, by decide⟩

/-- closed world: `_send` is the only place a request leaves the client, and nobody calls `urlopen` directly;
    both client errors belong to the `SharePointError` family -/
theorem gen_single_transport_site :
    S2T.Gen.SharePoint.requestSites = ["_send"] ∧ S2T.Gen.SharePoint.urlopenSites = [] ∧
    S2T.Gen.SharePoint.sendCallers.all
      (["fetch_access_token", "_get_json", "download_file", "download_file_by_path"].contains ·) = true ∧
    S2T.Gen.SharePoint.errorFamily.all (·.2) = true := by decide

/-- number of `file` nodes of a library -/
def fileCount : Lib → Nat
  | .nil => 0
  | .file _ r => fileCount r + 1
  | .other r => fileCount r
  | .folder _ _ k r => fileCount k + fileCount r

/-- `Occurs p L m`: the library (whose root folder has path `p`) contains a file node whose metadata,
    with the path of the folder it sits in, is `m`. -/
inductive Occurs : Str → Lib → FileMeta → Prop
  | here (p f r) : Occurs p (.file f r) (parseFile p f)
  | fileRest {p f r m} : Occurs p r m → Occurs p (.file f r) m
  | otherRest {p r m} : Occurs p r m → Occurs p (.other r) m
  | inFolder {p n id k r m} : Occurs (childPath p n) k m → Occurs p (.folder n id k r) m
  | folderRest {p n id k r m} : Occurs p r m → Occurs p (.folder n id k r) m

/-- The specification listing is exact: it contains `m` iff a file node with that metadata and that parent
    path exists … -/
theorem C18_spec_exact (L : Lib) (p : Str) (m : FileMeta) : m ∈ specListing p L ↔ Occurs p L m := by
  constructor
  · intro h
    induction L generalizing p with
    | nil => cases h
    | file f r ih =>
      rcases List.mem_cons.mp h with rfl | h
      · exact .here p f r
      · exact .fileRest (ih p h)
    | other r ih => exact .otherRest (ih p h)
    | folder n id k r ihk ihr =>
      rcases List.mem_append.mp h with h | h
      · exact .inFolder (ihk _ h)
      · exact .folderRest (ihr p h)
  · intro h
    induction h with
    | here => exact List.mem_cons_self
    | fileRest _ ih => exact List.mem_cons_of_mem _ ih
    | otherRest _ ih => exact ih
    | inFolder _ ih => exact List.mem_append_left _ ih
    | folderRest _ ih => exact List.mem_append_right _ ih

/-- … and has exactly one entry per file node (so: every file exactly once). -/
theorem C18_spec_once (L : Lib) (p : Str) : (specListing p L).length = fileCount L := by
  induction L generalizing p with
  | nil => rfl
  | file f r ih => simp [specListing, fileCount, ih]
  | other r ih => simp [specListing, fileCount, ih]
  | folder n id k r ihk ihr => simp [specListing, fileCount, ihk, ihr]

/-- COMPLETE + EXACT.  Against the healthy server of any library, with any page size, from any consistent
    client state, `list_all_files` returns a rearrangement of the specification listing: every file once,
    with its parent path, nothing else (the order is: a folder's own files first, then its sub-folders). -/
theorem C18_complete (L : Lib) (n : Nat) (hn : 0 < n) (hL : WellAddressed L)
    (fuel : Nat) (hf : L.size + 2 ≤ fuel) (s : St) (hs : Consistent s) :
    ∃ out s', listAll .fixed (healthy L n) fuel s = (.ok out, s') ∧
      out = clientListing [] L ∧ out.Perm (specListing [] L) ∧ out.length = fileCount L := by
  obtain ⟨s', h⟩ := listAll_healthy .fixed L n hn hL fuel hf s hs
  refine ⟨_, s', h, rfl, clientListing_perm L [], ?_⟩
  rw [(clientListing_perm L []).length_eq, C18_spec_once]

/-- what `FileFilter.matches` is documented to mean -/
def SpecMatches (iso : Str → Option Int) (lower : Str → Str) (glob : Str → Str → Bool)
    (f : Filter) (m : FileMeta) : Prop :=
  DateIn (parseIso .fixed iso) m.created f.createdAfter f.createdBefore ∧
  DateIn (parseIso .fixed iso) m.modified f.modifiedAfter f.modifiedBefore ∧
  (f.extensions = [] ∨ ∃ e ∈ f.extensions, (lower e) <:+ (lower m.name)) ∧
  (f.patterns = [] ∨ ∃ p ∈ f.patterns, glob m.fullPath p = true)

/-- FILTER SEMANTICS: the model of `FileFilter.matches` accepts exactly the files the documentation
    describes — a bound on a date requires the date to be present and parseable, `after` is inclusive
    (`a ≤ ts`), `before` is exclusive (`ts < b`), the extension is compared after lower-casing both sides,
    and patterns see the full path `parent/name`. -/
theorem C18_matches_iff (iso : Str → Option Int) (lower : Str → Str) (glob : Str → Str → Bool)
    (f : Filter) (m : FileMeta) :
    matchesF .fixed iso lower glob f m = true ↔ SpecMatches iso lower glob f m := by
  unfold matchesF SpecMatches
  simp only [Bool.and_eq_true, dateOk_iff, and_assoc]
  refine and_congr Iff.rfl (and_congr Iff.rfl (and_congr ?_ ?_))
  · unfold extOk
    simp only [Bool.or_eq_true, List.isEmpty_iff, List.any_eq_true, List.isSuffixOf_iff_suffix]
  · unfold patOk
    simp only [Bool.or_eq_true, List.isEmpty_iff, List.any_eq_true]

/-- the full path patterns see is `name` at the root and `parent/name` below it -/
theorem C18_fullPath (m : FileMeta) :
    m.fullPath = if m.parent = [] then m.name else m.parent ++ '/' :: m.name := by
  unfold FileMeta.fullPath
  cases m.parent <;> simp

/-- FILTERED LISTING: returns exactly the matching entries of the complete listing (all of them, once,
    nothing else). -/
theorem C18_filter (iso : Str → Option Int) (lower : Str → Str) (glob : Str → Str → Bool) (f : Filter)
    (L : Lib) (n : Nat) (hn : 0 < n) (hL : WellAddressed L)
    (fuel : Nat) (hf : L.size + 2 ≤ fuel) (s : St) (hs : Consistent s) :
    ∃ out s', listFiltered .fixed (healthy L n) iso lower glob f fuel s = (.ok out, s') ∧
      out.Perm ((specListing [] L).filter (matchesF .fixed iso lower glob f)) ∧
      (∀ m, m ∈ out ↔ Occurs [] L m ∧ SpecMatches iso lower glob f m) := by
  obtain ⟨s', h⟩ := listFiltered_healthy .fixed L n iso lower glob f hn hL fuel hf s hs
  have hp := (clientListing_perm L []).filter (matchesF .fixed iso lower glob f)
  refine ⟨_, s', h, hp, ?_⟩
  intro m
  rw [hp.mem_iff, List.mem_filter, C18_spec_exact, C18_matches_iff]

/-- FRACTIONAL SECONDS are kept: a Graph timestamp `base.fffZ` denotes `base+00:00` plus the fraction
    (truncated to µs), for every `fromisoformat`. -/
theorem C18_parse_fraction (iso : Str → Option Int) (base frac : Str) (hb : '.' ∉ base)
    (hd : frac.all isAsciiDigit = true) (hne : frac ≠ []) :
    parseIso .fixed iso (base ++ '.' :: (frac ++ ['Z'])) =
      (iso (base ++ "+00:00".toList)).map (· + (microOf frac : Int)) :=
  parseIso_fraction iso base frac hb hd hne

/-- RESOURCES: whatever the transport does, after the call every response that was opened has been closed. -/
theorem C18_balanced (t : Transport) (fuel : Nat) (s : St) (hs : Bal s) :
    Bal (listAll .fixed t fuel s).2 :=
  listAll_pres (bal_pres .fixed rfl t) fuel s hs

theorem C18_balanced_filtered (t : Transport) (iso lower glob) (f : Filter) (fuel : Nat) (s : St) (hs : Bal s) :
    Bal (listFiltered .fixed t iso lower glob f fuel s).2 :=
  listFiltered_pres (bal_pres .fixed rfl t) iso lower glob f fuel s hs

/-- ERROR FAMILY: whatever the transport does, the only exceptions that leave the call are
    `SharePointRequestError` / `SharePointAuthError` (`outOfFuel` is the model's own stop, not an exception). -/
theorem C18_family (t : Transport) (fuel : Nat) (s : St) (e : Err)
    (h : (listAll .fixed t fuel s).1 = .error e) : e.family = true ∨ e = .outOfFuel := by
  exact (listAll_tr (t := t) .fixed rfl fuel s).family h

/-- STOPS AT THE FIRST FAILURE: for every transport, every request the call made was answered by a 2xx JSON
    object, except possibly the last one; if the last one was not, the call raised what `_send` / `_get_json`
    raise for it (`Raised`), naming that request's URL. A successful call saw no failed request. -/
theorem C18_trace (t : Transport) (fuel : Nat) (s : St) :
    Tr t s.log (listAll .fixed t fuel s).1 (listAll .fixed t fuel s).2.log :=
  Tr_iff.2 (listAll_tr .fixed rfl fuel s)

/-- RETRY after ANY misbehaviour: whatever a transport did during a call (any number of faults of any kind,
    including well-formed objects that lack the token / site id) — as long as it never served a *wrong* site id
    in an accepted answer — the next call against the healthy server returns the complete listing. -/
theorem C18_retry (L : Lib) (n : Nat) (hn : 0 < n) (hL : WellAddressed L) (t : Transport) (ht : SiteHonest t)
    (fuel : Nat) (s : St) (hs : Consistent s) (fuel' : Nat) (hf : L.size + 2 ≤ fuel') :
    ∃ s'', listAll .fixed (healthy L n) fuel' (listAll .fixed t fuel s).2 = (.ok (clientListing [] L), s'') :=
  listAll_healthy .fixed L n hn hL fuel' hf _ (listAll_pres (consistent_pres .fixed rfl t ht) fuel s hs)

/-- FAULT AT REQUEST k (any k, any failing outcome `o`: HTTPError, URLError, non-2xx response, body that
    is not JSON or not a JSON object).  If the call gets as far as request `k`, then it raises an error of
    the client's family produced by that very request (`Raised o u e`; in particular the request error with
    the HTTP status and the URL for HTTPError / non-2xx, with status `None` and the URL for URLError), the
    failed request is the last one made, every opened response is closed, and calling again — with whatever
    the client cached — against the healthy server returns the complete listing. -/
theorem C18_fault (L : Lib) (n : Nat) (hn : 0 < n) (hL : WellAddressed L)
    (k : Nat) (o : Outcome) (ho : ¬ Fine o) (fuel : Nat) (s : St) (hb : Bal s) (hs : Consistent s)
    (u : Url) (hmade : (k, u) ∈ (listAll .fixed (faultAt k o (healthy L n)) fuel s).2.log)
    (hnew : (k, u) ∉ s.log) :
    ∃ e, (listAll .fixed (faultAt k o (healthy L n)) fuel s).1 = .error e ∧ e.family = true ∧
      Raised o u e ∧
      (∀ code, o = .httpError code → e = .request (some code) u) ∧
      (o = .urlError → e = .request none u) ∧
      (∀ st b, o = .resp st b → ok2xx st = false → e = .request (some st) u) ∧
      (∃ rest, (listAll .fixed (faultAt k o (healthy L n)) fuel s).2.log = (k, u) :: rest) ∧
      Bal (listAll .fixed (faultAt k o (healthy L n)) fuel s).2 ∧
      ∀ fuel', L.size + 2 ≤ fuel' →
        ∃ s'', listAll .fixed (healthy L n) fuel' (listAll .fixed (faultAt k o (healthy L n)) fuel s).2 =
          (.ok (clientListing [] L), s'') := by
  obtain ⟨e, he, hra, hlast⟩ :=
    (listAll_tr (t := faultAt k o (healthy L n)) .fixed rfl fuel s).injected u ho hmade hnew
  -- the three clauses after `Raised o u e` are `Raised` at each kind of failing answer
  exact ⟨e, he, hra.family, hra, fun _ hc => raised_httpError.mp (hc ▸ hra), fun hc => raised_urlError.mp (hc ▸ hra),
    fun _ _ hc hst => (raised_resp_bad hst).mp (hc ▸ hra), hlast, C18_balanced _ fuel s hb,
    C18_retry L n hn hL _ ((siteHonest_healthy L n).faultAt k ho) fuel s hs⟩

/-- the same for the filtered listing: raised, from that request, in the family -/
theorem C18_fault_filtered (iso lower glob) (f : Filter) (L : Lib) (n : Nat)
    (k : Nat) (o : Outcome) (ho : ¬ Fine o) (fuel : Nat) (s : St) (u : Url)
    (hmade : (k, u) ∈ (listFiltered .fixed (faultAt k o (healthy L n)) iso lower glob f fuel s).2.log)
    (hnew : (k, u) ∉ s.log) :
    ∃ e, (listFiltered .fixed (faultAt k o (healthy L n)) iso lower glob f fuel s).1 = .error e ∧
      e.family = true ∧ Raised o u e := by
  obtain ⟨e, he, hra, _⟩ :=
    (listFiltered_tr (t := faultAt k o (healthy L n)) .fixed rfl iso lower glob f fuel s).injected u ho hmade hnew
  exact ⟨e, he, hra.family, hra⟩

def exFile (nm : String) (ts : String) : FileItem := ⟨nm.toList, ("id-" ++ nm).toList, some ts.toList, some ts.toList⟩

/-- root: a.txt, folder "Q 1" { b.PDF, (other), folder "deep" { c.docx } }, z.txt -/
def exLib : Lib :=
  .file (exFile "a.txt" "2024-01-15T10:00:00.9Z")
    (.folder "Q 1".toList "F1".toList
      (.file (exFile "b.PDF" "2024-01-15T10:00:00Z")
        (.other (.folder "deep".toList "F2".toList (.file (exFile "c.docx" "2024-01-16T00:00:00.25Z") .nil) .nil)))
      (.file (exFile "z.txt" "2023-12-31T23:59:59.999999Z") .nil))

theorem wellAddressed_example : WellAddressed exLib := by
  unfold WellAddressed exLib exFile
  -- `exFile` builds the ids with `++` on `String`: that append is split before the literals become character lists
  simp only [String.toList_append]
  decide_chars

example : exLib.folderIds.Nodup ∧ ∀ id ∈ exLib.folderIds, id ≠ [] := by
  unfold exLib exFile
  simp only [String.toList_append]
  decide_chars
example : SiteHonest (faultAt 1 (.resp 200 (.obj {})) (healthy exLib 2)) := by
  intro i st ob h _
  unfold faultAt at h
  split at h
  · cases h; exact Or.inr rfl
  · simp only [healthy, serve] at h; cases h; exact Or.inl rfl
example : Consistent {} := Or.inl rfl
example : Bal {} := rfl
example : exLib.size + 2 ≤ 9 := by decide
example : ¬ Fine (.httpError 503) := by rintro ⟨_, _, h, _⟩; cases h
example : ¬ Fine .urlError := by rintro ⟨_, _, h, _⟩; cases h
example : ¬ Fine (.resp 200 .nonObject) := by rintro ⟨_, _, h, _⟩; cases h
example : ¬ Fine (.resp 302 (.obj {})) := by rintro ⟨st, ob, h, h2⟩; cases h; revert h2; decide

/-- the complete listing of the example, page size 1 (4 files, three folder levels, 2 requests per page) -/
example : (listAll .fixed (healthy exLib 1) 9 {}).1 = .ok (clientListing [] exLib) ∧
    (clientListing [] exLib).map (·.fullPath) =
      ["a.txt".toList, "z.txt".toList, "Q 1/b.PDF".toList, "Q 1/deep/c.docx".toList] := by
  unfold exLib exFile
  simp only [String.toList_append]
  decide_chars

/-- the fault hypotheses `hmade` / `hnew` of `C18_fault` are satisfiable along that run, e.g. the 7th (a nextLink page of the root folder pass) -/
example : (6, Url.cursor none 1) ∈ (listAll .fixed (faultAt 6 (.httpError 503) (healthy exLib 1)) 9 {}).2.log ∧
    (6, Url.cursor none 1) ∉ ({} : St).log := by
  unfold exLib exFile
  simp only [String.toList_append]
  decide_chars

example : (listAll .fixed (faultAt 6 (.httpError 503) (healthy exLib 1)) 9 {}).1 =
    .error (.request (some 503) (.cursor none 1)) := by
  unfold exLib exFile
  simp only [String.toList_append]
  decide_chars

/-- `C18_parse_fraction` hypotheses -/
example : '.' ∉ "2024-01-15T10:00:00".toList ∧ "9".toList.all isAsciiDigit = true ∧ "9".toList ≠ [] := by
  decide_chars

/-- a file modified `…10:00:00.9Z`, `modified_after = …10:00:00.5` — matches on the fixed tree -/
theorem fraction_example_fixed :
    matchesF .fixed isoStrict asciiLower globMatch { modifiedAfter := some 1705312800500000 }
      (parseFile [] (exFile "a.txt" "2024-01-15T10:00:00.9Z")) = true := by
  unfold exFile
  simp only [String.toList_append]
  decide_chars

/-- upstream: the same file does NOT match (fraction dropped before the comparison) — inclusive-after fails -/
theorem legacy_fraction_truncated :
    matchesF .legacy isoStrict asciiLower globMatch { modifiedAfter := some 1705312800500000 }
      (parseFile [] (exFile "a.txt" "2024-01-15T10:00:00.9Z")) = false := by
  unfold exFile
  simp only [String.toList_append]
  decide_chars

/-- upstream: after an HTTPError the response it carried is still open -/
theorem legacy_httpError_leaks :
    ¬ Bal (listAll .legacy (faultAt 2 (.httpError 503) (healthy exLib 1)) 9 {}).2 := by
  unfold Bal exLib exFile
  simp only [String.toList_append]
  decide_chars

/-- upstream: a JSON body that is not an object escapes as AttributeError (outside the client's family) -/
theorem legacy_nonObject_escapes :
    (listAll .legacy (faultAt 2 (.resp 200 .nonObject) (healthy exLib 1)) 9 {}).1 =
      .error (.other "AttributeError") ∧ (Err.other "AttributeError").family = false := by
  unfold exLib exFile
  simp only [String.toList_append]
  decide_chars

/-! ## The translated `FileFilter.matches` itself (end to end)

`Props/C18_Src.lean` proves the `FileFilter.matches` re-translated from `client.py` on every run equal
to the model's `matchesF`; composed with `C18_matches_iff`, the documented filter semantics is a
statement about the method **as the source has it now**: for every host (`str.lower`, `fnmatch`, a
`fromisoformat` raising only `ValueError` or `AttributeError`), every filter and every metadata object within `DatesOk` it
never raises and answers `True` exactly for the files the specification describes; the folder list
takes no part in it, and a filter without criteria accepts every file. -/
section src
open S2T.Py S2T.Gen.PyClient S2T.C18.Src

/-- **C18 at the source level (filter semantics).** -/
theorem C18_src_matches_iff (env : SpEnv) (f : FileFilter) (fm : SpFileMeta) (hV : IsoRaisesValueError env)
    (hD : DatesOk env fm) :
    (FileFilter.matches env f fm = .ok true ↔
        SpecMatches (isoOf env) env.lower env.fnmatch (filterOf f) (metaOf fm)) ∧
    (∃ b, FileFilter.matches env f fm = .ok b) := by
  rw [matches_eq env f fm hV hD]
  refine ⟨?_, ⟨_, rfl⟩⟩
  rw [← C18_matches_iff]
  constructor
  · intro h; simpa [pure, Except.pure] using h
  · intro h; rw [h]; rfl

/-- **C18 at the source level (the folder list does not take part in `matches`).** -/
theorem C18_src_folders_irrelevant (env : SpEnv) (f : FileFilter) (folders : List Py.Str) (fm : SpFileMeta)
    (hV : IsoRaisesValueError env) (hD : DatesOk env fm) :
    FileFilter.matches env { f with folderPaths := folders } fm = FileFilter.matches env f fm := by
  rw [matches_eq env f fm hV hD, matches_eq env _ fm hV hD]
  rfl

/-- **C18 at the source level (a filter without criteria accepts every file).** -/
theorem C18_src_empty_filter_accepts (env : SpEnv) (folders : List Py.Str) (fm : SpFileMeta)
    (hV : IsoRaisesValueError env) (hD : DatesOk env fm) :
    FileFilter.matches env ⟨none, none, none, none, folders, [], []⟩ fm = .ok true := by
  apply (C18_src_matches_iff env _ fm hV hD).1.mpr
  unfold SpecMatches
  refine ⟨?_, ?_, Or.inl rfl, Or.inl rfl⟩ <;> simp [filterOf, DateIn]

private theorem toyEnv_iso : IsoRaisesValueError toyEnv := by
  intro s e h
  simp only [toyEnv] at h
  split at h
  · cases h
  · cases h; rfl

private theorem toyEnv_dates (fm : SpFileMeta) : DatesOk toyEnv fm := by
  have hw : ∀ s, WholeSecond toyEnv s := by
    intro s a d _ h
    simp only [toyEnv] at h
    split at h
    · cases h; decide
    · cases h
  exact ⟨fun s _ => hw s, fun s _ => hw s⟩

/-- a file the toy host dates 2024-01-15 -/
def toyFile : SpFileMeta := ⟨"a.docx".toList, "1".toList, some "2024-01-15T10:00:00Z".toList, none, some "docs".toList⟩

example : FileFilter.matches toyEnv ⟨none, none, none, none, [], [], [".pdf".toList]⟩ toyFile = .ok false := by
  rw [matches_eq toyEnv _ toyFile toyEnv_iso (toyEnv_dates _)]
  exact congrArg Except.ok (by decide_chars toyFile toyEnv)
example : FileFilter.matches toyEnv ⟨some ⟨1705312800000000⟩, none, none, none, ["x".toList], [], [".docx".toList]⟩ toyFile
    = .ok true := by
  rw [matches_eq toyEnv _ toyFile toyEnv_iso (toyEnv_dates _)]
  exact congrArg Except.ok (by decide_chars toyFile toyEnv)
example : FileFilter.matches toyEnv ⟨none, some ⟨1705312800000000⟩, none, none, [], [], []⟩ toyFile = .ok false := by
  rw [matches_eq toyEnv _ toyFile toyEnv_iso (toyEnv_dates _)]
  exact congrArg Except.ok (by decide_chars toyFile toyEnv)
end src

end S2T.C18
