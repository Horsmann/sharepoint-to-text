import S2T.Lemmas.Wrapper
import S2T.Lemmas.WrapperBeh
import S2T.Lemmas.Chars
import S2T.Gen.Exceptions
import S2T.Gen.Wrappers
import S2T.Props.C01_Regex
import S2T.Props.C01_Iter
import S2T.Lemmas.ListBasics
/-!
# C01 — stable failure surface (and CLI discipline; the inventories of regular expressions and of unbounded iteration
are the parts `C01_Regex`, `C01_Iter`)

`S2T.Gen.Wrappers` holds the control skeleton of every registered `read_*` function, of the thin
public wrappers, `read_file`, the archive-member / attachment loops and `cli.main`, translated from
the current source.  `escapes_sound` (Lemmas/Wrapper) says the syntactic analysis `escapes`
over-approximates every execution of the nondeterministic semantics in which *every* opaque atom
(every call into a parser) may raise *any* exception.  The theorems below re-decide, on the current
skeletons, that nothing but an `ExtractionError` subclass can leave an extractor.
-/
namespace S2T.C01
open S2T.Wrapper S2T.Gen.Exceptions S2T.Gen.Wrappers

/-- the hierarchy: family part generated, everything else arbitrary -/
def hier (otherSub : String → String → Bool) : Hier := { famSub := famSub, otherSub := otherSub }

theorem family_rooted : family.all (fun ca => ca.2.contains root && ca.2.contains ca.1) = true := by decide +kernel

theorem hier_ok (otherSub : String → String → Bool) : HierOk (hier otherSub) isFam root where
  rootFam := by decide
  famRoot := by
    -- `famSub c root` looks `c` up in `family` and asks whether the root is among the ancestors listed there; a family
    -- class has a row (`isFam` is membership among the keys), and every row lists the root (`family_rooted`)
    intro c hc
    obtain ⟨⟨k, anc⟩, hm, rfl⟩ := List.mem_map.mp (by simpa [isFam] using hc : c ∈ family.map (·.1))
    obtain ⟨a, ha, hma⟩ := List.exists_lookup_of_mem hm
    have := List.all_eq_true.mp family_rooted _ hma
    simp only [Bool.and_eq_true] at this
    simp only [hier, famSub, ha, this.1]

/-- no non-family exception in the abstract result -/
def onlyFamily (a : Abs) : Bool := !a.other

private theorem fam_of_onlyFamily {otherSub : String → String → Bool} {s : Stmt} {tr : List Ch} {e : Exn}
    (h : onlyFamily (escapes root isFam none s) = true) (hex : Exec (hier otherSub) isFam root none s tr (.raised e)) :
    ∃ c, e = .fam c ∧ isFam c = true ∧ famSub c root = true :=
  raised_fam_of_not_other (hier_ok otherSub) hex (by simpa [onlyFamily] using h)

/-- **C01 (surface), decided on the generated skeletons**: for each of the registered extractors the
    analysis finds no way for a non-family exception to escape. -/
theorem surface_decided :
    extractorWrappers.all (fun w => onlyFamily (escapes root isFam none w.2)) = true := by decide +kernel

/-- every registered extractor is a generator function (so nothing runs at call time) -/
theorem all_generators : allGenerators = true := by decide

/-- the thin public wrappers in `sharepoint2text/__init__.py` cannot raise at all -/
theorem init_wrappers_total :
    initWrappers.all (fun w => escapes root isFam none w.2 == Abs.empty) = true := by decide +kernel

/-- **C01 (surface), semantic statement**: take any registered extractor, any behaviour of every
    parser call it makes (complete, or raise any exception, family or not), any class hierarchy
    outside the library; whatever escapes while the generator is consumed is an instance of a
    subclass of `ExtractionError`. -/
theorem C01_surface (otherSub : String → String → Bool) (name : String) (w : Stmt)
    (hw : (name, w) ∈ extractorWrappers) (tr : List Ch) (e : Exn)
    (hex : Exec (hier otherSub) isFam root none w tr (.raised e)) :
    ∃ c, e = .fam c ∧ isFam c = true ∧ famSub c root = true :=
  fam_of_onlyFamily (List.all_eq_true.mp surface_decided (name, w) hw) hex

/-- archive members: the analysis finds nothing at all that escapes `_process_archive_entry`, whatever happens while one
    member is processed -/
theorem member_nothing_escapes : (escapes root isFam none process_archive_entry == Abs.empty) = true := by decide +kernel

/-- in particular no non-family exception -/
theorem member_decided : onlyFamily (escapes root isFam none process_archive_entry) = true := by
  rw [eq_of_beq member_nothing_escapes]; rfl

/-- the path/OS atoms (tag `os:*`: Path(), stat, open, close) are total: they are when the file exists and is readable,
    the property's precondition -/
def assumeOsTotal : Stmt → Stmt
  | .atom tag total => .atom tag (total || tag.toList.take 3 == ['o', 's', ':'])
  | .seq a b => .seq (assumeOsTotal a) (assumeOsTotal b)
  | .ite a b => .ite (assumeOsTotal a) (assumeOsTotal b)
  | .loop b => .loop (assumeOsTotal b)
  | .try_ b hs f => .try_ (assumeOsTotal b) (assumeHs hs) (assumeOsTotal f)
  | s => s
where assumeHs : List (List String × Stmt) → List (List String × Stmt)
  | [] => []
  | (p, h) :: r => (p, assumeOsTotal h) :: assumeHs r

theorem read_file_decided : onlyFamily (escapes root isFam none (assumeOsTotal read_file)) = true := by decide +kernel

/-- `read_file`: with the path/OS atoms set aside (`assumeOsTotal`), only family exceptions escape (the proof also gives
    `famSub c root = true`, as in `C01_surface`; it is not part of this statement) -/
theorem C01_read_file (otherSub : String → String → Bool) (tr : List Ch) (e : Exn)
    (hex : Exec (hier otherSub) isFam root none (assumeOsTotal read_file) tr (.raised e)) :
    ∃ c, e = .fam c ∧ isFam c = true := by
  obtain ⟨c, hc, hf, _⟩ := fam_of_onlyFamily read_file_decided hex
  exact ⟨c, hc, hf⟩

/-- atoms whose tag starts with one of the given prefixes are total (`assumeOsTotal` is the case of the one prefix `os:`) -/
def assumeTotal (ps : List (List Char)) : Stmt → Stmt
  | .atom tag total => .atom tag (total || ps.any (fun p => tag.toList.take p.length == p))
  | .seq a b => .seq (assumeTotal ps a) (assumeTotal ps b)
  | .ite a b => .ite (assumeTotal ps a) (assumeTotal ps b)
  | .loop b => .loop (assumeTotal ps b)
  | .try_ b hs f => .try_ (assumeTotal ps b) (assumeHs hs) (assumeTotal ps f)
  | s => s
where assumeHs : List (List String × Stmt) → List (List String × Stmt)
  | [] => []
  | (p, h) :: r => (p, assumeTotal ps h) :: assumeHs r

/-- e-mail attachments (`EmailContent.iterate_supported_attachments`): iterating the attachment list,
    `dict.get` on the MIME table and `seek(0)` on the payload `BytesIO` are taken as total (the
    payloads are open in-memory streams built by the extractor); then whatever an attachment's
    extractor does, only `ExtractionError` subclasses escape — every other exception is logged and
    the next attachment is processed. -/
def attachmentAssumptions : List (List Char) :=
  ["next:self.attachments".toList, "stmt:MIME_TYPE_MAPPING.get".toList, "stmt:attachment.data.seek".toList]

theorem attachments_decided :
    onlyFamily (escapes root isFam none (assumeTotal attachmentAssumptions iterate_supported_attachments)) = true := by
  decide_chars attachmentAssumptions

/-- under `attachmentAssumptions` only family exceptions escape the attachment loop (as for `C01_read_file`, the proof also
    gives `famSub c root = true`) -/
theorem C01_attachments (otherSub : String → String → Bool) (tr : List Ch) (e : Exn)
    (hex : Exec (hier otherSub) isFam root none (assumeTotal attachmentAssumptions iterate_supported_attachments) tr (.raised e)) :
    ∃ c, e = .fam c ∧ isFam c = true := by
  obtain ⟨c, hc, hf, _⟩ := fam_of_onlyFamily attachments_decided hex
  exact ⟨c, hc, hf⟩

/-! `cli_main = argument handling ; try <everything that touches the file> except Exception: …`.
`cliBody` is the last statement of the function (the `try`), `cliPrefix` what precedes it (parser
construction and argument errors — no input file involved). -/

def lastOf : Stmt → Stmt
  | .seq _ b => lastOf b
  | s => s

def prefixOf : Stmt → Stmt
  | .seq a b => match b with
    | .seq _ _ => .seq a (prefixOf b)
    | _ => a
  | _ => .atom "skip" true

def cliBody : Stmt := lastOf cli_main
def cliPrefix : Stmt := prefixOf cli_main

/-- the two outcomes the property allows for an input file -/
def cliAllowed (b : Beh) : Bool :=
  (b.k == .ret "0" && b.o ≥ 1 && b.e == 0) || (b.k == .ret "1" && b.o == 0 && b.e == 1)

/-- decided on the current skeleton: every abstract behaviour of the file-handling part of
    `cli.main` is one of the two allowed ones -/
theorem cli_decided : (behav root isFam [] cliBody).all cliAllowed = true := by decide +kernel

/-- argument handling never writes to stdout -/
theorem cli_prefix_silent : (behav root isFam [] cliPrefix).all (fun b => b.o == 0) = true := by decide +kernel

/-- **C01 (CLI)**: whatever the extractors and serialisers do (complete or raise anything, at any
    point), a run of the file-handling part of `cli.main` either returns 0 having written to stdout
    and nothing to stderr, or returns 1 having written nothing to stdout and exactly one message to
    stderr.  (A stdout write inside the `try` that can fail after a partial write breaks this, and `cli_decided` is false
    for such a skeleton: the `example` below.) -/
theorem C01_cli (otherSub : String → String → Bool) (tr : List Ch) (o : Out)
    (hex : Exec (hier otherSub) isFam root none cliBody tr o) :
    (o = .ret "0" ∧ 1 ≤ countCh .out tr ∧ countCh .err tr = 0) ∨
    (o = .ret "1" ∧ countCh .out tr = 0 ∧ countCh .err tr = 1) := by
  have hb := behav_sound (hier_ok otherSub) hex [] (by simp [CurK]) (by intro e0 h; cases h)
  have hall := List.all_eq_true.mp cli_decided _ hb
  simpa only [cliAllowed, behOf, Bool.or_eq_true, Bool.and_eq_true, beq_iff_eq, decide_eq_true_eq, ge_iff_le,
    kindOf_eq_ret, sat_eq_zero, sat_eq_one, one_le_sat, and_assoc] using hall

/-- a write that may fail midway, inside the `try`, is rejected by the analysis -/
example : (behav root isFam [] (.try_ (.seq (.write .out false) (.ret "0"))
    [(["Exception"], .seq (.write .err true) (.ret "1"))] (.atom "skip" true))).all cliAllowed = false := by decide

/-! Non-vacuity: the semantics does let a wrapper fail, and the analysis is not trivially empty. -/
example : (escapes root isFam none read_docx).famAll = true := by decide
-- trace and outcome are written in the shape `Exec.tryCaught` produces, so that the constructor applies as it is
example : Exec (hier fun _ _ => false) isFam root none
    (.try_ (.atom "parse" false) [(["ExtractionError"], .reraise), (["Exception"], .raise_ "ExtractionFailedError")] (.atom "skip" true))
    ([] ++ [] ++ []) (if Out.normal = Out.normal then .raised (.fam "ExtractionFailedError") else .normal) :=
  Exec.tryCaught (pre := [(["ExtractionError"], .reraise)]) (h := (["Exception"], .raise_ "ExtractionFailedError")) (post := [])
    (Exec.atomRaise (e := .other "ValueError") trivial)
    (by decide) (by decide)
    (Exec.raiseFam (by decide)) Exec.atomOk
/-- an unwrapped parser call would be flagged -/
example : onlyFamily (escapes root isFam none (.seq (.atom "parse" false) .yield_)) = false := by decide

end S2T.C01
