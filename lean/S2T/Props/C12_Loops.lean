import S2T.Lemmas.Loops
import S2T.Lemmas.LoopInventory
import S2T.Gen.C12Consts
import S2T.Props.C12_Witness
/-!
# C12 — every `while` loop of the library terminates, and the byte scanners are linear

* `loops_covered`: every `while` statement the translator finds in the CURRENT source
  (`S2T.Gen.Loops.whileLoops`: file, function, test, update set) is one whose key is listed in
  `provenLoops` (modelled in `S2T/Model/Loops.lean` by structural / well-founded recursion on the loop's
  own variant — Lean accepting those definitions is the termination proof) or in `assumedLoops`.
* `steps_*`: the number of iterations of each modelled loop is linear in the input, for ALL inputs and parameters
  (`≤ input.length + 1` from the start offset of the real call; `2·(len + 1)` for the RTF group stripper's two
  loops together, 8 for `_gf_mul`).
* FALSE on the current source (kept visible, with counterexamples on the model):
  `steps (png carver) ≤ c·(len+1)` and `steps (slide-list re-walk) ≤ c·(len+1)` (refuted here for c = 1 and c = 2;
  the counts `k·(m+1)` and `n(n+1)/2` of `Lemmas/LoopWitness.lean` are proved for `16 k < 2^32` and `8 n < 2^32`, the
  32-bit length fields of the witnesses, and so outgrow every c below 2^24).
-/
namespace S2T.C12.Loops
open S2T.Loops

/-- closed world: every `while` loop found in the source is accounted for -/
theorem loops_covered :
    ∀ ℓ ∈ S2T.Gen.Loops.whileLoops, (ℓ.1, ℓ.2.1, ℓ.2.2.1, ℓ.2.2.2.1) ∈ knownKeys := whileLoops_known

/-- and nothing is listed that no longer exists (a stale excuse is also a broken tie) -/
theorem inventory_not_stale :
    ∀ k ∈ knownKeys, k ∈ S2T.Gen.Loops.whileLoops.map (fun ℓ => (ℓ.1, ℓ.2.1, ℓ.2.2.1, ℓ.2.2.2.1)) := knownKeys_current

/-- every directly self-recursive function found in the source is one whose variant was read -/
theorem recursion_covered :
    ∀ f ∈ S2T.Gen.Loops.recursiveFunctions, f ∈ recursiveByReading.map (·.1) := recursiveFunctions_read

/-- the record layouts the models hard-wire are the ones the source declares -/
theorem layouts_ok :
    S2T.Gen.C12Consts.pptHeaderFmt = "<HHI" ∧ S2T.Gen.C12Consts.pptHeaderSize = 8 ∧
    S2T.Gen.C12Consts.xlsHeaderFmt = "<HHI" ∧ S2T.Gen.C12Consts.xlsHeaderSize = 8 ∧
    S2T.Gen.C12Consts.dibFmt = "<IiiHHII" ∧ S2T.Gen.C12Consts.filepassOp = "eq" ∧
    S2T.Gen.C12Consts.rtfUnicodePattern = "\\\\u(-?\\d+)\\??" ∧
    S2T.Gen.C12Consts.sofStops = [[217, 218], [217, 218], [217, 218]] ∧
    S2T.Gen.C12Consts.notes = [] := by decide

theorem steps_xlsFilepass (fp : Nat) (d : Bytes) : (xlsFilepass fp d 0).2 ≤ d.length + 1 := by
  have := xlsFilepass_steps_le fp d 0; omega

theorem steps_jpegDims (sof : List Nat) (d : Bytes) : (jpegDims sof d 2).2 ≤ d.length + 1 := by
  have := jpegDims_steps_le sof d 2; omega

theorem steps_pixelDims (sof : List Nat) (strict : Bool) (d : Bytes) : (pixelDims sof strict d).2.2 ≤ d.length + 1 := by
  have := sofScan_steps_le sof strict d 2
  unfold pixelDims
  -- only the JPEG branch iterates
  split; · exact Nat.zero_le _
  split; · exact Nat.zero_le _
  split; · exact Nat.zero_le _
  split; · exact Nat.zero_le _
  split
  · split <;> rename_i h <;> rw [h] at this <;> exact Nat.le_trans this (by omega)
  · exact Nat.zero_le _

theorem steps_pptIter (d : Bytes) (start : Nat) : (pptIter d start).2.1 ≤ d.length + 1 := by
  have := pptIter_steps_le d start; omega

theorem steps_xlsBlipScan (blip : List Nat) (d : Bytes) : (xlsBlipScan blip d 0).length ≤ d.length + 1 := by
  have := xlsBlipScan_steps_le blip d 0; omega

theorem steps_dibCarve (d : Bytes) : (dibCarve d 0).2 ≤ d.length + 1 := by
  have := dibCarve_steps_le d 0; omega

/-- one chunk walk is linear … -/
theorem steps_pngChunks (d : Bytes) (pos : Nat) : (pngChunks d pos).2 ≤ d.length + 1 := by
  have := pngChunks_steps_le d pos; omega

/-- … and so is the number of signatures tried … -/
theorem steps_pngCarve_outer (d : Bytes) : (pngCarve d 0).2.1 ≤ d.length + 1 := by
  have := pngCarve_outer_le d 0; omega

/-
FULL STATEMENT (false on the current source — every signature restarts a chunk walk):
  theorem steps_pngCarve_inner (d : Bytes) : (pngCarve d 0).2.2 ≤ c * (d.length + 1)      for a fixed c
What holds: the quadratic bound below.  Counterexample (for c = 1): `pngCarve_inner_superlinear`; the count for every size is `pngCarve_pngAmplifier`.
-/
theorem steps_pngCarve_inner_partial (d : Bytes) : (pngCarve d 0).2.2 ≤ d.length * d.length := by
  have := pngCarve_inner_le d 0; simpa using this

/-- 30 signatures sharing a chain of 30 chunks: 844 bytes, 930 inner iterations (> len + 1);
    the count itself is `S2T.C12.Witness.pngCarve_amplifier_30` -/
theorem pngCarve_inner_superlinear :
    ∃ d : Bytes, (pngCarve d 0).2.2 > d.length + 1 :=
  ⟨pngAmplifier 30 30, by rw [S2T.C12.Witness.pngCarve_amplifier_30.1, S2T.C12.Witness.pngCarve_amplifier_30.2]; decide⟩

theorem steps_removeIgnorable (pf : List Str) (t l : Str) :
    (removeIgnorable pf t l 0).2.1 + (removeIgnorable pf t l 0).2.2 ≤ 2 * (t.length + 1) := by
  have := removeIgnorable_steps_le pf t l 0; omega

/-- the output never grows -/
theorem out_removeIgnorable (pf : List Str) (t l : Str) : (removeIgnorable pf t l 0).1.length ≤ t.length := by
  have := removeIgnorable_out_le pf t l 0; omega

/-- for every classification of characters and every skip-destination oracle -/
theorem steps_rtfWalk (alpha digit : Nat → Bool) (sd : Str → Nat → Bool) (s : Str) (st : RtfState) :
    (rtfWalk alpha digit sd s 0 st).length ≤ s.length + 1 := by
  have := rtfWalk_length_le alpha digit sd s 0 st; omega

theorem steps_scanWhile (p : Nat → Bool) (s : Str) (j : Nat) (h : j ≤ s.length) : (scanWhile p s j).2 ≤ s.length + 1 := by
  have := scanWhile_steps p s j
  have := scanWhile_le p s j h
  omega
-- the hypothesis `j ≤ s.length` can be met
example : (0 : Nat) ≤ ([104, 105] : Str).length := by decide

theorem steps_trimBack (p : Nat → Bool) (w : List Nat) : (trimBack p w).2 ≤ w.length + 1 := by
  rw [trimBack_pop]; exact Nat.le_succ_of_le (List.length_takeWhile_le ..)

theorem steps_popHeadings (lvl : Int) (st : List Int) : (popHeadings lvl st).2 ≤ st.length + 1 := by
  rw [popHeadings_pop]; exact Nat.le_succ_of_le (List.length_takeWhile_le ..)

theorem steps_drainStack {α} (st : List α) : (drainStack st).2 = st.length ∧ (drainStack st).1 = [] := by
  induction st with
  | nil => simp [drainStack]
  | cons x xs ih => simp [drainStack, ih.1, ih.2]

theorem steps_popEnded (o : Nat) (st : List (Nat × Nat)) : (popEnded o st).2 ≤ st.length + 1 := by
  rw [popEnded_pop]; exact Nat.le_succ_of_le (List.length_takeWhile_le ..)

theorem steps_popSqrtClose (st : List Bool) : (popSqrtClose st).2 ≤ st.length + 1 := by
  rw [popSqrtClose_pop]; exact Nat.le_succ_of_le (List.length_takeWhile_le ..)

theorem steps_trimEmptyRows (rows : List (List Bool)) : (trimEmptyRows rows).2 ≤ rows.length + 1 := by
  rw [trimEmptyRows_pop]; exact Nat.le_succ_of_le (List.length_takeWhile_le ..)

theorem steps_trailingNumeric (fl : List Bool) : (trailingNumeric fl).2 ≤ fl.length + 1 := by
  have := trailingNumeric_steps_le fl; omega

theorem steps_lookAhead (mb : Nat) (fl : List Bool) (blk : Nat) : (lookAhead mb fl blk).2 ≤ fl.length + 1 := by
  have := lookAhead_steps_le mb fl blk; omega

theorem steps_normalizeLoop (e : Nat) (m : List (List Char)) : (normalizeLoop e m).2 ≤ m.length + 1 := by
  have := normalizeLoop_steps_le e m; omega

/-- `_gf_mul` runs at most 8 iterations whatever its arguments -/
theorem steps_gfMul (a b : Nat) : (gfMul a b).2 ≤ 8 := by
  unfold gfMul
  exact gfMulLoop_steps_le 8 _ _ _ (by omega)

theorem steps_skipArchiveProps (d : Bytes) {q s} (h : skipArchiveProps d 0 = .ok (q, s)) : s ≤ d.length + 1 := by
  have := skipArchiveProps_steps_le d 0 h; omega
-- the hypothesis can be met: an input on which the reader succeeds
example : (skipArchiveProps [2, 1, 9, 0] 0).toOption = some (4, 2) := by decide +kernel

theorem steps_readName (d : Bytes) (pos : Nat) {nm p s} (h : readName d pos = .ok (nm, p, s)) : s ≤ d.length + 1 := by
  have := readName_steps d pos h; omega
-- the hypothesis can be met: an input on which the reader succeeds
example : (readName [97, 0, 0, 0] 0).toOption = some ([97], 4, 2) := by decide +kernel

theorem steps_filesInfo (fixed : Bool) (d : Bytes) {r} (h : parseFilesInfo fixed d 0 = .ok r) : r.steps ≤ d.length + 1 := by
  unfold parseFilesInfo at h
  split at h
  · cases h
  · rename_i n hn
    have := filesInfoLoop_steps_le d _ _ _ _ _ _ _ h
    omega
-- the hypothesis can be met: an input on which the reader succeeds
example : (parseFilesInfo true [1, 0x11, 5, 0, 97, 0, 0, 0, 0] 0).toOption.map (·.steps) = some 2 := by decide +kernel

/-
FULL STATEMENT (false on the current source — `_iter_records` descends into containers and
`_extract_slide_list_texts` walks the payload of every SlideListWithText record again):
  theorem steps_slideList (d : Bytes) : (slideListCost slwt d).1 ≤ c * (d.length + 1)      for a fixed c
What holds: each single walk is linear (`steps_pptIter`).  Counterexample (for c = 2): `slideList_superlinear`; the count for every size is `slideListCost_pptNest`.
-/
/-- 40 nested SlideListWithText containers: 320 bytes, 820 iterations (> 2·(len + 1)), 85 280 bytes copied -/
theorem slideList_superlinear :
    ∃ d : Bytes, (slideListCost S2T.Gen.C12Consts.slideListWithText d).1 > 2 * (d.length + 1) :=
  ⟨pptNest 40, by
    -- the `show` is where the generated constant meets the numeral `Witness.slideList_nest_40` is stated with
    rw [show S2T.Gen.C12Consts.slideListWithText = 4080 by decide, S2T.C12.Witness.slideList_nest_40.1,
      S2T.C12.Witness.slideList_nest_40.2]
    decide⟩

/-
FULL STATEMENT (false on the unfixed source — `[False] * num_files` etc. are sized by a declared count):
  theorem filesInfo_alloc (d : Bytes) : filesInfoAlloc false d 0 ≤ c * (d.length + 1)
Repaired by fix-7z-file-count.patch; the theorem below is about the repaired code (`fixed = true`),
the counterexample about the code before the repair.
-/
theorem filesInfo_alloc_fixed (d : Bytes) (pos : Nat) : filesInfoAlloc true d pos ≤ 3 * d.length := by
  unfold filesInfoAlloc filesInfoCount
  split
  · simp
  · rename_i n hn
    split at hn
    · cases hn
    · rename_i m hm
      split at hn
      · cases hn
      · rename_i hle
        cases hn
        simp at hle
        have := readNumber_pos hm
        omega

/-- a 9-byte number declares 2^56 files: 3·2^56 list cells from a 10-byte section -/
theorem filesInfo_alloc_unfixed_counterexample :
    filesInfoAlloc false [0xFF, 0, 0, 0, 0, 0, 0, 0, 1, 0] 0 = 3 * 2 ^ 56 ∧
    filesInfoAlloc true [0xFF, 0, 0, 0, 0, 0, 0, 0, 1, 0] 0 = 0 := by decide +kernel

end S2T.C12.Loops
