import S2T.Lemmas.Mail
import S2T.Lemmas.Chars
import S2T.Props.C07
import S2T.Gen.Mail
import S2T.Props.C16_Text
import S2T.Props.C16_Date
/-!
# C16 — E-mail: headers, bodies, attachments and mailbox boundaries are exact

Model: `S2T/Model/Mail.lean` (mbox splitter over bytes, MIME-tree walk of the mbox extractor,
attachment routing of `EmailContent.iterate_supported_attachments`, the `.eml` mapping of the
mailparser result).  Quantifiers: every byte string, every list of messages, every MIME tree,
every table set satisfying the decidable side conditions (re-decided on the generated tables).

What the standard library / mailparser compute (RFC 2047/2231/5322 decoding, transfer decoding,
MIME parsing) is *input* of the model (fields of `Part` / `Mp`), tied to the running code by the
correspondence and to ground truth by the harness oracle — see `manifest.d/C16.json`.
-/
namespace S2T.C16
open S2T.Mail S2T.Router

/-- the translator found every inspected constant to be the literal the source shows -/
theorem gen_notes_empty : S2T.Gen.Mail.notes = [] := by decide

/-- `isSepLine` is a matcher for exactly this pattern with exactly these flags (`re.MULTILINE`) -/
theorem gen_pattern : S2T.Gen.Mail.sepPattern = "^From \\S+.*\\d{4}\\r?\\n" ∧ S2T.Gen.Mail.sepFlags = 8 :=
  ⟨rfl, rfl⟩

/-- `_split_mbox_messages` strips with `rstrip(b"\r\n")` and nothing else; the running function
    leaves of the probe chunk what `rstripCRLF` leaves -/
theorem gen_strip : S2T.Gen.Mail.stripCalls = [("rstrip", [13, 10])] ∧
    rstripCRLF [13, 10, 32, 9, 32, 120, 32, 9, 32, 13, 10, 10, 13] = S2T.Gen.Mail.stripProbe := by
  decide

/-- literals steering body selection, attachment detection, defaults and the fallback name -/
theorem gen_literals :
    (S2T.Gen.Mail.bodyTypes.all (fun s => s == "text/plain" || s == "text/html") &&
     S2T.Gen.Mail.bodyTypes.contains "text/plain" && S2T.Gen.Mail.bodyTypes.contains "text/html") = true ∧
    S2T.Gen.Mail.attachmentMarks = ["attachment"] ∧
    S2T.Gen.Mail.attachmentDefaults = ["attachment"] ∧
    (S2T.Gen.Mail.emlDefaults.contains "attachment" && S2T.Gen.Mail.emlDefaults.contains "application/octet-stream") = true ∧
    S2T.Gen.Mail.emlAttachmentKeys = ["filename", "mail_content_type", "payload", "binary"] ∧
    S2T.Gen.Mail.routeFStrings = [["attachment.", "{file_type}"]] :=
  ⟨by decide, rfl, rfl, by decide, rfl, rfl⟩

/-- every header the statement names is read by `parse_email_message` -/
theorem gen_headers : (["Subject", "From", "To", "Cc", "Bcc", "Reply-To", "Date", "Message-ID"].all
    S2T.Gen.Mail.headersRead.contains) = true := by decide

/-- both extractors fill every field the statement names, attachments included -/
theorem gen_fields :
    (["subject", "from_email", "to_emails", "to_cc", "to_bcc", "reply_to", "body_plain", "body_html",
      "attachments", "metadata"].all
        (fun f => S2T.Gen.Mail.mboxFields.contains f && S2T.Gen.Mail.emlFields.contains f)) = true ∧
    S2T.Gen.Mail.mboxAttachmentFields = ["filename", "mime_type", "data", "is_supported_mime_type"] ∧
    S2T.Gen.Mail.emlAttachmentFields = ["filename", "mime_type", "data", "is_supported_mime_type"] :=
  ⟨by decide, rfl, rfl⟩

/-- **C16 (mbox).** For every preamble without separator lines and every sequence of
    (separator line, message) in which no line of a message matches the separator pattern
    (what From_-quoting guarantees) and every message but the last ends with a line end:
    splitting the concatenation returns the messages, in order, each with its trailing CR/LF
    bytes removed, dropping those that consist of CR/LF only.  LF and CRLF alike. -/
theorem C16_mbox_split (pre : Bytes) (ps : List (Bytes × Bytes))
    (hpre : NonSep pre) (hterm : ps ≠ [] → Term pre) (h : WellFormed ps) :
    splitMbox (pre ++ mboxJoin ps) =
      ((ps.map (·.2)).map rstripCRLF).filter (fun m => !m.isEmpty) := by
  unfold splitMbox
  congr 2
  cases ps with
  | nil =>
    simp only [mboxJoin, List.append_nil, List.map_nil]
    rw [← List.append_nil (lines pre), chunksAux_nonsep pre hpre]; simp [chunksAux]
  | cons p r =>
    rw [lines_append pre _ (hterm (by simp)), chunksAux_nonsep pre hpre, Option.map_none, chunks_join _ h none]
    simp

/-- a message that keeps at least one byte after `rstrip(b"\r\n")` -/
def Visible (m : Bytes) : Prop := rstripCRLF m ≠ []

instance (m : Bytes) : Decidable (Visible m) := by unfold Visible; exact inferInstance

/-- **C16 (mbox, count and order).** If moreover every message has a byte other than CR/LF
    (any message with a header has), the mbox yields exactly one result per message and the
    i-th result is the i-th message. -/
theorem C16_mbox_count (pre : Bytes) (ps : List (Bytes × Bytes))
    (hpre : NonSep pre) (hterm : ps ≠ [] → Term pre) (h : WellFormed ps)
    (hv : ∀ p ∈ ps, Visible p.2) :
    (splitMbox (pre ++ mboxJoin ps)).length = ps.length ∧
    ∀ i (hi : i < ps.length), (splitMbox (pre ++ mboxJoin ps))[i]? = some (rstripCRLF ps[i].2) := by
  rw [C16_mbox_split pre ps hpre hterm h]
  have hf : ((ps.map (·.2)).map rstripCRLF).filter (fun m => !m.isEmpty) = (ps.map (·.2)).map rstripCRLF := by
    apply List.filter_eq_self.mpr
    intro m hm
    simp only [List.mem_map] at hm
    obtain ⟨m0, ⟨p, hp, rfl⟩, rfl⟩ := hm
    have := hv p hp
    unfold Visible at this
    simpa using this
  rw [hf]
  refine ⟨by simp, ?_⟩
  intro i hi
  simp [hi]

/-
  Full-strength statement ("exact bytes", also for the message as a whole):
      splitMbox (pre ++ mboxJoin ps) = ps.map (·.2)
  It is FALSE on the current code: `rstrip(b"\r\n")` also removes the line end(s) that belong to
  the message itself (open known finding `mbox.single-part-trailing-newlines`): see
  `C16_mbox_trailing_newline_counterexample`.  It holds with the excluding hypothesis
  "no message ends in CR or LF".
-/
/-- **C16 (mbox, exact bytes) — partial.** Messages that are non-empty and do not end in CR/LF
    come back byte for byte.  (`WellFormed` wants every message but the last to end in a line end, so together the
    hypotheses are met by mailboxes of one message only.) -/
theorem C16_mbox_exact_partial (pre : Bytes) (ps : List (Bytes × Bytes))
    (hpre : NonSep pre) (hterm : ps ≠ [] → Term pre) (h : WellFormed ps)
    (hx : ∀ p ∈ ps, p.2 ≠ [] ∧ p.2.getLast? ≠ some 13 ∧ p.2.getLast? ≠ some 10) :
    splitMbox (pre ++ mboxJoin ps) = ps.map (·.2) := by
  have hm : (ps.map (·.2)).map rstripCRLF = ps.map (·.2) := by
    rw [List.map_map]
    exact List.map_congr_left fun p hp => rstripCRLF_eq_self _ (hx p hp).2.1 (hx p hp).2.2
  rw [C16_mbox_split pre ps hpre hterm h, hm]
  apply List.filter_eq_self.mpr
  intro m hmem
  obtain ⟨p, hp, rfl⟩ := List.mem_map.mp hmem
  simpa using (hx p hp).1

/-- counterexample to the full-strength statement: the message `x\n` comes back as `x` -/
theorem C16_mbox_trailing_newline_counterexample :
    let sep : Bytes := [70, 114, 111, 109, 32, 97, 32, 50, 48, 50, 52, 10]   -- "From a 2024\n"
    let msg : Bytes := [120, 10]                                               -- "x\n"
    WellFormed [(sep, msg)] ∧ splitMbox (mboxJoin [(sep, msg)]) = [[120]] ∧
    splitMbox (mboxJoin [(sep, msg)]) ≠ [msg] := by
  refine ⟨?_, by decide, by decide⟩
  simp only [WellFormed, and_true]
  exact ⟨by decide, by decide, by simp⟩

/-! ## mbox reader: the loop of `read_mbox_format_mail` yields once per split message, whatever came before

The control skeleton of the loop is read from the current source (`S2T.Gen.Mail.readerLoops`: one token per
statement of the loop body).  `runLoop` is the loop over ANY list of items with ANY behaviour `o` of the
conditional statements (what a `cond` statement yields may depend on the item — and `o` is arbitrary, so on
anything: headers, earlier items, a set of ids seen so far).  A loop body that passes `loopOnce` has no such
statement, and then the outcome is the input list itself: nothing is skipped, repeated, reordered or cut off. -/

/-- what one pass of the loop body yields for the item `x` -/
def runBody {α : Type} (o : α → List α) (body : List String) (x : α) : List α :=
  body.flatMap (fun t => if t = "yield" then [x] else if t = "plain" then [] else o x)

/-- the items the loop yields over `xs` -/
def runLoop {α : Type} (o : α → List α) (body : List String) (xs : List α) : List α :=
  xs.flatMap (runBody o body)

/-- every statement is an unconditional top-level `yield` or contains no yield/continue/break/return, and
    there is exactly one `yield` -/
def loopOnce (body : List String) : Bool :=
  body.all (fun t => t = "yield" || t = "plain") && body.count "yield" == 1

theorem runBody_replicate {α : Type} (o : α → List α) (body : List String) (x : α)
    (h : body.all (fun t => t = "yield" || t = "plain") = true) :
    runBody o body x = List.replicate (body.count "yield") x := by
  induction body with
  | nil => simp [runBody]
  | cons t r ih =>
    simp only [List.all_cons, Bool.and_eq_true, Bool.or_eq_true, decide_eq_true_eq] at h
    have ih' := ih h.2
    unfold runBody at ih' ⊢
    rw [List.flatMap_cons, ih']
    rcases h.1 with ht | ht
    · subst ht; simp [List.replicate_succ']
      -- `x :: replicate n x` is `replicate n x ++ [x]`
      rw [← List.replicate_succ, List.replicate_succ']
    · subst ht; simp

/-- **C16 (mbox reader, one result per message in order — for every history).** A loop whose body passes
    `loopOnce` yields exactly its items, in order, for every behaviour `o` of conditional statements. -/
theorem C16_reader_loop_exact {α : Type} (o : α → List α) (body : List String) (h : loopOnce body = true)
    (xs : List α) : runLoop o body xs = xs := by
  unfold loopOnce at h
  simp only [Bool.and_eq_true, beq_iff_eq] at h
  unfold runLoop
  have : runBody o body = fun x => [x] := by
    funext x
    rw [runBody_replicate o body x h.1, h.2]; rfl
  rw [this]
  exact List.flatMap_singleton' xs

/-- the hypothesis `loopOnce` is needed: with the skeleton `[plain, cond, yield]` (a conditional statement that
    itself yields for some items) the outcome is not the input list -/
theorem C16_reader_loop_cond_counterexample :
    runLoop (fun (x : Nat) => if x = 7 then [x] else []) ["plain", "cond", "yield"] [1, 7] ≠ [1, 7] := by decide

/-- tie: `read_mbox_format_mail` has exactly one loop, its body passes `loopOnce`, there is no comprehension
    (no filter) and no yield outside the loop -/
theorem gen_reader_loop :
    S2T.Gen.Mail.readerLoops.length = 1 ∧ S2T.Gen.Mail.readerLoops.all loopOnce = true ∧
    S2T.Gen.Mail.readerComprehensions = 0 ∧ S2T.Gen.Mail.readerYieldsOutsideLoop = 0 := by decide

/-- tie: the loop runs over `_split_mbox_messages(file_like.read())`, each item goes through
    `email.message_from_bytes` and `parse_email_message`, and that value is what is yielded; none of these names is
    ever bound to anything else (no slice, sort, filter, dict of ids, …), changed in place or deleted -/
theorem gen_reader_chain :
    S2T.Gen.Mail.readerChain =
      [("for-target", "msg_bytes"), ("for-iter", "message_bytes_list"), ("yield", "m"),
       ("data", "file_like.read()"), ("message_bytes_list", "_split_mbox_messages(data)"),
       ("message", "email.message_from_bytes(msg_bytes)"), ("m", "parse_email_message(message)")] := rfl

/-- tie: `read_eml_format_mail` has no loop and no comprehension and yields one value -/
theorem gen_eml_reader :
    S2T.Gen.Mail.emlReaderLoops = [] ∧ S2T.Gen.Mail.emlReaderComprehensions = 0 ∧
    S2T.Gen.Mail.emlReaderYields.length = 1 := by decide

/-- tie: neither extractor module keeps mutable module-level containers, `global`/`nonlocal` names or cached
    functions — a result cannot depend on what was extracted before -/
theorem gen_no_module_state : S2T.Gen.Mail.moduleState = [] := by decide

/-- **C16 (mbox, end to end count and order).** Under the hypotheses of `C16_mbox_count`, the reader loop of the
    current source (any per-message function `f` standing for parse) run over the split of the mailbox gives one
    result per message, the i-th being `f` of the i-th message (CR/LF-right-stripped). -/
theorem C16_mbox_reader_count {β : Type} (f : Bytes → β) (o : β → List β)
    (pre : Bytes) (ps : List (Bytes × Bytes))
    (hpre : NonSep pre) (hterm : ps ≠ [] → Term pre) (h : WellFormed ps)
    (hv : ∀ p ∈ ps, Visible p.2) (body : List String) (hb : body ∈ S2T.Gen.Mail.readerLoops) :
    let res := runLoop o body ((splitMbox (pre ++ mboxJoin ps)).map f)
    res.length = ps.length ∧ ∀ i (hi : i < ps.length), res[i]? = some (f (rstripCRLF ps[i].2)) := by
  have hok : loopOnce body = true := by
    have := gen_reader_loop.2.1
    exact List.all_eq_true.mp this body hb
  intro res
  have hres : res = (splitMbox (pre ++ mboxJoin ps)).map f := C16_reader_loop_exact o body hok _
  obtain ⟨hl, hi⟩ := C16_mbox_count pre ps hpre hterm h hv
  rw [hres]
  refine ⟨by simp [hl], ?_⟩
  intro i hlt
  rw [List.getElem?_map, hi i hlt]; rfl

/-- **C16 (CRLF).** A separator line is recognised the same with LF and with CRLF. -/
theorem C16_sep_crlf (s : Bytes) (h13 : s.getLast? ≠ some 13) :
    isSepLine (s ++ [13, 10]) = isSepLine (s ++ [10]) := by
  have e1 : s ++ [13, 10] = (s ++ [13]) ++ [10] := by simp
  unfold isSepLine
  rw [e1]
  simp only [List.getLast?_append, List.getLast?_singleton, Option.some_or, List.dropLast_concat]
  have hall : (s ++ [13]).all (fun x => x != 10) = s.all (fun x => x != 10) := by simp
  rw [hall]
  simp [h13]

/-- **C16 (quoting suffices).** A message none of whose lines begins with `From␠` (mboxo/mboxrd
    quoting) has no line matching the separator pattern. -/
theorem C16_escaped_nonsep (m : Bytes) (h : ∀ l ∈ lines m, fromSp.isPrefixOf l = false) : NonSep m :=
  fun l hl => isSepLine_of_not_from l (h l hl)

/-- **C16 (bodies).** For a multipart message the plain / HTML body is the decoded text of the
    first part, in document order and outside every attachment, that has that content type
    and a non-empty body; `""` if there is none. -/
theorem C16_body (p : Part) (cs : List Tree) :
    getBody (.multi p cs) =
      (firstBody sTextPlain (iterParts (.multi p cs)), firstBody sTextHtml (iterParts (.multi p cs))) := by
  simp only [getBody]
  rw [foldl_bodyStep]
  simp

/-- **C16 (bodies, over the leaves).** When attachments are leaves, "outside every attachment"
    is simply "not an attachment leaf": the bodies are found among all leaves in document order. -/
theorem C16_body_leaves (p : Part) (cs : List Tree) (h : attLeavesOnly (.multi p cs) = true) :
    getBody (.multi p cs) =
      (firstBody sTextPlain ((leaves (.multi p cs)).map (fun l => (l, isAttachment l.part))),
       firstBody sTextHtml ((leaves (.multi p cs)).map (fun l => (l, isAttachment l.part)))) := by
  rw [C16_body, iterParts_leaves _ h]

/-- **C16 (no attachment content in a body).** A non-empty plain body is the text of an entry
    that is not an attachment (nor inside one) and is `text/plain`; same for HTML. -/
theorem C16_body_is_inline (p : Part) (cs : List Tree) :
    ((getBody (.multi p cs)).1 ≠ [] →
      ∃ e ∈ iterParts (.multi p cs), e.2 = false ∧ e.1.part.ctype = sTextPlain ∧
        e.1.part.text = (getBody (.multi p cs)).1) ∧
    ((getBody (.multi p cs)).2 ≠ [] →
      ∃ e ∈ iterParts (.multi p cs), e.2 = false ∧ e.1.part.ctype = sTextHtml ∧
        e.1.part.text = (getBody (.multi p cs)).2) := by
  rw [C16_body]
  exact ⟨firstBody_mem _ _, firstBody_mem _ _⟩

/-- **C16 (attachment-only message).** A single-part message that is an attachment has no body. -/
theorem C16_body_attachment_only (p : Part) (h : isAttachment p = true) : getBody (.leaf p) = ([], []) := by
  simp [getBody, h]

/-- **C16 (attachments).** The attachments are exactly the attachment entries of the walk, in
    document order, each with its decoded name (default `attachment`), type, bytes and flag. -/
theorem C16_attachments (T : Tables) (t : Tree) :
    getAttachments T t = ((iterParts t).filter (·.2)).map (fun e => mkAttachment T e.1.part) := by
  unfold getAttachments
  have := List.foldl_append_filter_map (fun e : Tree × Bool => mkAttachment T e.1.part) (fun e => e.2) (iterParts t) []
  simpa using this

/-- **C16 (attachments, over the leaves).** When attachments are leaves: every attachment leaf,
    in document order, none lost, none invented. -/
theorem C16_attachments_leaves (T : Tables) (t : Tree) (h : attLeavesOnly t = true) :
    getAttachments T t = ((leaves t).filter (fun l => isAttachment l.part)).map (fun l => mkAttachment T l.part) := by
  rw [C16_attachments, iterParts_leaves t h, List.filter_map, List.map_map]
  rfl

/-- the flag stored with an attachment is `is_supported_mime_type` of its type -/
theorem C16_attachment_flag (T : Tables) (p : Part) :
    (mkAttachment T p).supported = isSupportedMime T p.ctype ∧ (mkAttachment T p).data = p.payload ∧
    (mkAttachment T p).mime = p.ctype := ⟨rfl, rfl, rfl⟩

/-- side condition on the tables for the MIME fallback: every mapped type names a file type for
    which `attachment.<type>` is routed by its extension -/
def MimeRouteOk (T : Tables) : Bool :=
  T.mimeMap.all (fun kv => !kv.2.isEmpty && (fileTypeFromExt T (sAttachmentDot ++ kv.2)).isSome)

theorem gen_mime_route_ok : MimeRouteOk S2T.Gen.Router.tables = true := by
  decide_chars MimeRouteOk S2T.Gen.Router.tables S2T.Gen.Router.mimeMap S2T.Gen.Router.registry S2T.Gen.Router.aliases
    S2T.Gen.Router.compound sAttachmentDot

/-- **C16 (name first).** A supported attachment whose (lower-cased) name is routable is
    extracted by the extractor `get_extractor(name)` returns — the one that reads the attached
    file on its own. -/
theorem C16_routing_by_name (T : Tables) (name : Str) (g g2 : Option Str) (mime : Str) (f : Str × Str)
    (hf : getExtractor T name g = .ok f) :
    routeAttachment T true name g mime g2 = .ok (.run f) := by
  simp [routeAttachment, hf]

/-- **C16 (a supported attachment is extracted).** With well-formed tables, an attachment whose
    type `is_supported_mime_type` is never skipped and `get_extractor` never raises: it is
    extracted by name, else by the extractor registered for its MIME type. -/
theorem C16_routing_supported_runs {T : Tables} (h : S2T.C07.TablesOk T = true) (h2 : MimeRouteOk T = true)
    (name : Str) (g g2 : Option Str) (mime : Str) (hs : isSupportedMime T mime = true) :
    ∃ f, routeAttachment T true name g mime g2 = .ok (.run f) := by
  unfold routeAttachment
  simp only [Bool.not_true, Bool.false_eq_true, ↓reduceIte]
  cases hg : getExtractor T name g with
  | ok f => exact ⟨f, rfl⟩
  | error e =>
    simp only  -- the `match` on `Except.error e`
    unfold isSupportedMime at hs
    simp only [Bool.and_eq_true] at hs
    obtain ⟨ft, hft⟩ := Option.isSome_iff_exists.mp hs.2
    have hmem := lookup_mem _ _ _ hft
    have hrow := List.all_eq_true.mp h2 (mime, ft) hmem
    simp only [Bool.and_eq_true, Bool.not_eq_true', List.isEmpty_eq_false_iff] at hrow
    obtain ⟨t, ht⟩ := Option.isSome_iff_exists.mp hrow.2
    obtain ⟨f, _, hall⟩ := S2T.C07.ext_decides h _ t ht
    refine ⟨f, ?_⟩
    simp [hft, hrow.1, hall g2]

/-- the same on the tables generated from the current source -/
theorem C16_routing (name : Str) (g g2 : Option Str) (mime : Str)
    (hs : isSupportedMime S2T.Gen.Router.tables mime = true) :
    ∃ f, routeAttachment S2T.Gen.Router.tables true name g mime g2 = .ok (.run f) :=
  C16_routing_supported_runs S2T.C07.gen_tables_ok gen_mime_route_ok name g g2 mime hs

/-- an attachment whose type is not supported is skipped, whatever its name -/
theorem C16_routing_unsupported (T : Tables) (name : Str) (g g2 : Option Str) (mime : Str) :
    routeAttachment T false name g mime g2 = .ok .skipUnsupported := by
  simp [routeAttachment]

/-- **C16 (eml attachments).** One `EmailAttachment` per mailparser attachment, in order, with
    the base64-decoded bytes for binary payloads. -/
theorem C16_eml_attachments (T : Tables) (m : Mp) (r : EmlResult) (h : readEml T m = .ok r) :
    r.attachments = m.attachments.map (mkEmlAttachment T) ∧
    r.attachments.length = m.attachments.length ∧
    ∀ a ∈ m.attachments, a.binary = true → (mkEmlAttachment T a).data = a.b64 := by
  obtain ⟨f, to, _, rfl⟩ := readEml_ok T m r h
  refine ⟨rfl, by simp, ?_⟩
  intro a _ hb
  simp [mkEmlAttachment, hb]

/-- **C16 (eml recipients).** To-addresses are passed on all and in order; Cc/Bcc/Reply-To keep
    exactly the entries that have an address. -/
theorem C16_eml_recipients (T : Tables) (m : Mp) (r : EmlResult) (h : readEml T m = .ok r) :
    m.to.mapM pair2 = .ok r.to ∧ r.cc = filterAddr m.cc ∧ r.bcc = filterAddr m.bcc ∧
    r.replyTo = filterAddr m.replyTo := by
  obtain ⟨f, to, hto, rfl⟩ := readEml_ok T m r h
  exact ⟨hto, rfl, rfl, rfl⟩

/-
  Full-strength statement for `.eml` bodies: `r.bodyPlain` is THE plain body of the message.
  The extractor joins whatever mailparser lists under `text_plain`; mailparser also lists the
  text parts of an *attached* message (open known finding `eml.attached-message-body-leak`),
  so the statement holds only with the excluding hypothesis "mailparser lists exactly the body".
-/
/-- **C16 (eml bodies) — partial.** -/
theorem C16_eml_body_partial (T : Tables) (m : Mp) (r : EmlResult) (h : readEml T m = .ok r)
    (b : Str) (hb : m.textPlain = [b] ∨ (m.textPlain = [] ∧ b = [])) : r.bodyPlain = b := by
  obtain ⟨f, to, _, rfl⟩ := readEml_ok T m r h
  rcases hb with hb | ⟨hb, rfl⟩ <;> simp [hb, joinNl]

/-- counterexample: with the inner text of an attached message listed too, the body is not the
    message's own body -/
theorem C16_eml_body_leak_counterexample :
    let m : Mp := { from_ := [["".toList, "a@b.c".toList]], to := [], cc := [], bcc := [], replyTo := [],
                    subject := "s".toList, textPlain := ["outer".toList, "inner".toList], textHtml := [],
                    attachments := [] }
    ∃ r, readEml S2T.Gen.Router.tables m = .ok r ∧ r.bodyPlain = "outer\ninner".toList ∧
      r.bodyPlain ≠ "outer".toList := by
  refine ⟨_, rfl, by decide, by decide⟩

/-
  Full-strength statement for `.eml` display names: the name is the decoded display name.
  The extractor copies mailparser's tuple verbatim; for a quoted display name folded across
  lines mailparser keeps the line break (LF) or loses the address (CRLF) — open known finding
  `eml.folded-display-name`.  What is proved is the copy.
-/
/-- counterexample: a line break in mailparser's name is a line break in the result -/
theorem C16_eml_folded_name_counterexample :
    let m : Mp := { from_ := [["".toList, "a@b.c".toList]], to := [["Doe,\n John".toList, "j@x.io".toList]],
                    cc := [], bcc := [], replyTo := [], subject := [], textPlain := [], textHtml := [],
                    attachments := [] }
    ∃ r, readEml S2T.Gen.Router.tables m = .ok r ∧ r.to = [("Doe,\n John".toList, "j@x.io".toList)] ∧
      r.to ≠ [("Doe, John".toList, "j@x.io".toList)] := by
  refine ⟨_, rfl, by decide, by decide⟩

-- a separator line as `mailbox` writes it, LF and CRLF; near misses
example : isSepLine (asc "From MAILER-DAEMON Mon Jan  1 10:00:00 2024\n") = true := by
  decide_chars asc
example : isSepLine (asc "From a@b.c Mon Jan  1 10:00:00 2024\r\n") = true := by
  decide_chars asc
example : isSepLine (asc "From me to you in 2024 \n") = false := by
  decide_chars asc
example : isSepLine (asc "From  x 2024\n") = false := by decide
example : isSepLine (asc ">From a 2024\n") = false := by decide
-- hypotheses of C16_mbox_split / _count are satisfiable by a two-message CRLF mbox with a preamble
example :
    let s1 := asc "From a 2024\r\n"
    let m1 := asc "Subject: x\r\n\r\n>From me 2024\r\nbody\r\n\r\n"
    let s2 := asc "From b 1999\n"
    let m2 := asc "Subject: y\n\nno final newline"
    NonSep [10] ∧ Term [10] ∧ WellFormed [(s1, m1), (s2, m2)] ∧ Visible m1 ∧ Visible m2 ∧
    (splitMbox ([10] ++ mboxJoin [(s1, m1), (s2, m2)])).length = 2 := by
  -- the literals as byte lists, by the rewrite `decide_chars` uses (`S2T/Lemmas/Chars.lean`)
  simp -index only [asc, String.toList_ofList]
  refine ⟨by decide, by decide, ?_, by decide, by decide, by decide⟩
  simp only [WellFormed, and_true]
  exact ⟨by decide, by decide, fun _ => by decide, by decide, by decide, by simp⟩
-- hypothesis of C16_mbox_exact_partial
example : (asc "Subject: y\n\nx").getLast? ≠ some 10 := by decide
-- C16_sep_crlf
example : (asc "From a 2024").getLast? ≠ some 13 := by decide

/-- mixed(alternative(plain, html), attachment "a.csv", attached message containing text/html) -/
def demoTree : Tree :=
  let mk (ct disp fn : String) (pl : Bytes) (tx : String) : Part :=
    { ctype := ct.toList, disp := disp.toList, filename := fn.toList, fnameDec := fn.toList, payload := pl, text := tx.toList }
  .multi (mk "multipart/mixed" "" "" [] "")
    [ .multi (mk "multipart/alternative" "" "" [] "")
        [ .leaf (mk "text/plain" "" "" [104, 105] "hi"), .leaf (mk "text/html" "" "" [60, 98, 62] "<b>") ],
      .leaf (mk "text/csv" "attachment; filename=\"a.csv\"" "a.csv" [49, 44, 50] "1,2"),
      .multi (mk "message/rfc822" "attachment" "" [83] "")
        [ .leaf (mk "text/html" "" "" [60, 105, 62] "<i>") ] ]

example : getBody demoTree = ("hi".toList, "<b>".toList) := by
  decide_chars demoTree
example : (getAttachments S2T.Gen.Router.tables demoTree).map (fun a => (String.ofList a.filename, String.ofList a.mime, a.data, a.supported))
    = [("a.csv", "text/csv", [49, 44, 50], true), ("attachment", "message/rfc822", [83], true)] := by
  decide_chars S2T.Gen.Router.tables S2T.Gen.Router.mimeMap demoTree
-- hypothesis of the *_leaves theorems: satisfiable (and false for demoTree, whose attached message is a container)
example : attLeavesOnly demoTree = false := by decide
example : attLeavesOnly (.multi demoTree.part [.leaf demoTree.part]) = true := by decide
-- routing hypotheses
example : isSupportedMime S2T.Gen.Router.tables "text/csv".toList = true := by
  decide_chars S2T.Gen.Router.tables S2T.Gen.Router.mimeMap
example : routeAttachment S2T.Gen.Router.tables true "noext".toList none "application/pdf".toList none
    = .ok (.run ("sharepoint2text.parsing.extractors.pdf.pdf_extractor".toList, "read_pdf".toList)) := by
  decide_chars S2T.Gen.Router.tables S2T.Gen.Router.mimeMap S2T.Gen.Router.registry S2T.Gen.Router.aliases
    S2T.Gen.Router.compound
example : routeAttachment S2T.Gen.Router.tables true "x.txt".toList none "application/pdf".toList none
    = .ok (.run ("sharepoint2text.parsing.extractors.plain_extractor".toList, "read_plain_text".toList)) := by
  decide_chars S2T.Gen.Router.tables S2T.Gen.Router.mimeMap S2T.Gen.Router.registry S2T.Gen.Router.aliases
    S2T.Gen.Router.compound

end S2T.C16
