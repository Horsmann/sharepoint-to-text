import S2T.Model.ArchiveAttrs
import S2T.Lemmas.Archive
import S2T.Gen.Router
import S2T.Gen.Archive
import S2T.Gen.ArchiveAttrs
/-!
# C09 (entry attributes cannot redirect I/O)

"member names (absolute, dot-dot, drive or backslash forms, links, devices) cannot redirect I/O".  In a 7z archive a
link / device / fifo / reparse point is an ordinary entry whose ATTRIBUTE WORD says so and whose data is the link
target (a host path); in a ZIP it is `external_attr` (st_mode << 16) + `create_system`; in a TAR the typeflag.  The
model keeps exactly one bit of the 7z word (`AttrEntry.toRaw`); these theorems say what follows — for every header,
every attribute word, every consumer and host — and tie that to the CURRENT source by inventories the kernel
re-decides on every run: the source reads no other bit of the word and no node-kind metadata of ZIP / TAR members.
-/
namespace S2T.C09.Attrs
open S2T.Archive S2T.Router

theorem gen_attr_notes_empty : S2T.Gen.ArchiveAttrs.notes = [] := by decide

/-- what the 7z reader may do with an attribute word: store it, hand the list / the word on to `_build_file_list` /
    `FileInfo(...)`, and test FILE_ATTRIBUTE_DIRECTORY in `_build_file_list` -/
def attrUseAllowed (s : String) : Bool :=
  "store:".toList.isPrefixOf s.toList
    || s == "pass:_build_file_list:FileInfo"
    || s == "pass:_parse_files_info:self._build_file_list"
    || s == "test:_build_file_list:attributes[i] & 16"

/-- closed world: every occurrence of an attribute word in util/sevenzip.py is a store, a hand-over to
    `_build_file_list` / `FileInfo`, or the test `attributes[i] & 0x10`; archive_extractor.py never touches one.  (A
    new `attributes >> 16`, `& 0x8000`, `& 0x400`, `stat.S_ISLNK(...)` on the word, `file_info.attributes` … breaks
    this.) -/
theorem attr_word_dir_bit_only :
    (S2T.Gen.ArchiveAttrs.attrUsesSevenZip.all attrUseAllowed
      && S2T.Gen.ArchiveAttrs.attrUsesExtractor.isEmpty) = true := by
  -- as `decide_chars` (Lemmas/Chars.lean); the uses are `String`s, so the `.toList` literal of `attrUseAllowed` shows
  -- only once it is laid open on each of them
  simp -index only [S2T.Gen.ArchiveAttrs.attrUsesSevenZip, List.all_cons, attrUseAllowed, String.toList_ofList]
  decide +kernel

/-- … and the directory bit is still tested (the model's `dirBit`) -/
theorem attr_dir_bit_tested :
    S2T.Gen.ArchiveAttrs.attrUsesSevenZip.contains "test:_build_file_list:attributes[i] & 16" = true := by decide +kernel

/-- the `FileInfo` fields some model accounts for: `filename`, `uncompressed`, `is_directory` are fields of
    `S2T.Archive.FileInfo` (whose `emptyFile` is the index set `_empty_file_indices`); `crc` / `folder_index` are
    bookkeeping of the decoder (C10) -/
def fileInfoModelled : List String := ["filename", "uncompressed", "is_directory", "crc", "folder_index"]

/-- no code reads `FileInfo.attributes`, and `FileInfo` has no computed property (such as `is_symlink`, `unix_mode`):
    every field / property of `FileInfo` read in the two files is one of `fileInfoModelled` -/
theorem fileinfo_reads_modelled :
    (S2T.Gen.ArchiveAttrs.fileInfoReads.all fileInfoModelled.contains
      && S2T.Gen.ArchiveAttrs.fileInfoProps.isEmpty
      && S2T.Gen.ArchiveAttrs.fileInfoFields.all (fun f => fileInfoModelled.contains f || f == "attributes")) = true := by decide +kernel

/-- ZIP: the member loop reads of a `ZipInfo` exactly the fields of the model's `ZipMember` (`filename`, `is_dir()`,
    `flag_bits`, `file_size`): not `external_attr`, `create_system`, `extra`, … -/
theorem zip_info_reads_modelled :
    S2T.Gen.ArchiveAttrs.zipInfoReads.all ["filename", "is_dir", "flag_bits", "file_size"].contains = true := by decide +kernel

/-- TAR: the member loop reads of a `TarInfo` exactly the fields of the model's `TarMember` (`name`, `isreg()`, `size`):
    not `linkname`, `type`, `mode`, `devmajor`, … (the kind guard itself: `Filter.tar_kind_guard_regular_only`) -/
theorem tar_info_reads_modelled :
    S2T.Gen.ArchiveAttrs.tarInfoReads.all ["name", "isreg", "size"].contains = true := by decide +kernel

/-- nowhere in the two files is node-kind / recreation metadata read (external_attr, create_system, linkname,
    devmajor, uid, issym, …) -/
theorem no_node_kind_metadata_read :
    (S2T.Gen.ArchiveAttrs.metaReadsExtractor.isEmpty && S2T.Gen.ArchiveAttrs.metaReadsSevenZip.isEmpty) = true := by decide +kernel

theorem dirBit_congr (a b : Nat) (h : a &&& 0x10 = b &&& 0x10) : dirBit a = dirBit b := by
  simp [dirBit, h]

/-- the unix extension never reaches the directory bit: whatever `st_mode` (symbolic link, fifo, device, socket,
    directory, setuid …) an entry declares, it is to the reader what its Windows bits `w` alone say -/
theorem dirBit_unixAttr (stMode w : Nat) : dirBit (unixAttr stMode w) = dirBit w := by
  apply dirBit_congr
  apply Nat.eq_of_testBit_eq
  intro i
  simp only [unixAttr, Nat.testBit_and, Nat.testBit_or, Nat.testBit_shiftLeft]
  by_cases hi : i = 4
  · subst hi
    have h1 : Nat.testBit 32768 4 = false := by decide
    have h2 : Nat.testBit 16 4 = true := by decide
    simp [h1, h2]
  · have h16 : Nat.testBit 0x10 i = false := by
      rw [show (0x10 : Nat) = 2 ^ 4 from rfl, Nat.testBit_two_pow]; simp; omega
    simp [h16]

example : dirBit (unixAttr 0o120777 0x20) = false ∧ dirBit (unixAttr 0o040755 0x10) = true ∧ dirBit 0x400 = false
    ∧ dirBit 0xFFFFFFFF = true := by decide

/-- The attribute words are irrelevant to a run beyond FILE_ATTRIBUTE_DIRECTORY: two headers whose entries agree in
    name, emptyStream flag and directory bit — whatever unix modes, reparse / device / hidden / read-only bits they
    declare — give the same events, the same results and the same outcome, for every consumer and host. -/
theorem C09_7z_attributes_irrelevant (T : Tables) (nested : List Str) (env : Env) (lim : Limits) (cwd base : Str)
    (a b : SevenZA) (c : Consumer)
    (hlen : a.entries.length = b.entries.length)
    (hent : ∀ i (ha : i < a.entries.length) (hb : i < b.entries.length),
      a.entries[i].name = b.entries[i].name ∧ a.entries[i].emptyStream = b.entries[i].emptyStream
        ∧ a.entries[i].attributes &&& 0x10 = b.entries[i].attributes &&& 0x10)
    (hs : a.fileSizes = b.fileSizes) (he : a.emptyFiles = b.emptyFiles) (hf : a.folders = b.folders)
    (hd : a.folderData = b.folderData) :
    run7z T nested env lim cwd base a.toSevenZ c = run7z T nested env lim cwd base b.toSevenZ c := by
  have : a.toSevenZ = b.toSevenZ := by
    simp only [SevenZA.toSevenZ, hs, he, hf, hd]
    congr 1
    apply List.ext_getElem (by simp [hlen])
    intro i h1 h2
    simp only [List.length_map] at h1 h2
    obtain ⟨hn, hes, hbit⟩ := hent i h1 h2
    simp [AttrEntry.toRaw, hn, hes, dirBit_congr _ _ hbit]
  rw [this]

/-- in particular an entry flagged as a symbolic link (or fifo, device, socket, setuid file) by the unix extension is
    to the whole run what the same entry is without the extension: a regular member whose data is written as DATA -/
theorem C09_7z_unix_mode_irrelevant (T : Tables) (nested : List Str) (env : Env) (lim : Limits) (cwd base : Str)
    (pre suf : List AttrEntry) (name : Str) (es : Bool) (stMode w : Nat)
    (sizes : List Nat) (efs : List Bool) (folders : List Nat) (fd : List (Option (List Nat))) (c : Consumer) :
    run7z T nested env lim cwd base (SevenZA.toSevenZ ⟨pre ++ ⟨name, es, unixAttr stMode w⟩ :: suf, sizes, efs, folders, fd⟩) c
      = run7z T nested env lim cwd base (SevenZA.toSevenZ ⟨pre ++ ⟨name, es, w⟩ :: suf, sizes, efs, folders, fd⟩) c := by
  simp [SevenZA.toSevenZ, AttrEntry.toRaw, dirBit_unixAttr stMode w]

/-- every node a run creates is a directory or a regular file: the events of every run (any header, attribute words,
    consumer, host) are `mkdtemp`, `mkdir`, `write`, `probe`, `read`, `rmtree` — the `Ev` type has no constructor for
    creating a link, fifo or device, and the acceptor the REAL traces are fed to rejects every such event -/
theorem confined_rejects_node_creation (cfg : Cfg) (what p : Str) (rest : List FsEvent) (pre : List FsEvent) :
    confined cfg (pre ++ FsEvent.other what p :: rest) = false := by
  cases h : confined cfg (pre ++ FsEvent.other what p :: rest) with
  | false => rfl
  | true =>
    obtain ⟨live', hl⟩ := confinedFrom_suffix cfg [] pre _ h
    simp [confinedFrom, stepOk] at hl

end S2T.C09.Attrs
