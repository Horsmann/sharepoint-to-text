import S2T.Model.PdfCrypt
import S2T.Gen.PdfCrypt
import S2T.Lemmas.ListBasics
/-!
# C08 (part) — an empty-password PDF gets AES whatever its crypt filters are called, in every process history

"a PDF encrypted with the empty user password extracts the same content as its unencrypted original" needs, on pypdf's
fallback provider, that the library has patched AES into pypdf before the first AES stream / string of the document is
decrypted.  The patch is process-wide and sticky, so a wrong condition in front of it is masked by any earlier AES
document.  Proved here, for EVERY `/Encrypt` dictionary (any crypt filter names, any number of filters, `/Identity`,
differing `/StmF` `/StrF` `/EFF`, unused decoy filters, stray `/CF` below V4) and EVERY history of documents read before:
with the generated code facts (`CodeOk`) every supported document is ready after open, and a consistent renaming of the
filters changes nothing.  The counterexample theorems show the class of changes this is about: a guard that looks at a
NAMED filter (`/StdCF`) leaves a `/DocCF` AES-128 document without AES in a fresh process and is masked by one earlier
`/StdCF` document; a marker that is not in pypdf's message, or an incomplete patch, lose V5.

`CodeOk Gen.code` is re-decided on every run from the current source.
-/
namespace S2T.C08.PdfCrypt
open S2T.PdfCrypt

abbrev KC : OpenCode := S2T.Gen.PdfCrypt.code

theorem gen_pdfcrypt_notes_empty : S2T.Gen.PdfCrypt.notes = [] := by decide

/-- the reader `read_pdf` decrypts comes from the analysed opener, and nobody else constructs a PdfReader or patches -/
theorem gen_pdfcrypt_sites :
    (S2T.Gen.PdfCrypt.opener != "" && S2T.Gen.PdfCrypt.readerCtorSites == [S2T.Gen.PdfCrypt.opener]
      && S2T.Gen.PdfCrypt.patchSites.contains S2T.Gen.PdfCrypt.opener) = true := by decide +kernel

/-- the code facts under which the statement holds: the DependencyError handler retries on pypdf's actual message,
    the patch binds every AES entry point pypdf holds, and some call of the patch after the open is reached whenever
    the reader is encrypted — whatever the opaque parts of its path condition evaluate to -/
def CodeOk (c : OpenCode) : Bool :=
  c.handlerFires && c.patchComplete && c.postGuards.any (·.impliedByEnc)

theorem gen_code_ok : CodeOk KC = true := by decide +kernel

/-- The two syntactic judgements are sound together: `not` swaps them (`impliedByEnc (.not g)` is `refutedByEnc g` and
    conversely), so each half of the induction hypothesis serves the other half of the conclusion. -/
theorem impliedByEnc_sound (g : Guard) (ρ : Nat → Bool) :
    (g.impliedByEnc = true → g.eval true ρ = true) ∧ (g.refutedByEnc = true → g.eval true ρ = false) := by
  induction g with
  | enc => simp [Guard.impliedByEnc, Guard.refutedByEnc, Guard.eval]
  | const b => cases b <;> simp [Guard.impliedByEnc, Guard.refutedByEnc, Guard.eval]
  | atom i => simp [Guard.impliedByEnc, Guard.refutedByEnc]
  | not g ih =>
    simp only [Guard.impliedByEnc, Guard.refutedByEnc, Guard.eval]
    exact ⟨fun h => by simp [ih.2 h], fun h => by simp [ih.1 h]⟩
  | and a b iha ihb =>
    simp only [Guard.impliedByEnc, Guard.refutedByEnc, Guard.eval, Bool.and_eq_true, Bool.or_eq_true]
    refine ⟨fun h => ⟨iha.1 h.1, ihb.1 h.2⟩, fun h => ?_⟩
    rcases h with h | h
    · simp [iha.2 h]
    · simp [ihb.2 h]
  | or a b iha ihb =>
    simp only [Guard.impliedByEnc, Guard.refutedByEnc, Guard.eval, Bool.and_eq_true, Bool.or_eq_true]
    exact ⟨Or.imp iha.1 ihb.1, fun h => by simp [iha.2 h.1, ihb.2 h.2]⟩

/-- every encrypted document pypdf supports leaves `_open_pdf_reader` with AES installed — in ANY process state, for ANY
    crypt-filter dictionary, whatever the opaque guard parts say -/
theorem C08_pdf_open_installs {c : OpenCode} (hc : CodeOk c = true) (ρ : Doc → Nat → Bool) (p : Proc) (e : EncryptDict)
    (hs : e.supported = true) : openReader c ρ p (some e) = .ok ⟨true⟩ := by
  simp only [CodeOk, Bool.and_eq_true, List.any_eq_true] at hc
  obtain ⟨⟨hh, hp⟩, g, hg, hi⟩ := hc
  -- the guard that `is_encrypted` implies fires after the open, whatever the opaque parts say
  have hpost : c.postGuards.any (·.eval true (ρ (some e))) = true :=
    List.any_eq_true.mpr ⟨g, hg, (impliedByEnc_sound g _).1 hi⟩
  simp only [openReader, hs, Bool.not_true, Bool.false_eq_true, if_false, hh, hp, Bool.and_true, if_true]
  by_cases h : (e.openNeedsAes && !p.aes) = true
  · simp only [h, if_true, hpost]
  · simp [h, hpost]

/-- … hence it is ready: whichever of its streams / strings / embedded files use AES can be decrypted -/
theorem C08_pdf_aes_ready {c : OpenCode} (hc : CodeOk c = true) (ρ : Doc → Nat → Bool) (p : Proc) (d : Doc)
    (hs : ∀ e, d = some e → e.supported = true) : ready c ρ p d = true := by
  cases d with
  | none => simp [ready, openReader]
  | some e => simp [ready, C08_pdf_open_installs hc ρ p e (hs e rfl)]

/-- … after any history of documents (supported or not, encrypted or not), and so the verdict in a used process is the
    verdict of a fresh one -/
theorem C08_pdf_aes_history {c : OpenCode} (hc : CodeOk c = true) (ρ : Doc → Nat → Bool) (hist : List Doc) (d : Doc)
    (hs : ∀ e, d = some e → e.supported = true) :
    ready c ρ (runHistory c ρ Proc.fresh hist) d = true ∧ ready c ρ (runHistory c ρ Proc.fresh hist) d = ready c ρ Proc.fresh d := by
  rw [C08_pdf_aes_ready hc ρ _ d hs, C08_pdf_aes_ready hc ρ _ d hs]
  exact ⟨rfl, rfl⟩

example : (⟨4, [("DocCF", .aesv2)], some "DocCF", some "DocCF", none⟩ : EncryptDict).supported = true
    ∧ (⟨4, [("DocCF", .aesv2)], some "DocCF", some "DocCF", none⟩ : EncryptDict).needsAes = true := by decide

private theorem resolve_rename (f : String → String) (hf : ∀ a b, f a = f b → a = b) (hid : ∀ a, f a = "Identity" ↔ a = "Identity")
    (e : EncryptDict) (n : Option String) : (e.rename f).resolve (n.map f) = e.resolve n := by
  cases n with
  | none => rfl
  | some n =>
    simp only [EncryptDict.resolve, Option.map_some, EncryptDict.rename, hid n]
    split
    · rfl
    · rw [List.lookup_map_fst_of_injective f hf n e.cf]

/-- renaming the crypt filters consistently (injectively, keeping the predefined `/Identity`) changes neither the methods
    in use nor, therefore, whether the document needs AES / is supported: `/StdCF` is just a name -/
theorem C08_pdf_aes_names_irrelevant (f : String → String) (hf : ∀ a b, f a = f b → a = b)
    (hid : ∀ a, f a = "Identity" ↔ a = "Identity") (e : EncryptDict) :
    (e.rename f).methods = e.methods ∧ (e.rename f).needsAes = e.needsAes ∧ (e.rename f).supported = e.supported := by
  have hm : (e.rename f).methods = e.methods := by
    have h1 := resolve_rename f hf hid e e.stmF
    have h2 := resolve_rename f hf hid e e.strF
    have h3 := resolve_rename f hf hid e e.effOrStm
    have he : (e.rename f).effOrStm = e.effOrStm.map f := by
      unfold EncryptDict.effOrStm EncryptDict.rename
      cases e.eff <;> rfl
    have hs : (e.rename f).stmF = e.stmF.map f := rfl
    have hr : (e.rename f).strF = e.strF.map f := rfl
    have hv : (e.rename f).v = e.v := rfl
    simp only [EncryptDict.methods, hv, hs, hr, he, h1, h2, h3]
  refine ⟨hm, ?_, ?_⟩
  · simp only [EncryptDict.needsAes, hm]; rfl
  · simp only [EncryptDict.supported, hm]

/-- the value at `/StdCF` of the renaming that prefixes every name but `/Identity` with "x" -/
example : (fun s => if s = "Identity" then s else "x" ++ s) "StdCF" = "xStdCF" := by decide

/-- a guard that asks whether the filter NAMED `/StdCF` is an AES filter -/
def stdcfIsAes : Doc → Nat → Bool
  | some e, 0 => (match e.cf.lookup "StdCF" with | some .aesv2 | some .aesv3 => true | _ => false)
  | _, _ => false

def namedFilterCode : OpenCode := { KC with postGuards := [.and .enc (.atom 0)] }
def docCF : EncryptDict := ⟨4, [("DocCF", .aesv2)], some "DocCF", some "DocCF", none⟩
def stdCF : EncryptDict := ⟨4, [("StdCF", .aesv2)], some "StdCF", some "StdCF", none⟩

/-- `if reader.is_encrypted and <StdCF is AES>: patch()` — rejected by `CodeOk`; a legal AES-128 document whose filter is
    called `/DocCF` is NOT ready in a fresh process, although the same document renamed to `/StdCF` is, and although it IS
    ready once any `/StdCF` AES document has been read before (the sticky process-wide patch masks the defect) -/
theorem C08_pdf_named_filter_guard_counterexample :
    CodeOk namedFilterCode = false
    ∧ ready namedFilterCode stdcfIsAes Proc.fresh (some docCF) = false
    ∧ ready namedFilterCode stdcfIsAes Proc.fresh (some stdCF) = true
    ∧ ready namedFilterCode stdcfIsAes (runHistory namedFilterCode stdcfIsAes Proc.fresh [some stdCF]) (some docCF) = true := by
  decide +kernel

/-- a handler whose marker is not part of pypdf's message, or a patch that leaves one of pypdf's AES bindings alone, loses
    every V5 (AES-256) document in a fresh process -/
theorem C08_pdf_handler_counterexample :
    let v5 : EncryptDict := ⟨5, [("StdCF", .aesv3)], some "StdCF", some "StdCF", none⟩
    CodeOk { KC with retryMarker := "AES support" } = false
    ∧ ready { KC with retryMarker := "AES support" } (fun _ _ => false) Proc.fresh (some v5) = false
    ∧ CodeOk { KC with patchBindings := KC.patchBindings.drop 1 } = false
    ∧ ready { KC with patchBindings := KC.patchBindings.drop 1 } (fun _ _ => false) Proc.fresh (some v5) = false := by
  decide +kernel

end S2T.C08.PdfCrypt
