import S2T.Lemmas.PySections
import S2T.Gen.PyUnits
import S2T.Gen.Units
/-!
# C03 (source tie) — the translated `iterate_units()` / `get_full_text()` methods ARE the hand model `S2T.Units`

`S2T.Gen.PyUnits` is regenerated from the current text of `parsing/extractors/data_types.py` on every run
(`tools/gen/pyfun_units.py`, construct by construct: generator methods as the list of the yielded units, dataclasses
as structures generated from `dataclasses.fields`, `typing.Protocol` parameters as type classes, the heading-stack
`while` loop as well-founded recursion, closures with `nonlocal` as auxiliary definitions with explicit state,
references to elements of a local list as positions).  For every instance of the content class and every environment
(`Units.Env`: the character tables behind `str.strip / split / splitlines / lower`, any `str(x)`):

* `_join_unit_text` — for ANY unit class (`UnitInterface` instance) — is `strip (joinNl (texts))` = the model's `joinUnitText`;
* `iterate_units` of PdfContent, XlsxContent, OdsContent, XlsContent (numbered by `enumerate(…, start=1)`), PptxContent,
  OdpContent, PptContent, EpubContent (stored numbers), PlainTextContent, HtmlContent, OdgContent, OdfContent,
  EmailContent (one unit), RtfContent (pages / full text / paragraphs; images and tables grouped by `page_number or 1`)
  viewed as (number reported by `get_metadata()`, `get_text()`, heading path, level, image count, table count) is the
  model's unit list; `get_full_text` is the model's full text — for the eleven "join" classes `joinUnitText` of the units;
* `OdtContent.iterate_units`, `DocContent.iterate_units`: the heading-section machine (`secRun` over `odtEvents` /
  `docEvents`), the single-unit fall-backs, and the best-effort attachment of tables / images, which is shown never to
  raise on a non-empty unit list and never to change number, text, heading path or level of a unit.
  `DocContent`: the image loop runs over `self.images if units else []`, so `units[-1]` is never taken of an empty list
  and the method raises for no instance.  Both proofs walk the translated body once with the rules of `Ends`
  (`S2T/Lemmas/PyUnits.lean`): `refine` sees through the join points of the `do` notation without unfolding them.  The
  nine variables of the section loop are tied to the model's machine by `SecRel` (`S2T/Lemmas/PySections.lean`); each
  branch of the loop body is one move of the machine on the events the model emits for the item at hand.

Model hypotheses made explicit: stored slide / chapter numbers are compared under "not negative" (the model counts in
`Nat`; `*_iterate_units_all` / `EpubContent_iterate_units_id` state numbers and texts for ALL ints); `DocContent`: the
heading words of the environment's tables are the generated `docHeadingRules` (read from the same source).
Not translated: `DocxContent.iterate_units` (raising operations after a `yield`).
-/
namespace S2T.C03.Src
open S2T.Py S2T.Py.Units S2T.Units S2T.Gen.PyUnits

/-- the translator understood every construct of the whitelisted functions -/
theorem gen_py_notes_empty : S2T.Gen.PyUnits.notes = [] := by decide

/-- the functions this file ties (a renamed / removed method breaks this) -/
theorem gen_py_translated : S2T.Gen.PyUnits.translated =
    ["OdtUnit.get_text", "OdtUnit.get_metadata", "DocUnit.get_text", "DocUnit.get_metadata", "EmailUnit.get_text", "EmailUnit.get_metadata", "PdfUnit.get_text", "PdfUnit.get_metadata",
     "PlainTextUnit.get_text", "PlainTextUnit.get_metadata", "HtmlUnit.get_text", "HtmlUnit.get_metadata",
     "PptUnit.get_text", "PptUnit.get_metadata", "PptxUnit.get_text", "PptxUnit.get_metadata",
     "XlsUnit.get_text", "XlsUnit.get_metadata", "XlsxUnit.get_text", "XlsxUnit.get_metadata",
     "OdgUnit.get_text", "OdgUnit.get_metadata", "OdfUnit.get_text", "OdfUnit.get_metadata",
     "OdpUnit.get_text", "OdpUnit.get_metadata", "OdsUnit.get_text", "OdsUnit.get_metadata",
     "RtfUnit.get_text", "RtfUnit.get_metadata", "EpubChapter.get_text", "EpubChapter.get_metadata",
     "_join_unit_text", "PptSlideContent.text_combined", "OdpSlide.text_combined", "PptxSlide.get_text",
     "XlsSheet.get_table",
     "PdfContent.iterate_units", "PdfContent.get_full_text", "PptxContent.iterate_units", "PptxContent.get_full_text",
     "OdpContent.iterate_units", "OdpContent.get_full_text", "XlsxContent.iterate_units", "XlsxContent.get_full_text",
     "OdsContent.iterate_units", "OdsContent.get_full_text", "EpubContent.iterate_units", "EpubContent.get_full_text",
     "HtmlContent.iterate_units", "HtmlContent.get_full_text", "PlainTextContent.iterate_units", "PlainTextContent.get_full_text",
     "EmailContent.iterate_units", "EmailContent.get_full_text", "OdgContent.iterate_units", "OdgContent.get_full_text",
     "OdfContent.iterate_units", "OdfContent.get_full_text", "RtfContent.iterate_units", "RtfContent.get_full_text",
     "XlsContent.iterate_units", "XlsContent.get_full_text", "PptContent.iterate_units", "PptContent.get_full_text",
     "OdtContent.iterate_units", "OdtContent.get_full_text", "DocContent.iterate_units", "DocContent.get_full_text",
     "DocxContent.get_full_text"] := by rfl

/-- every unit class the translated `iterate_units` methods yield has its `get_text` registered as the
`UnitInterface` the generic `_join_unit_text` dispatches on -/
theorem unit_classes_dispatch : S2T.Gen.PyUnits.protocol_instances =
    [("UnitInterface", ["OdtUnit", "DocUnit", "EmailUnit", "PdfUnit", "PlainTextUnit", "HtmlUnit", "PptUnit", "PptxUnit", "XlsUnit", "XlsxUnit",
      "OdgUnit", "OdfUnit", "OdpUnit", "OdsUnit", "RtfUnit", "EpubChapter"])] := by rfl

/-- **`_join_unit_text`** (any unit class `U`, any list): the trimmed newline-join of the `get_text()` results -/
theorem join_unit_text_eq (env : Units.Env) {U : Type} [UnitInterface U] (units : List U) :
    _join_unit_text env units = strip env.tables (joinNl (units.map UnitInterface.get_text)) := by
  simp [_join_unit_text, Id.run, pure]

theorem join_unit_text_model (env : Units.Env) {U : Type} [UnitInterface U] (units : List U) (ds : List DUnit)
    (h : units.map UnitInterface.get_text = ds.map (·.text)) :
    _join_unit_text env units = joinUnitText env.tables ds := by
  rw [join_unit_text_eq, h, joinUnitText]

/-- the shape of every `get_full_text` that joins its units -/
theorem join_unit_text_of_views (env : Units.Env) {U : Type} [UnitInterface U] (v : U → UView)
    (hv : ∀ u, (v u).text = UnitInterface.get_text u) (us : List U) (ds : List DUnit) (h : us.map v = ds.map viewD) :
    _join_unit_text env us = joinUnitText env.tables ds := by
  refine join_unit_text_model env us ds ?_
  have := congrArg (List.map UView.text) h
  simpa [Function.comp_def, hv, viewD] using this

/-- closes `iterate_units self |>.map view = model units |>.map viewD` for a method whose body is ONE
`for i, x in enumerate(xs, start=1): yield U(…)` loop, given the model's per-element abstraction `m`.  The first `simp`
turns the yield loop into `(enumerateFrom 1 xs).map (view ∘ fun (i, x) => U(…))` (core's `forIn_pure_yield_eq_foldl`, then
`flatten_map_singleton`); the model side is `(enumUnits g 1 (xs.map m)).map viewD` once its definition is unfolded -/
macro "py_enum_units" m:term "with" defs:Lean.Parser.Tactic.simpLemma,* : tactic => `(tactic| (
  simp
  refine map_enumerateFrom_enumUnits _ $m _ ?_ 1 _
  intro k x
  simp [viewD, $defs,*]))

def pdfPage (p : PdfPage) : Page := { text := p.text, nImages := p.images.length, nTables := p.tables.length }
def pdfView (u : PdfUnit) : UView :=
  { number := (PdfUnit.get_metadata u).unit_number, text := PdfUnit.get_text u, nImages := u.images.length, nTables := u.tables.length }

/-- **`PdfContent.iterate_units`** is the model's `pdfUnits` (number, text, image and table counts), all instances -/
theorem PdfContent_iterate_units_eq (self : PdfContent) :
    (PdfContent.iterate_units self).map pdfView = (pdfUnits (self.pages.map pdfPage)).map viewD := by
  unfold PdfContent.iterate_units pdfUnits
  py_enum_units pdfPage with pdfView, pdfPage, PdfUnit.get_metadata, PdfUnit.get_text

/-- **`PdfContent.get_full_text`** is the model's `pdfFullText` = `joinUnitText` of the units -/
theorem PdfContent_get_full_text_eq (env : Units.Env) (self : PdfContent) :
    PdfContent.get_full_text env self = pdfFullText env.tables (self.pages.map pdfPage) :=
  join_unit_text_of_views env pdfView (fun _ => rfl) _ _ (PdfContent_iterate_units_eq self)

def xlsxSheet (s : XlsxSheet) : Sheet := { name := s.name, text := s.text }
def xlsxView (u : XlsxUnit) : UView := { number := (XlsxUnit.get_metadata u).unit_number, text := XlsxUnit.get_text u }

theorem XlsxContent_iterate_units_eq (env : Units.Env) (self : XlsxContent) :
    (XlsxContent.iterate_units env self).map xlsxView = (xlsxUnits env.tables (self.sheets.map xlsxSheet)).map viewD := by
  unfold XlsxContent.iterate_units xlsxUnits
  py_enum_units xlsxSheet with xlsxView, xlsxSheet, XlsxUnit.get_metadata, XlsxUnit.get_text

theorem XlsxContent_get_full_text_eq (env : Units.Env) (self : XlsxContent) :
    XlsxContent.get_full_text env self = xlsxFullText env.tables (self.sheets.map xlsxSheet) :=
  join_unit_text_of_views env xlsxView (fun _ => rfl) _ _ (XlsxContent_iterate_units_eq env self)

def odsSheet (s : OdsSheet) : Sheet := { name := s.name, text := s.text }
def odsView (u : OdsUnit) : UView := { number := (OdsUnit.get_metadata u).unit_number, text := OdsUnit.get_text u }

theorem OdsContent_iterate_units_eq (env : Units.Env) (self : OdsContent) :
    (OdsContent.iterate_units env self).map odsView = (odsUnits env.tables (self.sheets.map odsSheet)).map viewD := by
  unfold OdsContent.iterate_units odsUnits
  py_enum_units odsSheet with odsView, odsSheet, OdsUnit.get_metadata, OdsUnit.get_text

theorem OdsContent_get_full_text_eq (env : Units.Env) (self : OdsContent) :
    OdsContent.get_full_text env self = odsFullText env.tables (self.sheets.map odsSheet) :=
  join_unit_text_of_views env odsView (fun _ => rfl) _ _ (OdsContent_iterate_units_eq env self)

def xlsSheet (s : Gen.PyUnits.XlsSheet) : Sheet := { name := s.name, text := s.text }
def xlsView (u : XlsUnit) : UView := { number := (XlsUnit.get_metadata u).unit_number, text := XlsUnit.get_text u }

theorem XlsContent_iterate_units_eq (env : Units.Env) (self : XlsContent) :
    (XlsContent.iterate_units env self).map xlsView = (xlsUnits env.tables (self.sheets.map xlsSheet)).map viewD := by
  unfold XlsContent.iterate_units xlsUnits
  py_enum_units xlsSheet with xlsView, xlsSheet, XlsUnit.get_metadata, XlsUnit.get_text

/-- `XlsContent.get_full_text` is the stored field, trimmed — not the join of the units (as the model says) -/
theorem XlsContent_get_full_text_eq (env : Units.Env) (self : XlsContent) :
    XlsContent.get_full_text env self = xlsFullText env.tables self.full_text := by
  simp [XlsContent.get_full_text, xlsFullText, Id.run, pure]

def plainView (u : PlainTextUnit) : UView := { number := (PlainTextUnit.get_metadata u).unit_number, text := PlainTextUnit.get_text u }
def htmlView (u : HtmlUnit) : UView := { number := (HtmlUnit.get_metadata u).unit_number, text := HtmlUnit.get_text u }
def odgView (u : OdgUnit) : UView := { number := (OdgUnit.get_metadata u).unit_number, text := OdgUnit.get_text u }
def odfView (u : OdfUnit) : UView := { number := (OdfUnit.get_metadata u).unit_number, text := OdfUnit.get_text u }

theorem PlainTextContent_iterate_units_eq (env : Units.Env) (self : PlainTextContent) :
    (PlainTextContent.iterate_units env self).map plainView = (singleUnits env.tables self.content).map viewD := by
  simp [PlainTextContent.iterate_units, singleUnits, plainView, viewD, PlainTextUnit.get_metadata, PlainTextUnit.get_text, Id.run, pure]
theorem PlainTextContent_get_full_text_eq (env : Units.Env) (self : PlainTextContent) :
    PlainTextContent.get_full_text env self = singleFullText env.tables self.content :=
  join_unit_text_of_views env plainView (fun _ => rfl) _ _ (PlainTextContent_iterate_units_eq env self)

theorem HtmlContent_iterate_units_eq (env : Units.Env) (self : HtmlContent) :
    (HtmlContent.iterate_units env self).map htmlView = (singleUnits env.tables self.content).map viewD := by
  simp [HtmlContent.iterate_units, singleUnits, htmlView, viewD, HtmlUnit.get_metadata, HtmlUnit.get_text, Id.run, pure]
theorem HtmlContent_get_full_text_eq (env : Units.Env) (self : HtmlContent) :
    HtmlContent.get_full_text env self = singleFullText env.tables self.content :=
  join_unit_text_of_views env htmlView (fun _ => rfl) _ _ (HtmlContent_iterate_units_eq env self)

theorem OdgContent_iterate_units_eq (env : Units.Env) (self : OdgContent) :
    (OdgContent.iterate_units env self).map odgView = (singleUnits env.tables self.full_text).map viewD := by
  simp [OdgContent.iterate_units, singleUnits, odgView, viewD, OdgUnit.get_metadata, OdgUnit.get_text, Id.run, pure]
theorem OdgContent_get_full_text_eq (env : Units.Env) (self : OdgContent) :
    OdgContent.get_full_text env self = singleFullText env.tables self.full_text :=
  join_unit_text_of_views env odgView (fun _ => rfl) _ _ (OdgContent_iterate_units_eq env self)

theorem OdfContent_iterate_units_eq (env : Units.Env) (self : OdfContent) :
    (OdfContent.iterate_units env self).map odfView = (singleUnits env.tables self.full_text).map viewD := by
  simp [OdfContent.iterate_units, singleUnits, odfView, viewD, OdfUnit.get_metadata, OdfUnit.get_text, Id.run, pure]
theorem OdfContent_get_full_text_eq (env : Units.Env) (self : OdfContent) :
    OdfContent.get_full_text env self = singleFullText env.tables self.full_text :=
  join_unit_text_of_views env odfView (fun _ => rfl) _ _ (OdfContent_iterate_units_eq env self)

def emailOf (c : EmailContent) : Email := { bodyPlain := c.body_plain, bodyHtml := c.body_html }
def emailView (u : EmailUnit) : UView := { number := (EmailUnit.get_metadata u).unit_number, text := EmailUnit.get_text u }

theorem EmailContent_iterate_units_eq (self : EmailContent) :
    (EmailContent.iterate_units self).map emailView = (emailUnits (emailOf self)).map viewD := by
  unfold EmailContent.iterate_units emailUnits
  cases hp : self.body_plain <;> cases hh : self.body_html <;> simp only [emailOf, hp, hh] <;> rfl
theorem EmailContent_get_full_text_eq (env : Units.Env) (self : EmailContent) :
    EmailContent.get_full_text env self = emailFullText env.tables (emailOf self) :=
  join_unit_text_of_views env emailView (fun _ => rfl) _ _ (EmailContent_iterate_units_eq self)

def epubChapter (c : EpubChapter) : Chapter := { number := c.chapter_number.toNat, text := c.text }
def epubView (u : EpubChapter) : UView := { number := (EpubChapter.get_metadata u).unit_number, text := EpubChapter.get_text u }

/-- the unit number is the stored chapter number, whatever it is (negative numbers included) -/
theorem EpubContent_iterate_units_id (self : EpubContent) : EpubContent.iterate_units self = self.chapters := by
  simp [EpubContent.iterate_units]

/-- the model counts in `Nat`: for stored chapter numbers that are not negative the units are the model's -/
theorem EpubContent_iterate_units_eq (self : EpubContent) (h : ∀ c ∈ self.chapters, 0 ≤ c.chapter_number) :
    (EpubContent.iterate_units self).map epubView = (epubUnits (self.chapters.map epubChapter)).map viewD := by
  rw [EpubContent_iterate_units_id]
  simp only [epubUnits, List.map_map]
  apply List.map_congr_left
  intro c hc
  -- what is left is `((n.toNat : Nat) : Int) = n` for the stored number `n`, true for `0 ≤ n`; the same in the PPT, ODP and PPTX ties
  have := h c hc
  simp [epubView, viewD, epubChapter, EpubChapter.get_metadata, EpubChapter.get_text, Id.run, pure]
  omega
theorem EpubContent_get_full_text_eq (env : Units.Env) (self : EpubContent) :
    EpubContent.get_full_text env self = epubFullText env.tables (self.chapters.map epubChapter) := by
  unfold EpubContent.get_full_text epubFullText
  simp only [Id.run, pure]
  refine join_unit_text_model env _ _ ?_
  simp [EpubContent_iterate_units_id, epubUnits, epubChapter, UnitInterface.get_text, EpubChapter.get_text, Id.run, pure, Function.comp_def]

def pptSlide (s : PptSlideContent) : PptSlide :=
  { number := s.slide_number.toNat, title := s.title, body := s.body_text, other := s.other_text }
def pptView (u : PptUnit) : UView := { number := (PptUnit.get_metadata u).unit_number, text := PptUnit.get_text u }

/-- **`PptSlideContent.text_combined`** is the model's `textCombined` (a `None` / empty title is left out) -/
theorem PptSlideContent_text_combined_eq (s : PptSlideContent) :
    PptSlideContent.text_combined s = textCombined s.title s.body_text s.other_text := by
  unfold PptSlideContent.text_combined textCombined
  rcases ht : s.title with _ | t
  · simp [Id.run, pure]
  · simp [Id.run, pure]
    split <;> simp

/-- texts and numbers, ALL instances (the stored slide number is passed through, negative or not) -/
theorem PptContent_iterate_units_all (self : PptContent) :
    (PptContent.iterate_units self).map (fun u => ((PptUnit.get_metadata u).unit_number, PptUnit.get_text u))
      = self.slides.map (fun s => (s.slide_number, textCombined s.title s.body_text s.other_text)) := by
  simp [PptContent.iterate_units, PptSlideContent_text_combined_eq]
  simp [PptUnit.get_metadata, PptUnit.get_text, Id.run, pure]

/-- **`PptContent.iterate_units`** is the model's `pptUnits` for stored slide numbers that are not negative (the model
counts in `Nat`) -/
theorem PptContent_iterate_units_eq (self : PptContent) (h : ∀ s ∈ self.slides, 0 ≤ s.slide_number) :
    (PptContent.iterate_units self).map pptView = (pptUnits (self.slides.map pptSlide)).map viewD := by
  simp [PptContent.iterate_units, pptUnits, PptSlideContent_text_combined_eq, Function.comp_def]
  intro s hs
  have := h s hs
  simp [pptView, viewD, pptSlide, PptUnit.get_metadata, PptUnit.get_text, Id.run, pure]
  omega

example : ∃ c : PptContent, c.slides ≠ [] ∧ ∀ s ∈ c.slides, 0 ≤ s.slide_number :=
  ⟨{ slides := [{ slide_number := 3, title := some "T".toList }] }, by simp, by simp⟩

/-- outside the hypothesis: the model's `PptSlide.number` is a `Nat`, the stored `slide_number` any int — a negative
stored number is passed through by the source and cannot be represented by the model (the same holds for OdpSlide,
PptxSlide, EpubChapter; a finding about the MODEL's type, not about the library) -/
theorem stored_negative_number_counterexample :
    (PptContent.iterate_units { slides := [{ slide_number := -1 }] }).map pptView
      ≠ (pptUnits ([({ slide_number := -1 } : PptSlideContent)].map pptSlide)).map viewD := by
  decide

/-- **`PptContent.get_full_text`** is the model's `pptFullText`: the newline-join of the non-empty trimmed unit texts -/
theorem PptContent_get_full_text_eq (env : Units.Env) (self : PptContent) :
    PptContent.get_full_text env self = pptFullText env.tables (self.slides.map pptSlide) := by
  simp [PptContent.get_full_text, PptContent.iterate_units, PptSlideContent_text_combined_eq]
  simp [pptFullText, pptUnits, PptUnit.get_text, pptSlide, Id.run, pure, Function.comp_def, List.filter_map, isEmpty_eq_decide]

def odpSlide (s : OdpSlide) : PptSlide :=
  { number := s.slide_number.toNat, title := some s.title, body := s.body_text, other := s.other_text }
def odpView (u : OdpUnit) : UView :=
  { number := (OdpUnit.get_metadata u).unit_number, text := OdpUnit.get_text u, path := (OdpUnit.get_metadata u).location }

theorem OdpSlide_text_combined_eq (s : OdpSlide) :
    OdpSlide.text_combined s = textCombined (some s.title) s.body_text s.other_text := by
  unfold OdpSlide.text_combined textCombined
  simp [Id.run, pure]
  split <;> simp_all

theorem OdpContent_iterate_units_eq (self : OdpContent) (h : ∀ s ∈ self.slides, 0 ≤ s.slide_number) :
    (OdpContent.iterate_units self).map odpView = (odpUnits (self.slides.map odpSlide)).map viewD := by
  simp [OdpContent.iterate_units, odpUnits, OdpSlide_text_combined_eq, Function.comp_def]
  intro s hs
  have := h s hs
  simp [odpView, viewD, odpSlide, OdpUnit.get_metadata, OdpUnit.get_text, Id.run, pure]
  omega

theorem OdpContent_get_full_text_eq (env : Units.Env) (self : OdpContent) :
    OdpContent.get_full_text env self = odpFullText env.tables (self.slides.map odpSlide) := by
  unfold OdpContent.get_full_text odpFullText
  simp only [Id.run, pure]
  refine join_unit_text_model env _ _ ?_
  simp [OdpContent.iterate_units, OdpSlide_text_combined_eq]
  simp [odpUnits, odpSlide, UnitInterface.get_text, OdpUnit.get_text, Id.run, pure, Function.comp_def]

def pptxSlide (s : Gen.PyUnits.PptxSlide) : Units.PptxSlide :=
  { number := s.slide_number.toNat, baseText := s.base_text, formulas := s.formulas.map (fun f => (f.latex, f.is_display)),
    imageDescs := s.images.map (·.description) }
def pptxView (u : PptxUnit) : UView :=
  { number := (PptxUnit.get_metadata u).unit_number, text := PptxUnit.get_text u, nImages := u.images.length }

theorem PptxSlide_get_text_eq (s : Gen.PyUnits.PptxSlide) (cap : Bool) :
    PptxSlide.get_text s cap = pptxSlideText (pptxSlide s) cap := by
  -- each loop of `get_text` appends a piece per item (`forIn_id_append`, the body by `py_appends`); `flatMap_ite_singleton(s)`
  -- turn "append if …" into the `filter` / `map` the model is written with; the rest is the same term up to the rules listed
  unfold PptxSlide.get_text pptxSlideText
  simp (disch := py_appends) only [Id.run, forIn_id_append]
  simp only [pure, bind, apply_ite stepVal, stepVal_yield, listAppend, List.nil_append, flatMap_ite_singleton,
    flatMap_ite_singletons, pptxSlide]
  -- kept apart from `simp`'s default set, which evaluates the string literals again and again
  have h1 : "$".toList = ['$'] := by decide
  have h2 : "]".toList = [']'] := by decide
  cases cap <;> simp only [h1, h2, if_true, Bool.false_eq_true, if_false, nl_toList, strJoin_nl, truthy_str, List.map_map,
    List.filter_map, Function.comp_def, List.append_nil, isEmpty_eq_decide, Bool.not_eq_true', decide_eq_false_iff_not, ne_eq,
    List.cons_append, List.nil_append, List.append_assoc] <;> rfl

theorem PptxContent_iterate_units_eq (env : Units.Env) (self : PptxContent) (cap : Bool)
    (h : ∀ s ∈ self.slides, 0 ≤ s.slide_number) :
    (PptxContent.iterate_units env self cap).map pptxView
      = (pptxUnits env.tables (self.slides.map pptxSlide) cap).map viewD := by
  simp [PptxContent.iterate_units, PptxSlide_get_text_eq]
  simp [pptxUnits, Function.comp_def]
  intro s hs
  have := h s hs
  simp [pptxView, viewD, pptxSlide, PptxUnit.get_metadata, PptxUnit.get_text, Id.run, pure]
  omega

/-- texts and numbers, ALL instances (the stored slide number is passed through, negative or not) -/
theorem PptxContent_iterate_units_all (env : Units.Env) (self : PptxContent) (cap : Bool) :
    (PptxContent.iterate_units env self cap).map (fun u => ((PptxUnit.get_metadata u).unit_number, PptxUnit.get_text u, u.images.length))
      = self.slides.map (fun s => (s.slide_number, strip env.tables (pptxSlideText (pptxSlide s) cap), s.images.length)) := by
  simp [PptxContent.iterate_units, PptxSlide_get_text_eq]
  simp [PptxUnit.get_metadata, PptxUnit.get_text, Id.run, pure]

theorem PptxContent_get_full_text_eq (env : Units.Env) (self : PptxContent) (cap : Bool) :
    PptxContent.get_full_text env self cap = pptxFullText env.tables (self.slides.map pptxSlide) cap := by
  unfold PptxContent.get_full_text pptxFullText
  simp only [Id.run, pure]
  refine join_unit_text_model env _ _ ?_
  simp [PptxContent.iterate_units, PptxSlide_get_text_eq]
  simp [pptxUnits, UnitInterface.get_text, PptxUnit.get_text, Id.run, pure, Function.comp_def]

def rtfOf (c : RtfContent) : Rtf :=
  { pages := c.pages, fullText := c.full_text, paragraphs := c.paragraphs.map (·.text),
    imagePages := c.images.map (·.page_number), tablePages := c.tables.map (·.page_number) }
def rtfView (u : RtfUnit) : UView :=
  { number := (RtfUnit.get_metadata u).unit_number, text := RtfUnit.get_text u, nImages := u.images.length, nTables := u.tables.length }

/-- **`RtfContent.iterate_units`** never raises (the `d[page]` look-ups of the two group-by-page loops always find the
entry created just before) and is the model's `rtfUnits`: one unit per explicit page, else the full text, else the
non-blank paragraphs; images / tables are counted on the page `page_number or 1` -/
theorem RtfContent_iterate_units_eq (env : Units.Env) (self : RtfContent) :
    (fun us => us.map rtfView) <$> RtfContent.iterate_units env self
      = Except.ok ((rtfUnits env.tables (rtfOf self)).map viewD) := by
  unfold RtfContent.iterate_units rtfUnits
  apply Ends.map_eq
  refine Ends.bind (Ends.groupBy (fun i : RtfImage => orD i.page_number 1) (group_body _) _) fun di hi => ?_
  refine Ends.bind (Ends.groupBy (fun i : RtfTable => orD i.page_number 1) (group_body _) _) fun dt ht => ?_
  refine Ends.ite (fun hp => ?_) fun hp => Ends.ite (fun hf => ?_) fun hf => Ends.ite (fun hc => ?_) (fun hc => ?_)
  · have hp : (rtfOf self).pages ≠ [] := by simpa [truthy_list, rtfOf] using hp
    refine Ends.yield_map _ ?_
    rw [if_pos hp, List.nil_append, List.map_map]
    refine map_enumerateFrom_enumUnits' _ _ (fun k x => ?_) 1 _
    simp [rtfOf, rtfView, viewD, RtfUnit.get_metadata, RtfUnit.get_text, Id.run, pure, hi, ht, filter_page_length]
  all_goals have hp : ¬ (rtfOf self).pages ≠ [] := by simpa [truthy_list, rtfOf] using hp
  · have hf : (rtfOf self).fullText ≠ [] := by simpa [truthy_str, rtfOf] using hf
    rw [if_neg hp, if_pos hf]
    exact ⟨_, rfl, by simp [rtfOf, rtfView, viewD, RtfUnit.get_metadata, RtfUnit.get_text, Id.run, pure, hi, ht,
      filter_page_length_one]⟩
  all_goals have hf : ¬ (rtfOf self).fullText ≠ [] := by simpa [truthy_str, rtfOf] using hf
  all_goals
    rw [if_neg hp, if_neg hf]
    refine ⟨_, rfl, ?_⟩
    simp [rtfOf, List.filter_map, Function.comp_def, isEmpty_eq_decide] at hc ⊢
    simp [hc, rtfView, viewD, RtfUnit.get_metadata, RtfUnit.get_text, Id.run, pure, hi, ht, filter_page_length_one]

/-- **`RtfContent.get_full_text`**: the stored full text when there is one, else the join of the units -/
theorem RtfContent_get_full_text_eq (env : Units.Env) (self : RtfContent) :
    RtfContent.get_full_text env self = Except.ok (rtfFullText env.tables (rtfOf self)) := by
  obtain ⟨us, hus, hv⟩ := map_eq_ok _ _ _ (RtfContent_iterate_units_eq env self)
  unfold RtfContent.get_full_text rtfFullText
  simp only [hus, M.ok_bind']
  by_cases hf : self.full_text = []
  · simp [hf, rtfOf]
    exact join_unit_text_of_views env rtfView (fun _ => rfl) _ _ (by simpa [rtfOf, hf] using hv)
  · simp [hf, rtfOf]

/- Heading sections, what ODT and DOC share.  The heading-stack `while` loop is well-founded recursion generated from the
source. -/

/-- the model's unit without the image / table counts (attachment by caption / header matching is not modelled) -/
def viewD4 (d : DUnit) : UView := { number := d.number, text := d.text, path := d.path, level := d.level }

/-- the translated `while heading_stack and heading_stack[-1][0] >= level: heading_stack.pop()` (`w`, given by its
defining equation) is the model's `popStack` on the stack kept top first -/
theorem while_pop_rev (w : Int → List (Int × Py.Str) → List (Int × Py.Str))
    (hw : ∀ lv st, w lv st = if h : (if h3 : truthy st then decide ((lastNE st h3).1 ≥ lv) else false) then
      w lv (popNE st (dand_left h)) else st) (lv : Int) (r : List (Int × Py.Str)) :
    w lv r.reverse = (popStack lv r).reverse := by
  induction r with
  | nil => rw [hw]; simp [popStack, truthy]
  | cons a l ih =>
    rw [hw]
    clear hw    -- or `simp_all` below rewrites with the loop's own defining equation
    obtain ⟨l0, t0⟩ := a
    simp [popStack, truthy]
    split
    · simp_all
    · simp_all

theorem odt_while_1_rev : ∀ lv r, OdtContent.iterate_units.while_1 lv r.reverse = (popStack lv r).reverse :=
  while_pop_rev _ fun lv st => by rw [OdtContent.iterate_units.while_1]

/-- the unit `OdtContent`'s `flush_current` appends -/
def odtMk (base : List Py.Str) (lvl : Option Int) (path : List Py.Str) (text : Py.Str) (idx : Int) (tables : List TableData) :
    OdtUnit :=
  { text := text, unit_number := idx, heading_level := lvl, heading_path := odtMkPath base path, kind := "body".toList,
    tables := tables }

theorem odt_flush_current_eq (env : Units.Env) (base : List Py.Str) (lvl : Option Int) (path : List Py.Str) (units : List OdtUnit)
    (lines : List Py.Str) (tables : List TableData) (idx : Int) :
    OdtContent.iterate_units.flush_current env base lvl path units lines tables idx
      = ((flushed env.tables (odtMk base lvl path) units lines tables idx).1, [], [],
         (flushed env.tables (odtMk base lvl path) units lines tables idx).2) := by
  unfold OdtContent.iterate_units.flush_current flushed odtMk
  simp (disch := py_yields) only [forIn_id_step]
  simp [odtMkPath, pure, apply_ite stepVal, isEmpty_eq_decide]
  -- the translated test is `lastNT acc h ≠ x` under the proof `h` that `acc` is not empty, the model's `acc.getLast? ≠ some x`
  have hstep : ∀ (acc : List Py.Str) x, (∀ (h : ¬acc = []), ¬acc.getLast h = x) ↔ (acc = [] ∨ ¬acc.getLast? = some x) := by
    intro acc x
    cases acc with
    | nil => simp
    | cons a l => simp [List.getLast?_eq_some_getLast]; exact ⟨fun h => h trivial, fun h _ => h⟩
  simp only [hstep]
  by_cases h1 : strip env.tables (joinNl (List.filter (fun x => !decide (x = [])) lines)) = [] <;>
    by_cases h2 : tables = [] <;> simp [h1, h2] <;> rfl

def odtPara (p : OdtParagraph) : OdtPara := { text := p.text, outline := p.outline_level, style := orD p.style_name [] }
def odtOf (c : OdtContent) : Odt :=
  { paragraphs := c.paragraphs.map odtPara, title := c.metadata.title, fullText := c.full_text,
    nTables := c.tables.length, nImages := c.images.length }
def odtView (u : OdtUnit) : UView :=
  { number := (OdtUnit.get_metadata u).unit_number, text := OdtUnit.get_text u,
    path := (OdtUnit.get_metadata u).heading_path, level := (OdtUnit.get_metadata u).heading_level }

/-- the variables the paragraph loop of `OdtContent.iterate_units` changes, in the translator's order (that of their first
assignment in the Python body): `units, heading_stack, current_heading_level, current_heading_path, current_lines,
current_tables, unit_index, any_headings, table_index, pending_tables, in_table_block` -/
abbrev OdtSt := List OdtUnit × List (Int × Py.Str) × Option Int × List Py.Str × List Py.Str × List TableData × Int × Bool
  × Int × List TableData × Bool

/-- the paragraph loop: the section variables are related to a state of the model's machine from which the events of
the paragraphs still to come, with `left` tables not yet consumed, lead to `total` -/
def odtInv (T : Tables) (mk : List Units.Str → List Units.Str) (nTables : Nat) (total : Sec) (rest : List OdtParagraph) :
    OdtSt → Prop
  | (units, hs, lvl, path, lines, tabs, idx, any, ti, pend, inT) =>
    ∃ (s : Sec) (left : Nat), SecRel odtView viewD4 units hs lvl path lines tabs idx any pend s ∧
      ti + (left : Int) = (nTables : Int) ∧ 0 ≤ ti ∧
      (odtEvents T (rest.map odtPara) inT left).foldl (secStep T mk) s = total

theorem odtSingle_view (o : Odt) :
    (odtSingle o).map viewD4 = [{ number := 1, text := o.fullText, path := baseOf o, level := if baseOf o ≠ [] then some 1 else none }] := by
  simp [odtSingle, viewD4, baseOf]

theorem OdtContent_iterate_units_eq (env : Units.Env) (self : OdtContent) :
    (fun us => us.map odtView) <$> OdtContent.iterate_units env self
      = Except.ok ((odtUnits env.tables (odtOf self)).map viewD4) := by
  unfold OdtContent.iterate_units
  apply Ends.map_eq
  have hb : (if truthy self.metadata.title = true then [self.metadata.title] else []) = baseOf (odtOf self) := by
    cases h : self.metadata.title <;> simp [baseOf, odtOf, h]
  -- the translated text repeats the `if` for `base_heading_path` at every use: `hb` turns each into the one variable `base`
  generalize hbase : baseOf (odtOf self) = base at hb
  refine Ends.ite_falsy (fun hp => ?_) (fun hp => ?_)
  · have hm : odtUnits env.tables (odtOf self) = odtSingle (odtOf self) := by simp [odtUnits, odtOf, hp]
    rw [hm, odtSingle_view, hbase, hb]
    refine Ends.yield_all ?_
    simp [odtOf, odtView, OdtUnit.get_metadata, OdtUnit.get_text, Id.run, pure]
  · rw [odtUnits_unfold _ _ (by simp [odtOf, hp]), hbase]
    generalize hev : odtEvents env.tables (odtOf self).paragraphs false (odtOf self).nTables = evs
    refine Ends.bind (Ends.suffix (odtInv env.tables (odtMkPath base) self.tables.length
      (evs.foldl (secStep env.tables (odtMkPath base)) {})) ?_ _
      ⟨{}, self.tables.length, SecRel.init, Int.zero_add _, Int.le_refl 0, hev ▸ rfl⟩) ?_
    · intro p rest σ hI
      obtain ⟨units, hs, lvl, path, lines, tabs, idx, any, ti, pend, inT⟩ := σ
      obtain ⟨s, left, hS, hti, hti0, htot⟩ := hI
      rw [List.map_cons] at htot
      refine Ends.dite_isSome (fun lv ho _ => ?_) (fun ho _ => ?_)
      · refine Ends.ite_truthy (fun ht => ?_) (fun ht => Ends.goes ?_)
        · refine Ends.ite_extend ?_
          rw [odt_flush_current_eq, hb, getS_of_eq _ _ ho]
          exact Ends.goes ⟨_, left, hS.heading env.tables (odtMkPath base) (odtMk base lvl path) (fun _ _ _ _ _ => rfl) _ odt_while_1_rev lv _,
            hti, hti0, by simpa [odtEvents, odtPara, ho, ht] using htot⟩    -- one step of `odtEvents` on `p`, as in every branch
        · exact ⟨s, left, hS, hti, hti0, by simpa [odtEvents, odtPara, ho, ht] using htot⟩
      · have hstyle : (startswith (orD p.style_name "".toList) "Table".toList
            || isInfixB "Table_".toList (orD p.style_name "".toList)) = odtIsTableStyle (odtPara p).style := by
          simp [odtIsTableStyle, odtPara, startswith]
        refine Ends.ite (fun hs => ?_) (fun hs => ?_)
        · have hs : odtIsTableStyle (orD p.style_name []) = true := hstyle ▸ hs
          refine Ends.ite (fun hin => ?_) (fun hin => Ends.goes ?_)
          · have hin : inT = false := by simpa using hin
            subst hin
            refine Ends.ite_decide (fun hlt => ?_) (fun hlt => Ends.goes ?_)
            · obtain ⟨tb, htb, _⟩ := listGetItem_ok self.tables ti hti0 hlt
              obtain ⟨k, rfl⟩ : ∃ k, left = k + 1 := ⟨left - 1, by simp only [len] at hlt; omega⟩
              rw [htb]
              exact Ends.goes ⟨_, k, hS.table env.tables (odtMkPath base) _, (by omega : ti + 1 + (k : Int) = (self.tables.length : Int)),
                (by omega : 0 ≤ ti + 1),
                by simpa [odtEvents, odtPara, ho, hs] using htot⟩
            · simp only [len] at hlt
              obtain rfl : left = 0 := by omega
              exact ⟨s, 0, hS, hti, hti0, by simpa [odtEvents, odtPara, ho, hs] using htot⟩
          · have hin : inT = true := by simpa using hin
            subst hin
            exact ⟨s, left, hS, hti, hti0, by simpa [odtEvents, odtPara, ho, hs] using htot⟩
        · have hs : ¬ odtIsTableStyle (orD p.style_name []) = true := hstyle ▸ hs
          refine Ends.ite_truthy (fun ht => Ends.goes ?_) (fun ht => Ends.goes ?_)
          · exact ⟨_, left, hS.body env.tables (odtMkPath base) _, hti, hti0, by simpa [odtEvents, odtPara, ho, hs, ht] using htot⟩
          · exact ⟨s, left, hS, hti, hti0, by simpa [odtEvents, odtPara, ho, hs, ht] using htot⟩
    · intro σ hI
      obtain ⟨units, hs, lvl, path, lines, tabs, idx, any, ti, pend, inT⟩ := σ
      obtain ⟨s, left, hS, hti, hti0, htot⟩ := hI
      obtain ⟨hfu, rfl⟩ := hS.finish env.tables (odtMkPath base) (odtMk base lvl path) (fun _ _ _ _ _ => rfl) evs
        (by simpa [odtEvents] using htot.symm)
      refine Ends.ite_extend ?_
      refine Ends.ite (fun ha => ?_) (fun ha => ?_)
      · rw [if_pos ha, odtSingle_view, hbase, hb]
        refine Ends.yield_all ?_
        simp [odtOf, odtView, OdtUnit.get_metadata, OdtUnit.get_text, Id.run, pure]
      · rw [if_neg ha, odt_flush_current_eq, hb, ← hfu]
        -- the attachment phase needs nothing of the units but their views, which it keeps: any list `u1` will do
        generalize (flushed env.tables (odtMk base lvl path) units lines (tabs ++ pend) idx).1 = u1
        refine Ends.ite_truthy (fun hu1 => ?_) (fun hu1 => Ends.yield_all ?_)
        · -- attachment of tables, then images: whichever branch runs, units are only changed in place, at valid positions
          have hI0 : attachInv odtView (u1.map odtView) u1 := ⟨rfl, hu1⟩
          refine Ends.ite_bind (fun _ => Ends.loop _ hI0 fun tb us hI => ?_) hI0 fun us hI => ?_
          · refine Ends.ite_bind (fun _ => Ends.search (fun u i => Finds.ite (Finds.found i) (Finds.next i)) us)
              (fun i hi => nomatch hi) fun r hr => ?_
            exact attach_step_or odtView _ us r _ hI hr (fun u => rfl)
          · refine Ends.bind (Ends.loop _ hI fun img us hI => ?_) fun us hI => Ends.yield_all hI.views
            refine Ends.bind (Ends.search (fun u i => ?_) us) fun r hr => ?_
            · -- `if image.caption: if image.caption in unit.text: matched = unit; break`, then the same for `image.description`
              exact Finds.ite (Finds.ite (Finds.found i) (Finds.ite (Finds.ite (Finds.found i) (Finds.next i)) (Finds.next i)))
                  (Finds.ite (Finds.ite (Finds.found i) (Finds.next i)) (Finds.next i))
            · refine Ends.ite (fun hn => Ends.ite (fun _ => ?_) (fun _ => ?_)) (fun hn => ?_)
              · rw [refFirst_ok us hI.ne]
                exact attach_step_deref odtView _ us 0 _ hI hI.pos (fun d u => rfl)
              · exact attach_step_deref_last odtView _ us _ _ hI (fun d u => rfl)
              · exact attach_step_deref_found odtView _ us r _ hI hn hr (fun d u => rfl)
        · rfl

/-- `OdtContent.get_full_text` is the stored field (as the model says) -/
theorem OdtContent_get_full_text_eq (self : OdtContent) : OdtContent.get_full_text self = odtFullText (odtOf self) := by
  simp [OdtContent.get_full_text, odtFullText, odtOf, Id.run, pure]

/- Legacy DOC: heading sections from the text lines, stored tables consumed by token match. -/

theorem doc_while_1_rev : ∀ lv r, DocContent.iterate_units.while_1 lv r.reverse = (popStack lv r).reverse :=
  while_pop_rev _ fun lv st => by rw [DocContent.iterate_units.while_1]

/-- **`heading_level_for`** (the nested function of `DocContent.iterate_units`) is the model's `docHeadingLevel` at the
heading words the translator of `tools/gen/units.py` read from the same source -/
theorem heading_level_for_eq (env : Units.Env) (hr : env.tables.docHeadingRules = S2T.Gen.Units.docHeadingRules) (line : Py.Str) :
    DocContent.iterate_units.heading_level_for env line = docHeadingLevel env.tables line := by
  unfold DocContent.iterate_units.heading_level_for docHeadingLevel
  simp [hr, S2T.Gen.Units.docHeadingRules, Id.run, pure, startswith, List.find?]
  generalize lower env.tables (strip env.tables line) = lw
  split
  · rfl
  · -- the rules read from the source are (prefix "subsection", prefix "chapter", exactly "intro"), the translated text tests
    -- them in this order with `if`s: once the two prefix tests are named both sides are the same `find?` over three Booleans
    simp only [← List.isPrefixOf_iff_prefix]
    generalize List.isPrefixOf _ lw = b1
    generalize List.isPrefixOf _ lw = b2
    by_cases h3 : lw = "intro".toList
    · subst h3
      cases b1 <;> cases b2 <;> simp
    · have h3' : ¬ ("intro".toList = lw) := fun e => h3 e.symm
      cases b1 <;> cases b2 <;> simp_all

theorem splitWsAux_ne (T : Tables) (s acc : Units.Str) : ∀ t ∈ splitWsAux T s acc, t ≠ [] := by
  have hne : ∀ acc : Units.Str, ¬ acc.isEmpty = true → acc.reverse ≠ [] := fun acc h e => h (by simpa using e)
  fun_induction splitWsAux T s acc with
  | case1 => exact fun t ht => nomatch ht
  | case2 acc h => exact fun t ht => List.mem_singleton.mp ht ▸ hne acc h
  | case3 _ _ _ _ _ ih => exact ih
  | case4 _ _ acc _ h ih => exact List.forall_mem_cons.mpr ⟨hne acc h, ih⟩
  | case5 _ _ _ _ ih => exact ih

/-- `[t for t in line.split() if t]` is `line.split()`: `split()` yields no empty token -/
theorem splitWs_filter (T : Tables) (s : Units.Str) : (splitWs T s).filter (fun t => !t.isEmpty) = splitWs T s := by
  apply List.filter_eq_self.mpr
  intro t ht
  have := splitWsAux_ne T s [] t ht
  cases t with
  | nil => exact absurd rfl this
  | cons a l => rfl

/-- `[cell for row in table for cell in row]` -/
def docFlat (tb : List (List Py.Str)) : List Py.Str := tb.flatMap (fun row => row)
def docOf (c : DocContent) : Doc := { mainText := c.main_text, title := c.metadata.title, tables := c.tables.map docFlat }
def docView (u : DocUnit) : UView :=
  { number := (DocUnit.get_metadata u).unit_number, text := DocUnit.get_text u,
    path := (DocUnit.get_metadata u).heading_path, level := (DocUnit.get_metadata u).heading_level }

/-- the unit `DocContent`'s `flush_current` appends -/
def docMk (base : List Py.Str) (lvl : Option Int) (path : List Py.Str) (text : Py.Str) (idx : Int) (tables : List TableData) :
    DocUnit :=
  { text := text, unit_number := idx, location := base ++ path, heading_level := lvl, heading_path := path, tables := tables }

theorem doc_flush_current_eq (env : Units.Env) (base : List Py.Str) (lvl : Option Int) (path : List Py.Str) (units : List DocUnit)
    (lines : List Py.Str) (tables : List TableData) (idx : Int) :
    DocContent.iterate_units.flush_current env base lvl path units lines tables idx
      = ((flushed env.tables (docMk base lvl path) units lines tables idx).1, [], [],
         (flushed env.tables (docMk base lvl path) units lines tables idx).2) := by
  unfold DocContent.iterate_units.flush_current flushed docMk
  simp [pure, isEmpty_eq_decide, Id.run]
  split <;> rfl

/-- `consume_table_if_present` never raises and decides like the model's `docEvents`: the line is an ordinary one, or
its tokens are the cells of the next stored table, which is then taken -/
theorem consume_ends (env : Units.Env) (self : DocContent) (ti : Int) (h0 : 0 ≤ ti) (pend : List TableData)
    (line : Py.Str) (rest : List Py.Str) :
    Ends (fun r =>
        (r = (false, ti, pend) ∧
          docEvents env.tables (line :: rest) ((self.tables.drop ti.toNat).map docFlat)
            = docLine env.tables line ++ docEvents env.tables rest ((self.tables.drop ti.toNat).map docFlat)) ∨
        ∃ tb : List (List Py.Str), r = (true, ti + 1, listAppend pend { data := tb.map (List.map Any.str) }) ∧
          docEvents env.tables (line :: rest) ((self.tables.drop ti.toNat).map docFlat)
            = Ev.table :: docEvents env.tables rest ((self.tables.drop (ti + 1).toNat).map docFlat))
      (DocContent.iterate_units.consume_table_if_present env self ti pend line) := by
  unfold DocContent.iterate_units.consume_table_if_present
  refine Ends.ite_decide (fun hge => Ends.pure (Or.inl ⟨rfl, ?_⟩)) fun hge => ?_
  · have hd : self.tables.drop ti.toNat = [] := List.drop_eq_nil_of_le (by simp only [len] at hge; omega)
    simp [docEvents, hd]
  · obtain ⟨tb, htb, hd⟩ := listGetItem_ok self.tables ti h0 (Int.not_le.mp hge)
    have hdrop : self.tables.drop (ti + 1).toNat = self.tables.drop (ti.toNat + 1) := by
      rw [show (ti + 1).toNat = ti.toNat + 1 by omega]
    rw [htb, hd, hdrop]
    refine Ends.ite (fun he => Ends.pure (Or.inl ⟨rfl, ?_⟩)) fun he =>
      Ends.ite (fun hne => Ends.pure (Or.inl ⟨rfl, ?_⟩)) fun hne => Ends.pure (Or.inr ⟨tb, rfl, ?_⟩)
    · have he : splitWs env.tables line = [] := by simpa [splitWs_filter, truthy_list] using he
      simp [docEvents, he]
    · have hne : splitWs env.tables line ≠ docFlat tb := by simpa [splitWs_filter, docFlat] using hne
      simp [docEvents, hne]
    · have he : splitWs env.tables line ≠ [] := by simpa [splitWs_filter, truthy_list] using he
      have hne : splitWs env.tables line = docFlat tb := by simpa [splitWs_filter, docFlat] using hne
      simp [docEvents, he, ← hne]

/-- the variables the line loop of `DocContent.iterate_units` changes, in the translator's order: `table_index,
pending_tables, units, heading_stack, current_heading_level, current_heading_path, current_lines, current_tables, unit_index,
any_headings` -/
abbrev DocSt := Int × List TableData × List DocUnit × List (Int × Py.Str) × Option Int × List Py.Str × List Py.Str
  × List TableData × Int × Bool

/-- the line loop: the section variables are related to a state of the model's machine from which the events of the
lines still to come, on the tables not yet consumed, lead to `total` -/
def docInv (T : Tables) (tables : List (List (List Py.Str))) (total : Sec) (rest : List Py.Str) : DocSt → Prop
  | (ti, pend, units, hs, lvl, path, lines, tabs, idx, any) =>
    ∃ s, SecRel docView viewD4 units hs lvl path lines tabs idx any pend s ∧ 0 ≤ ti ∧
      (docEvents T rest ((tables.drop ti.toNat).map docFlat)).foldl (secStep T id) s = total

theorem DocContent_iterate_units_eq (env : Units.Env) (hr : env.tables.docHeadingRules = S2T.Gen.Units.docHeadingRules)
    (self : DocContent) :
    (fun us => us.map docView) <$> DocContent.iterate_units env self
      = Except.ok ((docUnits env.tables (docOf self)).map viewD4) := by
  unfold DocContent.iterate_units
  apply Ends.map_eq
  rw [orV_str_nil]
  generalize hbase : (if truthy self.metadata.title = true then [self.metadata.title] else []) = base
  refine Ends.ite_falsy (fun hl => ?_) (fun hl => ?_)
  · have hm : docUnits env.tables (docOf self) = [{ number := 1, text := [] }] := by
      simp [docUnits, docOf, hl]
    rw [hm]
    exact ⟨_, rfl, by simp [docView, viewD4, DocUnit.get_metadata, DocUnit.get_text, Id.run, pure]⟩
  · rw [docUnits_unfold _ _ hl]
    generalize hev : docEvents env.tables _ (docOf self).tables = evs
    refine Ends.bind (Ends.suffix (docInv env.tables self.tables (evs.foldl (secStep env.tables id) {})) ?_ _
      ⟨{}, SecRel.init, Int.le_refl 0, hev ▸ rfl⟩) ?_
    · intro line rest σ hI
      obtain ⟨ti, pend, units, hs, lvl, path, lines', tabs, idx, any⟩ := σ
      obtain ⟨s, hS, hti0, htot⟩ := hI
      refine Ends.bind (consume_ends env self ti hti0 pend line rest) fun r hr => ?_
      rcases hr with ⟨rfl, hd⟩ | ⟨tb, rfl, hd⟩
      · -- a line that `consume_table_if_present` did not take: heading / body / blank
        rw [hd, List.foldl_append] at htot
        -- `if consume_table_if_present(…): continue`: what it returned is the literal `false` here, `true` in the other case
        refine Ends.ite (fun h => absurd h Bool.false_ne_true) fun _ => ?_
        have hlev := heading_level_for_eq env hr line
        refine Ends.dite_isSome (fun lv hlv _ => ?_) (fun hlv _ => ?_)
        · have hne : strip env.tables line ≠ [] := by
            intro e
            simp [hlev, docHeadingLevel, e] at hlv
          refine Ends.ite_truthy (fun _ => ?_) (fun ht => absurd ht hne)
          refine Ends.ite_extend ?_
          rw [doc_flush_current_eq, getS_of_eq _ _ hlv]
          exact Ends.goes ⟨_, hS.heading env.tables id (docMk base lvl path) (fun _ _ _ _ _ => rfl) _ doc_while_1_rev lv _, hti0,
            by simpa [docLine, ← hlev, hlv] using htot⟩
        · rw [hlev] at hlv
          refine Ends.ite_falsy (fun ht => Ends.goes ?_) (fun ht => Ends.goes ?_)
          · exact ⟨s, hS, hti0, by simpa [docLine, hlv, ht] using htot⟩
          · exact ⟨_, hS.body env.tables id _, hti0, by simpa [docLine, hlv, ht] using htot⟩
      · rw [hd] at htot
        exact Ends.ite (fun _ => Ends.goes ⟨_, hS.table env.tables id _, (by omega : 0 ≤ ti + 1), htot⟩) fun h => absurd rfl h
    · intro σ hI
      obtain ⟨ti, pend, units, hs, lvl, path, lines', tabs, idx, any⟩ := σ
      obtain ⟨s, hS, hti0, htot⟩ := hI
      obtain ⟨hfu, rfl⟩ := hS.finish env.tables id (docMk base lvl path) (fun _ _ _ _ _ => rfl) evs (by simpa [docEvents] using htot.symm)
      refine Ends.ite_extend ?_
      refine Ends.ite (fun ha => ?_) (fun ha => ?_)
      · rw [if_pos ha]
        exact ⟨_, rfl, by simp [docOf, docView, viewD4, DocUnit.get_metadata, DocUnit.get_text, Id.run, pure]⟩
      · rw [if_neg ha, doc_flush_current_eq, ← hfu]
        -- as in the ODT tie: the attachment phase keeps the views of any list `u1`
        generalize (flushed env.tables (docMk base lvl path) units lines' (tabs ++ pend) idx).1 = u1
        by_cases hu1 : u1 = []
        · subst hu1
          exact ⟨_, rfl, rfl⟩
        · have hI0 : attachInv docView (u1.map docView) u1 := ⟨rfl, hu1⟩
          refine Ends.bind (Ends.loop _ hI0 fun img us hI => ?_) fun us hI => Ends.yield_all hI.views
          refine Ends.ite_bind (fun _ => Ends.search (fun u i => Finds.ite (Finds.found i) (Finds.next i)) us)
            (fun i hi => nomatch hi) fun r hr => ?_
          refine Ends.ite (fun hn => ?_) (fun hn => ?_)
          · exact attach_step_deref_last docView _ us _ _ hI (fun d u => rfl)
          · exact attach_step_deref_found docView _ us r _ hI hn hr (fun d u => rfl)

/-- the generated interpreter tables as the environment (`str(x)` of other objects is irrelevant here) -/
def genEnv : Units.Env := { tables := S2T.Gen.Units.tables, strOfAny := fun _ => [] }

example : genEnv.tables.docHeadingRules = S2T.Gen.Units.docHeadingRules := rfl

/-- **`DocContent.get_full_text`**: title, newline, the join of the units — trimmed; it raises
for no instance -/
theorem DocContent_get_full_text_eq (env : Units.Env) (hr : env.tables.docHeadingRules = S2T.Gen.Units.docHeadingRules)
    (self : DocContent) :
    DocContent.get_full_text env self = Except.ok (docFullText env.tables (docOf self)) := by
  obtain ⟨us, hus, hv⟩ := map_eq_ok _ _ _ (DocContent_iterate_units_eq env hr self)
  unfold DocContent.get_full_text docFullText
  simp only [hus, M.ok_bind']
  have htx : us.map UnitInterface.get_text = (docUnits env.tables (docOf self)).map (·.text) := by
    have := congrArg (List.map UView.text) hv
    simpa [docView, viewD4, Function.comp_def, UnitInterface.get_text] using this
  rw [join_unit_text_model env us _ htx]
  simp [docOf]

/- DOCX: only `get_full_text` (the stored field); `iterate_units` stays hand-modelled. -/

def docxOf (c : DocxContent) (paras : List DocxPara) : Docx :=
  { paragraphs := paras, fullText := c.full_text, title := c.metadata.title, nImages := c.images.length, nTables := c.tables.length }

theorem DocxContent_get_full_text_eq (self : DocxContent) (paras : List DocxPara) :
    DocxContent.get_full_text self = docxFullText (docxOf self paras) := by
  simp [DocxContent.get_full_text, docxFullText, docxOf, Id.run, pure]

end S2T.C03.Src
