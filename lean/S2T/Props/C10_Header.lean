import S2T.Lemmas.SevenZipHeader
import S2T.Gen.SevenZip
/-!
# C10 — the 7z header a standard packer writes parses to the reader state the layout theorems start from

`S2T/Spec/SevenZipWriter.lean` specifies the bytes of the header block (`writeHeader L`) and of the whole file
(`archive crc L body`) for an abstract layout `L` (folders with one coder COPY / LZMA / LZMA2 each, the entries
listed while each folder is current, trailing directories / empty files, option flags).  The theorems below run
the MODEL of the library's parser (`S2T/Model/SevenZip.lean`: `SevenZipReader.__init__`) on those bytes, for
EVERY well-formed layout (any number of folders and entries, any sizes < 2^64, any storable names).

`crc` (zlib.crc32 in the library, bitwise CRC-32 in the driver) is a parameter with `crc x < 2^32`.

The model is of the code with two repairs.  The previous parser is kept as the `legacy` variant of
the model; for it the full statement is false, which the two `*_legacy_counterexample` theorems show (witnesses
replayed on the real code every run):
* `7z.substream-digests-with-folder-crc` (fix-7z-substream-digest-count): with folder CRCs stored, a folder holding
  one file has no SubStreamsInfo digest (7zFormat.txt: "digests for streams with unknown CRC"); the previous reader
  expected one per substream and rejected the archive when single-file and multi-file folders were mixed.
* `7z.attributes-external-byte-not-read` (fix-7z-attributes-external-byte): the previous `_parse_files_info` did not
  consume the `External` byte of the attributes property, so every attribute was read one byte early (`seenAttrs`)
  and a regular file could be listed as a directory.
-/
namespace S2T.C10.Header
open S2T.SevenZip
open S2T.Spec.SevenZipWriter hiding Bytes

/-- `PROP_*`, coder ids and the signature in sevenzip.py are those of 7zFormat.txt / Methods.txt -/
theorem gen_ids : S2T.Gen.SevenZip.ids = specIds := by decide

def eDir : EntrySpec := { name := [100], isDir := true, size := 0, attrib := 0x10 }
def eA : EntrySpec := { name := [97, 46, 116, 120, 116], isDir := false, size := 300, attrib := 0x20, crc := 0xDEADBEEF }
def eEmpty : EntrySpec := { name := [101], isDir := false, size := 0, attrib := 0x20 }
def eB : EntrySpec := { name := [0x1F600, 46, 109, 100], isDir := false, size := 2 ^ 40, attrib := 0x20, mtime := 7 }   -- 😀.md
def eC : EntrySpec := { name := [99], isDir := false, size := 1, attrib := 0x20 }

/-- LZMA folder {d/, a.txt, e (empty), 😀.md} + COPY folder {c}, a trailing directory; NumUnpackStream, substream
    sizes, pack CRCs, MTime, attributes and 3 bytes of kDummy padding are written -/
def exLayout : Layout :=
  { folders := [{ method := .lzma [93, 0, 0, 1, 0], packSize := 70000, entries := [eDir, eA, eEmpty, eB] },
                { method := .copy, packSize := 1, entries := [eC] }],
    tail := [eDir],
    opts := { packCrc := true, mtime := true, dummy := 3 } }

example : WellFormed exLayout := by decide +kernel

private theorem block_round_trip (L : Layout) (hwf : WellFormed L) (known ext : Bool) (hd : DigestsOk known L)
    (c : Codec) (file : Bytes) :
    parseEndHeader S2T.Gen.SevenZip.ids { fixed with digestsKnown := known, attrExternal := ext } c file
        { stream := writeHeader L } = .ok ((), stateOfV ext L) := by
  rw [gen_ids]
  have hf := wf_foldersOk hwf
  have hm := parseMainHeader_write L hf known ext hd (wf_entriesOk hwf)
  -- the first byte in the open: `parseEndHeader` reads it before it hands the rest to `parseMainHeader`
  obtain ⟨t, ht⟩ : ∃ t, writeHeader L = 1 :: t := ⟨_, rfl⟩
  rw [ht] at hm ⊢
  simp only [List.tail_cons] at hm
  unfold parseEndHeader
  simp [bind, StateT.bind, Except.bind, readU8, ids_kEncodedHeader, ids_kHeader, hm]

/-- **Header block round trip** (`_parse_end_header` on the header block).  For EVERY well-formed layout, parsing
    the bytes `writeHeader L` with the model of the library's parser consumes them all and yields exactly
    `stateOf L` (attributes as written, one folder per folder of the layout with its coder, sizes and CRC). -/
theorem header_block_round_trip (L : Layout) (hwf : WellFormed L) (c : Codec) (file : Bytes) :
    parseEndHeader S2T.Gen.SevenZip.ids fixed c file { stream := writeHeader L } = .ok ((), stateOf L) :=
  block_round_trip L hwf true true (digestsOk_fixed L) c file

private theorem field_cut {F X R : Bytes} {n k : Nat} (h : F.drop n = X ++ R) (hX : X.length = k) :
    (F.drop n).take k = X ∧ F.drop (n + k) = R :=
  ⟨by rw [h, List.take_left' hX], by rw [← List.drop_drop, h, List.drop_left' hX]⟩

private theorem start_header_cuts (C O S K body H : Bytes) (hC : C.length = 4) (hO : O.length = 8) (hS : S.length = 8)
    (hK : K.length = 4) (F : Bytes) (hF : F = magic ++ ([0, 4] ++ (C ++ (O ++ (S ++ (K ++ (body ++ H))))))) :
    F.take 6 = magic ∧ F.getD 6 0 = 0 ∧ F.getD 7 0 = 4
    ∧ (F.drop 8).take 4 = C ∧ (F.drop 12).take 8 = O ∧ (F.drop 12).take 20 = O ++ S ++ K  -- what the first CRC covers
    ∧ (F.drop 20).take 8 = S ∧ (F.drop 28).take 4 = K ∧ (F.drop (32 + body.length)).take H.length = H := by
  have d8 : F.drop 8 = C ++ (O ++ (S ++ (K ++ (body ++ H)))) := by rw [hF]; rfl
  obtain ⟨tC, d12⟩ := field_cut d8 hC
  obtain ⟨tO, d20⟩ := field_cut d12 hO
  obtain ⟨tS, d28⟩ := field_cut d20 hS
  obtain ⟨tK, d32⟩ := field_cut d28 hK
  refine ⟨by rw [hF]; rfl, by rw [hF]; rfl, by rw [hF]; rfl, tC, tO, ?_, tS, tK,
    by rw [(field_cut d32 rfl).2, List.take_length]⟩
  rw [d12, ← List.append_assoc, ← List.append_assoc]
  exact List.take_left' (by simp [hO, hS, hK])

/-- the reader's three length tests on a file that starts with a start header; a lemma, so that `rw [if_neg …]` finds them -/
private theorem not_short (a b k : Nat) (hk : k ≤ 32) : ¬ (32 + a + b < k) := by omega

private theorem file_round_trip (crc : Bytes → Nat) (hcrc : ∀ x, crc x < 2 ^ 32) (c : Codec) (v : Variant) (st : R)
    (L : Layout) (body : Bytes)
    (hb : parseEndHeader specIds v c (archive crc L body) { stream := writeHeader L } = .ok ((), st))
    (hfit : 32 + body.length < 2 ^ 63 ∧ (writeHeader L).length < 2 ^ 63) :
    parseHeader specIds v crc c (archive crc L body) = .ok st := by
  -- the header block as an opaque `H`: nothing below depends on its bytes, and `simp` would open `writeHeader`
  have hlen := archive_length crc L body
  generalize hH : writeHeader L = H at hb hfit hlen
  obtain ⟨t6, g6, g7, d8, d12t8, d12t20, d20, d28, dH⟩ :=
    start_header_cuts (le 4 (crc (startFields crc body.length H))) (le 8 body.length) (le 8 H.length) (le 4 (crc H)) body H
      (le_length ..) (le_length ..) (le_length ..) (le_length ..) (archive crc L body)
      (by simp [archive, startHeader, startFields, hH])
  have e1 := leValue_le_of_lt 4 _ (hcrc (startFields crc body.length H))
  have e2 := leValue_le_of_lt 8 body.length (Nat.lt_trans (Nat.lt_of_add_left_lt hfit.1) (by decide))
  have e3 := leValue_le_of_lt 8 H.length (Nat.lt_trans hfit.2 (by decide))
  have e4 := leValue_le_of_lt 4 _ (hcrc H)
  unfold parseHeader
  simp only [headerOffset, hlen, t6, g6, g7, d8, d12t8, d12t20, d20, d28, e1, e2, e3, e4, dH]
  have n1 : ¬ (32 + body.length + H.length < 6 ∨ magic ≠ specIds.magic) :=
    not_or.2 ⟨not_short _ _ 6 (by decide), not_not_intro rfl⟩
  have n3 : ¬ ((0 : Nat) ≠ 0 ∨ 4 > 4) := by simp
  rw [if_neg n1, if_neg (not_short _ _ 8 (by decide)), if_neg n3, if_neg (not_short _ _ 32 (by decide))]
  simp only [startFields, ne_eq, not_true_eq_false, if_false,
    if_neg (not_or.2 ⟨Nat.not_le.2 hfit.1, Nat.not_le.2 hfit.2⟩), hb]

/-- **Whole-file round trip** (`SevenZipReader.__init__`), for EVERY well-formed layout.  The file = 32-byte start
    header (signature, version, two CRCs, offset and size of the header block) ++ `body` (the pack streams; any
    bytes) ++ `writeHeader L`.  The model of the library's reader accepts it and ends in exactly `stateOf L`.
    `hfit`: positions the reader hands to `BytesIO.seek/read` fit a C `ssize_t` (else the real reader raises
    `OverflowError`). -/
theorem header_round_trip (crc : Bytes → Nat) (hcrc : ∀ x, crc x < 2 ^ 32) (c : Codec)
    (L : Layout) (hwf : WellFormed L) (body : Bytes)
    (hfit : 32 + body.length < 2 ^ 63 ∧ (writeHeader L).length < 2 ^ 63) :
    parseHeader S2T.Gen.SevenZip.ids fixed crc c (archive crc L body) = .ok (stateOf L) := by
  have hb := header_block_round_trip L hwf c (archive crc L body)
  rw [gen_ids] at hb ⊢
  exact file_round_trip crc hcrc c fixed _ L body hb hfit

/-- the PREVIOUS reader (`legacy`): the round trip held only under the excluding hypothesis `hmix`, and ended in
    `stateOfV false L`, the state with the attributes read one byte early -/
theorem header_round_trip_legacy_partial (crc : Bytes → Nat) (hcrc : ∀ x, crc x < 2 ^ 32) (c : Codec)
    (L : Layout) (hwf : WellFormed L) (hmix : mixedWithFolderCrc L = false) (body : Bytes)
    (hfit : 32 + body.length < 2 ^ 63 ∧ (writeHeader L).length < 2 ^ 63) :
    parseHeader S2T.Gen.SevenZip.ids legacy crc c (archive crc L body) = .ok (stateOfV false L) := by
  have hd := digestsOk_legacy L (wf_foldersOk hwf).count1 hmix
  have hb := block_round_trip L hwf false false hd c (archive crc L body)
  rw [gen_ids] at hb ⊢
  exact file_round_trip crc hcrc c legacy _ L body hb hfit

/-- the example layout is listed as packed: names (😀 re-joined from its surrogate pair), kinds, sizes, folder of
    each file; folder 0 holds 2 substreams (LZMA, its 5 property bytes), folder 1 one (COPY) -/
example :
    (stateOf exLayout).files.map (fun f => (f.filename, f.isDirectory, f.uncompressed, f.folderIndex))
      = [([100], true, 0, 0), ([97, 46, 116, 120, 116], false, 300, 0), ([101], false, 0, 0),
         ([0x1F600, 46, 109, 100], false, 2 ^ 40, 0), ([99], false, 1, 1), ([100], true, 0, 0)]
    ∧ (stateOf exLayout).folders.map (fun f => (f.coders, f.unpackSizes, f.numStreams))
      = [([⟨[3, 1, 1], some [93, 0, 0, 1, 0]⟩], [300 + 2 ^ 40], 2), ([⟨[0], none⟩], [1], 1)]
    ∧ (stateOf exLayout).packSizes = [70000, 1] ∧ (stateOf exLayout).packPositions = [32]
    ∧ (stateOf exLayout).fileSizes = [300, 2 ^ 40, 1] ∧ (stateOf exLayout).emptyFileIdx = [2]
    ∧ (stateOf exLayout).folderToFiles = [(0, [1, 3]), (1, [4])] := by
  decide +kernel

def fA : EntrySpec := { name := [97], isDir := false, size := 5, attrib := 0x20 }
def fB : EntrySpec := { name := [98], isDir := false, size := 6, attrib := 0x20 }
def fC : EntrySpec := { name := [99], isDir := false, size := 7, attrib := 0x20 }

/-- folder CRCs stored; folder 0 = {a}, folder 1 = {b, c} (COPY) -/
def mixedLayout : Layout :=
  { folders := [{ method := .copy, packSize := 5, entries := [fA] }, { method := .copy, packSize := 13, entries := [fB, fC] }],
    tail := [], opts := { folderCrc := true } }

/-- **counterexample (previous `_parse_substreams_info`, defect `7z.substream-digests-with-folder-crc`)**: a
    well-formed layout that stores folder CRCs and mixes a single-file folder with a multi-file one was REJECTED: the
    writer stores two SubStreamsInfo digests (for b and c; a's CRC is the folder's), the previous reader read three
    and then found `kName` where it expected `kEnd`.  The repaired reader accepts it (`header_block_round_trip`).
    Full statement, false for the previous code: `header_round_trip_legacy_partial` without `hmix`. -/
theorem header_mixed_folder_crc_legacy_counterexample :
    WellFormed mixedLayout ∧ mixedWithFolderCrc mixedLayout = true
    ∧ parseEndHeader specIds legacy ⟨fun _ _ => none, fun _ _ _ => none⟩ [] { stream := writeHeader mixedLayout }
        = .error (.bad7z "Expected END in substreams info")
    ∧ parseEndHeader S2T.Gen.SevenZip.ids fixed ⟨fun _ _ => none, fun _ _ _ => none⟩ [] { stream := writeHeader mixedLayout }
        = .ok ((), stateOf mixedLayout) := by
  refine ⟨by decide +kernel, by decide +kernel, ?_, header_block_round_trip mixedLayout (by decide +kernel) _ _⟩
  decide +kernel

/-- x carries an attribute with bit 28 set, y is an ordinary file after it -/
def shiftLayout : Layout :=
  { folders := [{ method := .copy, packSize := 3,
                  entries := [{ name := [120], isDir := false, size := 1, attrib := 0x10000020 },
                              { name := [121], isDir := false, size := 2, attrib := 0x20 }] }],
    tail := [] }

/-- **counterexample (previous `_parse_files_info`, defect `7z.attributes-external-byte-not-read`)**: the previous
    reader took the attributes one byte early, so y's attribute was read as 0x2010 (low byte = x's high byte 0x10):
    y — a regular 2-byte file — was listed as a DIRECTORY of size 0 and never extracted.  The repaired reader lists
    both files with the attributes that were written (0x10000020 and 0x20). -/
theorem header_attribute_shift_legacy_counterexample (crc : Bytes → Nat) (hcrc : ∀ x, crc x < 2 ^ 32) (c : Codec) (body : Bytes)
    (hb : body.length = 3) :
    parseHeader S2T.Gen.SevenZip.ids legacy crc c (archive crc shiftLayout body) = .ok (stateOfV false shiftLayout)
    ∧ (stateOfV false shiftLayout).files.map (fun f => (f.filename, f.isDirectory, f.uncompressed, f.attributes))
        = [([120], false, 1, 0x2000), ([121], true, 0, 0x2010)]
    ∧ parseHeader S2T.Gen.SevenZip.ids fixed crc c (archive crc shiftLayout body) = .ok (stateOf shiftLayout)
    ∧ (stateOf shiftLayout).files.map (fun f => (f.filename, f.isDirectory, f.uncompressed, f.attributes))
        = [([120], false, 1, 0x10000020), ([121], false, 2, 0x20)] := by
  refine ⟨header_round_trip_legacy_partial crc hcrc c shiftLayout (by decide) (by decide) body ⟨by omega, by decide⟩, by decide,
    header_round_trip crc hcrc c shiftLayout (by decide) body ⟨by omega, by decide⟩, by decide⟩

/-- the previous reader, in general: whatever attributes are stored, it reports `seenAttrs 0` of them -/
theorem legacy_attributes_read_one_byte_early (acc : FilesAcc) (as : List Nat) (h : ∀ a ∈ as, a < 2 ^ 32) (rest : Bytes)
    (hacc : acc.attributes = List.replicate as.length 0) :
    fileProp specIds decodeUtf16 false as.length acc 0x15 (1 :: 0 :: (as.flatMap (le 4) ++ rest))
        = .ok { acc with attributes := seenAttrs 0 as }
    ∧ fileProp specIds decodeUtf16 true as.length acc 0x15 (1 :: 0 :: (as.flatMap (le 4) ++ rest))
        = .ok { acc with attributes := as } :=
  ⟨fileProp_attrs decodeUtf16 false acc as h rest hacc, fileProp_attrs decodeUtf16 true acc as h rest hacc⟩

end S2T.C10.Header
