import S2T.Model.ReadHistory
import S2T.Gen.C12Sites
import S2T.Props.C12_Limits
/-!
# C12 — `read_file`: the limit is judged on the file that is read (histories call / resize / consume)

"read_file refuses a file larger than max_file_size" speaks about the file that comes into memory.  The result of
`read_file` is lazy; between the call and the consumption of the result the file may grow or be replaced.

* `same_activation_reads_within_limit`: if the size comparison and the read run in the SAME activation (both while
  `read_file(...)` is called, or both when the result is consumed), then in EVERY history every read of the file into
  memory is within the limit that is in force for it.
* `guard_at_call_unbounded`: with the comparison at the call and the read at consumption, for every limit L > 0 and
  every K the history call L / the file grows to L + K + 1 / consume reads L + K + 1 bytes and nothing is refused.
* `immediate_indistinguishable`: a caller who consumes at once sees the same thing from both designs (why ordinary
  tests never show the difference).
* `gen_read_file_same_activation`: the CURRENT source compares and reads in the same activation (sites generated by
  tools/gen/c12_sites.py from read_file and every function of `__init__.py` it reaches).
-/
namespace S2T.C12.History
open S2T.Limits S2T.ReadHistory S2T.Gen.C12Sites

private theorem not_rejected_within (l : Int) (n : Nat) (h : ¬ readFileRejects Ops.documented l n = true) (hl : l > 0) :
    (n : Int) ≤ l := by
  have := S2T.C12.Limits.read_file_limit l n
  have h2 : ¬ (l > 0 ∧ (n : Int) > l) := fun hh => h (this.mpr hh)
  omega

/-- a `.read l n` observation is emitted only by the branch that has just found `readFileRejects … l n = false`, in whichever
    activation `g` is (at the call, or at consumption of a pending call); every other branch of `step` observes something else and
    is closed by `simp at h` -/
private theorem step_reads_within (g : Act) (s : St) (e : Ev) (l : Int) (n : Nat)
    (h : (step Ops.documented ⟨g, g⟩ s e).2 = .read l n) : l > 0 → (n : Int) ≤ l := by
  intro hl
  cases e with
  | resize m => simp [step] at h
  | call limit =>
    cases g
    · simp only [step, beq_self_eq_true, Bool.true_and] at h
      split at h
      · simp at h
      · rename_i hr
        simp at h
        rw [← h.1] at hl ⊢
        rw [← h.2]
        exact not_rejected_within _ _ hr hl
    · simp [step] at h
  | consume i =>
    simp only [step] at h
    split at h
    · rename_i limit content hp
      cases g
      · cases content <;> simp at h
      · simp only [beq_self_eq_true, Bool.true_and] at h
        split at h
        · simp at h
        · rename_i hr
          cases content with
          | some c => simp at h
          | none =>
            simp at h
            rw [← h.1] at hl ⊢
            rw [← h.2]
            exact not_rejected_within _ _ hr hl
    · simp at h

private theorem reads_cons (o : Obs) (os : List Obs) :
    reads (o :: os) = (match o with | .read l n => [(l, n)] | _ => []) ++ reads os := by
  cases o <;> rfl

/-- comparison and read in the same activation: in every history, from every state, every read of the file into memory
    is within the limit in force for it -/
theorem same_activation_reads_within_limit (g : Act) (es : List Ev) (s : St) :
    ∀ p ∈ reads (run Ops.documented ⟨g, g⟩ s es), p.1 > 0 → (p.2 : Int) ≤ p.1 := by
  induction es generalizing s with
  | nil => simp [run, reads]
  | cons e rest ih =>
    intro p hp
    simp only [run, reads_cons, List.mem_append] at hp
    rcases hp with hp | hp
    · split at hp
      · rename_i l n hobs
        cases List.mem_singleton.1 hp
        exact step_reads_within g s e l n hobs
      · cases hp
    · exact ih _ p hp
-- not vacuous: there are histories with a read
example : reads (run Ops.documented ⟨.atConsume, .atConsume⟩ ⟨10, []⟩ [.call 1000, .resize 1000, .consume 0, .call 1000, .resize 5000, .consume 1])
    = [(1000, 1000)] := by decide

/-- … and a file that is larger than the limit when it would be read is refused, not read -/
theorem same_activation_refuses_grown_file :
    run Ops.documented ⟨.atConsume, .atConsume⟩ ⟨10, []⟩ [.call 1000, .resize 1001, .consume 0] = [.none, .none, .rejected] := by decide

/-- comparison at the call, read at consumption: for every limit L > 0 and every K the file that is read has more than
    L + K bytes, and nothing is refused -/
theorem guard_at_call_unbounded (L : Int) (_hL : L > 0) (s0 : Nat) (h0 : (s0 : Int) ≤ L) (K : Nat) :
    run Ops.documented ⟨.atCall, .atConsume⟩ ⟨s0, []⟩ [.call L, .resize (L.toNat + K + 1), .consume 0]
      = [.none, .none, .read L (L.toNat + K + 1)] := by
  have hrej : readFileRejects Ops.documented L s0 = false := by
    cases h : readFileRejects Ops.documented L s0
    · rfl
    · have := (S2T.C12.Limits.read_file_limit L s0).mp h; omega
  simp [run, step, hrej, setAt]
-- the hypotheses `_hL`, `h0` can be met
example : (4096 : Int) > 0 ∧ ((512 : Nat) : Int) ≤ 4096 := by decide

/-- the witness the harness replays: limit 4096, 512 bytes at the call, 65536 bytes when consumed -/
theorem guard_at_call_counterexample :
    run Ops.documented ⟨.atCall, .atConsume⟩ ⟨512, []⟩ [.call 4096, .resize 65536, .consume 0] = [.none, .none, .read 4096 65536] := by
  decide

/-- a caller who consumes the result at once sees the same refusals / reads from both designs -/
theorem immediate_indistinguishable (s : St) (limit : Int) :
    visible (run Ops.documented ⟨.atCall, .atConsume⟩ s [.call limit, .consume s.pending.length])
      = visible (run Ops.documented ⟨.atConsume, .atConsume⟩ s [.call limit, .consume s.pending.length]) := by
  cases h : readFileRejects Ops.documented limit s.size <;>
    simp [run, step, h, visible]

/-- the current source compares the size and reads the file in the same activation (none of the sites is unknown) -/
theorem gen_read_file_same_activation :
    ∃ g, Cfg.ofSites readFileActivations = some ⟨g, g⟩ := by
  -- decided as a Boolean on the generated sites, then split, so that the activation `g` is never named
  have h : (match Cfg.ofSites readFileActivations with | some c => c.guardAt == c.readAt | none => false) = true := by decide
  split at h
  · rename_i c hc
    obtain ⟨a, b⟩ := c
    simp at h
    exact ⟨a, by rw [hc, h]⟩
  · simp at h

theorem gen_sites_notes_empty : S2T.Gen.C12Sites.notes = [] := by decide

/-- composed: on the operators and activations of the current source, every read of `read_file` in every history is
    within the limit in force -/
theorem read_file_history_within_limit (es : List Ev) (s : St) :
    ∀ o c, Ops.ofSites S2T.Gen.C12Consts.limitSites = some o → Cfg.ofSites readFileActivations = some c →
      ∀ p ∈ reads (run o c s es), p.1 > 0 → (p.2 : Int) ≤ p.1 := by
  intro o c ho hc
  rw [S2T.C12.Limits.gen_ops_documented] at ho
  cases ho
  obtain ⟨g, hg⟩ := gen_read_file_same_activation
  rw [hg] at hc
  cases hc
  exact same_activation_reads_within_limit g es s

end S2T.C12.History
