import S2T.Model.UnitsCarrier
import S2T.Gen.UnitsCarrier
/-!
# C03, part "Carrier" — what one slide unit is made of

The unit of a slide is assembled from several text carriers.  Two ways to lose or misplace text INSIDE the assembly:

* **classification** (`_extract_slide`, ODP): the paragraphs are sorted into title / body / other.  `odp_classify_cover`:
  for every paragraph list and every pair of style tests the three fields together hold every non-blank paragraph text
  exactly once (a permutation); `odp_unit_text_of_classify`: the unit text is the newline-join of exactly these texts;
  `odp_title_is_first_title_paragraph`.  `odp_title_overwrite_counterexample`: without the once-only guard of the title
  branch a second title paragraph evicts the first one, which is then in no field.
* **resolution** of a related part through an id that is local to the slide part: `cache_by_owner_and_id_exact`: a cache
  keyed by (owner, id) answers every owner's own table; `cache_by_id_only_counterexample`: keyed by the id alone, two slides
  using the same id for different parts both get the part loaded last.  Tie: `context_caches_accounted` — the closed-world
  inventory, regenerated from the current source each run, of every store into a dict attribute of a `*Context` class of
  the unit-building modules (and their base classes) with the provenance of its key.
-/
namespace S2T.C03.Carrier
open S2T.Units S2T.Units.Carrier

/-- a small concrete table for the examples: space is whitespace, newline a line break -/
private def T0 : Tables := ⟨[32], [10], [], [], 0, [], []⟩

/-- what one paragraph does to the classification: nothing (blank), become the title (the first title-styled one), or
join body / other -/
private inductive OdpMove (T : Tables) (isT isB : Str → Bool) (a : OdpAcc) (p : OdpPara) : OdpAcc → Prop
  | blank (h : strip T p.text = []) : OdpMove T isT isB a p a
  | title (h : strip T p.text ≠ []) (hf : a.found = false) (ht : isT p.style = true) :
      OdpMove T isT isB a p { a with title := some (strip T p.text), found := true }
  | body (h : strip T p.text ≠ []) (hn : a.found = true ∨ isT p.style = false) (hb : isB p.style = true) :
      OdpMove T isT isB a p { a with body := a.body ++ [strip T p.text] }
  | other (h : strip T p.text ≠ []) (hn : a.found = true ∨ isT p.style = false) (hb : isB p.style = false) :
      OdpMove T isT isB a p { a with other := a.other ++ [strip T p.text] }

private theorem odpStep_move (T : Tables) (isT isB : Str → Bool) (a : OdpAcc) (p : OdpPara) :
    OdpMove T isT isB a p (odpStep T isT isB a p) := by
  unfold odpStep
  by_cases h : strip T p.text = []
  · simpa [h] using .blank h
  · by_cases hn : a.found = false ∧ isT p.style = true
    · simpa [h, hn.1, hn.2] using .title h hn.1 hn.2
    · have hn' : a.found = true ∨ isT p.style = false := by cases hf : a.found <;> simp_all
      have e : (!a.found && isT p.style) = false := by rcases hn' with e | e <;> simp [e]
      by_cases hb : isB p.style = true
      · simpa [h, e, hb] using .body h hn' hb
      · simpa [h, e, hb] using .other h hn' (by simpa using hb)

private def AccInv (a : OdpAcc) : Prop := (a.found = false → a.title = none) ∧ (∀ t, a.title = some t → t ≠ [])

private theorem step_count (T : Tables) (isT isB : Str → Bool) (a : OdpAcc) (p : OdpPara) (h : AccInv a) (x : Str) :
    AccInv (odpStep T isT isB a p) ∧
    (accTexts (odpStep T isT isB a p)).count x = (accTexts a).count x + (paraTexts T [p]).count x := by
  obtain ⟨h1, h2⟩ := h
  have hm := odpStep_move T isT isB a p
  generalize odpStep T isT isB a p = s' at hm ⊢
  cases hm with
  | blank h => exact ⟨⟨h1, h2⟩, by simp [paraTexts, h]⟩
  | title h hf ht =>
    exact ⟨⟨by simp, by simpa using h⟩, by simp [accTexts, paraTexts, h, h1 hf, List.count_cons]⟩
  | body h | other h =>
    exact ⟨⟨h1, h2⟩, by simp [accTexts, paraTexts, h, List.count_cons, List.count_append]; omega⟩

private theorem paraTexts_cons (T : Tables) (p : OdpPara) (r : List OdpPara) :
    paraTexts T (p :: r) = paraTexts T [p] ++ paraTexts T r := by
  simp [paraTexts, List.filter_cons]
  split <;> simp

private theorem fold_count (T : Tables) (isT isB : Str → Bool) (ps : List OdpPara) (a : OdpAcc) (h : AccInv a) (x : Str) :
    AccInv (ps.foldl (odpStep T isT isB) a) ∧
    (accTexts (ps.foldl (odpStep T isT isB) a)).count x = (accTexts a).count x + (paraTexts T ps).count x := by
  induction ps generalizing a with
  | nil => simp [paraTexts, h]
  | cons p r ih =>
    have hs := step_count T isT isB a p h x
    have := ih (odpStep T isT isB a p) hs.1
    refine ⟨this.1, ?_⟩
    rw [List.foldl_cons, this.2, hs.2, paraTexts_cons T p r, List.count_append]
    omega

private theorem accInv_init : AccInv {} := ⟨fun _ => rfl, by simp⟩

/-- **cover, exactly once**: whatever the paragraphs, their styles and the two style tests, title + body_text +
other_text of the slide is a permutation of the non-blank stripped paragraph texts — no paragraph is lost, none is
kept twice -/
theorem odp_classify_cover (T : Tables) (isT isB : Str → Bool) (ps : List OdpPara) :
    (accTexts (odpClassifyWith T isT isB ps)).Perm (paraTexts T ps) := by
  rw [List.perm_iff_count]
  intro x
  have := (fold_count T isT isB ps {} accInv_init x).2
  simpa [odpClassifyWith, accTexts] using this

example : accTexts (odpClassify T0 [⟨"P1".toList, "a".toList⟩, ⟨"TitleText".toList, " t ".toList⟩,
    ⟨"MyTitle".toList, "u".toList⟩, ⟨"Body1".toList, "b".toList⟩, ⟨"".toList, " ".toList⟩])
    = ["t".toList, "b".toList, "a".toList, "u".toList] := by decide

/-- the title is a non-empty string when present, so `text_combined` keeps it: the unit text of the slide is the
newline-join of exactly the kept texts -/
theorem odp_unit_text_of_classify (T : Tables) (isT isB : Str → Bool) (ps : List OdpPara) :
    let a := odpClassifyWith T isT isB ps
    textCombined a.title a.body a.other = joinNl (accTexts a) := by
  intro a
  have hinv := (fold_count T isT isB ps {} accInv_init []).1
  unfold textCombined accTexts
  cases ht : a.title with
  | none => simp
  | some t =>
    have : t ≠ [] := hinv.2 t ht
    simp [this]

/-- the title is the first non-blank paragraph whose style passes the title test -/
theorem odp_title_is_first_title_paragraph (T : Tables) (isT isB : Str → Bool) (ps : List OdpPara) :
    (odpClassifyWith T isT isB ps).title
      = ((ps.filter (fun p => strip T p.text ≠ [] ∧ isT p.style = true)).head?).map (fun p => strip T p.text) := by
  have key : ∀ (ps : List OdpPara) (a : OdpAcc), (a.found = false → a.title = none) →
      (ps.foldl (odpStep T isT isB) a).title
        = if a.found then a.title
          else ((ps.filter (fun p => strip T p.text ≠ [] ∧ isT p.style = true)).head?).map (fun p => strip T p.text) := by
    intro ps
    induction ps with
    | nil => intro a h; by_cases hf : a.found <;> simp_all
    | cons p r ih =>
      intro a h
      rw [List.foldl_cons]
      have hm := odpStep_move T isT isB a p
      generalize odpStep T isT isB a p = s' at hm ⊢
      cases hm with
      | blank ht => rw [ih a h]; simp [ht]
      | title ht hf hT => rw [ih _ (by simp)]; simp [hf, ht, hT]
      | body ht hn | other ht hn =>
        -- `found` and `title` are untouched, so `h` serves for the new state; `by exact` waits until the goal has fixed `_`
        rw [ih _ (by exact h)]
        rcases hn with hf | hT
        · simp [hf]
        · simp [ht, hT]
  simpa [odpClassifyWith] using key ps {} (fun _ => rfl)

/-- without the once-only guard a title frame with two paragraphs keeps only the last one: the first is in no field -/
theorem odp_title_overwrite_counterexample :
    ∃ (T : Tables) (ps : List OdpPara),
      ¬ (accTexts (ps.foldl (odpStepOverwrite T isTitleStyle isBodyStyle) {})).Perm (paraTexts T ps) := by
  refine ⟨T0, [⟨"Title1".toList, "a".toList⟩, ⟨"Title1".toList, "b".toList⟩], ?_⟩
  intro h
  -- the two lists differ already in length: one title is kept, two paragraph texts were there
  have := h.length_eq
  revert this
  decide

private theorem find1_map_other {π ι ν} [DecidableEq π] [DecidableEq ι] (o o' : π) (i : ι) (rels : List (ι × ν))
    (rest : List ((π × ι) × ν)) (h : o' ≠ o) :
    find1 (o, i) (rels.map (fun (e : ι × ν) => ((o', e.1), e.2)) ++ rest) = find1 (o, i) rest := by
  induction rels with
  | nil => rfl
  | cons e r ih => simp [find1, h, ih]

private theorem find1_map_own {π ι ν} [DecidableEq π] [DecidableEq ι] (o : π) (i : ι) (rels : List (ι × ν))
    (rest : List ((π × ι) × ν)) (hrest : ∀ e ∈ rest, e.1.1 ≠ o) :
    find1 (o, i) (rels.map (fun (e : ι × ν) => ((o, e.1), e.2)) ++ rest) = find1 i rels := by
  induction rels with
  | nil =>
    simp only [List.map_nil, List.nil_append, find1]
    induction rest with
    | nil => rfl
    | cons e r ih =>
      have h1 : e.1.1 ≠ o := hrest e (by simp)
      have : e.1 ≠ (o, i) := fun hh => h1 (by rw [hh])
      obtain ⟨k, v⟩ := e
      simp only [find1]
      rw [if_neg this]
      exact ih (fun e he => hrest e (by simp [he]))
  | cons e r ih =>
    obtain ⟨k, v⟩ := e
    by_cases hk : k = i
    · simp [find1, hk]
    · simp [find1, hk, ih]

/-- **exact**: in a package whose owning parts have distinct names, the cache keyed by (owner, local id) gives every
owner exactly what its own relationship table says — whatever ids the other owners use -/
theorem cache_by_owner_and_id_exact {π ι ν} [DecidableEq π] [DecidableEq ι] (pk : Package π ι ν)
    (hnd : (pk.map (·.1)).Nodup) (o : π) (rels : List (ι × ν)) (ho : (o, rels) ∈ pk) (i : ι) :
    find1 (o, i) (cacheByOwnerAndId pk) = find1 i rels := by
  induction pk with
  | nil => simp at ho
  | cons e r ih =>
    obtain ⟨o', rels'⟩ := e
    simp only [List.map_cons, List.nodup_cons] at hnd
    simp only [cacheByOwnerAndId, List.flatMap_cons]
    rcases List.mem_cons.mp ho with h | h
    · injection h with h1 h2
      subst h1; subst h2
      apply find1_map_own
      intro e he
      simp only [List.mem_flatMap, List.mem_map] at he
      obtain ⟨⟨o2, r2⟩, hm, ⟨x, _, hx⟩⟩ := he
      intro hh
      apply hnd.1
      rw [← hx] at hh
      simp only at hh
      exact List.mem_map.mpr ⟨(o2, r2), hm, hh⟩
    · have hne : o' ≠ o := by
        intro hh
        apply hnd.1
        exact List.mem_map.mpr ⟨(o, rels), h, hh.symm⟩
      rw [find1_map_other o o' i rels' _ hne]
      exact ih hnd.2 h

example : find1 ("slide3", "rId2") (cacheByOwnerAndId [("slide1", [("rId2", "data1")]), ("slide3", [("rId2", "data2")])]) = some "data2" := by decide

/-- keyed by the local id alone: two slides that both call their SmartArt data part `rId2` — what PowerPoint writes —
both get the part loaded last; slide 1's own part is returned to nobody -/
theorem cache_by_id_only_counterexample :
    ∃ (pk : Package String String String) (o : String) (rels : List (String × String)) (i : String),
      (pk.map (·.1)).Nodup ∧ (o, rels) ∈ pk ∧ find1 i (cacheByIdOnly pk) ≠ find1 i rels := by
  refine ⟨[("slide1", [("rId2", "data1")]), ("slide3", [("rId2", "data2")])], "slide1", [("rId2", "data1")], "rId2", ?_⟩
  decide

/-- key provenances the model accounts for.  `part-name`: the key is the package-unique name of the part the stored
value was read from; `owner-part-name`: that of the part owning it -/
def allowedKeyKinds : List String := ["part-name", "owner-part-name"]

/-- stores keyed otherwise, each with its reason.  EPUB `_manifest[item id]`: the ids of the ONE package document
(content.opf), unique in it by the OPF schema; the spine's idrefs are resolved through this single table, no chapter part
has a table of its own -/
def accountedStores : List (String × String × String × String) :=
  [("epub_extractor.py:_EpubContext", "_parse_manifest", "_manifest", "xml-attribute")]

/-- closed world: every store into a dict attribute of a context class used by the unit builders is keyed by a
package-unique part name — never by an id that is only unique inside one slide / sheet part — or is accounted for -/
theorem context_caches_accounted :
    ∀ e ∈ S2T.Gen.UnitsCarrier.contextStores, e.2.2.2 ∈ allowedKeyKinds ∨ e ∈ accountedStores := by decide

end S2T.C03.Carrier
