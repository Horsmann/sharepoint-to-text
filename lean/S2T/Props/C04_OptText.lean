import S2T.Model.IfaceOptText
import S2T.Gen.Iface
/-!
# C04 (optional text) — text accessors are fed `str`, whatever state an optional element of the file is in

An optional child element can be absent, present but EMPTY (`<svg:desc/>`: ElementTree's `.text` is `None`) or hold
text.  For every state (all `Child`), the guarded reader forms hand a `str` to the field — the text when there is
some, `""` otherwise — and the fall-back / combination steps of the ODF picture extractors keep it a `str`; the
unguarded form hands on `None` exactly for the empty-but-present element (counterexample theorems: the accessor
then returns no `str`).  Tie to the source: the inventory of EVERY `.text` read of the package (regenerated from the
AST on each run) contains no unguarded read of an XML element except the reviewed ones.
-/
namespace S2T.C04.OptText
open S2T.Iface

/-- the guarded reader gives a `str` for every state of the element: the stored text, `""` when there is none -/
theorem read_guarded_is_str (c : Child) : readGuarded c = some c.stored := by
  cases c with
  | absent => rfl
  | empty => rfl
  | text s => by_cases h : s.isEmpty <;> simp [readGuarded, Child.present, Child.textVal, truthy, Child.stored, h]
              <;> simp_all [String.isEmpty_iff]

/-- … so does `(e.text or "")` -/
theorem read_or_empty_is_str (c : Child) : readOrEmpty c = some c.stored := by
  cases c with
  | absent => rfl
  | empty => rfl
  | text s => by_cases h : s.isEmpty <;> simp [readOrEmpty, pyOr, Child.present, Child.textVal, truthy, Child.stored, h]
              <;> simp_all [String.isEmpty_iff]

/-- the two guarded forms agree and never distinguish an absent element from an empty one -/
theorem guarded_forms_agree (c : Child) : readGuarded c = readOrEmpty c ∧ readGuarded .absent = readGuarded .empty :=
  ⟨by rw [read_guarded_is_str, read_or_empty_is_str], rfl⟩

/-- an attribute read with a `str` default is a `str` whether the attribute is there or not -/
theorem attr_default_is_str (a : Option String) : (attrGetDefault a).isSome = true := rfl

/-
FULL-STRENGTH STATEMENT for the unguarded form (false):
  theorem read_raw_is_str (c : Child) : (readRaw c).isSome = true
-/
/-- the unguarded form is a `str` when the element is not the empty-but-present one -/
theorem read_raw_partial (c : Child) (h : c ≠ .empty) : readRaw c = some c.stored := by
  cases c with
  | absent => rfl
  | empty => exact absurd rfl h
  | text s => rfl

example : Child.text "Ground floor" ≠ Child.empty := by decide

/-- counterexample: `<svg:desc/>` read by `e.text if e is not None else ""` is `None` — and no `str` comes out of the accessor -/
theorem read_raw_counterexample :
    readRaw .empty = none ∧ accessorReturnsStr (readRaw .empty) = false ∧ readGuarded .empty = some "" := by decide

/-- `caption = title; if not caption and name: caption = name` keeps a `str` a `str` (the name may be `None`) -/
theorem caption_fallback_is_str (title : String) (name : PyStr) :
    (captionWithFallback (some title) name).isSome = true ∨ (truthy name = true ∧ captionWithFallback (some title) name = name) := by
  unfold captionWithFallback
  by_cases h : (!truthy (some title) && truthy name) = true
  · right; simp only [Bool.and_eq_true] at h; exact ⟨h.2, by simp [h.1, h.2]⟩
  · left; simp [h]

/-- … with a guarded title and any name it is a `str` for every state of the file -/
theorem caption_is_str (t : Child) (name : Option String) :
    (captionWithFallback (readGuarded t) (attrGet name)).isSome = true := by
  rw [read_guarded_is_str]
  unfold captionWithFallback attrGet
  cases name with
  | none => simp [truthy]
  | some n => by_cases h : (!truthy (some t.stored) && truthy (some n)) = true <;> simp [h]

/-- the ODP / ODS description (`title\ndesc`, or whichever is there) is a `str` for every state of both elements -/
theorem combine_is_str (t d : Child) : (combineTitleDesc (readGuarded t) (readGuarded d)).isSome = true := by
  rw [read_guarded_is_str, read_guarded_is_str]
  unfold combineTitleDesc pyOr
  split
  · rfl
  · split <;> rfl

/-- counterexamples with the unguarded reader: an unnamed frame with an empty title has caption `None` (ODT / ODG);
an empty description and no title gives description `None` (ODP / ODS) -/
theorem unguarded_chain_counterexamples :
    captionWithFallback (readRaw .empty) (attrGet none) = none ∧
    combineTitleDesc (readRaw .absent) (readRaw .empty) = none ∧
    combineTitleDesc (readRaw .empty) (readRaw .empty) = none ∧
    captionWithFallback (readRaw .empty) (attrGet (some "Plan")) = some "Plan" := by decide

/-- every `.text` read of an XML element in the package is protected against `None` (tested truthy before use,
`or`-ed with a fallback, used as a truth value only, or bound to a name used only so) — except the reviewed reads,
whose value reaches no accessor of the common interface -/
theorem xml_text_reads_guarded :
    ∀ r ∈ S2T.Gen.Iface.textReads, r.kind = ReadKind.unguarded → (r.file, r.fn, r.recv) ∈ reviewedUnguardedReads := by
  decide +kernel

/-- … the inventory is not empty: it sees guarded reads, `or`-defaults, and reads of dataclass fields named `text` -/
theorem xml_text_reads_nonempty :
    (S2T.Gen.Iface.textReads.any fun r => r.kind == ReadKind.guarded) = true ∧
    (S2T.Gen.Iface.textReads.any fun r => r.kind == ReadKind.orDefault) = true ∧
    (S2T.Gen.Iface.textReads.any fun r => r.kind == ReadKind.notElement) = true := by decide +kernel

end S2T.C04.OptText
