import S2T.Props.C12_Loops
import S2T.Props.C12_Limits
import S2T.Props.C12_Amplify
import S2T.Props.C12_Xml
import S2T.Props.C12_LoopsSrc
import S2T.Props.C12_Archive
import S2T.Props.C12_History
import S2T.Props.C12_Inflate
import S2T.Props.C12_Cost
/-!
# C12 — extraction cost is bounded by the input; explicit limits hold

STATEMENT (fixed): for any input that passes the size and bomb guards, peak additional memory and run
time stay within a fixed multiple of the (uncompressed) input size, irrespective of repeat counts, declared
dimensions, nesting depth, property counts or entity tricks inside it.  The explicit limits hold exactly:
read_file refuses a file larger than max_file_size (0 disables the check), a 7z archive above 100 MB is
refused, and archive members above the per-member limit are skipped without being decompressed into
memory or onto disk.

WHAT NO THEOREM HERE SPEAKS ABOUT (run-time quantities, partial by nature): peak RSS and wall time
themselves, the behaviour of `lzma` / `zlib` / `olefile.get_metadata()` / `pypdf` / `defusedxml` on
hostile input.  The cost notions that ARE proved are iteration counts, bytes copied, list cells
allocated, members decoded / written.
-/
namespace S2T.C12
open S2T.Limits S2T.Gen.C12Consts

/-- the three explicit limits of the statement, on the operators and constants of the current source -/
theorem explicit_limits :
    (∀ (limit : Int) (size : Nat), (do let o ← Ops.ofSites limitSites; pure (readFileRejects o limit size)) = some true
        ↔ (limit > 0 ∧ (size : Int) > limit)) ∧
    (∀ size : Nat, (do let o ← Ops.ofSites limitSites; pure (sevenZipRejects o max7zFileSize size)) = some true
        ↔ size > 100 * 2 ^ 20) ∧
    (∀ (k : Kind) (declared : Nat), (do let o ← Ops.ofSites limitSites; pure (memberSkipped o k configMaxMemorySize declared)) = some true
        ↔ declared > 10 * 2 ^ 20) := by
  rw [S2T.C12.Limits.gen_ops_documented]
  refine ⟨?_, ?_, ?_⟩
  · intro limit size
    simpa using S2T.C12.Limits.read_file_limit limit size
  · intro size
    simpa using S2T.C12.Limits.sevenzip_limit size
  · intro k declared
    have := S2T.C12.Limits.member_skipped_iff k configMaxMemorySize declared
    simp only [configMaxMemorySize] at this ⊢
    simpa using this

/-- TAR: on the guard table, comparison operators and event order of the current source, no byte string read from a
    member's handle exceeds the per-member limit in force by default — for every member list, links included -/
theorem tar_members_within_default_limit (ms : List TarMember) (h : TarFaithful ms) :
    ∀ o, Ops.ofSites limitSites = some o →
      ∀ n ∈ tarLoopDelivered o (acceptOfTable tarGuardAccepts) (eventBefore tarLoopEvents "size-test" "read") configMaxMemorySize ms,
        n ≤ 10 * 2 ^ 20 := by
  intro o ho n hn
  have := S2T.C12.Limits.tar_gen_delivered_within_limit configMaxMemorySize ms h o ho n hn
  simpa [configMaxMemorySize] using this

end S2T.C12
