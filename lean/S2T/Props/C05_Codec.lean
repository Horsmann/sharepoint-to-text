import S2T.Lemmas.SerialCodec
import S2T.Gen.SerialCodec
/-!
# C05, binary payloads of ANY size: the codec is size-independent

`to_json` writes a `bytes` / `io.BytesIO` leaf as the base64 text of the WHOLE payload and `from_json` decodes the
WHOLE text (`ser` / `deserValue` of `S2T/Model/Serial.lean` use `b64enc` / `b64dec`; `b64dec_enc` restores every
byte string).  Those theorems speak of all lists of bytes, but the correspondence can send only small payloads
through the model.  What makes the small cases stand for the large ones is proved here, for ALL payloads:
the length of the text (`C05_codec_length`); the text of a payload as the concatenation of the texts of its pieces, for every
split at a multiple of 3 bytes (`C05_codec_append`, hence `_window`, `_suffix`: the harness checks these equations on the real
`to_json` text of payloads up to 12 MiB, each window against the model's `b64enc`, driver op `c05.b64`); and what an encoder
does that goes through the payload in slices (`b64encChunked k`): it is the model's encoder when `3 ∣ k` and for payloads of at
most one slice, and for every other slice size and EVERY longer payload the decoder CPython applies (stops after the first
padded quad) restores exactly the first slice (`C05_codec_chunked_*`, `C05_cex_chunked_encoder`).

Tie to the source (`S2T.Gen.SerialCodec`, regenerated on every run, re-decided by the kernel in
`gen_codec_sites_ok`): serialization.py imports no codec module but `base64`; the only functions that mention it are
the two encoders and the two decoders; each of them contains exactly one call `base64.b64encode(<whole payload>)` /
`base64.b64decode(<whole text>)`, outside any loop, and no control flow, no slice, no integer constant but 0 and no
call of another function of the module; they are called only by `_serialize_for_json` / `_deserialize_value` with the
value itself / the marker's item; cli.py and data_types.py do not encode on their own; no `len(..)` of a payload
occurs in serialization.py.  A closed-world inventory: a semantically harmless rewrite (slices of 3 MiB) is reported
as a broken obligation until the model is extended (`b64encChunked` is the extension for that case).
-/
namespace S2T.C05.Codec
open S2T.Serial S2T.Gen.SerialCodec

def encoders : List String := ["_bytes_to_base64", "_bytesio_to_base64"]
def decoders : List String := ["_base64_to_bytes", "_base64_to_bytesio"]

def fnOk (f : CodecFn) : Bool :=
  f.control == 0 && f.slices == 0 && f.ints.all (· == 0) && f.calls.isEmpty &&
  (if encoders.contains f.name then f.sites == [⟨"base64.b64encode", "whole", false⟩]
   else if decoders.contains f.name then f.sites == [⟨"base64.b64decode", "whole", false⟩]
   else false)

def callerOk (c : String × String × String) : Bool :=
  c.2.2 == "whole" &&
  ((c.1 == "_serialize_for_json" && encoders.contains c.2.1) || (c.1 == "_deserialize_value" && decoders.contains c.2.1))

def allowedImports : List String := ["base64", "dataclasses", "io", "sharepoint2text.parsing.extractors", "typing"]
def allowedLens : List (String × String) :=
  [("_deserialize_value", "args"), ("_unwrap_optional", "args"), ("_unwrap_optional", "non_none_args")]

def CodecOk (imps : List String) (fns : List CodecFn) (callers : List (String × String × String))
    (foreign lens : List (String × String)) (nts : List String) : Bool :=
  imps.all allowedImports.contains && fns.all fnOk
  && (encoders ++ decoders).all (fun n => (fns.map (·.name)).count n == 1)
  && callers.all callerOk && (encoders ++ decoders).all (fun n => callers.any (·.2.1 == n))
  && foreign.isEmpty && lens.all allowedLens.contains && nts.isEmpty

/-- every binary leaf goes, whole and exactly once, through `base64.b64encode` / `b64decode` (re-decided on every run) -/
theorem gen_codec_sites_ok : CodecOk imports codecFns codecCallers foreignMentions lenSites notes = true := by decide +kernel

/-- a helper that encodes slice by slice above a threshold is not in that class (the shape of the seeded change) -/
example : CodecOk imports
    (⟨"_b64encode_text", 2, 1, [], [], [⟨"base64.b64encode", "whole", false⟩, ⟨"base64.b64encode", "other:base64.b64encode(view[offset:offset + _B64_CHUNK_SIZE])", true⟩]⟩
      :: codecFns) codecCallers foreignMentions lenSites notes = false := by decide +kernel

theorem C05_codec_length (bs : List Nat) : (b64enc bs).length = 4 * ((bs.length + 2) / 3) := b64enc_length bs

theorem C05_codec_append (xs ys : List Nat) (h : xs.length % 3 = 0) : b64enc (xs ++ ys) = b64enc xs ++ b64enc ys :=
  b64enc_append xs ys h

/-- the text of the remainder after a 3-aligned prefix is the tail of the text (padding included) -/
theorem C05_codec_suffix (xs ys : List Nat) (hx : xs.length % 3 = 0) :
    (b64enc (xs ++ ys)).drop (4 * (xs.length / 3)) = b64enc ys := by
  rw [b64enc_append xs ys hx]
  exact List.drop_left' (b64enc_length_aligned xs hx)

/-- the text of any 3-aligned window stands at 4/3 of its offset, whatever surrounds it -/
theorem C05_codec_window (xs ys zs : List Nat) (hx : xs.length % 3 = 0) (hy : ys.length % 3 = 0) :
    ((b64enc (xs ++ ys ++ zs)).drop (4 * (xs.length / 3))).take (4 * (ys.length / 3)) = b64enc ys := by
  rw [List.append_assoc, C05_codec_suffix xs (ys ++ zs) hx, b64enc_append ys zs hy]
  exact List.take_left' (b64enc_length_aligned ys hy)

example : ((b64enc ([1, 2, 3] ++ [4, 5, 6] ++ [7])).drop 4).take 4 = b64enc [4, 5, 6] := by decide +kernel

/-- decoding restores a payload assembled from pieces of any size -/
theorem C05_codec_restored (xs ys : List Nat) (hx : bytesOk xs = true) (hy : bytesOk ys = true) (h : xs.length % 3 = 0) :
    b64dec (b64enc xs ++ b64enc ys) = some (xs ++ ys) := by
  rw [← b64enc_append xs ys h]
  exact b64dec_enc _ (by simp [bytesOk] at hx hy ⊢; exact ⟨hx, hy⟩)

theorem C05_codec_chunked_aligned (k : Nat) (bs : List Nat) (hk : k % 3 = 0) : b64encChunked k bs = b64enc bs :=
  b64encChunked_aligned k bs hk

theorem C05_codec_chunked_short (k : Nat) (bs : List Nat) (h : bs.length ≤ k) : b64encChunked k bs = b64enc bs :=
  b64encChunked_short k bs h

/-- slices that are not a multiple of 3 bytes: WHATEVER the payload, as soon as it is longer than one slice the
restored payload is its first slice only -/
theorem C05_codec_chunked_truncates (k : Nat) (bs : List Nat) (hb : bytesOk bs = true) (hk : k % 3 ≠ 0) (hl : k < bs.length) :
    b64decStop (b64encChunked k bs) = some (bs.take k) ∧ bs.take k ≠ bs := by
  constructor
  · rw [b64encChunked]
    have : ¬ (k = 0 ∨ bs.length ≤ k) := by omega
    simp only [this, if_false]
    refine b64decStop_append_of_dec _ _ _ (b64dec_enc _ ?_) (.inl ?_)
    · simp [bytesOk] at hb ⊢
      intro x hx
      exact hb x (List.mem_of_mem_take hx)
    · rw [List.length_take_of_le (by omega)]
      exact hk
  · intro h
    have := congrArg List.length h
    rw [List.length_take] at this
    omega

/-- the stopping decoder is the canonical one on what the current encoder writes: nothing is lost at any size -/
theorem C05_codec_stop_restores (bs : List Nat) (hb : bytesOk bs = true) : b64decStop (b64enc bs) = some bs :=
  b64decStop_enc bs hb

/-- the seeded shape, scaled down (slices of 4 bytes, payload of 5): text differs from the model's, is not canonical,
and CPython's decoder hands back 4 of the 5 bytes -/
theorem C05_cex_chunked_encoder :
    b64encChunked 4 [1, 2, 3, 4, 5] ≠ b64enc [1, 2, 3, 4, 5]
    ∧ b64dec (b64encChunked 4 [1, 2, 3, 4, 5]) = none
    ∧ b64decStop (b64encChunked 4 [1, 2, 3, 4, 5]) = some [1, 2, 3, 4] := by decide +kernel

end S2T.C05.Codec
