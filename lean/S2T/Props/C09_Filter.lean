import S2T.Lemmas.Chars
import S2T.Lemmas.ArchiveGuard
import S2T.Gen.Router
import S2T.Gen.Archive
/-!
# C09 (filters cannot be by-passed)

"Hidden members, macOS resource forks, nested archives, unsupported types and oversize members never
produce results" — judged by CONTENT, not only by the name a result carries:

* TAR: whatever `tarfile.extractfile` hands out for a member without bytes of its own (it follows hard and
  symbolic links to ANOTHER member's bytes) is irrelevant to the run, for every guard built from `TarInfo`
  predicates that only lets regular members through; the guard found in the current source is such a guard
  (`tar_kind_guard_regular_only`, re-decided on the generated inventory on every run).  If links were let
  through, a link with an innocent name would deliver a hidden member's bytes (`tar_link_guard_counterexample`).
* 7z: every regular file the private directory ever holds was written for an entry that passed the three
  filters of `_extract_from_7z_optimized` (not a directory, not skipped by name, declared size within
  `max_memory_size`), under the path `_safe_join` gives for THAT entry's name, and holds at most the declared
  number of bytes; hence every result is computed from at most `max_memory_size` bytes of an accepted entry —
  also when several entries share a name or a path.  This rests on `extractall(members=…)` selecting entries by
  identity (= position in the file list), never by name: `wanted_by_identity` re-decides that on the generated
  inventory of the `wanted` set's keys and of what `list()` returns.
-/
namespace S2T.C09.Filter
open S2T.Archive S2T.Router

/-- the source's guard lets regular members through … -/
theorem tar_kind_guard_present : kindAccepted S2T.Gen.Archive.tarKindPreds .reg = true := by decide

/-- … and nothing else: no predicate named in `_extract_from_tar_optimized` answers True for a hard link, a
    symbolic link, a directory, a device or a fifo (a new `member.islnk()`, `issym()`, `.type ==`, `.linkname`
    in that function breaks this) -/
theorem tar_kind_guard_regular_only :
    (TarKind.all.all (fun k => !kindAccepted S2T.Gen.Archive.tarKindPreds k || k == .reg)) = true := by decide

/-- a guard that only lets regular members through -/
def RegularOnly (accept : TarKind → Bool) : Prop := ∀ k, accept k = true → k = .reg

theorem tar_guard_of_source : RegularOnly (kindAccepted S2T.Gen.Archive.tarKindPreds) := by
  intro k hk
  have h := List.all_eq_true.mp tar_kind_guard_regular_only k k.mem_all
  simpa [hk] using h

example : RegularOnly (kindAccepted ["isreg"]) := by intro k; cases k <;> decide
example : ¬ RegularOnly (kindAccepted ["isreg", "islnk"]) := by
  intro h; exact absurd (h .lnk (by decide)) (by decide)

/-- Links, devices, fifos, directories cannot redirect reads: under a regular-only guard the run does not
    depend on what `extractfile` would hand out for a member without bytes of its own (the link target's
    bytes, a device, a host file …) — for every member list, skip rule, limit. -/
theorem C09_tar_links_irrelevant (accept : TarKind → Bool) (hacc : RegularOnly accept)
    (follow follow' : TarEntry → Option (List Nat)) (skip : Str → Str → Bool) (env : Env) (lim : Limits) (es : List TarEntry) :
    tarRunK accept follow skip env lim es = tarRunK accept follow' skip env lim es := by
  simp only [tarRunK_eq]
  -- a member that passes the guard is regular, and `toMember` reads a regular member's own bytes
  refine List.flatMap_congr fun e he => ?_
  have hk : accept e.kind = true := by simpa using (Bool.and_eq_true_iff.mp (List.mem_filter.mp he).2).1
  simp [TarEntry.toMember, hacc _ hk]

/-- TAR, by content: under a regular-only guard every result is computed from the OWN bytes of a regular
    member that passed the skip rule and the size limit, and carries that member's name. -/
theorem C09_tar_results_own (accept : TarKind → Bool) (hacc : RegularOnly accept) (follow : TarEntry → Option (List Nat))
    (skip : Str → Str → Bool) (env : Env) (lim : Limits) (es : List TarEntry) :
    ∀ r ∈ tarRunK accept follow skip env lim es, ∃ e ∈ es, r.1 = e.name ∧ e.kind = .reg ∧ e.own = some r.2 ∧
      skip e.name (basename e.name) = false ∧ e.size ≤ lim.maxMemory ∧ r.2.length ≤ lim.maxEntry := by
  intro r hr
  rw [tarRunK_eq] at hr
  obtain ⟨e, he, h1, h2, h3⟩ := mem_flatMap_yields hr
  obtain ⟨he, hg⟩ := List.mem_filter.mp he
  simp only [Bool.and_eq_true, Bool.not_eq_true'] at hg
  have hreg := hacc _ hg.1
  simp only [TarEntry.toMember, hreg, beq_self_eq_true, if_true] at h2
  exact ⟨e, he, h1, hreg, h2, hg.2, h3⟩

/-- the member loop of the source (`if not member.isreg(): continue`) is the guarded loop with the regular-only
    guard, member by member -/
theorem tarRunK_reg_eq_tarRun (follow : TarEntry → Option (List Nat)) (skip : Str → Str → Bool) (env : Env) (lim : Limits)
    (es : List TarEntry) :
    tarRunK (· == .reg) follow skip env lim es = tarRun skip env lim (es.map (TarEntry.toMember follow)) :=
  -- `toMember` sets `isReg := (e.kind == .reg)` itself, so the general lemma's update of that field is the identity
  tarRunK_eq_tarRun _ follow skip env lim es

/-- interpreter stand-in for the closed examples -/
def demoEnv : Env := { lower := id, mime := fun _ => none, nres := fun _ _ => 1, host := fun _ => none }

/-- a visible file, a hidden file, and a hard link with an innocent name; `tarfile.extractfile` follows the link -/
def linkArchive : List TarEntry :=
  [⟨"report.txt".toList, .reg, 2, some [111, 107]⟩, ⟨".credentials.txt".toList, .reg, 3, some [83, 69, 67]⟩,
   ⟨"notes.txt".toList, .lnk, 0, none⟩]
def followHidden : TarEntry → Option (List Nat) := fun e => if e.name = "notes.txt".toList then some [83, 69, 67] else none

/-- why the guard matters: a guard that also lets hard links through (`member.isreg() or member.islnk()`)
    delivers the bytes of the hidden member `.credentials.txt` as the result `notes.txt` — the filters saw only
    the link's own name and size 0. -/
theorem tar_link_guard_counterexample :
    ("notes.txt".toList, [83, 69, 67]) ∈
      tarRunK (kindAccepted ["isreg", "islnk"]) followHidden
        (shouldSkip S2T.Gen.Router.tables S2T.Gen.Archive.nested demoEnv) demoEnv S2T.Gen.Archive.limits linkArchive := by
  decide_chars S2T.Gen.Router.tables S2T.Gen.Router.registry S2T.Gen.Router.aliases S2T.Gen.Router.compound
    S2T.Gen.Router.supported S2T.Gen.Router.mimeMap S2T.Gen.Archive.nested linkArchive followHidden

/-- the source's guard on the same archive: one result, the visible file's own bytes -/
example : tarRunK (kindAccepted S2T.Gen.Archive.tarKindPreds) followHidden
    (shouldSkip S2T.Gen.Router.tables S2T.Gen.Archive.nested demoEnv) demoEnv S2T.Gen.Archive.limits linkArchive
    = [("report.txt".toList, [111, 107])] := by
  decide_chars S2T.Gen.Router.tables S2T.Gen.Router.registry S2T.Gen.Router.aliases S2T.Gen.Router.compound
    S2T.Gen.Router.supported S2T.Gen.Router.mimeMap S2T.Gen.Archive.nested linkArchive followHidden

/-- forms of `list()`'s return value that hand out the reader's OWN `FileInfo` objects (a new list of the same
    objects), so that `id(member)` identifies a position of the file list -/
def identityPreservingReturns : List String :=
  ["SevenZipFile.list: self._reader.list()", "SevenZipReader.list: self._files.copy()",
   "SevenZipReader.list: list(self._files)", "SevenZipReader.list: self._files[:]", "SevenZipReader.list: self._files"]

/-- `extractall(members=…)` decides by object identity: every key put into / looked up in `wanted` is an `id(…)`,
    and `list()` returns the reader's own entry objects (copies of the entries, or a selection by
    `member.filename`, break this: two entries may share a name, an accepted and a rejected one).  The counts guard
    against an inventory that is empty for the wrong reason: the keys are at least the three forms the source has
    (`id(member)` where the set is built, `id(self._files[file_idx])` in the empty-file loop, `id(file_info)` in
    `_needed_output` and `_extract_files_from_folder`), the returns those of the two `list()` methods
    (`SevenZipReader.list`, `SevenZipFile.list`). -/
theorem wanted_by_identity :
    (S2T.Gen.Archive.wantedKeys.length ≥ 3
      && S2T.Gen.Archive.wantedKeys.all (fun s => "id(".toList.isPrefixOf s.toList)
      && S2T.Gen.Archive.listReturns.all identityPreservingReturns.contains
      && decide (S2T.Gen.Archive.listReturns.length = 2)) = true := by
  -- as `decide_chars`, with `List.all` laid open so that `.toList` meets the keys, which are `String`s
  simp -index only [S2T.Gen.Archive.wantedKeys, List.all_cons, String.toList_ofList]
  decide +kernel

/-- 7z, the private directory by content: whenever `extractall` returns (or raises), every regular file below the
    private directory was written for an entry of the archive that is not a directory, passed the skip rule and
    declares at most `max_memory_size` bytes; it lies at the path `_safe_join` gives for that entry's name and
    holds at most the declared number of bytes.  A rejected (hidden, unsupported, nested, oversize) entry is
    never decoded into the directory, whatever names the entries share. -/
theorem C09_7z_tempdir_only_accepted (skip : Str → Str → Bool) (env : Env) (lim : Limits) (cwd base : Str) (a : SevenZ)
    (p : Str) (d : List Nat) (h : (p, Node.file d) ∈ (run7zTemp skip env lim cwd base a).fs) :
    ∃ f ∈ buildFiles a.entries a.fileSizes a.emptyFiles, f.isDirectory = false ∧
      skip f.filename (basename f.filename) = false ∧ f.uncompressed ≤ lim.maxMemory ∧
      safeJoin cwd base f.filename = .ok p ∧ d.length ≤ f.uncompressed := by
  -- `run7zTemp` is `extractAllFull` from the empty run: the directory is empty when `extractall` starts
  obtain ⟨i, f, hf, hw, hp, hl⟩ := extractAllFull_inv env _ _ _ _ _ ⟨[], [], none⟩ (fun _ _ hm => nomatch hm) p d h
  obtain ⟨h1, h2, h3⟩ := wanted_selected skip lim _ i f hf hw
  exact ⟨f, List.mem_of_getElem? hf, h1, h2, h3, hp, hl⟩

theorem liveFiles_mem (fs : Overlay) (p : Str) (d : List Nat) (h : (p, d) ∈ liveFiles fs) : (p, Node.file d) ∈ fs := by
  unfold liveFiles at h
  have h := List.mem_eraseDups.mp h
  obtain ⟨pn, hm, hpn⟩ := List.mem_filterMap.mp h
  obtain ⟨q, n⟩ := pn
  cases n with
  | dir => simp at hpn
  | file e =>
    simp only at hpn
    split at hpn
    · cases hpn; exact hm
    · cases hpn

/-- the same for the snapshot the harness compares with the real directory (`tempFiles`, driver op `c09.7z`) -/
theorem C09_7z_tempfiles_only_accepted (T : Tables) (nested : List Str) (env : Env) (lim : Limits) (cwd base : Str) (a : SevenZ)
    (c : Consumer) : ∀ pd ∈ tempFiles T nested env lim cwd base a c,
      pd.2.length ≤ lim.maxMemory ∧ ∃ f ∈ buildFiles a.entries a.fileSizes a.emptyFiles, f.isDirectory = false ∧
        shouldSkip T nested env f.filename (basename f.filename) = false ∧ f.uncompressed ≤ lim.maxMemory ∧
        safeJoin cwd base f.filename = .ok pd.1 := by
  intro pd hpd
  unfold tempFiles at hpd
  split at hpd
  · cases hpd
  · obtain ⟨f, hf, h1, h2, h3, h4, h5⟩ :=
      C09_7z_tempdir_only_accepted _ env lim cwd base a pd.1 pd.2 (liveFiles_mem _ _ _ hpd)
    exact ⟨by omega, f, hf, h1, h2, h3, h4⟩

/-- 7z, results by content: every result is computed from bytes that were written for an ACCEPTED entry `g` (not a
    directory, not skipped, declared size within the limit) whose name resolves to the same path as the name the
    result carries; the result holds at most `g.uncompressed ≤ max_memory_size` bytes.  So the content of an
    oversize / hidden / unsupported / nested entry never appears in a result, under any name. -/
theorem C09_7z_results_content (T : Tables) (nested : List Str) (env : Env) (lim : Limits) (cwd base : Str) (a : SevenZ)
    (c : Consumer) (habs : isAbs base = true) (hnorm : normpath base = base) :
    ∀ r ∈ (run7z T nested env lim cwd base a c).res, r.2.length ≤ lim.maxMemory ∧
      ∃ g ∈ buildFiles a.entries a.fileSizes a.emptyFiles, g.isDirectory = false ∧
        shouldSkip T nested env g.filename (basename g.filename) = false ∧ g.uncompressed ≤ lim.maxMemory ∧
        safeJoin cwd base g.filename = safeJoin cwd base r.1 ∧ r.2.length ≤ g.uncompressed := by
  intro r hr
  obtain ⟨nf, _, h1, _, p, hp, hd⟩ := run7z_res_mem T nested env lim cwd base a c r hr
  have hm := nodeAt_file_mem env base _ p r.2 (safeJoin_inside cwd base _ p habs hnorm hp).2 hd
  obtain ⟨g, hg, g1, g2, g3, g4, g5⟩ := C09_7z_tempdir_only_accepted _ env lim cwd base a p r.2 hm
  exact ⟨by omega, g, hg, g1, g2, g3, by rw [g4, h1, hp], g5⟩

/-- two entries with the SAME name, the first within the limit, the second above it (limit 4): only the first is
    written and reported — the oversize entry's bytes `[9,9,9,9,9]` never reach the directory or a result -/
example :
    let a : SevenZ := { entries := [⟨"n.txt".toList, false, false⟩, ⟨"n.txt".toList, false, false⟩], fileSizes := [2, 5],
                        emptyFiles := [], folders := [2], folderData := [some [104, 105, 9, 9, 9, 9, 9]] }
    let lim : Limits := { maxMemory := 4, maxEntry := 100 }
    tempFiles S2T.Gen.Router.tables S2T.Gen.Archive.nested demoEnv lim "/work".toList "/tmp/tmpk3v9x2ab".toList a .exhaust
      = [("/tmp/tmpk3v9x2ab/n.txt".toList, [104, 105])] ∧
    (run7z S2T.Gen.Router.tables S2T.Gen.Archive.nested demoEnv lim "/work".toList "/tmp/tmpk3v9x2ab".toList a .exhaust).res
      = [("n.txt".toList, [104, 105])] := by
  decide_chars S2T.Gen.Router.tables S2T.Gen.Router.registry S2T.Gen.Router.aliases S2T.Gen.Router.compound
    S2T.Gen.Router.supported S2T.Gen.Router.mimeMap S2T.Gen.Archive.nested

end S2T.C09.Filter
