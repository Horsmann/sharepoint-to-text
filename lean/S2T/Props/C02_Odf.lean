import S2T.Lemmas.C02OdfXml
import S2T.Lemmas.C02OdfRtf
import S2T.Gen.C02Odf
import S2T.Lemmas.Chars
/-!
# C02 (part 'odf') — main-text fidelity: nothing lost, duplicated, merged or leaked

OpenDocument family (ODT, ODG; ODP / ODS are in Props/C02_Sheets, the ODF formula extractor is tied by correspondence)
and the legacy / plain family (RTF character machine, PPT text cleaning, XLS sheet formatting, plain text, unit joins).

Shape of the fidelity theorems about documents (ODT, ODG, RTF): for **all** abstract documents `d` (any size, any
nesting) rendered by the renderer of `S2T.Spec.C02OdfDoc`,

    tokens (fullText (render d)) = bodyTokens d

where `tokens` is Python's `str.split()` and `bodyTokens d` is the concatenation, in document order, of the tokens
of the visible text of each body paragraph.  Equality of the two *lists* is the property: same multiplicity, same
order, no token spanning two paragraphs (nothing merged), nothing from notes / comments / tracked deletions
(they are not in `bodyTokens`), nothing invented.  The corollaries spell these readings out.  The results on PPT
cleaning, XLS formatting, plain text and unit joins are token equations about one string function each, without renderer.

The theorems hold for every `Tables` value satisfying the decidable `TablesOk`; `gen_tables_ok` re-decides it for the
constants read from the current source on every run.
-/
namespace S2T.C02.Odf
open S2T.Tok S2T.OdfText S2T.OdfDoc

/-- the translator found every constant to be what the source expression evaluates to -/
theorem gen_notes_empty : S2T.Gen.C02Odf.notes = [] := by decide

/-- the constants of the extractor modules as the theorems expect them; the `odp` / `ods` / `odf` / `odsP` / `odpP`
    conjuncts and the code points 9 and 32 are checked with them and used by no theorem of this file -/
def TablesOk (T : Tables) : Bool :=
  decide (T.odt = stdFmt [tAnnot, tNote]) && decide (T.odg = stdFmt [tAnnot])
    && decide (T.odp = stdFmt [tAnnot]) && decide (T.ods = stdFmt [tAnnot]) && decide (T.odf = stdFmt [tAnnot])
    && decide (T.odtP = tP) && decide (T.odtH = tH) && decide (T.odtTracked = tTracked)
    && decide (T.odgP = tP) && decide (T.odgH = tH) && decide (T.odsP = tP) && decide (T.odpP = tP)
    && [9, 10, 32].all T.ws.contains && (List.range 10).all (fun d => !T.ws.contains (48 + d))

/-- `decide_chars` for the ODF walkers on rendered documents: first the rendered tree is laid bare and every tag
    `q ns loc` split by `q_eq`, so that the kernel compares character lists and never evaluates a namespace URI. -/
local macro "odf_eval" : tactic =>
  `(tactic| (
    simp only [TablesOk, stdFmt, renderOdt, renderOdg, rBlks, rBlk, kindTag, elem, leaf, pack, rInls, rInl, tS, tTab, tLb,
      aC, tP, tH, tSpan, tA, tNote, tNoteCit, tNoteBody, tAnnot, tCreator, tBookmark, tTracked, q_eq, nsText, nsOffice,
      nsTable, nsDraw, nsXlink, nsDc]
    decide_chars S2T.Gen.C02Odf.tables))

theorem gen_tables_ok : TablesOk S2T.Gen.C02Odf.tables = true := by odf_eval

private theorem tablesOk_of {T : Tables} (h : TablesOk T = true) : OdtOk T ∧ OdgOk T := by
  simp only [TablesOk, Bool.and_eq_true, decide_eq_true_eq] at h
  obtain ⟨⟨⟨⟨⟨⟨⟨⟨⟨⟨⟨⟨⟨h1, h2⟩, _⟩, _⟩, _⟩, h6⟩, h7⟩, h8⟩, h9⟩, h10⟩, _⟩, _⟩, hws⟩, hdig⟩ := h
  -- `T.isWs '\n'` is `T.ws.contains 10`
  have hnl : T.isWs '\n' = true := by
    simp only [List.all_cons, List.all_nil, Bool.and_true, Bool.and_eq_true] at hws
    simpa [Tables.isWs, isWsTab] using hws.2.1
  have hd : NoDigitWs T.isWs := noDigit_of hdig
  exact ⟨⟨h1, h6, h7, h8, hnl, hd⟩, h2, h9, h10, hnl, hd⟩

private theorem odtOk_of {T : Tables} (h : TablesOk T = true) : OdtOk T := (tablesOk_of h).1
private theorem odgOk_of {T : Tables} (h : TablesOk T = true) : OdgOk T := (tablesOk_of h).2

section odt
variable {T : Tables} (hT : TablesOk T = true)
include hT

/-- **ODT, exact text.** `get_full_text()` of a rendered document is its non-blank body paragraphs, one per line,
    each exactly its visible text (every `text:s` count, tab and line break honoured), in document order - whatever
    the nesting of lists, tables, sections and text boxes. -/
theorem odt_text (d : List Blk) (hd : noCommentL d = true) :
    odtFullText T (renderOdt d) = joinNl ((bodyTextsL d).flatMap (nonBlank T)) :=
  odtFullText_render (odtOk_of hT) d hd

/-- **ODT, fidelity.** The token sequence of `get_full_text()` is the body's token sequence: same multiplicity, same
    order; notes, comments and the tracked-changes store contribute nothing. -/
theorem odt_tokens (d : List Blk) (hd : noCommentL d = true) :
    tokens T.isWs (odtFullText T (renderOdt d)) = bodyTokens T.isWs d := by
  rw [odt_text hT d hd, tokens_joinNl (odtOk_of hT).nl, tokens_flatMap_nonBlank]
  rfl

/-- **nothing merged**: every token of the output lies inside one body paragraph (tokens of different
    paragraphs / cells / list items are never glued together). -/
theorem odt_separated (d : List Blk) (hd : noCommentL d = true) :
    ∀ t ∈ tokens T.isWs (odtFullText T (renderOdt d)), ∃ s ∈ bodyTextsL d, t ∈ tokens T.isWs s := by
  intro t ht
  rw [odt_tokens hT d hd] at ht
  simpa [bodyTokens, List.mem_flatMap] using ht

/-- **nothing leaks**: a token that occurs only in excluded text (notes, comments, tracked deletions) is not in
    the output. -/
theorem odt_excluded (d : List Blk) (hd : noCommentL d = true) (t : Str)
    (hx : t ∉ bodyTokens T.isWs d) : t ∉ tokens T.isWs (odtFullText T (renderOdt d)) := by
  rw [odt_tokens hT d hd]; exact hx

/-- **nothing invented, nothing lost**: the non-whitespace characters of the output are exactly the non-whitespace
    characters of the body paragraphs, in order. -/
theorem odt_no_invention (d : List Blk) (hd : noCommentL d = true) :
    (odtFullText T (renderOdt d)).filter (fun c => !T.isWs c)
      = (bodyTextsL d).flatMap (fun s => s.filter (fun c => !T.isWs c)) := by
  rw [← tokens_flatten, odt_tokens hT d hd, bodyTokens, ← List.flatMap_id, List.flatMap_assoc]
  simp only [List.flatMap_id, tokens_flatten]

end odt

/-- the generated tables satisfy the hypotheses: the ODT theorems hold for the constants of the current source -/
theorem odt_tokens_current (d : List Blk) (hd : noCommentL d = true) :
    tokens S2T.Gen.C02Odf.tables.isWs (odtFullText S2T.Gen.C02Odf.tables (renderOdt d))
      = bodyTokens S2T.Gen.C02Odf.tables.isWs d :=
  odt_tokens gen_tables_ok d hd

/- examples: the hypotheses are satisfiable by non-trivial documents -/

def sP (s : String) : Blk := .para "P1".toList [.text s.toList]

/-- a table with a nested table, a nested list, a tracked deletion, a note and a comment -/
def exDoc : List Blk :=
  [ .cont .tracked [.cont .region [.cont .deletion [sP "DEL1"]]],
    .cont .table [.cont .row [.cont .cell [sP "OUT1", .cont .table [.cont .row [.cont .cell [sP "IN1"]]]],
                              .cont .cell [sP "OUT2"]]],
    .cont .list [.cont .item [sP "L1a", .cont .list [.cont .item [sP "L2a"]]], .cont .item [.heading 2 [.text "HL1".toList]]],
    .para "P1".toList [.text "A1".toList, .sp 3, .text "B1".toList, .tab,
      .note false "1".toList [.text "NOTE1".toList], .annot "Bob".toList [.text "CMT1".toList], .br, .text "C1".toList] ]

example : noCommentL exDoc = true := by decide
example : bodyTokens S2T.Gen.C02Odf.tables.isWs exDoc
    = ["OUT1", "IN1", "OUT2", "L1a", "L2a", "HL1", "A1", "B1", "C1"].map String.toList := by decide +kernel
example : odtFullText S2T.Gen.C02Odf.tables (renderOdt exDoc)
    = "OUT1\nIN1\nOUT2\nL1a\nL2a\nHL1\nA1   B1\t\nC1".toList := by simp only [exDoc, sP]; odf_eval

/- the defects repaired by fix-odt-fulltext-walk / fix-odt-tracked-deletions (model of the walker before) -/

/-- before the repair a nested table's paragraphs came out twice and out of order -/
theorem odt_old_nested_table_duplicates :
    tokens S2T.Gen.C02Odf.tables.isWs (odtFullTextOld S2T.Gen.C02Odf.tables (renderOdt
      [.cont .table [.cont .row [.cont .cell [sP "OUT1", .cont .table [.cont .row [.cont .cell [sP "IN1"]]]],
                                 .cont .cell [sP "OUT2"]]]]))
      = ["OUT1", "IN1", "OUT2", "IN1"].map String.toList := by simp only [sP]; odf_eval

theorem odt_old_nested_list_duplicates :
    tokens S2T.Gen.C02Odf.tables.isWs (odtFullTextOld S2T.Gen.C02Odf.tables (renderOdt
      [.cont .list [.cont .item [sP "L1a", .cont .list [.cont .item [sP "L2a"]]], .cont .item [sP "L1b"]]]))
      = ["L1a", "L2a", "L2a", "L1b"].map String.toList := by simp only [sP]; odf_eval

theorem odt_old_heading_in_list_lost :
    odtFullTextOld S2T.Gen.C02Odf.tables (renderOdt [.cont .list [.cont .item [.heading 1 [.text "HL1".toList]]]]) = [] := by
  odf_eval

theorem odt_old_tracked_deletion_leaks :
    odtFullTextOld S2T.Gen.C02Odf.tables (renderOdt [.cont .tracked [.cont .region [.cont .deletion [sP "DEL1"]]], sP "A1"])
      = "DEL1\nA1".toList := by simp only [sP]; odf_eval

/-- OPEN finding `odt.paragraph-anchored-textbox-merged`: a text box anchored *inside* a paragraph (not expressible in
    `Blk`, whose text boxes are block-level) is flattened into the paragraph without any separator.
    Full-strength statement that is FALSE for such trees: "every `text:p` of the body yields its own line". -/
theorem odt_anchored_textbox_merged :
    odtFullText S2T.Gen.C02Odf.tables (.node (q nsOffice "text") [] [] []
      [.node tP [] "PRE1".toList [] [.node (q nsDraw "frame") [] [] "POST1".toList
        [.node (q nsDraw "text-box") [] [] [] [.node tP [] "BOX1".toList [] [], .node tP [] "BOX2".toList [] []]]]])
      = "PRE1BOX1BOX2POST1".toList := by odf_eval

/-- **ODG, fidelity.** Every paragraph / heading of the drawing (pages, frames, text boxes, shapes, groups, lists in
    any nesting) contributes its tokens once, in document order; comments on a page (`office:annotation`) and inline
    annotations contribute nothing. -/
theorem odg_tokens {T : Tables} (hT : TablesOk T = true) (d : List Blk) (hd : drawingOkL d = true) :
    tokens T.isWs (odgFullText T (renderOdg d)) = bodyTokens T.isWs d := by
  have h := odgOk_of hT
  rw [odgFullText_render h d hd, tokens_strip, tokens_strip, tokens_strip, tokens_joinNl h.nl,
    tokens_flatMap_stripLine]
  rfl

theorem odg_excluded {T : Tables} (hT : TablesOk T = true) (d : List Blk) (hd : drawingOkL d = true) (t : Str)
    (hx : t ∉ bodyTokens T.isWs d) : t ∉ tokens T.isWs (odgFullText T (renderOdg d)) := by
  rw [odg_tokens hT d hd]; exact hx

def exDrawing : List Blk :=
  [.cont .page [.comment "Bob".toList [.text "CMT1".toList],
     .cont .frame [.cont .textBox [sP "A1", .cont .list [.cont .item [sP "L1"]]]],
     .cont .shape [.para "P1".toList [.text "S1".toList, .annot "Al".toList [.text "CMT2".toList], .text "x".toList]]]]

example : drawingOkL exDrawing = true := by decide
example : odgFullText S2T.Gen.C02Odf.tables (renderOdg exDrawing) = "A1\nL1\nS1x".toList := by
  simp only [exDrawing, sP]; odf_eval

open S2T.Rtf S2T.RtfDoc

theorem gen_rtf_tables_ok : RtfTablesOk S2T.Gen.C02Odf.rtfTables = true := by
  decide_chars S2T.Gen.C02Odf.rtfTables S2T.Gen.C02Odf.rtfSkip S2T.Gen.C02Odf.rtfSpecial

section rtf
variable {T : S2T.Rtf.Tables} (hT : RtfTablesOk T = true)
include hT

/-- **RTF, the machine's exact output.** On a rendered document `_strip_rtf_full_with_pages` (character machine +
    `_combine_surrogates`) returns the visible characters of the body paragraphs, each paragraph followed by one
    newline - every `\uN?` escape (a character beyond the BMP, written as two escapes, comes back as that one
    character), escaped backslash, tab / line / cell / row separator honoured; font table, info
    group, header, footer, ignorable destinations and formatting words contribute nothing. -/
theorem rtf_result (d : RDoc) (hd : docOk T d = true) :
    result T (renderRtf d) = d.paras.flatMap (fun pp => codes (rVisibleL pp.kids) ++ [10]) :=
  (result_renderRtf (rtfOk_of hT) d hd).trans (by simp [codes, List.map_flatMap])

/-- **RTF, fidelity.** The token sequence of `RtfContent.full_text` is the body's token sequence. -/
theorem rtf_tokens (d : RDoc) (hd : docOk T d = true) :
    tokens (isWsN T) (fullText T (renderRtf d))
      = (rtfBodyTokens (isWsC T) d).map (fun t => t.map Char.toNat) := by
  have h := rtfOk_of hT
  unfold fullText
  rw [tokens_fullTextOf h.nl, result_renderRtf h d hd, codes, tokens_map Char.toNat (isWsC T) (isWsN T) (fun _ => rfl),
    -- `isWsC T '\n'` is `isWsN T 10`: `'\n'.toNat` evaluates to 10
    tokens_flatMap_ended (p := isWsC T) (w := '\n') h.nl, rtfBodyTokens, paraTexts, List.flatMap_map]

/-- nothing merged: every output token lies inside one body paragraph -/
theorem rtf_separated (d : RDoc) (hd : docOk T d = true) :
    ∀ t ∈ tokens (isWsN T) (fullText T (renderRtf d)),
      ∃ s ∈ paraTexts d, ∃ u ∈ tokens (isWsC T) s, t = u.map Char.toNat := by
  intro t ht
  rw [rtf_tokens hT d hd] at ht
  obtain ⟨u, hu, rfl⟩ := List.mem_map.mp ht
  obtain ⟨s, hs, hus⟩ := List.mem_flatMap.mp hu
  exact ⟨s, hs, u, hus, rfl⟩

end rtf

def exRtf : RDoc :=
  { fonts := ["Arial".toList], title := "T9".toList, header := some "H1".toList, footer := none,
    paras := [ { kids := [.text "A1 é😀\\".toList, .fmt "b".toList none, .tab, .text "B2".toList,
                           .dest "annotation".toList "N1".toList, .pict "00ff".toList,
                           .group "field".toList none [.dest "fldinst".toList "HYPERLINK x".toList,
                             .group "fldrslt".toList none [.text "L1".toList]], .cell, .text "C3".toList, .row],
                 pageBreakAfter := true },
               { kids := [.text "D4".toList], pageBreakAfter := false } ] }

example : docOk S2T.Gen.C02Odf.rtfTables exRtf = true := by
  decide_chars exRtf S2T.Gen.C02Odf.rtfTables S2T.Gen.C02Odf.rtfSkip S2T.Gen.C02Odf.rtfSpecial
example : fullText S2T.Gen.C02Odf.rtfTables (renderRtf exRtf) = codes "A1 é😀\\\tB2L1\tC3\nD4".toList := by
  decide_chars exRtf S2T.Gen.C02Odf.rtfTables S2T.Gen.C02Odf.rtfSkip S2T.Gen.C02Odf.rtfSpecial

/-- OPEN finding `rtf.u-prefixed-control-word-leak` (model of the current code): `\ul` leaks an `l` -/
theorem rtf_ul_leaks :
    result S2T.Gen.C02Odf.rtfTables "{\\rtf1 A1 \\ul B2}".toList = codes "A1 l B2".toList := by
  decide_chars S2T.Gen.C02Odf.rtfTables S2T.Gen.C02Odf.rtfSkip S2T.Gen.C02Odf.rtfSpecial

/-- the excluding hypothesis of `docOk` is exact for that finding: `ul` is not an admissible formatting word -/
theorem rtf_ul_not_silent : wordSilent S2T.Gen.C02Odf.rtfTables "ul".toList = false := by
  decide_chars S2T.Gen.C02Odf.rtfTables S2T.Gen.C02Odf.rtfSkip S2T.Gen.C02Odf.rtfSpecial

/-- `_combine_surrogates` (library commit 64a19e3): the two `\uN` halves of a UTF-16 pair give the one character beyond
    the BMP -/
theorem rtf_surrogate_pair_one_char :
    result S2T.Gen.C02Odf.rtfTables "\\u-10179?\\u-8704?".toList = [0x1F600] := by
  decide_chars S2T.Gen.C02Odf.rtfTables S2T.Gen.C02Odf.rtfSkip S2T.Gen.C02Odf.rtfSpecial

/-- the machine itself emits the two halves (`rawResult`); an unpaired half comes out of `result` as U+FFFD -/
theorem rtf_surrogate_halves_raw :
    rawResult S2T.Gen.C02Odf.rtfTables "\\u-10179?\\u-8704?".toList = [0xD83D, 0xDE00]
      ∧ result S2T.Gen.C02Odf.rtfTables "A\\u-10179?B\\u-8704?".toList = [65, 0xFFFD, 66, 0xFFFD] := by
  decide_chars S2T.Gen.C02Odf.rtfTables S2T.Gen.C02Odf.rtfSkip S2T.Gen.C02Odf.rtfSpecial

/-- `_CLEAN_TRANS`: CR / VT / FF become newlines, every entry is a C0 control mapped to nothing or to a newline, TAB and
    LF have no entry; the theorems use the first conjunct and the code points 10 and 32 (`PptOk`) -/
def PptTablesOk (T : PptTables) : Bool :=
  [11, 12, 13].all (fun k => T.trans.lookup k == some ['\n'])
    && T.trans.all (fun kv => decide (kv.1 < 32) && (kv.2 == [] || kv.2 == ['\n']))
    && (T.trans.lookup 9).isNone && (T.trans.lookup 10).isNone
    && [9, 10, 32].all T.ws.contains

theorem gen_ppt_tables_ok : PptTablesOk S2T.Gen.C02Odf.pptTables = true := by
  decide_chars S2T.Gen.C02Odf.pptTables S2T.Gen.C02Odf.pptTrans S2T.Gen.C02Odf.pptPrefixes

private theorem pptOk_of {T : PptTables} (h : PptTablesOk T = true) : PptOk T := by
  simp only [PptTablesOk, Bool.and_eq_true, List.all_cons, List.all_nil, Bool.and_true, beq_iff_eq] at h
  obtain ⟨⟨⟨⟨⟨h11, h12, h13⟩, _⟩, _⟩, _⟩, _, hnl, hsp⟩ := h
  -- `T.isWs ' '` is `T.ws.contains 32`, `T.isWs '\n'` is `T.ws.contains 10`: the code points evaluate
  exact ⟨by simp [h11, h12, h13], hsp, hnl⟩

/-- **PPT**: paragraphs (CR), line breaks (VT) and form feeds of a text atom stay separated: when no line is a
    placeholder line, the cleaned text has the tokens of both sides, in order. -/
theorem ppt_separated {T : PptTables} (h : PptTablesOk T = true) (a b : Str) (sep : Char)
    (hs : sep.toNat = 13 ∨ sep.toNat = 11 ∨ sep.toNat = 12)
    (hk : ∀ l ∈ (splitOn '\n' (translate T (a ++ sep :: b))).map (normWs T.isWs), l ≠ [] → keepLine T l = true) :
    tokens T.isWs (cleanText T (a ++ sep :: b)) = tokens T.isWs (translate T a) ++ tokens T.isWs (translate T b) := by
  have h := pptOk_of h
  rw [cleanText_tokens_all T h.sp h.nl _ hk, translate_sep h a b sep hs, tokens_append_ws h.nl]

/-- before fix-ppt-clean-text-separators the table deleted CR / VT / FF: the paragraphs were merged -/
theorem ppt_old_table_merges :
    cleanText { S2T.Gen.C02Odf.pptTables with
        trans := S2T.Gen.C02Odf.pptTrans.map (fun kv => if kv.1 = 11 ∨ kv.1 = 12 ∨ kv.1 = 13 then (kv.1, []) else kv) }
      "A1\rB2\x0bC3".toList = "A1B2C3".toList := by
  decide_chars S2T.Gen.C02Odf.pptTables S2T.Gen.C02Odf.pptTrans S2T.Gen.C02Odf.pptPrefixes

example : cleanText S2T.Gen.C02Odf.pptTables "A1\rB2\x0bC3\tD4\x01E5\n*\nClick to edit x".toList
    = "A1\nB2\nC3 D4E5".toList := by
  decide_chars S2T.Gen.C02Odf.pptTables S2T.Gen.C02Odf.pptTrans S2T.Gen.C02Odf.pptPrefixes

/-- **XLS**: the padded table text carries exactly the cells' tokens, row by row, left to right (padding and column
    separators are whitespace only). -/
theorem xls_tokens {p : Char → Bool} (hsp : p ' ' = true) (hn : p '\n' = true) (headers : List Str) (rows : List (List Str)) :
    tokens p (formatSheet headers rows)
      = (if headers = [] then rows else headers :: rows).flatMap (fun r => r.flatMap (tokens p)) :=
  -- `formatSheet`, `fmtRow` and `joinNl` unfold to the grid of `tokens_grid`, with the widths `colWidth all`
  tokens_grid (rowSep := ['\n']) (colSep := [' ', ' ']) ⟨by simp, by simp [hn]⟩ ⟨by simp, by simp [hsp]⟩ hsp _ _

/-- **plain text**: the three `strip()`s of `PlainTextContent` keep the token sequence -/
theorem plain_tokens' (p : Char → Bool) (s : Str) : tokens p (plainFullText p s) = tokens p s := plain_tokens p s

/-- **unit joins** (PDF pages, ODP slides, ODS sheets, …): `_join_unit_text` keeps every unit's tokens, in order,
    and never glues two units together -/
theorem join_tokens {p : Char → Bool} (hn : p '\n' = true) (us : List Str) :
    tokens p (joinUnits p us) = us.flatMap (tokens p) := by
  unfold joinUnits; rw [tokens_strip, tokens_joinNl hn]

example : formatSheet ["a".toList, "bbb".toList] [["1".toList, "2".toList], ["333".toList, [] ]]
    = "  a  bbb\n  1    2\n333     ".toList := by decide

end S2T.C02.Odf
