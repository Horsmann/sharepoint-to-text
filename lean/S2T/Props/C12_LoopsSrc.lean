import S2T.Lemmas.PyLoops
import S2T.Lemmas.Loops
import S2T.Gen.PyLoops
import S2T.Gen.PyAes
import S2T.Gen.C12Consts
/-!
# C12 / C01 (source tie) — the BODIES of the library's own `while` loops, translated from the current source

`S2T.Gen.PyLoops` is regenerated on every run by `tools/gen/pyfun_loops.py`: for every whitelisted `while` statement
the AST of its test and body becomes a step function on the loop's local state

    X.step (env : X.Env) (ora : X.State → Nat → Bool) (s : X.State) : M (Step X.State X.Ret)
    X.stepO …  : M (Option X.State)          -- `none` = the loop exits, `some s'` = one more iteration
    X.init (inputs …) : X.Env × X.State      -- the straight-line assignments in front of the loop

(`Env`: locals the loop only reads, `State`: locals assigned in the body that are live across iterations, fields
`v0, v1, …` in order of first occurrence; `ora`: answers to the conditions on values the translation does not look into
— hashes, image objects — one per (state at the start of the iteration, condition), universally quantified everywhere).

Per loop:

1. `X_next` / `X_variant` — for ALL environments (under the stated, decidable precondition where the loop needs one: the
   PPT walker needs `0 < min_size`), ALL oracles and ALL states: `step env ora s = ok (next s') → m env s' < m env s`
   (`X_variant`: the same about `stepO … = ok (some s')`) for the measure `m` the hand model of `S2T/Model/Loops.lean`
   recurses on.  This is the termination proof of the REAL loop body, modulo translation: `Loops.run` (well-founded
   recursion through `X_next`, no fuel) is total.
2. `X_agree` — iterating the translated step from the translated initial state (`Loops.run (X.step …) m X_next
   (X.init …)`) gives the result and the NUMBER OF BODY EXECUTIONS of the hand model's function, for all inputs and all
   oracles; so the step-count theorems of `Props/C12_Loops.lean` (`steps_* ≤ len + 1`) are theorems about the translated
   loop (spelt out for one loop: `xls_filepass_steps`; the run is the one `xls_filepass_agree` gives, the bound needs the variant
   only: `run_steps_le`).  The `X_ends` lemmas
   behind it say the same of every start state, in the big-step reading of `run` (`Ends` / `Fails`,
   `Lemmas/PyLoops.lean`), which does not mention the measure: what `run` returns does not depend on it; `Ends.outcome` / `Ends.run_eq` lead
   from there to `run` on the measure the statement names.

Proof scripts.  Variant: the body brought into a tree of `if`s once (`py_step_nf`), the hypothesis `… = ok (next s')`
turned into a disjunction over its leaves, one `omega` (`py_variant_omega`): that is the script of the thirteen byte and index
walks; `dib_carve_next` is the same with the header filter hidden before `omega`, the five pops are `pop_next`, the two 7z loops
case on what the readers return (`readU8_pos`, `readNumber_pos`, `readBytes_pos`, `readBytes_two`).
Agreement: `fun_induction` on the hand model (induction on the index for `rtf_trim_back` and `trailing_numeric`, whose models run on
the reversed prefix; `pop_ends` for the pops); in each case the body is evaluated along the one path the case hypotheses
fix (`py_eval`, explained in `Lemmas/PyLoops.lean`; the 7z bodies, which only call the readers, by `simp` with the readers' results)
and the rule of `Ends` / `Fails` for the way the iteration ends is
applied; where the model leaves tests of the body undecided (DIB header, BLIP record) the body is brought into its tree
of `if`s once and the case prunes it.  No script mentions a Python local by name; the state is addressed by position (`⟨off, ys⟩`,
`·.v1`: fields in order of first occurrence), so of all reorderings of independent statements only one that changes that order
changes a script; three scripts
mention the shape of a condition: `dib_carve_next` hides the planes / bits-per-pixel / compression filter behind a
variable, `png_chunks_ends` decides "an IEND tag is not IHDR" (case 2) and cases on "IHDR chunk of length 13" (case 3), `xls_blip_ends` (case 3) decides the four head
tests of the body in their order.

Translated: 21 loops of the inventory (+ `_gf_mul`, whose translation by `pyfun_aes.py` is reused).  Loops that are NOT
translated (they stay hand-modelled, tied by the correspondence of `harness/builders/c12_loopcheck.py`): see
`not_translated` at the end of this file, with reasons.  Typing: a Python `int` that only ever receives non-negative
values by construction (`len`, literals, `+`, `int.from_bytes`, unsigned struct fields) is a `Nat`; one that receives a
difference or a `find` result is an `Int`; "ALL states" means all states of those types.
-/
set_option linter.unusedVariables false  -- `sz_read_name_ends` / `_agree` bind the name `nm`, which their statements do not use
namespace S2T.C12.LoopsSrc
open S2T.Py S2T.Py.Loops S2T.Gen.PyLoops S2T.Loops
/- `py_eval` rewrites the scrutinee of a bind and the condition of an `if`, never the branch not taken: the two congruence rules of
`Lemmas/PyLoops.lean` that make `simp` do so hold for the whole file (the variant scripts go through under them as well). -/
attribute [local congr] bind_congr_arg ite_congr_cond

/-- the translator understood every construct of the whitelisted loops -/
theorem gen_py_notes_empty : S2T.Gen.PyLoops.notes = [] := by decide

/-- the loops this file ties: (namespace, enclosing function); a renamed / removed function or loop breaks this -/
theorem gen_py_translated : S2T.Gen.PyLoops.translated.map (fun t => (t.1, t.2.2.1)) =
    [("xls_filepass", "is_xls_encrypted"), ("jpeg_dims", "get_jpeg_dimensions"),
     ("sof_docx", "_get_image_pixel_dimensions"), ("sof_xlsx", "_get_image_pixel_dimensions"),
     ("sof_pptx", "_get_image_pixel_dimensions"), ("png_chunks", "_DocReader._extract_png_images_from_bytes"),
     ("ppt_iter", "_iter_records"), ("xls_blip", "_extract_images_from_workbook"),
     ("dib_carve", "_DocReader._extract_images_from_word_document"),
     ("rtf_skip_group", "_RtfParser._remove_ignorable_groups"), ("rtf_scan_alpha", "_RtfParser._strip_rtf_full_with_pages"),
     ("rtf_scan_param", "_RtfParser._strip_rtf_full_with_pages"), ("rtf_trim_back", "_RtfParser._strip_rtf_full_with_pages"),
     ("pop_headings_doc", "DocContent.iterate_units"), ("pop_headings_docx", "DocxContent.iterate_units"),
     ("pop_headings_odt", "OdtContent.iterate_units"), ("pop_ended", "_parse_containers"),
     ("trim_empty_rows", "_extract_sheet"), ("sz_skip_props", "SevenZipReader._parse_main_header"),
     ("sz_read_name", "SevenZipReader._parse_files_info"), ("trailing_numeric", "_TableExtractor._extract_row")] := by decide

/-! the record layouts of the current source: the translated bodies name the generated constants, the lemmas about
`unpack_from` (`unpackFromU_HHI`, `unpackFromI_dib`) are stated for a format variable and take one of these as the equation -/
theorem ppt_fmt : S2T.Gen.C12Consts.pptHeaderFmt = "<HHI" := rfl
theorem xls_fmt : S2T.Gen.C12Consts.xlsHeaderFmt = "<HHI" := rfl
theorem dib_fmt : S2T.Gen.C12Consts.dibFmt = "<IiiHHII" := rfl

/-! ## util/encryption.py : is_xls_encrypted — BIFF record walk -/

/-- the variant of `xlsFilepass`: `data_len − offset` -/
def xls_filepass_m (env : xls_filepass.Env) (s : xls_filepass.State) : Nat := env.v0 - s.v0

theorem xls_filepass_next (env : xls_filepass.Env) (ora) (s s' : xls_filepass.State)
    (h : xls_filepass.step env ora s = .ok (.next s')) : xls_filepass_m env s' < xls_filepass_m env s := by
  unfold xls_filepass.step at h
  unfold xls_filepass_m
  py_step_nf [] [] at h
  cases s'
  py_variant_omega h [xls_filepass.State.mk.injEq]

/-- VARIANT: every iteration of the translated body decreases `data_len − offset` — all environments, all states -/
theorem xls_filepass_variant (env : xls_filepass.Env) (ora) (s s' : xls_filepass.State)
    (h : xls_filepass.stepO env ora s = .ok (some s')) : xls_filepass_m env s' < xls_filepass_m env s :=
  xls_filepass_next env ora s s' (map_toOption_some h)

/-! The `show … = 47` below is where the generated constant of the model's statement (`filepassId`) meets the numeral in the
translated body. -/
theorem xls_filepass_ends (d : List Nat) (ora) (off : Nat) :
    Ends (xls_filepass.step ⟨d.length, d⟩ ora) ⟨off⟩ (if (xlsFilepass S2T.Gen.C12Consts.filepassId d off).1 then some true else none)
      (xlsFilepass S2T.Gen.C12Consts.filepassId d off).2 fun _ => True := by
  fun_induction xlsFilepass S2T.Gen.C12Consts.filepassId d off with
  | case1 off h1 h2 => exact .ret (by py_eval [xls_filepass.step, show u16le d off = 47 from h2]) trivial
  | case2 off h1 h2 r ih =>
    exact .next (by py_eval [xls_filepass.step, show ¬ u16le d off = 47 from h2]) ih
  | case3 off h1 => exact .stop (by py_eval [xls_filepass.step]) trivial

/-- AGREEMENT: the translated loop, run from the translated initial state, finds FILEPASS exactly when the hand model
    does, in the same number of iterations -/
theorem xls_filepass_agree (d : List Nat) (ora) :
    ∃ fin, run (xls_filepass.step (xls_filepass.init d).1 ora) (xls_filepass_m (xls_filepass.init d).1)
        (xls_filepass_next _ ora) (xls_filepass.init d).2
      = .ok ⟨fin, (if (xlsFilepass S2T.Gen.C12Consts.filepassId d 0).1 then some true else none),
             (xlsFilepass S2T.Gen.C12Consts.filepassId d 0).2⟩ :=
  (xls_filepass_ends d ora 0).run_eq _ _

/-- the linear bound of `C12.Loops.steps_xlsFilepass`, as a statement about the translated loop -/
theorem xls_filepass_steps (d : List Nat) (ora) :
    ∃ o, run (xls_filepass.step (xls_filepass.init d).1 ora) (xls_filepass_m (xls_filepass.init d).1)
        (xls_filepass_next _ ora) (xls_filepass.init d).2 = .ok o ∧ o.steps ≤ d.length + 1 := by
  obtain ⟨_, e⟩ := xls_filepass_agree d ora
  exact ⟨_, e, run_steps_le e⟩

/-! ## ms_modern/{docx,xlsx,pptx}_extractor.py : _get_image_pixel_dimensions — JPEG SOF scan

The three extractors each carry their own copy of the function, and each copy is translated into its own namespace with its
own `Env` / `State` types: every declaration below comes three times, alike but for the namespace (pptx: `strict = true` and the
marker list spelled out in the body).  A change to one is a change to all three. -/

/-- what the extractors return for the model's raw `(w, h)`: `(w or None, h or None)` -/
def sofRet (r : Option (Nat × Nat)) : Option ((Option Nat) × (Option Nat)) := r.map (fun (w, h) => (orNone w, orNone h))

def sof_docx_m (env : sof_docx.Env) (s : sof_docx.State) : Nat := env.v0 - s.v0
def sof_xlsx_m (env : sof_xlsx.Env) (s : sof_xlsx.State) : Nat := env.v0 - s.v0
def sof_pptx_m (env : sof_pptx.Env) (s : sof_pptx.State) : Nat := env.v0 - s.v0

theorem sof_docx_next (env : sof_docx.Env) (ora) (s s' : sof_docx.State)
    (h : sof_docx.step env ora s = .ok (.next s')) : sof_docx_m env s' < sof_docx_m env s := by
  unfold sof_docx.step at h
  unfold sof_docx_m
  py_step_nf [] [] at h
  cases s'
  py_variant_omega h [sof_docx.State.mk.injEq]

theorem sof_xlsx_next (env : sof_xlsx.Env) (ora) (s s' : sof_xlsx.State)
    (h : sof_xlsx.step env ora s = .ok (.next s')) : sof_xlsx_m env s' < sof_xlsx_m env s := by
  unfold sof_xlsx.step at h
  unfold sof_xlsx_m
  py_step_nf [] [] at h
  cases s'
  py_variant_omega h [sof_xlsx.State.mk.injEq]

theorem sof_pptx_next (env : sof_pptx.Env) (ora) (s s' : sof_pptx.State)
    (h : sof_pptx.step env ora s = .ok (.next s')) : sof_pptx_m env s' < sof_pptx_m env s := by
  unfold sof_pptx.step at h
  unfold sof_pptx_m
  py_step_nf [] [] at h
  cases s'
  py_variant_omega h [sof_pptx.State.mk.injEq]

/-- VARIANT (docx copy): `size − i` decreases — all environments (also `size ≠ len(image_data)`), all states -/
theorem sof_docx_variant (env : sof_docx.Env) (ora) (s s' : sof_docx.State)
    (h : sof_docx.stepO env ora s = .ok (some s')) : sof_docx_m env s' < sof_docx_m env s :=
  sof_docx_next env ora s s' (map_toOption_some h)
theorem sof_xlsx_variant (env : sof_xlsx.Env) (ora) (s s' : sof_xlsx.State)
    (h : sof_xlsx.stepO env ora s = .ok (some s')) : sof_xlsx_m env s' < sof_xlsx_m env s :=
  sof_xlsx_next env ora s s' (map_toOption_some h)
theorem sof_pptx_variant (env : sof_pptx.Env) (ora) (s s' : sof_pptx.State)
    (h : sof_pptx.stepO env ora s = .ok (some s')) : sof_pptx_m env s' < sof_pptx_m env s :=
  sof_pptx_next env ora s s' (map_toOption_some h)

theorem sof_docx_ends (d : List Nat) (ora) (i : Nat) :
    Ends (sof_docx.step ⟨d.length, d⟩ ora) ⟨i⟩ (sofRet (sofScan S2T.Gen.C12Consts.sofDocx false d i).1)
      (sofScan S2T.Gen.C12Consts.sofDocx false d i).2 fun _ => True := by
  fun_induction sofScan S2T.Gen.C12Consts.sofDocx false d i with
  | case1 i h1 h2 r ih =>
    exact .next (by py_eval [sof_docx.step]) ih
  | case2 i h1 h2 marker h3 => exact .brk (s' := sof_docx.State.mk i) (by py_eval [sof_docx.step]) trivial
  | case3 i h1 h2 marker h3 length h4 => exact .brk (s' := sof_docx.State.mk i) (by py_eval [sof_docx.step]) trivial
  | case4 i h1 h2 marker h3 length h4 h5 => exact .ret (by py_eval [sof_docx.step, h5.1]) trivial
  | case5 i h1 h2 marker h3 length h4 h5 h6 => simp at h6
  | case6 i h1 h2 marker h3 length h4 h5 h6 r ih =>
    exact .next (by py_eval [sof_docx.step, h5]) ih
  | case7 i h1 => exact .stop (by py_eval [sof_docx.step]) trivial

theorem sof_xlsx_ends (d : List Nat) (ora) (i : Nat) :
    Ends (sof_xlsx.step ⟨d.length, d⟩ ora) ⟨i⟩ (sofRet (sofScan S2T.Gen.C12Consts.sofXlsx false d i).1)
      (sofScan S2T.Gen.C12Consts.sofXlsx false d i).2 fun _ => True := by
  fun_induction sofScan S2T.Gen.C12Consts.sofXlsx false d i with
  | case1 i h1 h2 r ih =>
    exact .next (by py_eval [sof_xlsx.step]) ih
  | case2 i h1 h2 marker h3 => exact .brk (s' := sof_xlsx.State.mk i) (by py_eval [sof_xlsx.step]) trivial
  | case3 i h1 h2 marker h3 length h4 => exact .brk (s' := sof_xlsx.State.mk i) (by py_eval [sof_xlsx.step]) trivial
  | case4 i h1 h2 marker h3 length h4 h5 => exact .ret (by py_eval [sof_xlsx.step, h5.1]) trivial
  | case5 i h1 h2 marker h3 length h4 h5 h6 => simp at h6
  | case6 i h1 h2 marker h3 length h4 h5 h6 r ih =>
    exact .next (by py_eval [sof_xlsx.step, h5]) ih
  | case7 i h1 => exact .stop (by py_eval [sof_xlsx.step]) trivial

/-- the pptx copy spells the SOF markers out: they are the generated `sofPptx` -/
theorem sof_pptx_ends (d : List Nat) (ora) (i : Nat) :
    Ends (sof_pptx.step ⟨d.length, d⟩ ora) ⟨i⟩ (sofRet (sofScan S2T.Gen.C12Consts.sofPptx true d i).1)
      (sofScan S2T.Gen.C12Consts.sofPptx true d i).2 fun _ => True := by
  fun_induction sofScan S2T.Gen.C12Consts.sofPptx true d i with
  | case1 i h1 h2 r ih =>
    exact .next (by py_eval [sof_pptx.step]) ih
  | case2 i h1 h2 marker h3 => exact .brk (s' := sof_pptx.State.mk i) (by py_eval [sof_pptx.step]) trivial
  | case3 i h1 h2 marker h3 length h4 => exact .brk (s' := sof_pptx.State.mk i) (by py_eval [sof_pptx.step]) trivial
  | case4 i h1 h2 marker h3 length h4 h5 =>
    exact .ret (by py_eval [sof_pptx.step, ← S2T.Gen.C12Consts.sofPptx.eq_1, h5.1]) trivial
  | case5 i h1 h2 marker h3 length h4 h5 h6 =>
    have h7 : ¬ i + 2 + length ≤ d.length := fun h => h5 ⟨h6.1, h⟩
    exact .brk (s' := sof_pptx.State.mk i) (by py_eval [sof_pptx.step, ← S2T.Gen.C12Consts.sofPptx.eq_1, h6.1]) trivial
  | case6 i h1 h2 marker h3 length h4 h5 h6 r ih =>
    have h7 : ¬ S2T.Gen.C12Consts.sofPptx.contains marker = true := fun h => h6 ⟨h, rfl⟩
    exact .next (by py_eval [sof_pptx.step, ← S2T.Gen.C12Consts.sofPptx.eq_1, h7]) ih
  | case7 i h1 => exact .stop (by py_eval [sof_pptx.step]) trivial

/-- AGREEMENT (docx): result (`(w or None, h or None)` of the model's raw dimensions) and iteration count of `sofScan` -/
theorem sof_docx_agree (d : List Nat) (ora) :
    ∃ fin, run (sof_docx.step (sof_docx.init d).1 ora) (sof_docx_m (sof_docx.init d).1) (sof_docx_next _ ora) (sof_docx.init d).2
      = .ok ⟨fin, sofRet (sofScan S2T.Gen.C12Consts.sofDocx false d 2).1, (sofScan S2T.Gen.C12Consts.sofDocx false d 2).2⟩ :=
  (sof_docx_ends d ora 2).run_eq _ _
theorem sof_xlsx_agree (d : List Nat) (ora) :
    ∃ fin, run (sof_xlsx.step (sof_xlsx.init d).1 ora) (sof_xlsx_m (sof_xlsx.init d).1) (sof_xlsx_next _ ora) (sof_xlsx.init d).2
      = .ok ⟨fin, sofRet (sofScan S2T.Gen.C12Consts.sofXlsx false d 2).1, (sofScan S2T.Gen.C12Consts.sofXlsx false d 2).2⟩ :=
  (sof_xlsx_ends d ora 2).run_eq _ _
theorem sof_pptx_agree (d : List Nat) (ora) :
    ∃ fin, run (sof_pptx.step (sof_pptx.init d).1 ora) (sof_pptx_m (sof_pptx.init d).1) (sof_pptx_next _ ora) (sof_pptx.init d).2
      = .ok ⟨fin, sofRet (sofScan S2T.Gen.C12Consts.sofPptx true d 2).1, (sofScan S2T.Gen.C12Consts.sofPptx true d 2).2⟩ :=
  (sof_pptx_ends d ora 2).run_eq _ _

/-! ## util/image_utils.py : get_jpeg_dimensions — SOF scanner -/

def jpeg_dims_m (env : jpeg_dims.Env) (s : jpeg_dims.State) : Nat := env.v0.length - s.v0

theorem jpeg_dims_next (env : jpeg_dims.Env) (ora) (s s' : jpeg_dims.State)
    (h : jpeg_dims.step env ora s = .ok (.next s')) : jpeg_dims_m env s' < jpeg_dims_m env s := by
  unfold jpeg_dims.step at h
  unfold jpeg_dims_m
  py_step_nf [] [] at h
  cases s'
  py_variant_omega h [jpeg_dims.State.mk.injEq]

/-- VARIANT: `len(data) − offset` decreases (the test `offset < len(data) − 9` is evaluated over the integers, as
    Python does: `len(data) − 9` may be negative) -/
theorem jpeg_dims_variant (env : jpeg_dims.Env) (ora) (s s' : jpeg_dims.State)
    (h : jpeg_dims.stepO env ora s = .ok (some s')) : jpeg_dims_m env s' < jpeg_dims_m env s :=
  jpeg_dims_next env ora s s' (map_toOption_some h)

/-- the body spells the SOF markers out; `← sofImageUtils.eq_1` folds the list back into the generated constant the model's case
    hypothesis (`h4`) speaks of -/
theorem jpeg_dims_ends (d : List Nat) (ora) (off : Nat) :
    Ends (jpeg_dims.step ⟨d⟩ ora) ⟨off⟩ (jpegDims S2T.Gen.C12Consts.sofImageUtils d off).1
      (jpegDims S2T.Gen.C12Consts.sofImageUtils d off).2 fun _ => True := by
  fun_induction jpegDims S2T.Gen.C12Consts.sofImageUtils d off with
  | case1 off h1 h2 r ih =>
    exact .next (by py_eval [jpeg_dims.step]) ih
  | case2 off h1 h2 marker h3 r ih =>
    exact .next (by py_eval [jpeg_dims.step]) ih
  | case3 off h1 h2 marker h3 h4 =>
    exact .ret (by py_eval [jpeg_dims.step, ← S2T.Gen.C12Consts.sofImageUtils.eq_1, h4]) trivial
  | case4 off h1 h2 marker h3 h4 r ih =>
    exact .next (by py_eval [jpeg_dims.step, ← S2T.Gen.C12Consts.sofImageUtils.eq_1, h4]) ih
  | case5 off h1 => exact .stop (by py_eval [jpeg_dims.step]) trivial

/-- AGREEMENT: `(width, height)` and the iteration count of `jpegDims`; in particular the two guards the model calls
    implied by the loop test (`offset + 9 <= len(data)`, `offset + 4 <= len(data)`) and the `else: break` arm it calls
    dead ARE so in the translated body, and no `struct.error` / `IndexError` is reachable -/
theorem jpeg_dims_agree (d : List Nat) (ora) :
    ∃ fin, run (jpeg_dims.step (jpeg_dims.init d).1 ora) (jpeg_dims_m (jpeg_dims.init d).1) (jpeg_dims_next _ ora) (jpeg_dims.init d).2
      = .ok ⟨fin, (jpegDims S2T.Gen.C12Consts.sofImageUtils d 2).1, (jpegDims S2T.Gen.C12Consts.sofImageUtils d 2).2⟩ :=
  (jpeg_dims_ends d ora 2).run_eq _ _

/-! ## ms_legacy/doc_extractor.py : _extract_png_images_from_bytes — inner chunk walk -/

def png_chunks_m (env : png_chunks.Env) (s : png_chunks.State) : Nat := env.v0.length - s.v0

theorem png_chunks_next (env : png_chunks.Env) (ora) (s s' : png_chunks.State)
    (h : png_chunks.step env ora s = .ok (.next s')) : png_chunks_m env s' < png_chunks_m env s := by
  unfold png_chunks.step at h
  unfold png_chunks_m
  py_step_nf [] [] at h
  cases s'
  py_variant_omega h [png_chunks.State.mk.injEq]

/-- VARIANT: `len(data) − pos` decreases — for every oracle answer about `digest not in seen_hashes` -/
theorem png_chunks_variant (env : png_chunks.Env) (ora) (s s' : png_chunks.State)
    (h : png_chunks.stepO env ora s = .ok (some s')) : png_chunks_m env s' < png_chunks_m env s :=
  png_chunks_next env ora s s' (map_toOption_some h)

theorem png_chunks_ends (d : List Nat) (start : Nat) (ora) (pos : Nat) :
    ∀ w h, Ends (png_chunks.step ⟨d, start⟩ ora) ⟨pos, w, h⟩ none (pngChunks d pos).2
      fun fin => ∀ e, (pngChunks d pos).1 = some e → fin.v0 = e := by
  fun_induction pngChunks d pos with
  | case1 pos h1 length crcEnd h2 =>
    exact fun w h => .brk (s' := ⟨pos, w, h⟩) (by unfold png_chunks.step; py_eval []) (by simp)
  | case2 pos h1 length crcEnd h2 h3 =>
    intro w h
    have h3' : sliceN d (pos + 4) (pos + 8) = [73, 69, 78, 68] := by simpa [sliceN_model] using h3
    have hs : ∃ s', png_chunks.step ⟨d, start⟩ ora ⟨pos, w, h⟩ = .ok (.brk s') ∧ s'.v0 = crcEnd := by
      unfold png_chunks.step
      -- the body tests for IHDR before IEND: the four rules behind `h3'` decide that an IEND tag is not IHDR
      py_eval [h3', List.cons.injEq, Nat.reduceEqDiff, false_and, ite_self]
      exact ⟨_, rfl, rfl⟩
    obtain ⟨s', e, p⟩ := hs
    exact .brk e (by simp [p])
  | case3 pos h1 length crcEnd h2 h3 r ih =>
    intro w h
    have h3' : ¬ sliceN d (pos + 4) (pos + 8) = [73, 69, 78, 68] := by simpa [sliceN_model] using h3
    have hs : ∃ s', png_chunks.step ⟨d, start⟩ ora ⟨pos, w, h⟩ = .ok (.next s') ∧ s'.v0 = crcEnd := by
      unfold png_chunks.step
      -- an IHDR chunk of length 13 also sets `width` / `height`, which the model does not follow
      by_cases hI : sliceN d (pos + 4) (pos + 8) = [73, 72, 68, 82] ∧ u32be d pos = 13
      · py_eval [hI.1, List.cons.injEq, Nat.reduceEqDiff, false_and, and_false]
        exact ⟨_, rfl, rfl⟩
      · py_eval [hI, h3']
        exact ⟨_, rfl, rfl⟩
    obtain ⟨⟨p', w', h'⟩, e, p⟩ := hs
    simp only at p
    subst p
    exact .next e (ih w' h')
  | case4 pos h1 =>
    exact fun w h => .stop (by unfold png_chunks.step; py_eval []) (by simp)

/-- AGREEMENT: from the translated initial state (`pos = start + len(signature)`, `width = height = None`): the
    iteration count of `pngChunks`, no `return`, and when the model reaches an IEND chunk the loop is left with `pos` =
    the end of the PNG — for every `start`, every oracle; no `struct.error` is reachable.  (`image_counter`, `images`,
    `seen_hashes` belong to the enclosing `while True:` loop, which is not translated: they are not tracked here.) -/
theorem png_chunks_agree (d : List Nat) (start : Nat) (ora) :
    ∃ o, run (png_chunks.step (png_chunks.init d start).1 ora) (png_chunks_m (png_chunks.init d start).1)
        (png_chunks_next _ ora) (png_chunks.init d start).2 = .ok o ∧
      o.result = none ∧ o.steps = (pngChunks d (start + 8)).2 ∧
      (∀ e, (pngChunks d (start + 8)).1 = some e → o.final.v0 = e) :=
  let ⟨o, e, hr, hp, hs⟩ := (png_chunks_ends d start ora (start + 8) none none).outcome _ _
  ⟨o, e, hr, hs, hp⟩

/-! ## ms_legacy/xls_extractor.py : _extract_images_from_workbook — BLIP record scan -/

def xls_blip_m (env : xls_blip.Env) (s : xls_blip.State) : Nat := env.v0 - s.v0

theorem xls_blip_next (env : xls_blip.Env) (ora) (s s' : xls_blip.State)
    (h : xls_blip.step env ora s = .ok (.next s')) : xls_blip_m env s' < xls_blip_m env s := by
  unfold xls_blip.step at h
  unfold xls_blip_m
  py_step_nf [unpackFromU_HHI xls_fmt] [S2T.Gen.C12Consts.xlsHeaderSize] at h
  cases s'
  py_variant_omega h [xls_blip.State.mk.injEq]

/-- VARIANT: `data_len − offset` decreases whatever `detect_image_type`, `wrap_dib_as_bmp`, the hash set … answer
    (5 oracle bits) -/
theorem xls_blip_variant (env : xls_blip.Env) (ora) (s s' : xls_blip.State)
    (h : xls_blip.stepO env ora s = .ok (some s')) : xls_blip_m env s' < xls_blip_m env s :=
  xls_blip_next env ora s s' (map_toOption_some h)

theorem xls_blip_ends (d : List Nat) (ora) (off : Nat) :
    ∀ k, Ends (xls_blip.step ⟨d.length, d⟩ ora) ⟨off, k⟩ none (xlsBlipScan S2T.Gen.C12Consts.blipTypes d off).length
      fun _ => True := by
  fun_induction xlsBlipScan S2T.Gen.C12Consts.blipTypes d off with
  | case1 off h1 recLen h2 ih =>
    intro k
    refine .next (s' := ⟨off + 1, k⟩) ?_ (ih k)
    unfold xls_blip.step S2T.Gen.C12Consts.xlsHeaderSize
    py_eval [unpackFromU_HHI xls_fmt]
  | case2 off h1 recType recLen h2 h3 ih =>
    intro k
    refine .next (s' := ⟨off + 1, k⟩) ?_ (ih k)
    unfold xls_blip.step S2T.Gen.C12Consts.xlsHeaderSize
    py_eval [unpackFromU_HHI xls_fmt, h3]
  | case3 off h1 recType recLen h2 h3 ih =>
    intro k
    have hs : ∃ s', xls_blip.step ⟨d.length, d⟩ ora ⟨off, k⟩ = .ok (.next s') ∧ s'.v0 = off + 8 + recLen := by
      unfold xls_blip.step
      -- the tests behind the record header (lengths, oracle bits) are not the model's: the body is brought into its
      -- tree of `if`s, the hypotheses decide its four head tests (loop test, header read, length filter, record type),
      -- every leaf of the rest moves `offset` by `8 + rec_len` (`ite_next`, arm by arm)
      py_step_nf [unpackFromU_HHI xls_fmt] [S2T.Gen.C12Consts.xlsHeaderSize]
      rw [if_neg (by omega), if_pos (by omega), if_neg (by omega), if_pos (by simpa using h3)]
      repeat' refine ite_next ?_ ?_
      all_goals exact ⟨_, rfl, (Nat.add_assoc _ _ _).symm⟩
    obtain ⟨⟨p', k'⟩, e, p⟩ := hs
    simp only at p
    subst p
    exact .next e (ih k')
  | case4 off h1 =>
    intro k
    exact .stop (by unfold xls_blip.step S2T.Gen.C12Consts.xlsHeaderSize; py_eval []) trivial

/-- AGREEMENT: the number of iterations is the length of `xlsBlipScan` (one entry per iteration) — for EVERY oracle:
    what the image helpers answer never changes how far `offset` moves; the `except struct.error` arm is dead -/
theorem xls_blip_agree (d : List Nat) (ora) :
    ∃ o, run (xls_blip.step (xls_blip.init d).1 ora) (xls_blip_m (xls_blip.init d).1) (xls_blip_next _ ora) (xls_blip.init d).2
        = .ok o ∧ o.result = none ∧ o.steps = (xlsBlipScan S2T.Gen.C12Consts.blipTypes d 0).length :=
  let ⟨o, e, hr, _, hs⟩ := (xls_blip_ends d ora 0 0).outcome _ _
  ⟨o, e, hr, hs⟩

/-! ## ms_legacy/ppt_extractor.py : _iter_records — record walk (a generator: the yielded records are a state field) -/

def ppt_iter_m (env : ppt_iter.Env) (s : ppt_iter.State) : Nat := env.v0 - s.v0

theorem ppt_iter_next (env : ppt_iter.Env) (henv : 0 < env.v1) (ora) (s s' : ppt_iter.State)
    (h : ppt_iter.step env ora s = .ok (.next s')) : ppt_iter_m env s' < ppt_iter_m env s := by
  unfold ppt_iter.step at h
  unfold ppt_iter_m
  py_step_nf [unpackFromU_HHI ppt_fmt] [] at h
  cases s'
  py_variant_omega h [ppt_iter.State.mk.injEq]

/-- VARIANT: `data_len − offset` decreases, for every environment with `min_size > 0` (a container makes the loop
    step to `offset + min_size`) and every state.  The precondition is necessary: -/
theorem ppt_iter_variant (env : ppt_iter.Env) (henv : 0 < env.v1) (ora) (s s' : ppt_iter.State)
    (h : ppt_iter.stepO env ora s = .ok (some s')) : ppt_iter_m env s' < ppt_iter_m env s :=
  ppt_iter_next env henv ora s s' (map_toOption_some h)

/-- … with `min_size = 0` a step on an empty container record leaves `offset` where it is: the measure does not decrease -/
theorem ppt_iter_needs_min_size :
    ppt_iter.stepO ⟨8, 0, [15, 0, 0, 0, 0, 0, 0, 0]⟩ (fun _ _ => false) ⟨0, []⟩
      = .ok (some ⟨0, [(0, 0, true, [], 0, 0)]⟩) := by decide +kernel

/-- the translated initial environment satisfies it: `min_size` is the generated `_RECORD_HEADER_SIZE` -/
theorem ppt_iter_init_ok (d : List Nat) (start : Nat) : 0 < (ppt_iter.init d start).1.v1 := by
  show 0 < S2T.Gen.C12Consts.pptHeaderSize; decide

/-- the header fields and extent of a yielded `Record(rec_type, rec_instance, is_container, data, offset, end_offset)` -/
def pptProj (r : Nat × Nat × Bool × List Nat × Nat × Nat) : PptRec := ⟨r.1, r.2.1, r.2.2.1, r.2.2.2.2.1, r.2.2.2.2.2⟩

theorem ppt_iter_ends (d : List Nat) (ora) (off : Nat) :
    ∀ ys, Ends (ppt_iter.step ⟨d.length, 8, d⟩ ora) ⟨off, ys⟩ none (pptIter d off).2.1
      (·.v1.map pptProj = ys.map pptProj ++ (pptIter d off).1) := by
  fun_induction pptIter d off with
  | case1 off h1 recLen h2 r ih =>
    intro ys
    refine .next (s' := ⟨off + 1, ys⟩) ?_ (ih ys)
    unfold ppt_iter.step
    py_eval [unpackFromU_HHI ppt_fmt]
  | case2 off h1 vi recLen h2 isC dataStart dataEnd rec_ h3 r ih =>
    intro ys
    have h3' : u16le d off % 16 = 15 := h3
    refine .next (s' := ⟨dataStart, ys ++ [(u16le d (off + 2), (vi / 16) % 4096, vi % 16 == 15, sliceN d dataStart dataEnd, off, dataEnd)]⟩)
      ?_ ((ih _).imp fun fin hp => by simpa +zetaDelta [pptProj, h3, h3'] using hp)
    unfold ppt_iter.step
    py_eval [unpackFromU_HHI ppt_fmt, and15, shr4_and4095]
  | case3 off h1 vi recLen h2 isC dataStart dataEnd rec_ h3 r ih =>
    intro ys
    have h3' : ¬ u16le d off % 16 = 15 := h3
    have hb : (u16le d off % 16 == 15) = false := by simpa using h3'
    refine .next (s' := ⟨dataEnd, ys ++ [(u16le d (off + 2), (vi / 16) % 4096, vi % 16 == 15, sliceN d dataStart dataEnd, off, dataEnd)]⟩)
      ?_ ((ih _).imp fun fin hp => by simpa +zetaDelta [pptProj, h3, hb] using hp)
    unfold ppt_iter.step
    py_eval [unpackFromU_HHI ppt_fmt, and15, shr4_and4095]
  | case4 off h1 =>
    intro ys
    exact .stop (by unfold ppt_iter.step; py_eval []) (by simp)

/-- AGREEMENT: for every start offset, the records yielded by the translated generator loop (header fields, container
    flag, offset, end offset) are the model's records, in order, in the model's number of iterations; the
    `except struct.error: break` arm is dead -/
theorem ppt_iter_agree (d : List Nat) (start : Nat) (ora) :
    ∃ o, run (ppt_iter.step (ppt_iter.init d start).1 ora) (ppt_iter_m (ppt_iter.init d start).1)
        (ppt_iter_next _ (ppt_iter_init_ok d start) ora) (ppt_iter.init d start).2 = .ok o ∧
      o.result = none ∧ o.steps = (pptIter d start).2.1 ∧ o.final.v1.map pptProj = (pptIter d start).1 := by
  obtain ⟨o, e, hr, hp, hs⟩ := (ppt_iter_ends d ora start []).outcome _ (ppt_iter_next _ (ppt_iter_init_ok d start) ora)
  exact ⟨o, e, hr, hs, by simpa using hp⟩

/-! ## ms_legacy/doc_extractor.py : _extract_images_from_word_document — DIB carver -/

/-- `i` is an `int` in the translation (`i = start` with `start = word_doc.find(...)`, which may be −1 as far as the
    types know): the variant is `data_len − i` clipped at 0 -/
def dib_carve_m (env : dib_carve.Env) (s : dib_carve.State) : Nat := ((env.v0 : Int) - s.v0).toNat

theorem dib_carve_next (env : dib_carve.Env) (ora) (s s' : dib_carve.State)
    (h : dib_carve.step env ora s = .ok (.next s')) : dib_carve_m env s' < dib_carve_m env s := by
  have hf := bytesFind_ge env.v1 env.v2 s.v0
  unfold dib_carve.step at h
  unfold dib_carve_m
  py_step_nf [unpackFromI_dib dib_fmt, shl] [] at h
  cases s'
  dsimp only
  simp only [ite_eq_iff', Except.ok.injEq, Step.next.injEq, reduceCtorEq, and_false, false_or,
    dib_carve.State.mk.injEq] at h
  -- the filter on planes / bits per pixel / compression (a chain of `≠`, on each of which `omega` splits) says nothing
  -- about `i`: it is hidden
  generalize ((¬ (_ : Int) = 1 ∨ _) ∨ _) = filter at h
  omega

/-- VARIANT: `data_len − i` decreases for ALL states (negative `i` included), all environments (any signature, any
    `data_len`), every oracle answer about the hash set: `find` never returns an index before `i`, and `dib_len ≤ 0`
    is refused before `i += dib_len` -/
theorem dib_carve_variant (env : dib_carve.Env) (ora) (s s' : dib_carve.State)
    (h : dib_carve.stepO env ora s = .ok (some s')) : dib_carve_m env s' < dib_carve_m env s :=
  dib_carve_next env ora s s' (map_toOption_some h)

/-! the agreement of the DIB carver is about bytes (every element < 256): `abs(width)` of a signed 32-bit field is the model's
    `absI32` only on genuine bytes -/

/-- a header found at `start` with 40 bytes behind it: the body goes on with `i = start + (dibLenAt d start).getD 1` — ONE equation for
    the model's two branches (header rejected: `start + 1`; accepted: `start + dib_len`), which is why cases 3 and 4 of
    `dib_carve_ends` share their script -/
theorem dib_step_found (d : List Nat) (hb : ∀ b ∈ d, b < 256) (ora) (i k start : Nat) (h1 : i + 40 ≤ d.length)
    (hf : findFrom dibSig d i = some start) (hs : ¬ start + 40 > d.length) :
    ∃ s', dib_carve.step ⟨d.length, d, [40, 0, 0, 0]⟩ ora ⟨(i : Int), k⟩ = .ok (.next s') ∧
      s'.v0 = ((start + (dibLenAt d start).getD 1 : Nat) : Int) := by
  have hfind : bytesFind d [40, 0, 0, 0] (i : Int) = (start : Int) := by
    rw [show ([40, 0, 0, 0] : List Nat) = dibSig from rfl, bytesFind_findFrom, hf]
  have hsig := dibSig_header hf
  have a1 := natAbs_toSigned4 _ (u32le_lt d (start + 4) hb)
  have a2 := natAbs_toSigned4 _ (u32le_lt d (start + 8) hb)
  have hu := unpackFromI_dib_nat dib_fmt d start (by omega)
  -- the body is brought into its tree of `if`s once, in a hypothesis (not evaluated again in every leaf of `dibLenAt`), so that
  -- the goal stays small while the model is split …
  generalize hx : dib_carve.step ⟨d.length, d, [40, 0, 0, 0]⟩ ora ⟨(i : Int), k⟩ = x
  unfold dib_carve.step at hx
  py_step_nf [hfind, hu, shl, hsig, a1, a2, Nat.one_shiftLeft, Int.toNat_natCast] [] at hx
  -- … its `int` arithmetic written as casts of the model's `Nat` terms, the atoms `omega` has to recognise …
  simp only [dib_size_cast, two_pow_cast] at hx
  clear hu hfind hf
  -- … and the model's `dibLenAt`, unfolded, names the leaf: its tests decide those of the tree
  generalize hl : dibLenAt d start = r
  unfold dibLenAt at hl
  simp only [List.contains_cons, List.contains_nil, Bool.or_eq_true, beq_iff_eq, Bool.or_false] at hl
  repeat' split at hl
  all_goals
    subst hl
    simp (disch := omega) only [↓if_pos, ↓if_neg] at hx
    subst hx
    first
      | exact ⟨_, rfl, by simp only [Option.getD]; omega⟩
      | (split <;> exact ⟨_, rfl, by simp only [Option.getD]; omega⟩)

theorem dib_carve_ends (d : List Nat) (hb : ∀ b ∈ d, b < 256) (ora) (i : Nat) :
    ∀ k, Ends (dib_carve.step ⟨d.length, d, [40, 0, 0, 0]⟩ ora) ⟨(i : Int), k⟩ none (dibCarve d i).2 fun _ => True := by
  have hfind (i : Nat) : bytesFind d [40, 0, 0, 0] (i : Int) = _ := bytesFind_findFrom d dibSig i
  fun_induction dibCarve d i with
  | case1 i h1 hf => exact fun k => .brk (s' := ⟨i, k⟩) (by py_eval [dib_carve.step, hfind, hf]) trivial
  | case2 i h1 start hf hs => exact fun k => .brk (s' := ⟨i, k⟩) (by py_eval [dib_carve.step, hfind, hf]) trivial
  | case3 i h1 start hf hs hl r ih | case4 i h1 start hf hs dl hl r ih =>
    intro k
    obtain ⟨⟨i', k'⟩, e, p⟩ := dib_step_found d hb ora i k start h1 hf hs
    rw [hl] at p
    subst p
    exact .next e (ih k')
  | case5 i h1 => exact fun k => .stop (by py_eval [dib_carve.step]) trivial

/-- AGREEMENT: from the translated initial state (`i = 0`, `image_counter = 0`, `signature = b"\x28\x00\x00\x00"`,
    `data_len = len(word_doc)`), for every byte string and every oracle (answers of the hash-set test): no `return`, and
    the iteration count of `dibCarve`.  On the way: `word_doc.find` is the model's `findFrom`, `header_size` is 40 by the
    signature (the `!= 40` arm is dead), `struct.error` and the negative shift count are unreachable, `dib_len <= 0` never
    holds, and the `int` arithmetic of `size_image` / `dib_len` is the model's. -/
theorem dib_carve_agree (d : List Nat) (hb : ∀ b ∈ d, b < 256) (ora) :
    ∃ o, run (dib_carve.step (dib_carve.init d).1 ora) (dib_carve_m (dib_carve.init d).1) (dib_carve_next _ ora) (dib_carve.init d).2
        = .ok o ∧ o.result = none ∧ o.steps = (dibCarve d 0).2 :=
  let ⟨o, e, hr, _, hs⟩ := (dib_carve_ends d hb ora 0 0).outcome _ _
  ⟨o, e, hr, hs⟩

/-- outside the side condition the model's `absI32` (truncated subtraction) and Python's `abs` of the signed field differ:
    a "byte" ≥ 256 is not a byte -/
example : (toSigned 4 (u32le [5, 0, 0, 256] 0)).natAbs ≠ absI32 (u32le [5, 0, 0, 256] 0) := by decide

/-! ## ms_legacy/rtf_extractor.py — index walks (`text` is a `str`: its characters are not looked into; the tests on
    them are oracle bits, instantiated with the model's character predicates in the agreement theorems) -/

/-- code points of a Python `str` -/
def cps (t : List Char) : List Nat := t.map Char.toNat

private theorem length_cps (t : List Char) : (cps t).length = t.length := List.length_map _

def rtf_scan_alpha_m (env : rtf_scan_alpha.Env) (s : rtf_scan_alpha.State) : Nat := env.v0 - s.v0

/-! Two forms of `X_next` stand in this file.  The nine loops above state it with `X_m`; the twelve from here on (the RTF walks, the
stack pops, `trailing_numeric`, the two 7z loops) state the measure unfolded, because their agreement statements, which hand
`X_next _ _` to `run` as the decrease proof and so carry its type, are fixed with the measure written out (`X_variant := X_next …`
typechecks by unfolding `X_m`).  A new loop follows the first form: `X_next` stated with `X_m`. -/
theorem rtf_scan_alpha_next (env : rtf_scan_alpha.Env) (ora) (s s' : rtf_scan_alpha.State)
    (h : rtf_scan_alpha.step env ora s = .ok (.next s')) : env.v0 - s'.v0 < env.v0 - s.v0 := by
  unfold rtf_scan_alpha.step at h
  py_step_nf [getItemN_ite'] [] at h
  cases s'
  py_variant_omega h [rtf_scan_alpha.State.mk.injEq]

theorem rtf_scan_alpha_variant (env : rtf_scan_alpha.Env) (ora) (s s' : rtf_scan_alpha.State)
    (h : rtf_scan_alpha.stepO env ora s = .ok (some s')) : rtf_scan_alpha_m env s' < rtf_scan_alpha_m env s :=
  rtf_scan_alpha_next env ora s s' (map_toOption_some h)

/-- `scanWhile p` as an oracle: the answer to `text[j].isalpha()` is `p` of the code point at `j` -/
def scanOra (p : Nat → Bool) (t : List Char) : rtf_scan_alpha.State → Nat → Bool := fun st _ => p (strAt (cps t) st.v0)

theorem rtf_scan_alpha_ends (p : Nat → Bool) (t : List Char) (j : Nat) :
    Ends (rtf_scan_alpha.step ⟨t.length, t⟩ (scanOra p t)) ⟨j⟩ none (scanWhile p (cps t) j).2
      (·.v0 = (scanWhile p (cps t) j).1) := by
  fun_induction scanWhile p (cps t) j with
  | case1 j h1 h2 r ih =>
    -- the model runs on `cps t`, the step on `t`: `omega` in `py_eval` needs the loop test about `t.length` (so in every case of the
    -- three RTF walks)
    rw [length_cps] at h1
    exact .next (by py_eval [rtf_scan_alpha.step, getItemN_ite', scanOra, opq, h2]) ih
  | case2 j h1 h2 =>
    rw [length_cps] at h1
    exact .stop (by py_eval [rtf_scan_alpha.step, getItemN_ite', scanOra, opq, h2]) rfl
  | case3 j h1 =>
    rw [length_cps] at h1
    exact .stop (by py_eval [rtf_scan_alpha.step, getItemN_ite', scanOra, opq]) rfl

/-- AGREEMENT (`while j < n and text[j].isalpha()` from `j = i + 1`) -/
theorem rtf_scan_alpha_agree (p : Nat → Bool) (t : List Char) (i : Nat) :
    ∃ o, run (rtf_scan_alpha.step (rtf_scan_alpha.init t i).1 (scanOra p t)) (rtf_scan_alpha_m (rtf_scan_alpha.init t i).1)
        (rtf_scan_alpha_next _ _) (rtf_scan_alpha.init t i).2 = .ok o ∧ o.result = none ∧
      o.final.v0 = (scanWhile p (cps t) (i + 1)).1 ∧ o.steps = (scanWhile p (cps t) (i + 1)).2 :=
  (rtf_scan_alpha_ends p t (i + 1)).outcome _ _

def rtf_scan_param_m (env : rtf_scan_param.Env) (s : rtf_scan_param.State) : Nat := env.v0 - s.v0

theorem rtf_scan_param_next (env : rtf_scan_param.Env) (ora) (s s' : rtf_scan_param.State)
    (h : rtf_scan_param.step env ora s = .ok (.next s')) : env.v0 - s'.v0 < env.v0 - s.v0 := by
  unfold rtf_scan_param.step at h
  py_step_nf [getItemN_ite'] [] at h
  cases s'
  py_variant_omega h [rtf_scan_param.State.mk.injEq]

theorem rtf_scan_param_variant (env : rtf_scan_param.Env) (ora) (s s' : rtf_scan_param.State)
    (h : rtf_scan_param.stepO env ora s = .ok (some s')) : rtf_scan_param_m env s' < rtf_scan_param_m env s :=
  rtf_scan_param_next env ora s s' (map_toOption_some h)

/-- oracle of the second scan: bit 0 = `text[j].isdigit()`, bit 1 = `text[j] == "-"` -/
def paramOra (digit : Nat → Bool) (t : List Char) : rtf_scan_param.State → Nat → Bool :=
  fun st k => if k = 0 then digit (strAt (cps t) st.v0) else strAt (cps t) st.v0 == 45

theorem rtf_scan_param_ends (digit : Nat → Bool) (t : List Char) (j : Nat) :
    Ends (rtf_scan_param.step ⟨t.length, t⟩ (paramOra digit t)) ⟨j⟩ none
      (scanWhile (fun c => digit c || c == 45) (cps t) j).2 (·.v0 = (scanWhile (fun c => digit c || c == 45) (cps t) j).1) := by
  fun_induction scanWhile (fun c => digit c || c == 45) (cps t) j with
  | case1 j h1 h2 r ih =>
    rw [length_cps] at h1
    exact .next (by py_eval [rtf_scan_param.step, getItemN_ite', paramOra, opq, h2]) ih
  | case2 j h1 h2 =>
    rw [length_cps] at h1
    exact .stop (by py_eval [rtf_scan_param.step, getItemN_ite', paramOra, opq, h2]) rfl
  | case3 j h1 =>
    rw [length_cps] at h1
    exact .stop (by py_eval [rtf_scan_param.step, getItemN_ite', paramOra, opq]) rfl

theorem rtf_scan_param_agree (digit : Nat → Bool) (t : List Char) (j : Nat) :
    ∃ o, run (rtf_scan_param.step (rtf_scan_param.init t j).1 (paramOra digit t)) (rtf_scan_param_m (rtf_scan_param.init t j).1)
        (rtf_scan_param_next _ _) (rtf_scan_param.init t j).2 = .ok o ∧ o.result = none ∧
      o.final.v0 = (scanWhile (fun c => digit c || c == 45) (cps t) j).1 ∧
      o.steps = (scanWhile (fun c => digit c || c == 45) (cps t) j).2 :=
  (rtf_scan_param_ends digit t j).outcome _ _

def rtf_skip_group_m (env : rtf_skip_group.Env) (s : rtf_skip_group.State) : Nat := env.v0 - s.v0

theorem rtf_skip_group_next (env : rtf_skip_group.Env) (ora) (s s' : rtf_skip_group.State)
    (h : rtf_skip_group.step env ora s = .ok (.next s')) : env.v0 - s'.v0 < env.v0 - s.v0 := by
  unfold rtf_skip_group.step at h
  py_step_nf [getItemN_ite'] [] at h
  cases s'
  py_variant_omega h [rtf_skip_group.State.mk.injEq]

theorem rtf_skip_group_variant (env : rtf_skip_group.Env) (ora) (s s' : rtf_skip_group.State)
    (h : rtf_skip_group.stepO env ora s = .ok (some s')) : rtf_skip_group_m env s' < rtf_skip_group_m env s :=
  rtf_skip_group_next env ora s s' (map_toOption_some h)

/-- oracle of the group skipper: bit 0 = `text[i] == "{"`, bit 1 = `text[i] == "}"` -/
def skipOra (t : List Char) : rtf_skip_group.State → Nat → Bool :=
  fun st k => if k = 0 then strAt (cps t) st.v0 == 123 else strAt (cps t) st.v0 == 125

theorem rtf_skip_group_ends (t : List Char) (i : Nat) (depth : Int) :
    Ends (rtf_skip_group.step ⟨t.length, t⟩ (skipOra t)) ⟨i, depth⟩ none (skipGroup (cps t) i depth).2
      (·.v0 = (skipGroup (cps t) i depth).1) := by
  fun_induction skipGroup (cps t) i depth with
  | case1 i depth h1 c h2 r ih =>
    rw [length_cps] at h1
    exact .next (s' := ⟨i + 1, depth + 1⟩) (by py_eval [rtf_skip_group.step, getItemN_ite', skipOra, opq, h2]) ih
  | case2 i depth h1 c h2 h3 h4 =>
    rw [length_cps] at h1
    exact .brk (s' := ⟨i + 1, depth - 1⟩) (by py_eval [rtf_skip_group.step, getItemN_ite', skipOra, opq, h2, h3, h4]) rfl
  | case3 i depth h1 c h2 h3 h4 r ih =>
    rw [length_cps] at h1
    exact .next (s' := ⟨i + 1, depth - 1⟩) (by py_eval [rtf_skip_group.step, getItemN_ite', skipOra, opq, h2, h3, h4]) ih
  | case4 i depth h1 c h2 h3 r ih =>
    rw [length_cps] at h1
    exact .next (s' := ⟨i + 1, depth⟩) (by py_eval [rtf_skip_group.step, getItemN_ite', skipOra, opq, h2, h3]) ih
  | case5 i depth h1 =>
    rw [length_cps] at h1
    exact .stop (by py_eval [rtf_skip_group.step, getItemN_ite', skipOra, opq]) rfl

/-- AGREEMENT (group skipper, from `depth = 0` at any `i`): final `i` and iteration count of `skipGroup` -/
theorem rtf_skip_group_agree (t : List Char) (i : Nat) :
    ∃ o, run (rtf_skip_group.step (rtf_skip_group.init t i).1 (skipOra t)) (rtf_skip_group_m (rtf_skip_group.init t i).1)
        (rtf_skip_group_next _ _) (rtf_skip_group.init t i).2 = .ok o ∧ o.result = none ∧
      o.final.v0 = (skipGroup (cps t) i 0).1 ∧ o.steps = (skipGroup (cps t) i 0).2 :=
  (rtf_skip_group_ends t i 0).outcome _ _

/-! ## rtf: `while k and (control_word[k-1].isdigit() or control_word[k-1] == "-"): k -= 1` -/

/-- `k` is an `int` (`k -= 1`): `k + len(control_word)` clipped at 0 — a NEGATIVE `k` walks down until the index leaves
    the string and `IndexError` ends the loop -/
def rtf_trim_back_m (env : rtf_trim_back.Env) (s : rtf_trim_back.State) : Nat := (s.v0 + env.v0.length).toNat

theorem rtf_trim_back_next (env : rtf_trim_back.Env) (ora) (s s' : rtf_trim_back.State)
    (h : rtf_trim_back.step env ora s = .ok (.next s')) :
    (s'.v0 + env.v0.length).toNat < (s.v0 + env.v0.length).toNat := by
  unfold rtf_trim_back.step at h
  py_step_nf [getItem_ite] [] at h
  cases s'
  py_variant_omega h [rtf_trim_back.State.mk.injEq]

theorem rtf_trim_back_variant (env : rtf_trim_back.Env) (ora) (s s' : rtf_trim_back.State)
    (h : rtf_trim_back.stepO env ora s = .ok (some s')) : rtf_trim_back_m env s' < rtf_trim_back_m env s :=
  rtf_trim_back_next env ora s s' (map_toOption_some h)

def trimOra (digit : Nat → Bool) (w : List Char) : rtf_trim_back.State → Nat → Bool :=
  fun st k => if k = 0 then digit (strAt (cps w) (st.v0 - 1).toNat) else strAt (cps w) (st.v0 - 1).toNat == 45

theorem rtf_trim_back_ends (digit : Nat → Bool) (w : List Char) (k : Nat) (hk : k ≤ w.length) :
    Ends (rtf_trim_back.step ⟨w⟩ (trimOra digit w)) ⟨(k : Int)⟩ none
      (trimBack (fun c => digit c || c == 45) ((cps w).take k).reverse).2
      (·.v0 = ((trimBack (fun c => digit c || c == 45) ((cps w).take k).reverse).1 : Nat)) := by
  induction k with
  | zero => exact .stop (by py_eval [rtf_trim_back.step, truthy_int, bne_self_eq_false]) (by simp [trimBack])
  | succ k ih =>
    have hk' : k < (cps w).length := by rw [length_cps]; omega
    rw [reverse_take_succ (cps w) k hk']
    have e : ((k + 1 : Nat) : Int) - 1 = (k : Int) := by omega
    have t : (((k + 1 : Nat) : Int) != 0) = true := by simp; omega
    rw [length_cps] at hk'
    by_cases hp : (digit (strAt (cps w) k) || strAt (cps w) k == 45) = true
    · simp only [trimBack, hp, if_true]
      exact .next (s' := ⟨(k : Int)⟩)
        (by py_eval [rtf_trim_back.step, getItem_ite, trimOra, opq, truthy_int, t, Bool.true_and, e, Int.toNat_natCast, hp])
        (ih (by omega))
    · simp only [trimBack, hp]
      exact .stop (by py_eval [rtf_trim_back.step, getItem_ite, trimOra, opq, truthy_int, t, Bool.true_and, e, Int.toNat_natCast, hp])
        (by simp [cps]; omega)

/-- AGREEMENT (`k = len(control_word)`, trailing digits / `-` trimmed): `trimBack` on the reversed word -/
theorem rtf_trim_back_agree (digit : Nat → Bool) (w : List Char) :
    ∃ o, run (rtf_trim_back.step (rtf_trim_back.init w).1 (trimOra digit w)) (rtf_trim_back_m (rtf_trim_back.init w).1)
        (rtf_trim_back_next _ _) (rtf_trim_back.init w).2 = .ok o ∧ o.result = none ∧
      o.final.v0 = ((trimBack (fun c => digit c || c == 45) (cps w).reverse).1 : Nat) ∧
      o.steps = (trimBack (fun c => digit c || c == 45) (cps w).reverse).2 := by
  have h := rtf_trim_back_ends digit w w.length (Nat.le_refl _)
  rw [show (cps w).take w.length = cps w from List.take_of_length_le (by rw [length_cps]; exact Nat.le_refl _)] at h
  exact h.outcome _ _

/-! ## stack pops (`data_types.py` ×3, `ppt_extractor._parse_containers`, `ods_extractor._extract_sheet`) — the stack is a
    Python list whose top is its LAST element; the models take it top first.  `pop_headings_doc` / `_docx` / `_odt` are three
    classes' copies of one loop, translated into three namespaces: their declarations are alike but for the namespace, and a
    change to one is a change to all three -/

def pop_headings_doc_m (_ : pop_headings_doc.Env) (s : pop_headings_doc.State) : Nat := s.v0.length

private theorem pop_headings_doc_nil (level : Int) (ora) : pop_headings_doc.step ⟨level⟩ ora ⟨[]⟩ = .ok .stop := by
  py_eval [pop_headings_doc.step, truthy_list, List.isEmpty_nil, Bool.not_true]

private theorem pop_headings_doc_cons (level : Int) (ora) (xs : List (Int × List Char)) (a : Int × List Char) :
    pop_headings_doc.step ⟨level⟩ ora ⟨xs ++ [a]⟩ = .ok (if decide (a.1 ≥ level) then .next ⟨xs⟩ else .stop) := by
  by_cases hl : a.1 ≥ level <;>
    py_eval [pop_headings_doc.step, getItem_last, listPop_last, truthy_append_singleton, hl]

theorem pop_headings_doc_next (env : pop_headings_doc.Env) (ora) (s s' : pop_headings_doc.State)
    (h : pop_headings_doc.step env ora s = .ok (.next s')) : s'.v0.length < s.v0.length :=
  pop_next pop_headings_doc.State.mk (·.v0) (fun _ => rfl) (fun _ => rfl) _ (pop_headings_doc_nil env.v0 ora)
    (fun xs a => ⟨_, pop_headings_doc_cons env.v0 ora xs a⟩) s s' h

theorem pop_headings_doc_variant (env : pop_headings_doc.Env) (ora) (s s' : pop_headings_doc.State)
    (h : pop_headings_doc.stepO env ora s = .ok (some s')) : pop_headings_doc_m env s' < pop_headings_doc_m env s :=
  pop_headings_doc_next env ora s s' (map_toOption_some h)

theorem pop_headings_doc_ends (level : Int) (ora) (rs : List (Int × List Char)) :
    Ends (pop_headings_doc.step ⟨level⟩ ora) ⟨rs.reverse⟩ none (popHeadings level (rs.map (·.1))).2
      (·.v0.reverse.map (·.1) = (popHeadings level (rs.map (·.1))).1) := by
  rw [popHeadings_map]
  exact (pop_ends pop_headings_doc.State.mk _ (fun a => decide (a.1 ≥ level)) (pop_headings_doc_nil level ora) (pop_headings_doc_cons level ora) rs).imp
    fun fin hp => by simp [hp]

/-- AGREEMENT (heading stacks; the Python list is the model's stack reversed): remaining levels and pop count -/
theorem pop_headings_doc_agree (level : Int) (ora) (rs : List (Int × List Char)) :
    ∃ o, run (pop_headings_doc.step (pop_headings_doc.init level rs.reverse).1 ora) (pop_headings_doc_m (pop_headings_doc.init level rs.reverse).1)
        (pop_headings_doc_next _ _) (pop_headings_doc.init level rs.reverse).2 = .ok o ∧ o.result = none ∧
      o.final.v0.reverse.map (·.1) = (popHeadings level (rs.map (·.1))).1 ∧ o.steps = (popHeadings level (rs.map (·.1))).2 :=
  (pop_headings_doc_ends level ora rs).outcome _ _

def pop_headings_docx_m (_ : pop_headings_docx.Env) (s : pop_headings_docx.State) : Nat := s.v0.length

private theorem pop_headings_docx_nil (level : Int) (ora) : pop_headings_docx.step ⟨level⟩ ora ⟨[]⟩ = .ok .stop := by
  py_eval [pop_headings_docx.step, truthy_list, List.isEmpty_nil, Bool.not_true]

private theorem pop_headings_docx_cons (level : Int) (ora) (xs : List (Int × List Char)) (a : Int × List Char) :
    pop_headings_docx.step ⟨level⟩ ora ⟨xs ++ [a]⟩ = .ok (if decide (a.1 ≥ level) then .next ⟨xs⟩ else .stop) := by
  by_cases hl : a.1 ≥ level <;>
    py_eval [pop_headings_docx.step, getItem_last, listPop_last, truthy_append_singleton, hl]

theorem pop_headings_docx_next (env : pop_headings_docx.Env) (ora) (s s' : pop_headings_docx.State)
    (h : pop_headings_docx.step env ora s = .ok (.next s')) : s'.v0.length < s.v0.length :=
  pop_next pop_headings_docx.State.mk (·.v0) (fun _ => rfl) (fun _ => rfl) _ (pop_headings_docx_nil env.v0 ora)
    (fun xs a => ⟨_, pop_headings_docx_cons env.v0 ora xs a⟩) s s' h

theorem pop_headings_docx_variant (env : pop_headings_docx.Env) (ora) (s s' : pop_headings_docx.State)
    (h : pop_headings_docx.stepO env ora s = .ok (some s')) : pop_headings_docx_m env s' < pop_headings_docx_m env s :=
  pop_headings_docx_next env ora s s' (map_toOption_some h)

theorem pop_headings_docx_ends (level : Int) (ora) (rs : List (Int × List Char)) :
    Ends (pop_headings_docx.step ⟨level⟩ ora) ⟨rs.reverse⟩ none (popHeadings level (rs.map (·.1))).2
      (·.v0.reverse.map (·.1) = (popHeadings level (rs.map (·.1))).1) := by
  rw [popHeadings_map]
  exact (pop_ends pop_headings_docx.State.mk _ (fun a => decide (a.1 ≥ level)) (pop_headings_docx_nil level ora) (pop_headings_docx_cons level ora) rs).imp
    fun fin hp => by simp [hp]

theorem pop_headings_docx_agree (level : Int) (ora) (rs : List (Int × List Char)) :
    ∃ o, run (pop_headings_docx.step (pop_headings_docx.init level rs.reverse).1 ora) (pop_headings_docx_m (pop_headings_docx.init level rs.reverse).1)
        (pop_headings_docx_next _ _) (pop_headings_docx.init level rs.reverse).2 = .ok o ∧ o.result = none ∧
      o.final.v0.reverse.map (·.1) = (popHeadings level (rs.map (·.1))).1 ∧ o.steps = (popHeadings level (rs.map (·.1))).2 :=
  (pop_headings_docx_ends level ora rs).outcome _ _

def pop_headings_odt_m (_ : pop_headings_odt.Env) (s : pop_headings_odt.State) : Nat := s.v0.length

private theorem pop_headings_odt_nil (level : Int) (ora) : pop_headings_odt.step ⟨level⟩ ora ⟨[]⟩ = .ok .stop := by
  py_eval [pop_headings_odt.step, truthy_list, List.isEmpty_nil, Bool.not_true]

private theorem pop_headings_odt_cons (level : Int) (ora) (xs : List (Int × List Char)) (a : Int × List Char) :
    pop_headings_odt.step ⟨level⟩ ora ⟨xs ++ [a]⟩ = .ok (if decide (a.1 ≥ level) then .next ⟨xs⟩ else .stop) := by
  by_cases hl : a.1 ≥ level <;>
    py_eval [pop_headings_odt.step, getItem_last, listPop_last, truthy_append_singleton, hl]

theorem pop_headings_odt_next (env : pop_headings_odt.Env) (ora) (s s' : pop_headings_odt.State)
    (h : pop_headings_odt.step env ora s = .ok (.next s')) : s'.v0.length < s.v0.length :=
  pop_next pop_headings_odt.State.mk (·.v0) (fun _ => rfl) (fun _ => rfl) _ (pop_headings_odt_nil env.v0 ora)
    (fun xs a => ⟨_, pop_headings_odt_cons env.v0 ora xs a⟩) s s' h

theorem pop_headings_odt_variant (env : pop_headings_odt.Env) (ora) (s s' : pop_headings_odt.State)
    (h : pop_headings_odt.stepO env ora s = .ok (some s')) : pop_headings_odt_m env s' < pop_headings_odt_m env s :=
  pop_headings_odt_next env ora s s' (map_toOption_some h)

theorem pop_headings_odt_ends (level : Int) (ora) (rs : List (Int × List Char)) :
    Ends (pop_headings_odt.step ⟨level⟩ ora) ⟨rs.reverse⟩ none (popHeadings level (rs.map (·.1))).2
      (·.v0.reverse.map (·.1) = (popHeadings level (rs.map (·.1))).1) := by
  rw [popHeadings_map]
  exact (pop_ends pop_headings_odt.State.mk _ (fun a => decide (a.1 ≥ level)) (pop_headings_odt_nil level ora) (pop_headings_odt_cons level ora) rs).imp
    fun fin hp => by simp [hp]

theorem pop_headings_odt_agree (level : Int) (ora) (rs : List (Int × List Char)) :
    ∃ o, run (pop_headings_odt.step (pop_headings_odt.init level rs.reverse).1 ora) (pop_headings_odt_m (pop_headings_odt.init level rs.reverse).1)
        (pop_headings_odt_next _ _) (pop_headings_odt.init level rs.reverse).2 = .ok o ∧ o.result = none ∧
      o.final.v0.reverse.map (·.1) = (popHeadings level (rs.map (·.1))).1 ∧ o.steps = (popHeadings level (rs.map (·.1))).2 :=
  (pop_headings_odt_ends level ora rs).outcome _ _

def pop_ended_m (_ : pop_ended.Env) (s : pop_ended.State) : Nat := s.v0.length

private theorem pop_ended_nil (ora) : pop_ended.step ⟨⟩ ora ⟨[]⟩ = .ok .stop := by
  py_eval [pop_ended.step, truthy_list, List.isEmpty_nil, Bool.not_true]

private theorem pop_ended_cons (ora) (xs : List (Nat × Nat)) (a : Nat × Nat) :
    pop_ended.step ⟨⟩ ora ⟨xs ++ [a]⟩ = .ok (if ora ⟨xs ++ [a]⟩ 0 then .next ⟨xs⟩ else .stop) := by
  by_cases hl : ora ⟨xs ++ [a]⟩ 0 = true <;>
    py_eval [pop_ended.step, getItem_last, listPop_last, truthy_append_singleton, ite_self, hl]

theorem pop_ended_next (env : pop_ended.Env) (ora) (s s' : pop_ended.State)
    (h : pop_ended.step env ora s = .ok (.next s')) : s'.v0.length < s.v0.length :=
  pop_next pop_ended.State.mk (·.v0) (fun _ => rfl) (fun _ => rfl) _ (pop_ended_nil ora)
    (fun xs a => ⟨_, pop_ended_cons ora xs a⟩) s s' h

theorem pop_ended_variant (env : pop_ended.Env) (ora) (s s' : pop_ended.State)
    (h : pop_ended.stepO env ora s = .ok (some s')) : pop_ended_m env s' < pop_ended_m env s :=
  pop_ended_next env ora s s' (map_toOption_some h)

/-- bit 0 (`record.offset >= container_stack[-1][1]`) answered for a record at `recOffset`; the other bits (is the
    list of collected texts non-empty) answered by `o` -/
def endedOra (recOffset : Nat) (o : pop_ended.State → Nat → Bool) : pop_ended.State → Nat → Bool :=
  fun st k => if k = 0 then decide (recOffset ≥ (st.v0.getLast?.map (·.2)).getD 0) else o st k

theorem pop_ended_ends (recOffset : Nat) (o') (rs : List (Nat × Nat)) :
    Ends (pop_ended.step ⟨⟩ (endedOra recOffset o')) ⟨rs.reverse⟩ none (popEnded recOffset rs).2
      (·.v0.reverse = (popEnded recOffset rs).1) := by
  rw [popEnded_pop]
  exact (pop_ends pop_ended.State.mk _ (fun r => decide (recOffset ≥ r.2)) (pop_ended_nil _)
    (fun xs a => by rw [pop_ended_cons]; simp [endedOra]) rs).imp fun fin hp => by simp [hp]

/-- AGREEMENT (ended PPT containers) for a record at `recOffset`, whatever the other tests answer -/
theorem pop_ended_agree (recOffset : Nat) (o') (rs : List (Nat × Nat)) :
    ∃ o, run (pop_ended.step (pop_ended.init rs.reverse).1 (endedOra recOffset o')) (pop_ended_m (pop_ended.init rs.reverse).1)
        (pop_ended_next _ _) (pop_ended.init rs.reverse).2 = .ok o ∧ o.result = none ∧
      o.final.v0.reverse = (popEnded recOffset rs).1 ∧ o.steps = (popEnded recOffset rs).2 :=
  (pop_ended_ends recOffset o' rs).outcome _ _

def trim_empty_rows_m (_ : trim_empty_rows.Env) (s : trim_empty_rows.State) : Nat := s.v0.length

private theorem trim_empty_rows_nil (ora) : trim_empty_rows.step ⟨⟩ ora ⟨[]⟩ = .ok .stop := by
  py_eval [trim_empty_rows.step, truthy_list, List.isEmpty_nil, Bool.not_true]

private theorem trim_empty_rows_cons (ora) (xs : List (List (Unit × List Char))) (a : List (Unit × List Char)) :
    trim_empty_rows.step ⟨⟩ ora ⟨xs ++ [a]⟩ = .ok (if ora ⟨xs ++ [a]⟩ 0 then .next ⟨xs⟩ else .stop) := by
  by_cases hl : ora ⟨xs ++ [a]⟩ 0 = true <;>
    py_eval [trim_empty_rows.step, getItem_last, listPop_last, truthy_append_singleton, opq, hl]

theorem trim_empty_rows_next (env : trim_empty_rows.Env) (ora) (s s' : trim_empty_rows.State)
    (h : trim_empty_rows.step env ora s = .ok (.next s')) : s'.v0.length < s.v0.length :=
  pop_next trim_empty_rows.State.mk (·.v0) (fun _ => rfl) (fun _ => rfl) _ (trim_empty_rows_nil ora)
    (fun xs a => ⟨_, trim_empty_rows_cons ora xs a⟩) s s' h

theorem trim_empty_rows_variant (env : trim_empty_rows.Env) (ora) (s s' : trim_empty_rows.State)
    (h : trim_empty_rows.stepO env ora s = .ok (some s')) : trim_empty_rows_m env s' < trim_empty_rows_m env s :=
  trim_empty_rows_next env ora s s' (map_toOption_some h)

/-- `all(v[0] is None for v in raw_rows[-1])` as a function `f` of the last row -/
def rowsOra (f : List (Unit × List Char) → Bool) : trim_empty_rows.State → Nat → Bool :=
  fun st _ => f (st.v0.getLast?.getD [])

theorem trim_empty_rows_ends (f : List (Unit × List Char) → Bool) (rs : List (List (Unit × List Char))) :
    Ends (trim_empty_rows.step ⟨⟩ (rowsOra f)) ⟨rs.reverse⟩ none (trimEmptyRows (rs.map fun r => [f r])).2
      (·.v0.length = (trimEmptyRows (rs.map fun r => [f r])).1.length) := by
  rw [trimEmptyRows_map]
  exact (pop_ends trim_empty_rows.State.mk _ f (trim_empty_rows_nil _)
    (fun xs a => by rw [trim_empty_rows_cons]; simp [rowsOra]) rs).imp fun fin hp => by simp [hp]

/-- AGREEMENT (trailing all-`None` ODS rows), `f` = "every typed value of this row is None" -/
theorem trim_empty_rows_agree (f : List (Unit × List Char) → Bool) (rs : List (List (Unit × List Char))) :
    ∃ o, run (trim_empty_rows.step (trim_empty_rows.init rs.reverse).1 (rowsOra f)) (trim_empty_rows_m (trim_empty_rows.init rs.reverse).1)
        (trim_empty_rows_next _ _) (trim_empty_rows.init rs.reverse).2 = .ok o ∧ o.result = none ∧
      o.final.v0.length = (trimEmptyRows (rs.map fun r => [f r])).1.length ∧
      o.steps = (trimEmptyRows (rs.map fun r => [f r])).2 :=
  (trim_empty_rows_ends f rs).outcome _ _

/-! ## pdf/pdf_extractor.py : _TableExtractor._extract_row -/

def trailing_numeric_m (_ : trailing_numeric.Env) (s : trailing_numeric.State) : Nat := (s.v0 + 1).toNat

theorem trailing_numeric_next (env : trailing_numeric.Env) (ora) (s s' : trailing_numeric.State)
    (h : trailing_numeric.step env ora s = .ok (.next s')) : (s'.v0 + 1).toNat < (s.v0 + 1).toNat := by
  unfold trailing_numeric.step at h
  py_step_nf [getItem_ite] [] at h
  cases s'
  py_variant_omega h [trailing_numeric.State.mk.injEq]

theorem trailing_numeric_variant (env : trailing_numeric.Env) (ora) (s s' : trailing_numeric.State)
    (h : trailing_numeric.stepO env ora s = .ok (some s')) : trailing_numeric_m env s' < trailing_numeric_m env s :=
  trailing_numeric_next env ora s s' (map_toOption_some h)

/-- `self.is_numeric_token(tokens[idx])` as a predicate `p` on the token at `idx` -/
def numOra (p : List Char → Bool) (tokens : List (List Char)) : trailing_numeric.State → Nat → Bool :=
  fun st _ => p (tokens[st.v0.toNat]?.getD default)

theorem trailing_numeric_ends (p : List Char → Bool) (tokens : List (List Char)) (k : Nat) (hk : k ≤ tokens.length) :
    ∀ vs, Ends (trailing_numeric.step ⟨tokens⟩ (numOra p tokens)) ⟨(k : Int) - 1, vs⟩ none
      (trailingNumeric ((tokens.take k).map p).reverse).2
      (·.v1.length = vs.length + (trailingNumeric ((tokens.take k).map p).reverse).1) := by
  induction k with
  | zero => exact fun vs => .stop (by py_eval [trailing_numeric.step, getItem_ite, opq]) (by simp [trailingNumeric])
  | succ k ih =>
    intro vs
    have hk' : k < tokens.length := by omega
    rw [List.reverse_map_take_succ p tokens k hk', show ((k + 1 : Nat) : Int) - 1 = (k : Int) by omega]
    by_cases hp : p (tokens[k]?.getD default) = true
    · simp only [trailingNumeric, hp, if_true]
      exact .next (s' := ⟨(k : Int) - 1, vs ++ [tokens[k]?.getD default]⟩)
        (by py_eval [trailing_numeric.step, getItem_ite, numOra, opq, Int.toNat_natCast, hp])
        ((ih (by omega) _).imp fun fin h => by rw [h, List.length_append, List.length_singleton]; omega)
    · simp only [trailingNumeric, hp]
      exact .stop (by py_eval [trailing_numeric.step, getItem_ite, numOra, opq, Int.toNat_natCast, hp]) rfl

/-- AGREEMENT (`_extract_row`: trailing numeric tokens), `p` = `is_numeric_token` -/
theorem trailing_numeric_agree (p : List Char → Bool) (tokens : List (List Char)) :
    ∃ o, run (trailing_numeric.step (trailing_numeric.init tokens).1 (numOra p tokens)) (trailing_numeric_m (trailing_numeric.init tokens).1)
        (trailing_numeric_next _ _) (trailing_numeric.init tokens).2 = .ok o ∧ o.result = none ∧
      o.final.v1.length = (trailingNumeric ((tokens.map p).reverse)).1 ∧
      o.steps = (trailingNumeric ((tokens.map p).reverse)).2 := by
  have h := trailing_numeric_ends p tokens tokens.length (Nat.le_refl _) []
  simp only [List.take_length, List.length_nil, Nat.zero_add] at h
  exact h.outcome _ _

/-! ## pdf/_pypdf_aes_fallback.py : _gf_mul — `while b: … b >>= 1` (REUSED from `tools/gen/pyfun_aes.py`)

`S2T.Gen.PyAes._gf_mul.while_1` is generated from the loop as a well-founded recursion on `b` whose `decreasing_by` proof
(`b >>> 1 < b` from the loop test) Lean checks when it compiles the generated file: that IS the variant theorem of this
loop, for all states.  What is added here is the agreement with the loop model of `S2T/Model/Loops.lean` (the one the
step-count theorem `C12.Loops.steps_gfMul` is about; `C20.Src.gf_mul_while` ties the same translation to `S2T.Aes`). -/

theorem xtime_loops : ∀ a, a < 256 → S2T.Gen.PyAes._xtime a = S2T.Loops.xtime a ∧ S2T.Gen.PyAes._xtime a < 256 := by
  decide +kernel

/-- AGREEMENT: the translated loop computes the model's result from every state with `a` a byte -/
theorem gf_mul_while_agree (a b r : Nat) (ha : a < 256) :
    (S2T.Gen.PyAes._gf_mul.while_1 a b r).2.2 % 256 = (S2T.Loops.gfMulLoop a b r).1 := by
  fun_induction S2T.Loops.gfMulLoop a b r with
  | case1 a r =>
    rw [S2T.Gen.PyAes._gf_mul.while_1]; simp [truthy_nat]
  | case2 a b r h rr ih =>
    rw [S2T.Gen.PyAes._gf_mul.while_1]
    have hx := xtime_loops a ha
    simp +instances only [truthy_nat, bne_iff_ne, ne_eq, h, not_false_eq_true, dite_true]
    simp only [Id.run, pure]
    have e1 : b >>> 1 = b / 2 := by rw [Nat.shiftRight_eq_div_pow]
    have hx2 : S2T.Loops.xtime a < 256 := hx.1 ▸ hx.2
    split <;> simp_all +zetaDelta

/-- `_gf_mul(a, b)` is the result of the loop model, for all non-negative ints -/
theorem gf_mul_agree (a b : Nat) : S2T.Gen.PyAes._gf_mul a b = (S2T.Loops.gfMul a b).1 := by
  have ea : a &&& 255 = a % 256 := Nat.and_two_pow_sub_one_eq_mod a 8
  have eb : b &&& 255 = b % 256 := Nat.and_two_pow_sub_one_eq_mod b 8
  have h := gf_mul_while_agree (a % 256) (b % 256) 0 (Nat.mod_lt _ (by decide))
  simp only [S2T.Gen.PyAes._gf_mul, S2T.Loops.gfMul, Id.run, pure, ea, eb]
  rw [← h]
  exact Nat.and_two_pow_sub_one_eq_mod _ 8

/-! ## util/sevenzip.py — header stream loops.  The reader methods (`_read_uint8`, `_read_number`, `_read_bytes`) are NOT
    translated: their calls are the hand models `S2T.Loops.readU8 / readNumber / readBytes` on (buffer, position), the
    position being an extra state field `pos` of the translated loop (TRUSTED name map, `S2T/Py/Loops.lean`).  What IS
    translated is the loop: which readers are called in which order, what ends it, what is done with the values. -/

/-- the exception a reader error is -/
def szExc : SzErr → Exc
  | .bad7z => bad7zFile
  | .overflow => overflowError

theorem szLift_ok {α} {x : Except SzErr α} {a : α} (h : x = .ok a) : szLift x = .ok a := by subst h; rfl

theorem szLift_error {α} {x : Except SzErr α} {e : SzErr} (h : x = .error e) : szLift x = .error (szExc e) := by
  subst h; cases e <;> rfl

theorem szLift_inv {α} {x : Except SzErr α} {a : α} (h : szLift x = .ok a) : x = .ok a := by
  cases x with
  | ok b => simpa [szLift] using h
  | error e => cases e <;> simp [szLift] at h

def sz_skip_props_m (env : sz_skip_props.Env) (s : sz_skip_props.State) : Nat := env.stream.length + 1 - s.pos

theorem sz_skip_props_next (env : sz_skip_props.Env) (ora) (s s' : sz_skip_props.State)
    (h : sz_skip_props.step env ora s = .ok (.next s')) :
    env.stream.length + 1 - s'.pos < env.stream.length + 1 - s.pos := by
  unfold sz_skip_props.step at h
  cases h8 : szReadU8 env.stream s.pos with
  | error e => simp [h8] at h
  | ok r8 =>
    have f8 := readU8_pos (szLift_inv h8)
    simp [h8] at h
    split at h
    · simp at h
    · cases hn : szReadNumber env.stream r8.pos with
      | error e => simp [hn] at h
      | ok rn =>
        have fn := readNumber_pos (szLift_inv hn)
        simp [hn] at h
        cases hb : szReadBytes env.stream rn.pos rn.val with
        | error e => simp [hb] at h
        | ok rb =>
          have fb := readBytes_pos (szLift_inv hb)
          simp [hb] at h
          subst h
          simp
          omega

/-- VARIANT (archive-property skipper): `len + 1 − pos` decreases — every iteration consumes at least the property id
    and the size number -/
theorem sz_skip_props_variant (env : sz_skip_props.Env) (ora) (s s' : sz_skip_props.State)
    (h : sz_skip_props.stepO env ora s = .ok (some s')) : sz_skip_props_m env s' < sz_skip_props_m env s :=
  sz_skip_props_next env ora s s' (map_toOption_some h)

theorem sz_skip_props_ends (d : List Nat) (ora) (pos : Nat) :
    ∀ pid, match skipArchiveProps d pos with
      | .ok (q, n) => Ends (sz_skip_props.step ⟨d⟩ ora) ⟨pid, pos⟩ none n (·.pos = q)
      | .error e => Fails (sz_skip_props.step ⟨d⟩ ora) ⟨pid, pos⟩ (szExc e) := by
  fun_induction skipArchiveProps d pos with
  | case1 pos e hp => exact fun pid => .here (by simp [sz_skip_props.step, szReadU8, szLift_error hp])
  | case2 pos p hp h0 =>
    exact fun pid => .brk (s' := ⟨p.val, p.pos⟩) (by simp [sz_skip_props.step, szReadU8, szLift_ok hp, h0]) rfl
  | case3 pos p hp h0 e hn =>
    exact fun pid => .here (by simp [sz_skip_props.step, szReadU8, szReadNumber, szLift_ok hp, h0, szLift_error hn])
  | case4 pos p hp h0 sz hn e hb =>
    exact fun pid => .here (by simp [sz_skip_props.step, szReadU8, szReadNumber, szReadBytes, szLift_ok hp, h0, szLift_ok hn, szLift_error hb])
  | case5 pos p hp h0 sz hn b hb e he ih | case6 pos p hp h0 sz hn b hb q s he ih =>
    intro pid
    have := ih p.val
    rw [he] at this
    exact .next (s' := ⟨p.val, b.pos⟩) (by simp [sz_skip_props.step, szReadU8, szReadNumber, szReadBytes, szLift_ok hp, h0, szLift_ok hn, szLift_ok hb]) this

/-- AGREEMENT with `skipArchiveProps`: position after the END byte and iteration count, or the SAME error class
    (`Bad7zFile` / `OverflowError`) -/
theorem sz_skip_props_agree (d : List Nat) (ora) (pid pos : Nat) :
    match skipArchiveProps d pos with
      | .ok (q, n) => ∃ o, run (sz_skip_props.step (sz_skip_props.init pid d pos).1 ora) (sz_skip_props_m (sz_skip_props.init pid d pos).1)
            (sz_skip_props_next _ ora) (sz_skip_props.init pid d pos).2 = .ok o ∧ o.result = none ∧ o.final.pos = q ∧ o.steps = n
      | .error e => run (sz_skip_props.step (sz_skip_props.init pid d pos).1 ora) (sz_skip_props_m (sz_skip_props.init pid d pos).1)
            (sz_skip_props_next _ ora) (sz_skip_props.init pid d pos).2 = .error (szExc e) := by
  have := sz_skip_props_ends d ora pos pid
  split <;> rename_i h <;> rw [h] at this
  · exact this.outcome _ _
  · exact this _ _

def sz_read_name_m (env : sz_read_name.Env) (s : sz_read_name.State) : Nat := env.stream.length - s.pos

theorem sz_read_name_next (env : sz_read_name.Env) (ora) (s s' : sz_read_name.State)
    (h : sz_read_name.step env ora s = .ok (.next s')) :
    env.stream.length - s'.pos < env.stream.length - s.pos := by
  unfold sz_read_name.step at h
  cases hb : szReadBytes env.stream s.pos 2 with
  | error e => simp [hb] at h
  | ok rb =>
    have fb := szLift_inv hb
    rw [readBytes_two] at fb
    split at fb
    · cases fb
      simp [hb] at h
      split at h <;> simp at h
      subst h
      simp; omega
    · cases fb

/-- VARIANT (one UTF-16 name): `len − pos` decreases by 2 -/
theorem sz_read_name_variant (env : sz_read_name.Env) (ora) (s s' : sz_read_name.State)
    (h : sz_read_name.stepO env ora s = .ok (some s')) : sz_read_name_m env s' < sz_read_name_m env s :=
  sz_read_name_next env ora s s' (map_toOption_some h)

theorem sz_read_name_ends (d : List Nat) (ora) (pos : Nat) :
    match readName d pos with
      | .ok (nm, q, n) => Ends (sz_read_name.step ⟨d⟩ ora) ⟨pos⟩ none n (·.pos = q)
      | .error e => Fails (sz_read_name.step ⟨d⟩ ora) ⟨pos⟩ (szExc e) := by
  fun_induction readName d pos with
  | case1 pos h1 c h0 =>
    have hr : szReadBytes d pos 2 = .ok ⟨_, pos + 2⟩ := szLift_ok (by rw [readBytes_two, if_pos h1])
    have : byte d pos = 0 ∧ byte d (pos + 1) = 0 := by simp +zetaDelta [u16le] at h0; omega
    exact .brk (s' := ⟨pos + 2⟩) (by simp [sz_read_name.step, hr, ← sliceN_model, slice2 d pos h1, this]) rfl
  | case2 pos h1 c h0 e he ih | case3 pos h1 c h0 nm p s he ih =>
    have hr : szReadBytes d pos 2 = .ok ⟨_, pos + 2⟩ := szLift_ok (by rw [readBytes_two, if_pos h1])
    have : ¬ (byte d pos = 0 ∧ byte d (pos + 1) = 0) := by simp +zetaDelta [u16le] at h0; omega
    rw [he] at ih
    exact .next (s' := ⟨pos + 2⟩) (by simp [sz_read_name.step, hr, ← sliceN_model, slice2 d pos h1, this]) ih
  | case4 pos h1 =>
    exact .here (by simp [sz_read_name.step, show szReadBytes d pos 2 = _ from szLift_error (by rw [readBytes_two, if_neg h1])])

/-- AGREEMENT with `readName`: position after the terminator and iteration count, or `Bad7zFile` -/
theorem sz_read_name_agree (d : List Nat) (ora) (pos : Nat) :
    match readName d pos with
      | .ok (nm, q, n) => ∃ o, run (sz_read_name.step (sz_read_name.init d pos).1 ora) (sz_read_name_m (sz_read_name.init d pos).1)
            (sz_read_name_next _ ora) (sz_read_name.init d pos).2 = .ok o ∧ o.result = none ∧ o.final.pos = q ∧ o.steps = n
      | .error e => run (sz_read_name.step (sz_read_name.init d pos).1 ora) (sz_read_name_m (sz_read_name.init d pos).1)
            (sz_read_name_next _ ora) (sz_read_name.init d pos).2 = .error (szExc e) := by
  have := sz_read_name_ends d ora pos
  split <;> rename_i h <;> rw [h] at this
  · exact this.outcome _ _
  · exact this _ _

/-- loops of the inventory (`S2T.Gen.Loops.whileLoops`) whose bodies stay hand-modelled (tied by the correspondence of
    `harness/builders/c12_loopcheck.py` and the inventory theorem only), with the construct that stopped the translator.  A list for
    the reader: its entries are prose, and no theorem relates it to `whileLoops` or to `translated` -/
def not_translated : List (String × String) := [
  ("doc_extractor._extract_png_images_from_bytes: outer `while True`",
   "its body contains the chunk-walk `while` (translated on its own: `png_chunks`): a `while` nested in a translated body is unsupported — the outer step would need the inner loop's `run` as a parameter with its variant proof"),
  ("rtf_extractor._remove_ignorable_groups: outer `while i < n`", "contains the group-skipping `while` (translated on its own: `rtf_skip_group`): nested `while`"),
  ("rtf_extractor._strip_rtf_full_with_pages: main `while i < n`", "contains three inner `while`s (each translated on its own), a regex match object whose `len(m.group(0))` moves `i`, and the nested function `flush_page`"),
  ("omml_to_latex.process_element: `while pending_sqrt_close and …`", "`converted.partition(pending_sqrt_close.pop())`: `list.pop()` used as a value inside an opaque call (only the statement / assignment forms are translated); `converted` is re-bound by every iteration"),
  ("pdf_extractor._patched_build_char_map: `while _CHAR_MAP_PATCH_ORIGINALS`", "the list is module state, not a local of the function (modelled with the rest of the patch section in C15)"),
  ("pdf_extractor._TableExtractor._normalize_values", "a `for … else` with `break` over `range(len(merged) - 1)` that rebuilds `merged` by slicing and concatenation inside the loop body; `re.fullmatch` results decide the branch"),
  ("pdf_extractor._TableExtractor._extract_word_date_header", "the test reads `len(self.lines)` — an attribute of `self` the loop analysis does not track (methods are translated only on their locals)"),
  ("pdf_extractor._TableExtractor._extract", "assumed loop of the inventory (125-line body of regex classifiers)"),
  ("sevenzip.SevenZipReader._parse_files_info: outer `while True`", "its body contains the name-reading `while` (translated on its own: `sz_read_name`) — nested `while` — and calls `self._read_boolean_vector`, `self._stream.tell()` / `.seek()`, which are not among the mapped readers"),
  ("sevenzip `_read_uint8`, `_read_uint32`, `_read_number`, `_read_bytes`, `_read_boolean_vector` (the readers themselves)", "not translated: `_read_number` and `_read_boolean_vector` are `for` loops over a `BytesIO`, hand-modelled (`S2T.Loops.readNumber`, `boolVectorBytes`) and used as primitives by the two translated 7z loops"),
  ("client.SharePointRestClient._get_folders_from_url / _list_items_paginated", "termination is the environment's business (`@odata.nextLink`)")
]

/-! A limit of the oracle abstraction: oracle bits stand for conditions on values the translation does not look into.  A change INSIDE such a condition
    (`text[j] == "-"` → `text[j] == "+"`, `record.offset >= container_stack[-1][1]` → `…[-1][0]`) does not change the
    translated step: it is left to the correspondence.  The theorems say what holds WHATEVER those conditions answer
    (variant) and what the loop computes when they answer as the model's predicates do (agreement). -/

end S2T.C12.LoopsSrc
