import S2T.Lemmas.Units
import S2T.Gen.Units
import S2T.Props.C03_Bound
import S2T.Props.C03_Src
import S2T.Props.C03_Carrier
import S2T.Props.C03_Walk
/-!
# C03 — Units mirror pages / slides / sheets / chapters / messages

Statement (fixed): `iterate_units()` yields exactly one unit per page, slide, sheet, EPUB chapter, mailbox
message or explicit RTF page (one unit, or one per heading section, for flowing-text formats), in source
order, each carrying its 1-based source position as unit number so that numbers are strictly increasing and
never repeat.  Together the units cover the body exactly: every piece of body text is returned in the unit it
belongs to and in no other (heading text counts as covered by the heading path of its section unit).  For
every format whose documentation derives the full text from the units (pdf, pptx, odp, xlsx, ods, epub, html,
plain text, e-mail, odg, odf) `get_full_text()` equals the trimmed newline-join of the unit texts.

All theorems quantify over every `Tables` value `T` (any whitespace set, any line-boundary set, any PPT type
sets) unless they mention `S2T.Gen.Units`, and over inputs of any size.  The model is
`S2T/Model/Units.lean`; the words the statements are written in beyond it (`StrictPos`, `evBodies`, `textOfLines`,
`docxKept`, `docxLost`, `docxBodies`, `docxHeads`, `endsHigh`, `rtfBreaks`) are defined in `S2T/Lemmas/Units.lean`.  The model describes
the tree with the three C03 fix patches applied (docx page-break text, ppt fallback slide number, rtf blank pages).

Open findings (full statement false on the current tree, see `known_findings.jsonl`):
* DOCX: while the heading path is empty — before the first heading, or under blank headings only — body
  paragraphs are in no unit when the document has a heading (`docx.text-before-first-heading-dropped`;
  the library's own test pins the resulting unit count for thesis-template.docx).
  FULL STATEMENT (false): `cover_docx`, see the comment there.
  Proved instead: `cover_docx_exact`, `cover_docx_partial`, `docx_preamble_dropped_counterexample`.
* DOC / ODT: a heading whose own section is empty and which is followed by a heading of the same or a
  higher level gets no unit; a document of headings only gets no unit at all.
  FULL STATEMENT (false): every heading text occurs in the heading path of some unit; `units ≠ []`.
  Proved instead: `cover_doc`, `cover_odt` (all body pieces, exactly once, in order) + counterexamples.
* PPT: `_parse_slide_list_container` drops text-less slides once any text was seen.
  FULL STATEMENT (false): `(parseSlideList T recs [] none false false).length = #SlidePersistAtoms`.
  Proved instead: `ppt_slide_list_count_partial` + `ppt_slide_list_drops_empty_counterexample`.
-/
namespace S2T.C03
open S2T.Units

abbrev G : Tables := S2T.Gen.Units.tables

/-- the result classes of the eleven formats whose full text the statement derives from the units -/
def joinClasses : List String :=
  ["PdfContent", "PptxContent", "OdpContent", "XlsxContent", "OdsContent", "EpubContent", "HtmlContent",
   "PlainTextContent", "EmailContent", "OdgContent", "OdfContent"]

/-- every one of them has a `get_full_text` that returns what `_join_unit_text` makes of `iterate_units()`
(found by the translator by running the current code with `_join_unit_text` replaced by a recorder) -/
theorem join_inventory : ∀ c ∈ joinClasses, S2T.Gen.Units.fullTextKinds.lookup c = some "join" := by decide

/-- every `enumerate(...)` that numbers units (five `iterate_units`, `read_pptx`,
`_build_slides_from_text_blocks`, `read_odp`) starts at 1 -/
theorem enum_starts_one : ∀ e ∈ S2T.Gen.Units.enumStarts, e.2 = 1 := by decide

/-- runtime values agree with the source literals; str.isspace / strip / split agree on the whitespace set -/
theorem gen_notes_empty : S2T.Gen.Units.notes = [] := by decide

/-- the order-affecting calls (sorted / reversed / .sort / set / dict re-keying / unordered executors …) that the
model accounts for inside the functions that build the unit sequence (`_compute_slide_order`, `read_pptx`, the PPT
slide-list functions, `_parse_spine`, `read_epub`, `_split_mbox_messages`, `read_mbox_format_mail`,
`_strip_rtf_full_with_pages`, `read_odp`, `read_ods`, `read_xlsx`, every `iterate_units`): image / table look-ups
(`reversed(units)` searches the last level-1 unit for an attachment, `set`/`setdefault` index anchors and notes) —
none of them touches the sequence of units -/
def allowedReorderCalls : List (String × String) :=
  [("DocContent.iterate_units", "reversed"), ("OdtContent.iterate_units", "reversed"),
   ("DocxContent.iterate_units", "set"), ("DocxContent.iterate_units", "setdefault"), ("_parse_ppt_document", "set")]

/-- closed world: no other call that can change or lose an order occurs in those functions of the current source —
the slide / chapter / page / message / sheet order of the model (`slideOrder`, `epubSpine`, `rtfPieces`, `mboxGo`,
`enumUnits`) is the document order because nothing re-sorts, de-duplicates or re-keys the sequence -/
theorem unit_builders_do_not_reorder : ∀ c ∈ S2T.Gen.Units.reorderCalls, c ∈ allowedReorderCalls := by decide

theorem numbers_pdf (ps : List Page) :
    (pdfUnits ps).map (·.number) = List.range' 1 ps.length ∧ StrictPos ((pdfUnits ps).map (·.number)) :=
  enumUnits_numbered _ (fun _ _ => rfl) _

theorem numbers_xls (T : Tables) (ss : List Sheet) :
    (xlsUnits T ss).map (·.number) = List.range' 1 ss.length ∧ StrictPos ((xlsUnits T ss).map (·.number)) :=
  enumUnits_numbered _ (fun _ _ => rfl) _

theorem numbers_xlsx (T : Tables) (ss : List Sheet) :
    (xlsxUnits T ss).map (·.number) = List.range' 1 ss.length ∧ StrictPos ((xlsxUnits T ss).map (·.number)) :=
  enumUnits_numbered _ (fun _ _ => rfl) _

theorem numbers_ods (T : Tables) (ss : List Sheet) :
    (odsUnits T ss).map (·.number) = List.range' 1 ss.length ∧ StrictPos ((odsUnits T ss).map (·.number)) :=
  enumUnits_numbered _ (fun _ _ => rfl) _

/-- plain text, HTML, ODG, ODF: exactly one unit, numbered 1 -/
theorem numbers_single (T : Tables) (c : Str) : (singleUnits T c).map (·.number) = [1] := rfl

/-- e-mail: exactly one unit (plain body, else HTML body, else empty), numbered 1 -/
theorem numbers_email (e : Email) : (emailUnits e).map (·.number) = [1] := by
  unfold emailUnits
  split
  · rfl
  · split <;> rfl

/-- RTF: one unit per entry of `pages`, blank or not, numbered by position; without pages at most one unit, numbered 1 -/
theorem numbers_rtf (T : Tables) (r : Rtf) :
    (r.pages ≠ [] → (rtfUnits T r).map (·.number) = List.range' 1 r.pages.length)
    ∧ StrictPos ((rtfUnits T r).map (·.number)) := by
  refine ⟨fun hp => ?_, strictPos_of_eq_range' (rtfUnits_numbers T r)⟩
  rw [rtfUnits_numbers, rtfUnits, if_pos hp, enumUnits_length]

/-- slide / chapter formats: the unit number is the number the extractor stored, one unit per stored slide -/
theorem numbers_ppt_field (ss : List PptSlide) : (pptUnits ss).map (·.number) = ss.map (·.number) := by
  simp [pptUnits, Function.comp_def]
theorem numbers_odp_field (ss : List PptSlide) : (odpUnits ss).map (·.number) = ss.map (·.number) := by
  simp [odpUnits, Function.comp_def]
theorem numbers_pptx_field (T : Tables) (ss : List PptxSlide) (cap : Bool) :
    (pptxUnits T ss cap).map (·.number) = ss.map (·.number) := by
  simp [pptxUnits, Function.comp_def]
theorem numbers_epub_field (cs : List Chapter) : (epubUnits cs).map (·.number) = cs.map (·.number) := by
  simp [epubUnits, Function.comp_def]

/-- PPTX end to end: `read_pptx` numbers the slides of `_compute_slide_order` 1..n, whatever
`_process_slide_from_context` (`mk`) extracts -/
theorem numbers_pptx (T : Tables) (mk : Str → PptxSlide) (rels : List Rel) (ids : List (Option Str)) (cap : Bool) :
    (pptxUnits T (pptxExtract mk (slideOrder rels ids)) cap).map (·.number) = List.range' 1 (slideOrder rels ids).length
    ∧ StrictPos ((pptxUnits T (pptxExtract mk (slideOrder rels ids)) cap).map (·.number)) := by
  -- the second conjunct follows from the first, so only that is proved; the type of `h` is read off the goal
  suffices h : _ from ⟨h, strictPos_of_eq_range' h⟩
  rw [numbers_pptx_field, pptxExtract, List.map_map]
  exact enumUnits_numbers _ (fun _ _ => rfl) 1 _

/-- ODP end to end: `read_odp` numbers the `draw:page` elements 1..n -/
theorem numbers_odp (mk : Str → PptSlide) (pages : List Str) :
    (odpUnits (odpExtract mk pages)).map (·.number) = List.range' 1 pages.length
    ∧ StrictPos ((odpUnits (odpExtract mk pages)).map (·.number)) := by
  suffices h : _ from ⟨h, strictPos_of_eq_range' h⟩
  rw [numbers_odp_field, odpExtract, List.map_map]
  exact enumUnits_numbers _ (fun _ _ => rfl) 1 _

private theorem addBlock_number (T : Tables) (s : PptSlide) (b : Block) : (addBlock T s b).number = s.number := by
  simp only [addBlock]
  cases s.title <;> simp only [apply_ite PptSlide.number, ite_self]

private theorem foldl_addBlock_number (T : Tables) (bs : List Block) (s : PptSlide) :
    (bs.foldl (addBlock T) s).number = s.number := by
  induction bs generalizing s with
  | nil => rfl
  | cons b r ih => simp [ih, addBlock_number]

private theorem buildSlides_numbers (T : Tables) (k : Nat) (l : List (List Block)) :
    (buildSlides T k l).1.map (·.number) = List.range' k l.length := by
  induction l generalizing k with
  | nil => rfl
  | cons bs r ih => simp [buildSlides, foldl_addBlock_number, ih, List.range'_succ]

private theorem buildSlides_length (T : Tables) (k : Nat) (l : List (List Block)) :
    (buildSlides T k l).1.length = l.length := by
  have := congrArg List.length (buildSlides_numbers T k l)
  simpa using this

/-- PPT end to end (`_parse_ppt_document`): slides are numbered 1..n, including the raw-text fallback slide -/
theorem numbers_ppt (T : Tables) (lst cont : List (List Block)) (raw : List Str) :
    (pptUnits (pptParseDocument T lst cont raw)).map (·.number) = List.range' 1 (pptParseDocument T lst cont raw).length
    ∧ StrictPos ((pptUnits (pptParseDocument T lst cont raw)).map (·.number)) := by
  have hsrc : (pptSources T lst cont).1.map (·.number) = List.range' 1 (pptSources T lst cont).1.length := by
    unfold pptSources
    split
    · rw [buildSlides_numbers, buildSlides_length]
    · split
      · rw [buildSlides_numbers, buildSlides_length]
      · rfl
  suffices h : _ from ⟨h, strictPos_of_eq_range' h⟩
  rw [numbers_ppt_field]
  unfold pptParseDocument
  simp only
  generalize pptSources T lst cont = r at hsrc
  split
  · exact nums_concat _ _ _ hsrc rfl
  · exact hsrc

theorem numbers_epub (items : List (Option Str)) :
    StrictPos ((epubUnits (epubChapters items)).map (·.number))
    ∧ (∀ c ∈ epubChapters items, items[c.number - 1]? = some (some c.text)) := by
  obtain ⟨h1, h2⟩ := epubSpine_spec 1 items
  rw [numbers_epub_field]
  refine ⟨⟨h2, ?_⟩, fun c hc => (h1 c hc).2.2⟩
  intro n hn
  obtain ⟨c, hc, rfl⟩ := List.mem_map.mp hn
  have := (h1 c hc).1
  omega

/- Full text = trimmed newline-join of the unit texts (the eleven formats of the statement).
The model mirrors `return _join_unit_text(self.iterate_units())`; that the source has this shape for
these classes is `join_inventory`, re-decided on every run; `_join_unit_text`'s own body
(`("\n".join(...)).strip()`) is `joinUnitText` (`join_unit_text_eq` in `S2T/Props/C03_Src.lean`). -/

theorem join_pdf (T : Tables) (ps : List Page) : pdfFullText T ps = strip T (joinNl ((pdfUnits ps).map (·.text))) := rfl
theorem join_pptx (T : Tables) (ss : List PptxSlide) (cap : Bool) :
    pptxFullText T ss cap = strip T (joinNl ((pptxUnits T ss cap).map (·.text))) := rfl
theorem join_odp (T : Tables) (ss : List PptSlide) : odpFullText T ss = strip T (joinNl ((odpUnits ss).map (·.text))) := rfl
theorem join_xlsx (T : Tables) (ss : List Sheet) : xlsxFullText T ss = strip T (joinNl ((xlsxUnits T ss).map (·.text))) := rfl
theorem join_ods (T : Tables) (ss : List Sheet) : odsFullText T ss = strip T (joinNl ((odsUnits T ss).map (·.text))) := rfl
theorem join_epub (T : Tables) (cs : List Chapter) : epubFullText T cs = strip T (joinNl ((epubUnits cs).map (·.text))) := rfl
theorem join_email (T : Tables) (e : Email) : emailFullText T e = strip T (joinNl ((emailUnits e).map (·.text))) := rfl
/-- html, plain text, odg, odf -/
theorem join_single (T : Tables) (c : Str) : singleFullText T c = strip T (joinNl ((singleUnits T c).map (·.text))) := rfl
/-- … which for the single-unit formats is the trimmed content itself, trimmed once more -/
theorem full_text_single (T : Tables) (c : Str) : singleFullText T c = strip T (strip T c) := by
  simp [singleFullText, joinUnitText, singleUnits, joinNl_singleton]

theorem count_pdf (ps : List Page) : (pdfUnits ps).length = ps.length := enumUnits_length _ _ _
theorem count_xls (T : Tables) (ss : List Sheet) : (xlsUnits T ss).length = ss.length := enumUnits_length _ _ _
theorem count_xlsx (T : Tables) (ss : List Sheet) : (xlsxUnits T ss).length = ss.length := enumUnits_length _ _ _
theorem count_ods (T : Tables) (ss : List Sheet) : (odsUnits T ss).length = ss.length := enumUnits_length _ _ _
theorem count_ppt (ss : List PptSlide) : (pptUnits ss).length = ss.length := by simp [pptUnits]
theorem count_odp (ss : List PptSlide) : (odpUnits ss).length = ss.length := by simp [odpUnits]
theorem count_pptx (T : Tables) (ss : List PptxSlide) (cap : Bool) : (pptxUnits T ss cap).length = ss.length := by simp [pptxUnits]
theorem count_epub (cs : List Chapter) : (epubUnits cs).length = cs.length := by simp [epubUnits]
/-- every explicit RTF page, blank or not, is a unit; page k's unit holds page k's text and the images / tables
whose page number is k -/
theorem count_rtf (T : Tables) (r : Rtf) (hp : r.pages ≠ []) :
    (rtfUnits T r).length = r.pages.length
    ∧ ∀ i (h : i < r.pages.length), (rtfUnits T r)[i]? =
        some { number := 1 + i, text := r.pages[i], nImages := countOnPage r.imagePages (1 + i), nTables := countOnPage r.tablePages (1 + i) } := by
  unfold rtfUnits
  rw [if_pos hp]
  exact ⟨enumUnits_length _ _ _, fun i h => enumUnits_get _ 1 r.pages i h⟩

/-- PDF: unit k is page k (text and attachments), for every k -/
theorem mirror_pdf (ps : List Page) (i : Nat) (h : i < ps.length) :
    (pdfUnits ps)[i]? = some { number := 1 + i, text := ps[i].text, nImages := ps[i].nImages, nTables := ps[i].nTables } :=
  enumUnits_get _ 1 ps i h

/-- PPTX: no more slides than `p:sldId` entries, none invented (which entries give one: `slide_order_is_document_order`) -/
theorem count_pptx_order (rels : List Rel) (ids : List (Option Str)) : (slideOrder rels ids).length ≤ ids.length := by
  unfold slideOrder; exact List.length_filterMap_le _ _

/-- EPUB: one chapter per spine item that yields a content document -/
theorem count_epub_spine (items : List (Option Str)) : (epubChapters items).length = (items.filter Option.isSome).length :=
  epubSpine_length 1 items

/-- RTF page flush: with at least one explicit `\page` (two or more pieces) every piece is a page -/
theorem count_rtf_flush (T : Tables) (pieces : List Str) (h : 2 ≤ pieces.length) :
    (rtfFlushPages T pieces).length = pieces.length := by
  rw [rtfFlushPages_of_two_le T h, List.length_map]

-- PPT slide list: open finding `ppt.empty-slide-dropped`

def persistCount : List PRec → Nat
  | [] => 0
  | .persist :: r => persistCount r + 1
  | _ :: r => persistCount r

def noText : List PRec → Bool
  | [] => true
  | .text s :: r => s.isEmpty && noText r
  | _ :: r => noText r

/-- PARTIAL: one slide per SlidePersistAtom *when the container holds no text at all*.
(With text, text-less slides after the first text block are dropped — see the counterexample.) -/
theorem ppt_slide_list_count_partial (T : Tables) (recs : List PRec) (cur : List Block) (tt : Option Nat) (started : Bool)
    (h : noText recs = true) :
    (parseSlideList T recs cur tt started false).length = persistCount recs + (if started then 1 else 0) := by
  induction recs generalizing cur tt started with
  | nil => cases started <;> simp [parseSlideList, slideListEmit, persistCount]
  | cons r rs ih =>
    cases r with
    | persist =>
      simp only [parseSlideList, persistCount, List.length_append]
      rw [ih [] tt true (by simpa [noText] using h)]
      cases started <;> simp [slideListEmit] <;> omega
    | header t =>
      simp only [parseSlideList, persistCount]
      exact ih cur (some t) started (by simpa [noText] using h)
    | text s =>
      simp only [noText, Bool.and_eq_true, List.isEmpty_iff] at h
      simp only [parseSlideList, persistCount, h.1, ne_eq, not_true_eq_false, if_false]
      exact ih cur tt started h.2

example : noText [.persist, .header 0, .text [], .persist] = true := by decide +kernel

/-- COUNTEREXAMPLE (model of the current code): three slides "A", (empty), "C" come out as two -/
theorem ppt_slide_list_drops_empty_counterexample :
    (parseSlideList G [.persist, .text ['A'], .persist, .persist, .text ['C']] [] none false false).map (fun bs => bs.map (·.text))
      = [[['A']], [['C']]] := by decide +kernel

/-- the events of a DOC body: heading lines, body lines (stripped, non-blank), matched table lines -/
def docEvs (T : Tables) (d : Doc) : List Ev := docEvents T ((splitlines T d.mainText).map (rstrip T)) d.tables
def odtEvs (T : Tables) (o : Odt) : List Ev := odtEvents T o.paragraphs false o.nTables

/-- DOC with at least one heading line: the units' body pieces are exactly the body lines, each once, in
order; numbers are 1..n; each unit's text is the trimmed newline-join of its pieces. -/
theorem cover_doc (T : Tables) (d : Doc) (hh : (docEvs T d).any Ev.isHeading = true) :
    (docUnits T d).flatMap (·.lines) = evBodies (docEvs T d)
    ∧ (docUnits T d).map (·.number) = List.range' 1 (docUnits T d).length
    ∧ ∀ u ∈ docUnits T d, u.text = textOfLines T u.lines := by
  unfold docEvs at hh ⊢
  have hne : (splitlines T d.mainText).map (rstrip T) ≠ [] := by
    intro hc; rw [hc] at hh; simp [docEvents] at hh
  rw [docUnits_unfold T d hne, secRun_any, hh]
  obtain ⟨he, hc⟩ := secRun_spec T id _ (docEvents_ok T _ _)
  exact ⟨hc, he.nums, he.texts⟩

/-- ODT with at least one non-blank heading: same statement (here the paragraphs before the first heading
are a unit of their own). -/
theorem cover_odt (T : Tables) (o : Odt) (hh : (odtEvs T o).any Ev.isHeading = true) :
    (odtUnits T o).flatMap (·.lines) = evBodies (odtEvs T o)
    ∧ (odtUnits T o).map (·.number) = List.range' 1 (odtUnits T o).length
    ∧ ∀ u ∈ odtUnits T o, u.text = textOfLines T u.lines := by
  unfold odtEvs at hh ⊢
  have hne : o.paragraphs ≠ [] := by
    intro hc; rw [hc] at hh; simp [odtEvents] at hh
  rw [odtUnits_unfold T o hne, secRun_any, hh]
  obtain ⟨he, hc⟩ := secRun_spec T _ _ (odtEvents_ok T _ _ _)
  exact ⟨hc, he.nums, he.texts⟩

/- FULL-STRENGTH STATEMENT — FALSE on the current tree (open finding `docx.text-before-first-heading-dropped`):

    theorem cover_docx (T : Tables) (d : Docx) (hh : d.paragraphs.any (·.level.isSome) = true) :
        (docxUnits T d).flatMap (·.lines) = docxBodies T d.paragraphs

It fails exactly for the body paragraphs that occur while the heading path is empty (`docxLost`): the code's
`flush_current` starts with `if not current_heading_path: return`. -/

/-- DOCX with at least one heading paragraph, EXACT: the units' body pieces are the stripped non-blank
non-heading paragraphs that occur under a non-empty heading path (`docxKept`) — each once, in order,
including page-break paragraphs that carry text; numbers 1..n; text = trimmed join of the pieces. -/
theorem cover_docx_exact (T : Tables) (d : Docx) (hh : d.paragraphs.any (·.level.isSome) = true) :
    (docxUnits T d).flatMap (·.lines) = docxKept T [] d.paragraphs
    ∧ (docxUnits T d).map (·.number) = List.range' 1 (docxUnits T d).length
    ∧ ∀ u ∈ docxUnits T d, u.text = textOfLines' T u.lines := by
  obtain ⟨hi, hc, _⟩ := docxLoop_spec T d.paragraphs {} (docxInv_init T)
  obtain ⟨he, hcv⟩ := docxFlush_spec T none _ hi.em
  rw [docxUnits_of_heading T d hh]
  refine ⟨?_, he.nums, he.texts⟩
  rw [hcv, hc]; simp [docxCov]

/-- PARTIAL: the full cover statement holds when no non-blank body paragraph occurs while the heading path is
empty (`docxLost T [] ps = []`: nothing before the first heading, nothing under blank headings only). -/
theorem cover_docx_partial (T : Tables) (d : Docx) (hh : d.paragraphs.any (·.level.isSome) = true)
    (hlost : docxLost T [] d.paragraphs = []) :
    (docxUnits T d).flatMap (·.lines) = docxBodies T d.paragraphs := by
  rw [(cover_docx_exact T d hh).1, docxKept_eq_bodies T _ _ hlost]

/-- COUNTEREXAMPLE (model of the current code): "pre" stands before the first heading and is in no unit -/
theorem docx_preamble_dropped_counterexample :
    (docxUnits G { paragraphs := [⟨"pre".toList, none, false, 0, 0⟩, ⟨['H'], some 1, false, 0, 0⟩, ⟨"body".toList, none, false, 0, 0⟩],
                   fullText := [], title := [], nImages := 0, nTables := 0 }).map (fun u => (u.number, u.text, u.path))
      = [(1, "body".toList, [['H']])]
    ∧ docxLost G [] [⟨"pre".toList, none, false, 0, 0⟩, ⟨['H'], some 1, false, 0, 0⟩, ⟨"body".toList, none, false, 0, 0⟩] = ["pre".toList] := by
  decide

/-- DOCX: every non-blank heading text is in the heading path of some unit ("heading text counts as covered by
the heading path of its section unit") — an empty section is dropped only when a deeper heading follows, and
then the heading stays on the stack and shows up in that heading's path. -/
theorem heading_cover_docx (T : Tables) (d : Docx) :
    ∀ h ∈ docxHeads T d.paragraphs, ∃ u ∈ docxUnits T d, h ∈ u.path := by
  intro x hx
  have hi := docxLoop_heads T d.paragraphs {} [] (docxInv_init T) hinv_init
  simp only [List.nil_append] at hi
  rw [docxUnits_of_heading T d (docxHeads_any T d.paragraphs x hx)]
  rcases docxFlush_cov T none _ x (hi.cov x hx) with hu | ⟨_, _, hd⟩
  · exact hu
  · simp [deeper] at hd

/-- without any heading the document is one unit, numbered 1, holding the stored full text -/
theorem single_docx (T : Tables) (d : Docx) (hh : d.paragraphs.any (·.level.isSome) = false) :
    docxUnits T d = [{ number := 1, text := d.fullText, nImages := d.nImages, nTables := d.nTables }] := by
  have hf : (docxFlush T none (docxLoop T {} d.paragraphs)).any = false := by rw [docxFlush_any, docxLoop_any, hh]
  unfold docxUnits
  by_cases hne : d.paragraphs = []
  · simp [hne, docxLoop]
  · simp [hne, hf]

/-- numbers of DOCX units — and, below, of DOC and ODT units — are 1..n in every case (heading sections or the single unit) -/
theorem numbers_docx (T : Tables) (d : Docx) : (docxUnits T d).map (·.number) = List.range' 1 (docxUnits T d).length := by
  by_cases hh : d.paragraphs.any (·.level.isSome) = true
  · exact (cover_docx_exact T d hh).2.1
  · rw [single_docx T d (by simpa using hh)]; rfl

theorem numbers_doc (T : Tables) (d : Doc) : (docUnits T d).map (·.number) = List.range' 1 (docUnits T d).length := by
  by_cases hl : (splitlines T d.mainText).map (rstrip T) = []
  · rw [docUnits, if_pos hl]; rfl
  · rw [docUnits_unfold T d hl]
    split
    · rfl
    · exact (secRun_spec T id _ (docEvents_ok T _ _)).1.nums

theorem numbers_odt (T : Tables) (o : Odt) : (odtUnits T o).map (·.number) = List.range' 1 (odtUnits T o).length := by
  by_cases hp : o.paragraphs = []
  · rw [odtUnits, if_pos hp]; rfl
  · rw [odtUnits_unfold T o hp]
    split
    · rfl
    · exact (secRun_spec T _ _ (odtEvents_ok T _ _ _)).1.nums

-- the hypotheses of the cover theorems are satisfiable by non-trivial values

/-- heading "One" has an empty section followed by a deeper heading: no unit of its own, but covered -/
def exDocxH : Docx :=
  { paragraphs := [⟨"One".toList, some 1, false, 0, 0⟩, ⟨"Sub".toList, some 2, false, 0, 0⟩, ⟨"text".toList, none, false, 0, 0⟩],
    fullText := [], title := [], nImages := 0, nTables := 0 }
example : (docxUnits G exDocxH).map (fun u => (u.number, u.text, u.path)) = [(1, "text".toList, ["One".toList, "Sub".toList])] := by decide +kernel
example : docxHeads G exDocxH.paragraphs = ["One".toList, "Sub".toList] := by decide +kernel
example : docxLost G [] exDocxH.paragraphs = [] ∧ exDocxH.paragraphs.any (·.level.isSome) = true := by decide +kernel

def exDocx : Docx :=
  { paragraphs := [⟨"title page".toList, none, false, 0, 0⟩, ⟨"One".toList, some 1, false, 0, 0⟩,
                   ⟨"text".toList, none, true, 0, 0⟩, ⟨"Two".toList, some 1, false, 0, 0⟩, ⟨"more".toList, none, false, 0, 0⟩],
    fullText := [], title := [], nImages := 0, nTables := 0 }

example : exDocx.paragraphs.any (·.level.isSome) = true := by decide +kernel
/-- the page-break paragraph "text" is kept (fix-docx-pagebreak-text); the title page is not (open finding) -/
example : (docxUnits G exDocx).map (fun u => (u.number, u.text, u.path))
    = [(1, "text".toList, ["One".toList]), (2, "more".toList, ["Two".toList])] := by decide +kernel

def exOdt : Odt :=
  { paragraphs := [⟨"pre".toList, none, []⟩, ⟨"A".toList, some 1, []⟩, ⟨" body ".toList, none, []⟩], title := [], fullText := [],
    nTables := 0, nImages := 0 }
example : (odtEvs G exOdt).any Ev.isHeading = true := by decide +kernel
example : (odtUnits G exOdt).map (fun u => (u.number, u.text, u.path)) = [(1, "pre".toList, []), (2, "body".toList, ["A".toList])] := by decide +kernel

def exDoc : Doc := { mainText := "Chapter 1\nfirst\n\nSubsection a\nsecond".toList, title := [], tables := [] }
example : (docEvs G exDoc).any Ev.isHeading = true := by decide +kernel
example : (docUnits G exDoc).map (fun u => (u.number, u.text, u.path))
    = [(1, "first".toList, ["Chapter 1".toList]), (2, "second".toList, ["Chapter 1".toList, "Subsection a".toList])] := by decide +kernel

example : (rtfFlushPages G ["a".toList, " ".toList, "c".toList]) = ["a".toList, [], "c".toList] := by decide +kernel
example : ({ pages := ["a".toList, []], fullText := [], paragraphs := [], imagePages := [some 2], tablePages := [] } : Rtf).pages ≠ [] := by decide +kernel

/-- heading "A" has an empty section and a sibling follows: "A" is in no unit -/
theorem odt_heading_dropped_counterexample :
    (odtUnits G { paragraphs := [⟨['A'], some 1, []⟩, ⟨['B'], some 1, []⟩, ⟨"bar".toList, none, []⟩], title := [], fullText := [],
                  nTables := 0, nImages := 0 }).map (fun u => (u.number, u.text, u.path)) = [(1, "bar".toList, [['B']])] := by decide +kernel

/-- a document of headings only has no unit at all -/
theorem odt_only_headings_no_unit :
    odtUnits G { paragraphs := [⟨['A'], some 1, []⟩], title := [], fullText := ['A'], nTables := 0, nImages := 0 } = [] := by decide +kernel

theorem doc_heading_dropped_counterexample :
    (docUnits G { mainText := "Chapter 1\nChapter 2\nbody".toList, title := [], tables := [] }).map (fun u => (u.number, u.text, u.path))
      = [(1, "body".toList, ["Chapter 2".toList])] := by decide +kernel

theorem doc_only_headings_no_unit :
    docUnits G { mainText := "Chapter 1".toList, title := [], tables := [] } = [] := by decide +kernel

theorem mbox_messages_nonempty (data : Str) : ∀ m ∈ mboxSplit data, m ≠ [] := by
  intro m hm
  unfold mboxSplit at hm
  have := (List.mem_filter.mp hm).2
  simpa using this

example : mboxSplit "From a@b Mon Jan 1 2024\nS: 1\n\nx\n\nFrom c@d Tue Jan 2 2024\nS: 2\n\ny\n".toList
    = ["S: 1\n\nx".toList, "S: 2\n\ny".toList] := by
  -- `String.toList_ofList` turns the string literals into character lists once, outside the kernel's evaluation
  simp -index only [String.toList_ofList]
  decide +kernel

/- Source order on the extraction side (PPTX / ODP slides, RTF pages).
`numbers_pptx` fixes the *numbers*; the theorems here fix *which* slide / page stands at each number. -/

/-- PPTX: the show order is exactly the document order of the `p:sldId` entries whose `r:id` resolves to a slide
relationship — one path per such entry, nothing else decides the order -/
theorem slide_order_is_document_order (rels : List Rel) (es : List SldId) :
    slideOrderE rels es = es.filterMap (fun e => sldResolve rels e.rid) := by
  unfold slideOrderE
  rw [slideOrder_eq_filterMap, List.filterMap_map]
  rfl

/-- … in particular it is a homomorphism of the entry list: entries listed later come later (a deck whose last
slide was dragged to the front, or with a slide inserted in the middle, is read in *that* order) -/
theorem slide_order_append (rels : List Rel) (a b : List SldId) :
    slideOrderE rels (a ++ b) = slideOrderE rels a ++ slideOrderE rels b := by
  simp [slide_order_is_document_order]

/-- … and the numeric `id` attributes (slide-creation ids, not ascending once slides were moved or inserted,
possibly missing / non-numeric / repeated) have no influence at all -/
theorem slide_order_ignores_numeric_ids (rels : List Rel) (es es' : List SldId)
    (h : es.map (·.rid) = es'.map (·.rid)) : slideOrderE rels es = slideOrderE rels es' := by
  unfold slideOrderE; rw [h]

/-- PPTX: unit k is made from the k-th path of the slide order (text, images … come from `mk` of *that* part) -/
theorem mirror_pptx (T : Tables) (mk : Str → PptxSlide) (order : List Str) (cap : Bool) (i : Nat) (h : i < order.length) :
    (pptxUnits T (pptxExtract mk order) cap)[i]? =
      some { number := 1 + i, text := strip T (pptxSlideText { mk order[i] with number := 1 + i } cap),
             nImages := (mk order[i]).imageDescs.length } := by
  simp [pptxUnits, pptxExtract, enumUnits_eq_zipIdx, h]

/-- ODP: unit k is made from the k-th `draw:page` -/
theorem mirror_odp (mk : Str → PptSlide) (pages : List Str) (i : Nat) (h : i < pages.length) :
    ((odpExtract mk pages)[i]?).map (·.number) = some (1 + i)
    ∧ (odpExtract mk pages)[i]? = some { mk pages[i] with number := 1 + i } := by
  simp [odpExtract, enumUnits_eq_zipIdx, h]

example : slideOrderE [⟨"rId7".toList, "slides/slide1.xml".toList, "x/slide".toList⟩, ⟨"rId8".toList, "slides/slide2.xml".toList, "x/slide".toList⟩]
      [⟨some "258".toList, some "rId8".toList⟩, ⟨some "256".toList, some "rId7".toList⟩, ⟨none, some "nope".toList⟩]
    = ["ppt/slides/slide2.xml".toList, "ppt/slides/slide1.xml".toList] := by decide +kernel

/- RTF: page buffers, surrogate pairs and explicit breaks (`_strip_rtf_full_with_pages`).
The scanner appends UTF-16 code units (`\uN` twice for a character beyond U+FFFF); pairs are combined per page
buffer.  Every offset the code keeps is an offset into a buffer of its own page, so no character can move
across a break. -/

/-- k explicit breaks cut the body into k + 1 page buffers -/
theorem rtf_piece_count (evs : List RtfEv) : (rtfPieces evs).length = rtfBreaks evs + 1 :=
  rtfPiecesAux_length evs []

/-- with at least one explicit break every buffer is a page: pages = breaks + 1, blank ones included -/
theorem rtf_page_count (T : Tables) (evs : List RtfEv) (h : 1 ≤ rtfBreaks evs) :
    (rtfExtractPages T evs).length = rtfBreaks evs + 1 := by
  unfold rtfExtractPages
  rw [count_rtf_flush T _ (by rw [List.length_map, rtf_piece_count]; omega), List.length_map, rtf_piece_count]

/-- page k is a function of the characters between break k-1 and break k alone (combined, trimmed, blank runs
collapsed): text before a break never shows up after it and vice versa -/
theorem rtf_page_local (T : Tables) (evs : List RtfEv) (h : 1 ≤ rtfBreaks evs) (k : Nat) (hk : k < (rtfPieces evs).length) :
    (rtfExtractPages T evs)[k]? = some (rtfPageText T (codesToStr (combineSur (rtfPieces evs)[k]))) := by
  unfold rtfExtractPages
  rw [rtfFlushPages_of_two_le T (by rw [List.length_map, rtf_piece_count]; omega), List.map_map, List.getElem?_map,
    List.getElem?_eq_getElem hk]
  rfl

/-- the pages partition the body: when no buffer ends in the first half of a pair (no character is cut in two by
a break), concatenating the combined buffers gives exactly the combined body text that the function returns —
every character is in one page and in no other, whatever the number of characters beyond U+FFFF before a break -/
theorem rtf_pages_partition (evs : List RtfEv) (h : ∀ p ∈ rtfPieces evs, endsHigh p = false) :
    ((rtfPieces evs).map combineSur).flatten = rtfExtractText evs := by
  rw [combineSur_flatten _ h]
  unfold rtfExtractText rtfPieces
  rw [rtfPiecesAux_flatten]
  rfl

/-- combining leaves no surrogate in any page ("the text stays encodable") -/
theorem rtf_pages_encodable (evs : List RtfEv) : ∀ p ∈ rtfPieces evs, ∀ x ∈ combineSur p, isSur x = false :=
  fun p _ => combineSur_no_sur p

/-- a body without surrogate code units is cut as it stands -/
theorem rtf_bmp_unchanged (l : List Nat) (h : ∀ x ∈ l, isSur x = false) : combineSur l = l := combineSur_id l h

/-- "😀a" on page 1 (the first character as two `\uN`), "bc" on page 2: the page boundary does not shift -/
example : rtfExtractPages G [.ch 0xD83D, .ch 0xDE00, .ch 97, .brk, .ch 98, .ch 99]
    = [[Char.ofNat 0x1F600, 'a'], ['b', 'c']] := by decide +kernel
example : (∀ p ∈ rtfPieces [.ch 0xD83D, .ch 0xDE00, .ch 97, .brk, .ch 98, .ch 99], endsHigh p = false)
    ∧ 1 ≤ rtfBreaks [.ch 0xD83D, .ch 0xDE00, .ch 97, .brk, .ch 98, .ch 99] := by decide +kernel

end S2T.C03
