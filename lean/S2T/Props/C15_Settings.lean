import S2T.Lemmas.Chars
import S2T.Model.Setting
import S2T.Model.Cells
import S2T.Gen.GlobalWrites
/-!
# C15 §9 — sections that set interpreter-global settings; registries extended at import time

* an unsynchronised save / set / restore section (`S2T.Setting`) restores the setting when it runs ALONE, from any state
  and for any update function (`setting_section_alone_restores`);
* two overlapping sections are NOT isolated, for every original value `g` and every raised value `v > g`
  (`setting_overlap_not_isolated`, `setting_overlap_body_under_original`): the protocol can only be admitted behind a lock +
  user count (`S2T.Patch.Fixed`);
* generated fact, re-decided from the current source on every run: NO function of the package — and no module at import
  time — calls a setter of an interpreter-global setting or extends an interpreter-wide registry
  (`inventory_no_setting_writers`, `inventory_no_import_time_registration`).
-/
namespace S2T.C15.Settings
open S2T.Setting S2T.Setting.Pc

/-- A section that runs alone (thread `t` takes its four steps in a row, whatever the other threads' states are) leaves the
    setting as it found it, and its body ran under `upd` of the value it found. -/
theorem setting_section_alone_restores (upd : Nat → Nat) (s : St) (t : Nat) (l : Nat)
    (h : s.thr[t]? = some ⟨save, l⟩) :
    (run upd s [t, t, t, t]).G = s.G ∧ (run upd s [t, t, t, t]).obs = s.obs ++ [(t, upd s.G)] := by
  obtain ⟨hl, hxt⟩ := List.getElem?_eq_some_iff.mp h
  simp [run, step, hl, hxt]

example : (init 1000 3).thr[1]? = some ⟨save, 0⟩ := by decide

/-- Full-strength statement FALSE for the unsynchronised protocol
    (`∀ sched, allDone (run upd (init g k) sched) → (run upd (init g k) sched).G = g`):
    A.enter B.enter A.exit B.exit — for EVERY original value `g` and EVERY raised value `v > g` the setting stays at `v`
    for the rest of the process … -/
theorem setting_overlap_not_isolated (g v : Nat) (h : g < v) :
    let s := run (raiseTo v) (init g 2) [0, 0, 1, 1, 0, 0, 1, 1]
    allDone s = true ∧ s.G = v ∧ s.G ≠ g := by
  have h2 : ¬ v < v := Nat.lt_irrefl v
  simp [run, step, init, raiseTo, allDone, h, h2, List.replicate]
  omega

/-- … and B's body ran under the ORIGINAL value `g` although it asked for `v` (A left in between):
    a document that needs the raised setting fails only when another extraction overlaps. -/
theorem setting_overlap_body_under_original (g v : Nat) (h : g < v) :
    (run (raiseTo v) (init g 2) [0, 0, 1, 1, 0, 0, 1, 1]).obs = [(0, v), (1, g)] := by
  have h2 : ¬ v < v := Nat.lt_irrefl v
  simp [run, step, init, raiseTo, h, h2, List.replicate]

/-- another overlap (A has only READ the setting when B enters; A then sets, extracts, restores; B continues): afterwards the
    setting IS back at `g` — nothing is visible in the process state — and yet B's body ran under `g` instead of `v`:
    only B's result shows the defect (hence deep documents in the schedules of the harness). -/
theorem setting_overlap_invisible_afterwards (g v : Nat) (h : g < v) :
    let s := run (raiseTo v) (init g 2) [0, 1, 1, 0, 0, 0, 1, 1]
    allDone s = true ∧ s.G = g ∧ s.obs = [(0, v), (1, g)] := by
  simp [run, step, init, raiseTo, allDone, h, List.replicate]

open S2T.Cells S2T.Gen.GlobalWrites

/-- no function of the package calls a setter of an interpreter-global setting / registry (kind `globalcall`) … -/
theorem inventory_no_setting_writers : ∀ s ∈ sites, s.kind ≠ "globalcall".toList := by
  decide_chars sites

/-- … and no module does at import time (the router imports extractor modules lazily, on the first document of a type) -/
theorem inventory_no_import_time_registration : ∀ s ∈ sites, s.func ≠ "<module>".toList := by
  decide_chars sites

end S2T.C15.Settings
