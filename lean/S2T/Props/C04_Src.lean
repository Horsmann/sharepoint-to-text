import S2T.Lemmas.PyPaths
import S2T.Py.Records
import S2T.Gen.PyDataTypes
import S2T.Gen.Iface
/-!
# C04 (source tie) — the translated table accessors and `populate_from_path` ARE the hand model `S2T.Iface`

`S2T.Gen.PyDataTypes` is regenerated from the current text of `parsing/extractors/data_types.py` on every run
(`tools/gen/pyfun_paths.py`, construct by construct; methods of dataclasses: `self.<field>` is a record field).
For every table (any rows, ragged included, cells of any type), every list of records, every path string and
every behaviour of the file system:

* `get_table` / `get_dim` of `TableData`, `XlsxSheet`, `OdsSheet`, `OdtTable`, `RtfTable` are `self.data` /
  `dimOfData self.data` (the class ↦ kind assignment `tableKind … = dataIsTable` of the model is thereby PROVED
  per class from the source, not only listed);
* `XlsSheet.get_table` / `get_dim` are `xlsGetTable` / `xlsGetDim` (never raise: `self.data[0]` is guarded);
* `_resolved_if_present` and `FileMetadataInterface.populate_from_path` are `populateFromPath` at the host
  `hostOf env` (what `exists()` / `resolve()` answer), provided the file system raises nothing but `OSError`
  (`FsOk`); any other exception propagates unchanged (`resolved_if_present_propagates`).

Python ints are `Int`, the model counts in `Nat` (`dimInt`); objects are `S2T.Py.Any`, the model is generic in
the cell type (`cellAny` embeds the model's `XCell` — header / value / missing — into objects: a missing key and
a stored `None` are the same object `None`, as in Python).
-/
namespace S2T.C04.Src
open S2T.Py S2T.Iface S2T.Gen.PyDataTypes

/-- the translator understood every construct of the whitelisted functions -/
theorem gen_py_notes_empty : S2T.Gen.PyDataTypes.notes = [] := by decide

/-- the functions this file ties (a renamed / removed method breaks this) -/
theorem gen_py_translated : S2T.Gen.PyDataTypes.translated =
    ["TableData.get_table", "TableData.get_dim", "XlsxSheet.get_table", "XlsxSheet.get_dim",
     "OdsSheet.get_table", "OdsSheet.get_dim", "OdtTable.get_table", "OdtTable.get_dim",
     "RtfTable.get_table", "RtfTable.get_dim", "XlsSheet.get_table", "XlsSheet.get_dim",
     "_resolved_if_present", "FileMetadataInterface.populate_from_path"] := by decide

/-- every table class of the generated interface inventory has both accessors tied here -/
theorem table_classes_translated :
    ∀ e ∈ S2T.Gen.Iface.accessors, e.1 = Role.table →
      (e.2.1 ++ ".get_table") ∈ S2T.Gen.PyDataTypes.translated ∧ (e.2.1 ++ ".get_dim") ∈ S2T.Gen.PyDataTypes.translated := by
  decide

/-- the model's `Dim` as the `TableDim` object the source builds -/
def dimInt (d : Dim) : TableDim := ⟨(d.rows : Int), (d.columns : Int)⟩

theorem foldl_max_len {α} (l : List (List α)) (x : Int) (hx : 0 ≤ x) :
    (l.map fun r => len r).foldl max x = max x (maxLen l : Int) := by
  induction l generalizing x with
  | nil => simp [maxLen]; omega
  | cons r rs ih =>
    have h0 : 0 ≤ max x (len r) := by omega
    rw [List.map_cons, List.foldl_cons, ih _ h0]
    simp only [maxLen, len]
    omega

/-- `max((len(row) for row in data), default=0)` is the model's `maxLen` -/
theorem maxD_len {α} (l : List (List α)) : maxD (l.map fun r => len r) 0 = (maxLen l : Int) := by
  cases l with
  | nil => rfl
  | cons r rs =>
    rw [List.map_cons]
    simp only [maxD]
    rw [foldl_max_len _ _ (len_nonneg r)]
    simp only [maxLen, len]
    omega

/-- what `get_dim` of every class whose table is `self.data` computes — each body unfolds to this pair — is the model's
shape of the data -/
private theorem dim_of_data (data : List (List Any)) :
    (⟨len data, maxD (data.map fun row => len row) 0⟩ : TableDim) = dimInt (dimOfData data) := by
  rw [maxD_len]; rfl

theorem TableData_get_table_eq (self : DataTable) : TableData.get_table self = self.data := rfl
theorem TableData_get_dim_eq (self : DataTable) : TableData.get_dim self = dimInt (dimOfData self.data) := dim_of_data _
theorem XlsxSheet_get_table_eq (self : DataTable) : XlsxSheet.get_table self = self.data := rfl
theorem XlsxSheet_get_dim_eq (self : DataTable) : XlsxSheet.get_dim self = dimInt (dimOfData self.data) := dim_of_data _
theorem OdsSheet_get_table_eq (self : DataTable) : OdsSheet.get_table self = self.data := rfl
theorem OdsSheet_get_dim_eq (self : DataTable) : OdsSheet.get_dim self = dimInt (dimOfData self.data) := dim_of_data _
theorem OdtTable_get_table_eq (self : DataTable) : OdtTable.get_table self = self.data := rfl
theorem OdtTable_get_dim_eq (self : DataTable) : OdtTable.get_dim self = dimInt (dimOfData self.data) := dim_of_data _
theorem RtfTable_get_table_eq (self : DataTable) : RtfTable.get_table self = self.data := rfl
theorem RtfTable_get_dim_eq (self : DataTable) : RtfTable.get_dim self = dimInt (dimOfData self.data) := dim_of_data _

/-- **C04 (i) on the source**: for these five classes `get_dim()` is the shape of `get_table()` -/
theorem data_tables_dim_of_table (self : DataTable) :
    TableData.get_dim self = dimInt (dimOfData (TableData.get_table self))
    ∧ XlsxSheet.get_dim self = dimInt (dimOfData (XlsxSheet.get_table self))
    ∧ OdsSheet.get_dim self = dimInt (dimOfData (OdsSheet.get_table self))
    ∧ OdtTable.get_dim self = dimInt (dimOfData (OdtTable.get_table self))
    ∧ RtfTable.get_dim self = dimInt (dimOfData (RtfTable.get_table self)) :=
  ⟨TableData_get_dim_eq self, XlsxSheet_get_dim_eq self, OdsSheet_get_dim_eq self, OdtTable_get_dim_eq self,
    RtfTable_get_dim_eq self⟩

/-- a cell of the model's table as the object the source puts into the row -/
def cellAny : XCell Py.Str Any → Any
  | .key k => Any.str k
  | .val v => v
  | .none => Any.none

theorem lookup_eq_dictGet {β} (row : List (Py.Str × β)) (h : Py.Str) : S2T.Router.lookup h row = dictGet row h := by
  induction row with
  | nil => rfl
  | cons kv r ih =>
    obtain ⟨k, v⟩ := kv
    simp only [S2T.Router.lookup, dictGet, ih, @eq_comm _ h k]

/-- a `for x in xs: acc.append(g(x))` loop appends the mapped list (any body that agrees with `g` element-wise) -/
theorem forIn_append_map {α β} (xs : List α) (g : α → β) (f : α → List β → M (ForInStep (List β)))
    (hf : ∀ x acc, f x acc = Except.ok (ForInStep.yield (acc ++ [g x]))) (acc : List β) :
    forIn xs acc f = Except.ok (acc ++ xs.map g) :=
  S2T.Py.forIn_append_map g xs f (fun x _ => hf x) acc

/-- **`XlsSheet.get_table` is `xlsGetTable`** (all lists of records; it never raises) -/
theorem XlsSheet_get_table_eq (self : Py.XlsSheet) :
    XlsSheet.get_table self = pure ((xlsGetTable self.data).map (·.map cellAny)) := by
  obtain ⟨data⟩ := self
  rcases data with _ | ⟨first, rest⟩
  · unfold XlsSheet.get_table
    simp [xlsGetTable]
  · unfold XlsSheet.get_table
    simp [listGetItem]
    rw [forIn_append_map (g := fun row => (dictKeys first).map fun h => Any.ofOption (dictGet row h))]
    · -- what `simp` leaves is cell by cell `cellAny (lookup …) = Any.ofOption (dictGet …)`: the header row, then the records
      simp [xlsGetTable, dictKeys, cellAny, Function.comp_def, dictGet?, lookup_eq_dictGet]
      constructor
      · intro a b hab; cases hd : dictGet first a <;> simp [Any.ofOption]
      · intro row hrow a b hab; cases hd : dictGet row a <;> simp [Any.ofOption]
    · intro row acc
      simp [dictGet?, lookup_eq_dictGet, Function.comp_def]

theorem maxLen_map {α β} (f : α → β) (l : List (List α)) : maxLen (l.map (List.map f)) = maxLen l := by
  induction l with
  | nil => rfl
  | cons r rs ih => simp [maxLen, ih]

/-- **`XlsSheet.get_dim` is `xlsGetDim`** -/
theorem XlsSheet_get_dim_eq (self : Py.XlsSheet) : XlsSheet.get_dim self = pure (dimInt (xlsGetDim self.data)) := by
  unfold XlsSheet.get_dim
  simp [XlsSheet_get_table_eq, xlsGetDim, dimInt, dimOfData, maxD_len]
  simp [len, maxLen_map]

/-- the model's `Host` (what the OS answers for a path string) read off the file-system environment:
    `some r` = `exists()` said yes and `resolve()` returned `r`; `none` = anything else -/
def hostOf (env : FsEnv) : Host := fun s =>
  match env.pathExists s with
  | .ok true => (match env.pathResolve s with | .ok r => some r.str | .error _ => none)
  | _ => none

/-- the file system raises nothing but `OSError` (what `pathlib` documents for `exists` / `resolve`) -/
def FsOk (env : FsEnv) : Prop :=
  (∀ s e, env.pathExists s = .error e → e.isa "OSError" = true) ∧
  (∀ s e, env.pathResolve s = .error e → e.isa "OSError" = true)

def osError : Exc := ⟨"OSError", ["OSError", "Exception", "BaseException"], "", 0⟩
example : FsOk ⟨fun s => if s.length > 255 then throw osError else pure (s.length % 2 == 0),
    fun s => pure (parsePath ('/' :: s))⟩ := by
  constructor
  · intro s e h; dsimp only at h; split at h <;> cases h; rfl
  · intro s e h; cases h

/-- **`_resolved_if_present` is the model's `(host s).getD s`** at `s = str(p)` -/
theorem resolved_if_present_eq (env : FsEnv) (p : PurePath) (hfs : FsOk env) :
    _resolved_if_present env p = pure ((hostOf env p.str).getD p.str) := by
  rcases he : env.pathExists p.str with e | (_ | _) <;> rcases hr : env.pathResolve p.str with e2 | r
  -- six answers: `exists()` raises / says no / says yes, `resolve()` raises or returns; `h1`, `h2` exist where the call raised
  -- (then `FsOk` makes the exception an `OSError`, which the source swallows); `rfl` is for the case yes / returns, where `simp`
  -- leaves the early `return` as a `tryCatch (throw r.str) …` that computes
  all_goals (
    try have h1 := hfs.1 _ _ he
    try have h2 := hfs.2 _ _ hr
    unfold _resolved_if_present
    simp [*, hostOf, EarlyReturn.runK, EarlyReturnT.return]
    try rfl)

/-- outside `FsOk`: an exception of `exists()` that is not an `OSError` is not swallowed -/
theorem resolved_if_present_propagates (env : FsEnv) (p : PurePath) (e : Exc)
    (he : env.pathExists p.str = .error e) (hne : e.isa "OSError" = false) :
    _resolved_if_present env p = throw e := by
  unfold _resolved_if_present
  simp [he, hne]

/-- **`populate_from_path` is `populateFromPath`** at the host the environment presents: for every
    metadata object, every path string (or `None`) and every file system that raises only `OSError` -/
theorem populate_from_path_eq (env : FsEnv) (m : FileMeta) (path : Option Py.Str) (hfs : FsOk env) :
    FileMetadataInterface.populate_from_path env m path = pure (populateFromPath (hostOf env) m path) := by
  rcases path with _ | s
  · unfold FileMetadataInterface.populate_from_path
    simp [populateFromPath]
  · unfold FileMetadataInterface.populate_from_path
    simp [populateFromPath, resolved_if_present_eq _ _ hfs]

end S2T.C04.Src
