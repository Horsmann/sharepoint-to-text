import S2T.Model.IfaceLength
import S2T.Gen.IfaceTotal
/-!
# C04 (values as the file spells them) — accessors that CONVERT a stored value when called never raise

An extractor may store an attribute of the file verbatim and convert it only when the caller asks
(`OpenDocumentImage.get_metadata()`: `svg:width="2.5cm"` → pixels).  The file decides the string: any unit, any
number of digits, any garbage.  For EVERY string, every host float arithmetic and every list of convertible units:

* the conversion returns `None` or an `int` and never raises, PROVIDED a unit without conversion ends in
  `return None` and a non-finite value is excluded before `int(round(..))` (`length_never_raises`); both provisos are
  facts about the source, regenerated on every run (`length_cfg_current`);
* without the first proviso a well-formed length with an unknown unit (`12em`) raises `KeyError`, without the second
  a 400-digit length raises `OverflowError` (counterexample theorems; the second one is the behaviour of the library
  before `fix-odf-length-overflow.patch`);
* `get_metadata()` reports a width / height that is `None` or positive.

Tie to the source: `partial_ops_accounted` — the inventory of EVERY operation that can raise inside the accessors of
data_types and the functions they call (subscripts, int / float / round, next / max / min without default, pop,
match.group, division, codecs, raise), regenerated from the AST, contains no operation without a guard the source
shows, except the reviewed ones below.  A new lookup, conversion or division in an accessor breaks it.
-/
namespace S2T.C04.Values
open S2T.Iface.Length
open S2T.Gen

private theorem tail_sound (cl : Classes) (d : List Char) (f : Option (List Char)) (r : List Char) (p : Parsed)
    (h : parseTail cl d f r = some p) : p.intDigits = d ∧ p.fracDigits = f ∧ ∀ c ∈ p.unit, asciiAlpha c = true := by
  unfold parseTail at h
  simp only at h
  split at h
  · injection h with h
    subst h
    exact ⟨rfl, rfl, List.all_eq_true.mp List.all_takeWhile⟩
  · cases h

/-- whatever the regular expression accepts: group 1 is a non-empty digit string with an optional `.digits` part
    (so `float(match.group(1))` cannot raise), group 2 consists of ASCII letters only -/
theorem parse_sound (cl : Classes) (s : List Char) (p : Parsed) (h : parseLength cl s = some p) :
    p.intDigits ≠ [] ∧ (∀ c ∈ p.intDigits, cl.digit c = true)
    ∧ (∀ f, p.fracDigits = some f → f ≠ [] ∧ ∀ c ∈ f, cl.digit c = true)
    ∧ (∀ c ∈ p.unit, asciiAlpha c = true) := by
  unfold parseLength at h
  simp only at h
  split at h
  · cases h
  · rename_i hd
    split at h
    · split at h
      · cases h
      · rename_i hf
        obtain ⟨h1, h2, h3⟩ := tail_sound _ _ _ _ _ h
        refine ⟨?_, ?_, ?_, h3⟩
        · rw [h1]; intro e; simp [e] at hd
        · rw [h1]; exact List.all_eq_true.mp List.all_takeWhile
        · intro f hf'
          rw [h2] at hf'
          injection hf' with hf'
          subst hf'
          exact ⟨by intro e; simp [e] at hf, List.all_eq_true.mp List.all_takeWhile⟩
    · obtain ⟨h1, h2, h3⟩ := tail_sound _ _ _ _ _ h
      refine ⟨?_, ?_, ?_, h3⟩
      · rw [h1]; intro e; simp [e] at hd
      · rw [h1]; exact List.all_eq_true.mp List.all_takeWhile
      · intro f hf'; rw [h2] at hf'; cases hf'

/-- the shape of the current source: unknown units fall through to `return None`, non-finite values are excluded -/
def Total (cfg : Cfg) : Prop := cfg.unknown = .returnsNone ∧ cfg.finiteGuard = true

/-- MAIN: for every string the file may spell, every host arithmetic and every unit list, the conversion returns
    (`None` or an int) — it never raises -/
theorem length_never_raises (cl : Classes) (cfg : Cfg) (hc : Total cfg) (h : Host) (len : Option (List Char)) :
    ∃ r, lengthToPx cl cfg h len = .ok r := by
  obtain ⟨hu, hf⟩ := hc
  unfold lengthToPx
  cases len with
  | none => exact ⟨none, rfl⟩
  | some s =>
    simp only
    split
    · exact ⟨none, rfl⟩
    · split
      · exact ⟨none, rfl⟩
      · rename_i p _
        by_cases hfin : h.finite p = true
        · by_cases hm : cfg.units.contains (unitOf p) = true
          · exact ⟨some (h.px p (unitOf p)), by
              simp only [hf, hfin, hm, Bool.not_true, Bool.and_false, Bool.false_eq_true, ↓reduceIte]⟩
          · have hm' : cfg.units.contains (unitOf p) = false := Bool.eq_false_iff.mpr hm
            exact ⟨none, by
              simp only [hf, hfin, hm', hu, Bool.not_true, Bool.and_false, Bool.false_eq_true, ↓reduceIte]⟩
        · simp only [Bool.not_eq_true] at hfin
          simp only [hf, hfin, Bool.not_false, Bool.and_true]
          exact ⟨none, rfl⟩

example : Total ⟨[['p', 'x'], ['c', 'm']], .returnsNone, true⟩ := ⟨rfl, rfl⟩

/-- a well-formed length whose unit has no conversion is `None` (not an error, not a number) -/
theorem length_unknown_unit_is_none (cl : Classes) (cfg : Cfg) (hc : Total cfg) (h : Host) (s : List Char) (p : Parsed)
    (hs : s ≠ []) (hp : parseLength cl s = some p) (hu : cfg.units.contains (unitOf p) = false) :
    lengthToPx cl cfg h (some s) = .ok none := by
  obtain ⟨hk, hf⟩ := hc
  have hs' : s.isEmpty = false := by cases s <;> simp_all
  unfold lengthToPx
  simp only [hs', hp, hu, hk, hf]
  by_cases hfin : h.finite p = true <;> simp [hfin]

/-- a length the expression does not accept, an empty or an absent attribute is `None` -/
theorem length_unparsed_is_none (cl : Classes) (cfg : Cfg) (h : Host) (s : List Char) (hp : parseLength cl s = none) :
    lengthToPx cl cfg h (some s) = .ok none ∧ lengthToPx cl cfg h none = .ok none := by
  refine ⟨?_, rfl⟩
  unfold lengthToPx
  simp only [hp]
  split <;> rfl

/-- `get_metadata()` of the image never raises, whatever the two attributes hold … -/
theorem image_dims_never_raise (cl : Classes) (cfg : Cfg) (hc : Total cfg) (h : Host) (w ht : Option (List Char)) :
    ∃ r, imageDims cl cfg h w ht = .ok r := by
  obtain ⟨a, ha⟩ := length_never_raises cl cfg hc h w
  obtain ⟨b, hb⟩ := length_never_raises cl cfg hc h ht
  exact ⟨(reportDim a, reportDim b), by simp [imageDims, ha, hb]⟩

/-- … and a width / height it reports is positive -/
theorem image_dims_positive (cl : Classes) (cfg : Cfg) (h : Host) (w ht : Option (List Char)) (a b : Option Int)
    (hr : imageDims cl cfg h w ht = .ok (a, b)) : (∀ n, a = some n → n > 0) ∧ (∀ n, b = some n → n > 0) := by
  have key : ∀ (r : Option Int) n, reportDim r = some n → n > 0 := by
    intro r n hn
    unfold reportDim at hn
    split at hn
    · split at hn
      · injection hn with hn; omega
      · cases hn
    · cases hn
  unfold imageDims at hr
  split at hr
  · cases hr
  · split at hr
    · cases hr
    · injection hr with hr
      injection hr with h1 h2
      exact ⟨fun n hn => key _ n (h1 ▸ hn), fun n hn => key _ n (h2 ▸ hn)⟩

def asciiClasses : Classes := ⟨fun c => c == ' ' || c == '\t' || c == '\n', fun c => decide ('0' ≤ c) && decide (c ≤ '9')⟩
def anyHost : Host := ⟨fun _ => true, fun _ _ => 16⟩
def overflowHost : Host := ⟨fun p => decide (p.intDigits.length < 300), fun _ _ => 16⟩
def tableUnits : List (List Char) := [['i', 'n'], ['c', 'm'], ['m', 'm'], ['p', 't'], ['p', 'c']]

/-
FULL-STRENGTH STATEMENT for a lookup `TABLE[unit]` (false):
  theorem lookup_never_raises (cl h len) : ∃ r, lengthToPx cl ⟨units, .raises, true⟩ h len = .ok r
-/
/-- with a raising lookup the conversion returns for the lengths whose unit is in the table -/
theorem length_lookup_partial (cl : Classes) (units : List (List Char)) (h : Host) (s : List Char) (p : Parsed)
    (hp : parseLength cl s = some p) (hu : units.contains (unitOf p) = true) :
    ∃ r, lengthToPx cl ⟨units, .raises, true⟩ h (some s) = .ok r := by
  unfold lengthToPx
  simp only [hp, hu]
  split
  · exact ⟨none, rfl⟩
  · by_cases hfin : h.finite p = true <;> simp [hfin]

example : parseLength asciiClasses ['2', '.', '5', 'c', 'm'] = some ⟨['2'], some ['5'], ['c', 'm']⟩ := by decide

/-- counterexample: `svg:width="12em"` — the expression accepts it, the unit is not in the table: `KeyError`
    escapes `get_metadata()`; the fall-through form answers `None` -/
theorem unknown_unit_lookup_counterexample :
    lengthToPx asciiClasses ⟨tableUnits, .raises, true⟩ anyHost (some ['1', '2', 'e', 'm']) = .error .keyError
    ∧ imageDims asciiClasses ⟨tableUnits, .raises, true⟩ anyHost (some ['1', '2', 'e', 'm']) (some ['3', '.', '5', 'e', 'm']) = .error .keyError
    ∧ lengthToPx asciiClasses ⟨tableUnits, .returnsNone, true⟩ anyHost (some ['1', '2', 'e', 'm']) = .ok none
    ∧ lengthToPx asciiClasses ⟨tableUnits, .raises, true⟩ anyHost (some ['2', '.', '5', 'c', 'm']) = .ok (some 16) := by decide

/-- counterexample (the library before fix-odf-length-overflow.patch): a length of 400 digits is accepted by the
    expression, `float` makes it `inf`, `int(round(inf))` raises `OverflowError`; the guarded form answers `None` -/
theorem non_finite_counterexample :
    lengthToPx asciiClasses ⟨[['p', 'x'], ['c', 'm']], .returnsNone, false⟩ overflowHost (some (List.replicate 400 '9' ++ ['c', 'm'])) = .error .overflowError
    ∧ lengthToPx asciiClasses ⟨[['p', 'x'], ['c', 'm']], .returnsNone, true⟩ overflowHost (some (List.replicate 400 '9' ++ ['c', 'm'])) = .ok none := by
  decide +kernel

/-- the cross-checks of the generator (AST classification against calling the function) found nothing -/
theorem gen_notes_empty : IfaceTotal.notes = [] := by decide

/-- the current `_odf_length_to_px`: a unit without conversion falls through to `return None`, a non-finite value
    is excluded before `int(round(..))` — the provisos of `length_never_raises` -/
theorem length_cfg_current : IfaceTotal.lengthUnknownUnit = .returnsNone ∧ IfaceTotal.lengthFiniteGuard = true := by decide

/-- the configuration the driver runs the model with is the generated one, and it is total -/
def currentCfg : Cfg :=
  ⟨IfaceTotal.lengthUnits.map String.toList, (if IfaceTotal.lengthUnknownUnit = .returnsNone then .returnsNone else .raises), IfaceTotal.lengthFiniteGuard⟩

theorem current_cfg_total : Total currentCfg := ⟨by decide, by decide⟩

/-- the expression the scanner models -/
theorem length_pattern_current :
    IfaceTotal.lengthPattern = "^\\s*(\\d+(?:\\.\\d+)?)\\s*([a-zA-Z]+)?\\s*$" ∧ IfaceTotal.lengthFlags = 32 := by decide

/-- `_odf_length_to_px` is reachable from the accessors (so its inventory rows are part of `partial_ops_accounted`) -/
theorem length_in_closure : IfaceTotal.accessorClosure.contains "_odf_length_to_px" = true := by decide

/-- operations without a syntactic guard that were read and found safe (function, expression):
    * DocContent `units[-1]`: the loop runs over `self.images if units else []`;
    * DocxContent `self.paragraphs[para_idx]`: `para_idx` ranges over `range(heading_idx + 1, end_idx + 1)` with
      `end_idx ≤ len(self.paragraphs) - 1`; `next_heading_for_index[paragraph_index]`: a list built with one entry
      per paragraph, indexed by the enumerate index of the same list;
    * RtfContent `images_by_page[page]` / `tables_by_page[page]`: the key is inserted by the statement before. -/
def reviewed : List (String × String) := [
  ("DocContent.iterate_units", "units[-1]"),
  ("DocxContent.iterate_units", "next_heading_for_index[paragraph_index]"),
  ("DocxContent.iterate_units", "self.paragraphs[para_idx]"),
  ("RtfContent.iterate_units", "images_by_page[page]"),
  ("RtfContent.iterate_units", "tables_by_page[page]")]

def accounted (o : IfaceTotal.PartialOp) : Bool := o.guard != .unguarded || reviewed.contains (o.fn, o.expr)

/-- CLOSED WORLD: every operation that can raise inside an accessor of data_types (or a function it calls) is
    guarded in the source or one of the reviewed five -/
theorem partial_ops_accounted : IfaceTotal.partialOps.all accounted = true := by decide +kernel

/-- the inventory is not empty (the scan sees the conversions of `_odf_length_to_px`) -/
theorem partial_ops_seen :
    (IfaceTotal.partialOps.filter (fun o => o.fn == "_odf_length_to_px" && o.kind == .convert)).length ≥ 2 := by decide +kernel

end S2T.C04.Values
