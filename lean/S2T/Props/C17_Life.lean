import S2T.Lemmas.HtmlBook
import S2T.Lemmas.Chars
import S2T.Gen.HtmlSkip
import S2T.Gen.HtmlLife
/-!
# C17 (histories) — a removed element takes nothing else with it, ALSO not from the next document

`Props/C17.lean` is about one parser object and one document whose removed elements are all closed.  Here:

* a document may END inside a removed element (`Tail.unclosed`: trailing `<object>` / `<iframe>` / `<noscript>` without
  end tag, truncated chapter).  `chapter_visible_before_unclosed`: everything visible BEFORE it still reaches the
  class-specific part, nothing after it does — for all tables, downstreams, documents, contents.
* a HISTORY of documents (`readBook`: the chapters of an EPUB, the files / mail bodies one process reads): with a new parser
  object per document every document is read as if it were alone (`book_documents_independent`, `C17_book`,
  `C17_book_transparent`), whatever the other documents end with.
* that hypothesis — "a new object per document" — is NOT free: for the reader that keeps one object and re-initialises only
  the class-specific part (`Reuse.readBook`) the statement is false (`reuse_cex_*`) and holds when no document
  ends inside a removed element (`reuse_partial`).  So it is tied to the source: `Gen/HtmlLife.lean` is the inventory of
  EVERY mention of the two parser classes in the package, and `gen_parser_sites_fresh` decides that each one is
  `v = Cls()` in a function body, never escaping, fed exactly once in the same loop nest, never `reset()`;
  `gen_parser_classes_plain` that the classes carry no class-level (shared) state, no decorator, no `__new__` /
  `__getattr__` …; the harness drives
  multi-document histories through every reader and compares the object state after EVERY real `feed` with
  `run (init …)` on that feed's calls.
-/
namespace S2T.C17.Life
open S2T.HtmlSkip S2T.Gen.HtmlSkip

/-- the generated tag tables are those of the property statement: `REMOVE_TAGS` is exactly its list, `_VOID_TAGS` agrees with
    the HTML standard on those names (`embed` is void, the other six are not).  Decided here, for the history theorems below
    and for the single-document theorems of `C17.lean`. -/
theorem html_tables_match : TablesMatchSpec htmlTables = true := by
  decide_chars TablesMatchSpec htmlTables htmlRemove htmlVoid specRemovable stdVoid
theorem epub_tables_match : TablesMatchSpec epubTables = true := by
  decide_chars TablesMatchSpec epubTables epubRemove epubVoid specRemovable stdVoid

section generic
variable {σ : Type} (T : Tables) (D : Down σ)

/-- **Unclosed removed element.** The class-specific part receives exactly the calls of the visible items before it. -/
theorem chapter_visible_before_unclosed (c : Chapter) (st : St σ) (h : ChapterOk T c = true) (hc : Clean st) :
    (run T D st c.events).down = D.feed st.down (downEvents c.doc) := by
  rw [run_chapter T D c h st hc]
  cases c.tail <;> rfl

/-- … and the gate is then still inside that element (which is why the object must not be used for another document) -/
theorem unclosed_leaves_gate_inside (t : Str) (a : Attrs) (junk : List Ev) (doc : Doc) (st : St σ)
    (h : ChapterOk T ⟨doc, .unclosed t a junk⟩ = true) (hc : Clean st) :
    (run T D st (Chapter.events ⟨doc, .unclosed t a junk⟩)).skipTag = some t ∧
    (run T D st (Chapter.events ⟨doc, .unclosed t a junk⟩)).skipDepth > 0 := by
  rw [run_chapter T D _ h st hc]
  -- the two fields of the state written out
  exact ⟨rfl, by simp only []; omega⟩

/-- **Independence.** With a new parser per document, what is extracted from a document of a history is what is
    extracted from it alone — for ANY neighbours (no hypothesis on them at all). -/
theorem book_documents_independent (d0 : σ) (before after : List (List Ev)) (evs : List Ev) :
    (readBook T D d0 (before ++ evs :: after))[before.length]? = some (run T D (init d0) evs) := by
  simp [readBook]

/-- **C17 for a history.** Every document contributes exactly its visible items before its unclosed tail. -/
theorem C17_book (d0 : σ) (book : List Chapter) (h : book.all (ChapterOk T) = true) :
    (readBook T D d0 (book.map Chapter.events)).map (·.down) =
      book.map (fun c => D.feed d0 (downEvents c.doc)) := by
  simp only [readBook, List.map_map]
  apply List.map_congr_left
  intro c hc
  simpa [init] using chapter_visible_before_unclosed T D c (init d0) (List.all_eq_true.mp h c hc) (clean_init _)

/-- **Takes nothing else with it.** The history reads like the history with every removed element, comment and
    unclosed tail deleted. -/
theorem C17_book_transparent (d0 : σ) (book : List Chapter) (h : book.all (ChapterOk T) = true) :
    (readBook T D d0 (book.map Chapter.events)).map (·.down) =
      (readBook T D d0 ((book.map Chapter.strip).map Chapter.events)).map (·.down) := by
  have h' : (book.map Chapter.strip).all (ChapterOk T) = true := by
    simp only [List.all_map, List.all_eq_true, Function.comp] at *
    intro c hc; exact chapter_strip_ok T c (h c hc)
  rw [C17_book T D d0 book h, C17_book T D d0 _ h', List.map_map]
  apply List.map_congr_left
  intro c _
  simp [Chapter.strip, strip_downEvents]

/-- **The reused parser (partial).** Re-initialising only the class-specific part between documents is right
    on histories in which no document ends inside a removed element. -/
theorem reuse_partial (d0 : σ) (book : List Chapter) (st : St σ) (hc : Clean st)
    (h : (book.all fun c => DocOk T c.doc && c.tail == Tail.complete) = true) :
    Reuse.readBook T D d0 st (book.map Chapter.events) = readBook T D d0 (book.map Chapter.events) := by
  induction book generalizing st with
  | nil => rfl
  | cons c r ih =>
    simp only [List.all_cons, Bool.and_eq_true, beq_iff_eq] at h
    obtain ⟨⟨hd, ht⟩, hr⟩ := h
    have hev : c.events = events c.doc := by simp [Chapter.events, ht, Tail.events]
    simp only [List.map_cons, Reuse.readBook, readBook, hc.with_down, hev]
    rw [run_doc T D c.doc (init d0) hd (clean_init _)]
    congr 1
    exact ih _ (clean_init _) hr

end generic

open S2T.Gen.HtmlSkip

theorem C17_epub_book (book : List Chapter) (h : book.all SpecChapterOk = true) :
    (readBook epubTables (Epub.down epubBlock) Epub.initState (book.map Chapter.events)).map (·.down) =
      book.map (fun c => (Epub.down epubBlock).feed Epub.initState (downEvents c.doc)) := by
  exact C17_book _ _ _ book (all_chapterOk_of_spec _ epub_tables_match h)

theorem C17_html_history (hist : List Chapter) (h : hist.all SpecChapterOk = true) :
    (readBook htmlTables (Tree.down htmlVoid) Tree.initState (hist.map Chapter.events)).map (·.down) =
      hist.map (fun c => (Tree.down htmlVoid).feed Tree.initState (downEvents c.doc)) := by
  exact C17_book _ _ _ hist (all_chapterOk_of_spec _ html_tables_match h)

/-- visible text of a history, both machines: the data that gets through for each document is its visible text
    before the unclosed tail, in order and multiplicity -/
theorem C17_book_visible (book : List Chapter) (h : book.all SpecChapterOk = true) :
    (readBook epubTables logDown [] (book.map Chapter.events)).map (fun s => dataOf s.down) =
      book.map (fun c => visibleData c.doc) ∧
    (readBook htmlTables logDown [] (book.map Chapter.events)).map (fun s => dataOf s.down) =
      book.map (fun c => visibleData c.doc) := by
  have key : ∀ T, TablesMatchSpec T = true →
      (readBook T logDown [] (book.map Chapter.events)).map (fun s => dataOf s.down) =
        book.map (fun c => visibleData c.doc) := by
    intro T hT
    have := congrArg (List.map dataOf) (C17_book T logDown [] book (all_chapterOk_of_spec T hT h))
    simp only [List.map_map] at this
    rw [show (fun s : St (List DEv) => dataOf s.down) = dataOf ∘ (fun s => s.down) from rfl, this]
    apply List.map_congr_left
    intro c _
    simp [logDown_feed, dataOf_downEvents]
  exact ⟨key _ epub_tables_match, key _ html_tables_match⟩

open S2T.Gen.HtmlLife

theorem gen_life_notes_empty : S2T.Gen.HtmlLife.notes = [] := by decide

/-- every mention of a parser class in the package is `v = Cls()` in a function body: `v` bound once, never escaping,
    fed exactly once in the loop nest it was constructed in, never reset -/
theorem gen_parser_sites_fresh : sites.all (fun s => s.shape == "fresh-local-fed-once") = true := by decide +kernel

/-- the inventory is not blind: both classes are constructed somewhere -/
theorem gen_parser_sites_cover :
    sites.any (fun s => s.cls == "_HtmlTreeBuilder") = true ∧
    sites.any (fun s => s.cls == "_XhtmlTextExtractor") = true := by decide +kernel

/-- no state shared between parser objects and nothing wrapped around the classes: no class-level statement, no
    decorator / metaclass, no special method but `__init__`, `HTMLParser` the only base, and `__init__` reaches
    `HTMLParser.__init__` (which resets the tokeniser) -/
theorem gen_parser_classes_plain :
    htmlClassAttrs = [] ∧ epubClassAttrs = [] ∧ htmlDecorators = [] ∧ epubDecorators = [] ∧
    htmlDunders = ["__init__"] ∧ epubDunders = ["__init__"] ∧
    htmlBases = ["HTMLParser"] ∧ epubBases = ["HTMLParser"] ∧
    htmlInitResets ≠ [] ∧ epubInitResets ≠ [] := by decide +kernel

/-- ONE DRIVER.  The theorems quantify over the event sequence the machine receives, and the correspondence identifies
    that sequence with what `HTMLParser.feed` delivers for the document text.  That identification needs: nothing in the
    package but the two `handle_startendtag` methods (whose start+end expansion is the model's `.startend` case and is
    translated in `C17_Src`) calls a handler, takes one as a value or names one in a string.  A second driver — a tree
    walk over an XML parse, a pre-pass, a re-delivery of buffered text — decides on its own which calls the gate sees
    (e.g. it may skip the text that follows a removed element) and is outside every theorem of C17. -/
theorem gen_handlers_driven_by_feed_only :
    handlerCalls.all (fun c =>
      (c.2.1 == "_HtmlTreeBuilder.handle_startendtag" || c.2.1 == "_XhtmlTextExtractor.handle_startendtag") &&
      (c.2.2 == "handle_starttag" || c.2.2 == "handle_endtag")) = true := by decide +kernel

/-- NO SIDE DOOR.  The only methods of the two classes that can change a parser object's state are `__init__` and the
    handlers modelled in `Model/HtmlSkip.lean` (and translated in `C17_Src`): the getters and any helper are read-only, so
    the state the getters report is the state the modelled handlers built from the delivered calls. -/
theorem gen_state_written_by_modelled_handlers_only :
    stateWriters.all (fun m =>
      ["_HtmlTreeBuilder", "_XhtmlTextExtractor"].any (fun c =>
        ["__init__", "handle_starttag", "handle_endtag", "handle_startendtag", "handle_data", "handle_comment"].any
          (fun h => m == c ++ "." ++ h))) = true := by decide +kernel

/-- the two inventories are not blind -/
theorem gen_driver_inventory_cover :
    handlerCalls.length = 4 ∧ stateWriters.any (· == "_XhtmlTextExtractor.handle_data") = true ∧
    stateWriters.any (· == "_HtmlTreeBuilder.handle_starttag") = true := by decide +kernel

/-! ## Counterexamples for the reused parser (replayed on the real code by the harness: they hold on the source as
it is and fail as soon as a parser object's gate state survives into the next document) -/

private def p : Str := "p".toList
private def para (s : String) : List Item := [.open_ p [], .text s.toList, .close p]

/-- chapter 1 `<p>a</p><object data=x><param name=q><p>h`, chapter 2 `<p>b</p>` -/
def wBookObject : List Chapter :=
  [⟨para "a", .unclosed "object".toList [("data".toList, some "x".toList)]
      [.start "param".toList [("name".toList, some "q".toList)], .start p [], .data "h".toList]⟩,
   ⟨para "b", .complete⟩]
/-- chapter 1 ends in `<noscript><noscript>h</noscript>` (one of two closed), chapters 2 and 3 follow -/
def wBookNested : List Chapter :=
  [⟨para "a", .unclosed "noscript".toList [] [.start "noscript".toList [], .data "h".toList, .end_ "noscript".toList]⟩,
   ⟨para "b" ++ [.removed "script".toList [] [.data "x".toList]], .complete⟩, ⟨para "c", .complete⟩]

private def reuseKept (book : List Chapter) : List (List Str) :=
  (Reuse.readBook epubTables logDown [] (init []) (book.map Chapter.events)).map (fun s => dataOf s.down)

theorem reuse_cex_object :
    wBookObject.all SpecChapterOk = true ∧ wBookObject.map (fun c => visibleData c.doc) = [["a".toList], ["b".toList]] ∧
    reuseKept wBookObject = [["a".toList], []] := by decide +kernel
theorem reuse_cex_nested :
    wBookNested.all SpecChapterOk = true ∧
    wBookNested.map (fun c => visibleData c.doc) = [["a".toList], ["b".toList], ["c".toList]] ∧
    reuseKept wBookNested = [["a".toList], [], []] := by decide +kernel

example : (wBookObject ++ wBookNested).all (ChapterOk epubTables) = true := by
  decide_chars wBookObject wBookNested para p epubTables epubRemove epubVoid
example : (readBook epubTables logDown [] (wBookObject.map Chapter.events)).map (fun s => dataOf s.down) =
    [["a".toList], ["b".toList]] := by
  decide_chars wBookObject para p epubTables epubRemove epubVoid
-- `reuse_partial`'s hypothesis is satisfiable by a history with removed elements, and excludes each witness
example : (([⟨para "a" ++ [.removed "object".toList [] [.start p []]], .complete⟩, ⟨para "b", .complete⟩] : List Chapter).all
    fun c => DocOk epubTables c.doc && c.tail == Tail.complete) = true := by
  decide_chars para p epubTables epubRemove epubVoid
example : (wBookObject.all fun c => DocOk epubTables c.doc && c.tail == Tail.complete) = false := by
  decide_chars wBookObject para p epubTables epubRemove epubVoid

end S2T.C17.Life
