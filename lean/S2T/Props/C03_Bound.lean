import S2T.Lemmas.UnitsBound
import S2T.Gen.Units
import S2T.Gen.UnitsBound
/-!
# C03, part "Bound" — where unit boundaries come from when the units are cut out of one shared carrier

Two readers build their unit sequence from a carrier that all units share:

* **mbox**: the byte string of the mailbox; the boundaries are the "From " separator lines *of the stored file*.
  Stated against the WRITER (`mboxWrite`): a mailbox written from messages whose own lines are not separator lines —
  that is what mboxo / mboxrd quoting guarantees, a quoted line `>From …` included — reads back as exactly those
  messages, in order (`mbox_mirrors_written_messages`); a line is a separator only if it literally starts with
  "From " (`from_line_needs_prefix`, `quoted_from_line_is_body`), so no body line of any other shape moves a
  boundary.  The tie to the source is `mbox_reader_splits_raw_bytes`: in the CURRENT `read_mbox_format_mail` the bytes
  handed to `_split_mbox_messages` are `file_like.read()` itself, the loop runs over the split and yields
  `parse_email_message(message_from_bytes(item))` per item — there is no stage that rewrites the mailbox before it is
  cut (`mbox_prenormalise_counterexample`: undoing mboxrd quoting at that stage cuts a message in two).
* **pdf** (and every other page / sheet / slide / chapter loop): unit k is built from part k alone
  (`Bound.mirror_pdf`, for any per-page extractor `mk`).  The tie is `unit_loops_carry_only_counters`: in the current source the only things an iteration
  of a unit-building loop hands to the next one are the result list and running counters; a memo table keyed by a
  partial identity of the page (`pdf_memo_exact`: harmless when equal keys imply equal pages;
  `pdf_memo_partial_key_counterexample`: two pages sharing the keyed object but not the rest get the first one's text)
  is not among them.
-/
namespace S2T.C03.Bound
open S2T.Units

/-- kinds of loop-carried state the model accounts for: the result list (`append`) and running counters
(`x += …` / `…, x = f(…, x)`: image / chapter / message numbering) -/
def allowedLoopKinds : List String := ["append", "counter"]

/-- closed world: no unit-building loop of the current source (read_pdf, read_xlsx / _read_content_from_workbook,
read_ods, read_odp, read_pptx, read_epub, read_mbox_format_mail, _split_mbox_messages,
_build_slides_from_text_blocks) carries anything else from one page / sheet / slide / chapter / message to the next —
no memo table, no "previous unit" variable, no shared buffer, and no module-level name written from inside the loop
(those are listed with kind `module-state:…`) -/
theorem unit_loops_carry_only_counters : ∀ e ∈ S2T.Gen.UnitsBound.loopState, e.2.2 ∈ allowedLoopKinds := by decide +kernel

/-- memoised functions in the unit-building modules (pdf, xlsx, ods, odp, pptx, epub, mbox, ppt, rtf, ODF helpers,
data_types) that the model accounts for: both map a member PATH to a MIME type — their whole argument is the key and no
document content goes in or out -/
def allowedMemoFunctions : List (String × String × String) :=
  [("_shared.py", "guess_content_type", "path: str"), ("epub_extractor.py", "_guess_content_type", "path: str")]

/-- closed world: no other function of those modules carries a memoising decorator (`lru_cache`, `cache`,
`cached_property`, anything named *cache* / *memo*) — in particular none that takes a page, a sheet, a slide, a chapter
or a message -/
theorem memo_functions_accounted : ∀ f ∈ S2T.Gen.UnitsBound.memoFunctions, f ∈ allowedMemoFunctions := by decide +kernel

/-- writes to module-level state (state that outlives one document) the model accounts for: the pypdf char-map patch
bookkeeping (users counter + saved originals, restored on exit) and the TrueType analysis cache, whose key is the
complete font program (`_FONT_CACHE[font_data]`) — a function of its key alone -/
def allowedModuleWrites : List (String × String × String × String) :=
  [("pdf_extractor.py", "_patched_build_char_map", "_CHAR_MAP_PATCH_ORIGINALS", "method:append"),
   ("pdf_extractor.py", "_patched_build_char_map", "_CHAR_MAP_PATCH_ORIGINALS", "method:pop"),
   ("pdf_extractor.py", "_patched_build_char_map", "_CHAR_MAP_PATCH_USERS", "write"),
   ("pdf_extractor.py", "_ttf_parse_font", "_FONT_CACHE", "subscript-store")]

/-- closed world: no other function of the unit-building modules writes a module-level name — no table, memo or
"last document" variable through which the units of one document could depend on a document read before it -/
theorem module_writes_accounted : ∀ w ∈ S2T.Gen.UnitsBound.moduleWrites, w ∈ allowedModuleWrites := by decide +kernel

/-- the data flow of `read_mbox_format_mail` in the current source: the raw bytes are split, the split is iterated,
each item is parsed — nothing rewrites the mailbox before the boundaries are cut, nothing filters the split -/
theorem mbox_reader_splits_raw_bytes :
    S2T.Gen.UnitsBound.mboxChain =
      [("split-arg", "p0.read()"), ("loop-iter", "_split_mbox_messages(p0.read())"),
       ("unit", "parse_email_message(email.message_from_bytes(ITEM))")] := by decide +kernel

/-- a separator line literally starts with "From " -/
theorem from_line_needs_prefix (c : Str) (h : isFromLine c = true) : ∃ r, c = 'F' :: 'r' :: 'o' :: 'm' :: ' ' :: r := by
  unfold isFromLine at h
  split at h
  · exact ⟨_, rfl⟩
  · exact absurd h (by simp)

/-- … so a line with anything in front of "From " — mboxrd's `>From …`, `>>From …`, an indented or re-cased line — is
message text, whatever follows (an address, a date, four digits) -/
theorem quoted_from_line_is_body (x : Char) (c : Str) (hx : x ≠ 'F') : isFromLine (x :: c) = false := by
  cases h : isFromLine (x :: c) with
  | false => rfl
  | true =>
    obtain ⟨r, hr⟩ := from_line_needs_prefix _ h
    exact absurd (List.cons.inj hr).1 hx

/-- the split of a well-formed mailbox is exactly the list of stored message texts, in file order: one piece per
separator line, every message line in the piece of its own message and in no other -/
theorem mbox_split_of_written (ms : List MboxMsg) (h : MboxWellFormed ms) :
    mboxGo (rawLines (mboxWrite ms) []) none = ms.map mboxMsgText := by
  rw [rawLines_mboxWrite ms h, mboxGo_mboxAllLines ms h none]
  rfl

/-- the reader: one result per stored message with content, in file order, each parsed from that message's own text -/
theorem mbox_mirrors_written_messages {α} (parse : Str → α) (ms : List MboxMsg) (h : MboxWellFormed ms) :
    mboxRead parse (mboxWrite ms) = (((ms.map mboxMsgText).map rstripCRLF).filter (· ≠ [])).map parse := by
  unfold mboxRead mboxSplit
  rw [mbox_split_of_written ms h]

/-- … in particular as many results as messages when no message is empty -/
theorem mbox_count {α} (parse : Str → α) (ms : List MboxMsg) (h : MboxWellFormed ms)
    (hne : ∀ m ∈ ms, rstripCRLF (mboxMsgText m) ≠ []) : (mboxRead parse (mboxWrite ms)).length = ms.length := by
  rw [mbox_mirrors_written_messages parse ms h, List.length_map, List.filter_eq_self.mpr, List.length_map, List.length_map]
  intro x hx
  obtain ⟨y, hy, rfl⟩ := List.mem_map.mp hx
  obtain ⟨m, hm, rfl⟩ := List.mem_map.mp hy
  simpa using hne m hm

/-- a two-message mboxrd mailbox whose first message has the body line ">From now on … 2024" -/
def rdMailbox : List MboxMsg :=
  [⟨"From a@x Mon Jan  1 00:00:00 2024".toList, ["Subject: 1".toList, [], "Hi".toList, ">From now on room 2024".toList, "bye".toList]⟩,
   ⟨"From b@x Tue Jan  2 00:00:00 2024".toList, ["Subject: 2".toList, [], "second".toList]⟩]

/-- the hypotheses are satisfiable by exactly the kind of mailbox mboxrd quoting produces -/
theorem rdMailbox_wellFormed : MboxWellFormed rdMailbox := by
  intro m hm
  -- `String.toList_ofList` turns the string literals into character lists once, outside the kernel's evaluation
  simp -index only [rdMailbox, String.toList_ofList, List.mem_cons, List.not_mem_nil, or_false] at hm
  rcases hm with rfl | rfl <;> decide +kernel

example : mboxRead id (mboxWrite rdMailbox)
    = ["Subject: 1\n\nHi\n>From now on room 2024\nbye".toList, "Subject: 2\n\nsecond".toList] := by
  simp -index only [rdMailbox, String.toList_ofList]
  decide +kernel

/-- undoing the quoting on the WHOLE mailbox before the split (instead of per message after it) cuts message 1 at its
quoted line: three pieces for two messages, "bye" is no longer in message 1 -/
theorem mbox_prenormalise_counterexample :
    let pre : Str → Str := fun d => ((((rawLines d []).map (·.1)).map unquoteRdLine).map (· ++ ['\n'])).flatten
    mboxReadPre pre id (mboxWrite rdMailbox)
      = ["Subject: 1\n\nHi".toList, "bye".toList, "Subject: 2\n\nsecond".toList] := by
  simp -index only [rdMailbox, String.toList_ofList]
  decide +kernel

/-- `read_pdf` + `PdfContent.iterate_units`: unit k carries number k and the text / image / table counts that `mk`
gives for the k-th page of the reader — for any `mk`, in particular one that depends on the whole page (its content
streams AND its own or inherited resources) -/
theorem mirror_pdf {π} (mk : π → Page) (pages : List π) (i : Nat) (h : i < pages.length) :
    (pdfUnits (pdfExtract mk pages))[i]? =
      some { number := 1 + i, text := (mk pages[i]).text, nImages := (mk pages[i]).nImages, nTables := (mk pages[i]).nTables } := by
  unfold pdfUnits pdfExtract
  rw [enumUnits_get _ 1 _ i (by simpa using h)]
  simp

theorem count_pdf {π} (mk : π → Page) (pages : List π) : (pdfUnits (pdfExtract mk pages)).length = pages.length := by
  unfold pdfUnits pdfExtract
  rw [enumUnits_length, List.length_map]

/-- a memo table in the page loop is invisible when equal keys imply equal extraction results -/
theorem pdf_memo_exact {π κ} [DecidableEq κ] (key : π → κ) (mk : π → Page)
    (hk : ∀ p q, key p = key q → mk p = mk q) (pages : List π) :
    pdfExtractMemo key mk pages [] = pdfExtract mk pages :=
  pdfExtractMemo_eq key mk hk pages [] (fun _ _ h => by simp at h)

/-- pages as (content-stream id, resources id); the text depends on both -/
def demoMk (p : Nat × Nat) : Page := { text := (if p.2 = 0 then "Alpha" else "Beta").toList }

/-- the hypothesis of `pdf_memo_exact` holds for the full identity of the page … -/
example : ∀ p q : Nat × Nat, id p = id q → demoMk p = demoMk q := fun p q h => by
  have : p = q := h
  rw [this]

/-- … and fails for a key that leaves out part of what the text depends on (here: the resources, as when an inline or
inherited /Resources dictionary contributes nothing to the key): page 2 gets the text of page 1 -/
theorem pdf_memo_partial_key_counterexample :
    ((pdfExtractMemo (fun p : Nat × Nat => p.1) demoMk [(7, 0), (7, 1)] []).map (·.text)
      = ["Alpha".toList, "Alpha".toList])
    ∧ ((pdfExtract demoMk [(7, 0), (7, 1)]).map (·.text) = ["Alpha".toList, "Beta".toList]) := by decide +kernel

end S2T.C03.Bound
