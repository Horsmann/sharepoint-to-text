import S2T.Lemmas.AesModel
import S2T.Gen.Aes
/-!
# C20 (tables) — the tables of the current source are the FIPS-197 functions

`TablesOk` of the tables regenerated from `_pypdf_aes_fallback.py` on every run, re-decided by the kernel: the two
S-boxes compared with the specification as lists, the six multiplication tables with what the modelled builder
`_build_mul_table` builds (which is the field multiplication because `_gf_mul` is additive in its first factor:
eight bytes per factor are evaluated), the round constants entry by entry.
-/
namespace S2T.C20
open S2T.Aes S2T.AesL S2T.Spec

/-- the translator found every table to be what the source shows -/
theorem gen_notes_empty : S2T.Gen.Aes.notes = [] := by decide

/-! `_gf_mul(·, m)` is additive like the field multiplication (`buildMulTable_ok`): the eight bytes 1, 2, …, 128 decide -/
private theorem built2 : TabOk (buildMulTable 2) (fun a => Fips197.gmul a 2) := buildMulTable_ok (by decide +kernel)
private theorem built3 : TabOk (buildMulTable 3) (fun a => Fips197.gmul a 3) := buildMulTable_ok (by decide +kernel)
private theorem built9 : TabOk (buildMulTable 9) (fun a => Fips197.gmul a 9) := buildMulTable_ok (by decide +kernel)
private theorem built11 : TabOk (buildMulTable 11) (fun a => Fips197.gmul a 11) := buildMulTable_ok (by decide +kernel)
private theorem built13 : TabOk (buildMulTable 13) (fun a => Fips197.gmul a 13) := buildMulTable_ok (by decide +kernel)
private theorem built14 : TabOk (buildMulTable 14) (fun a => Fips197.gmul a 14) := buildMulTable_ok (by decide +kernel)

/-- the import-time helpers (`_xtime`, `_gf_mul`, `_build_mul_table`, `_build_rcon`) as modelled build exactly
    these tables: multiplication by 2, 3, 9, 11, 13, 14 on all 256 bytes, and the round constants -/
theorem C20_build_tables :
    TabOk (buildMulTable 2) (fun a => Fips197.gmul a 2) ∧ TabOk (buildMulTable 3) (fun a => Fips197.gmul a 3) ∧
    TabOk (buildMulTable 9) (fun a => Fips197.gmul a 9) ∧ TabOk (buildMulTable 11) (fun a => Fips197.gmul a 11) ∧
    TabOk (buildMulTable 13) (fun a => Fips197.gmul a 13) ∧ TabOk (buildMulTable 14) (fun a => Fips197.gmul a 14) ∧
    RconOk (buildRcon 14) ∧ (∀ a, a < 256 → xtime a = Fips197.gmul a 2) :=
  ⟨built2, built3, built9, built11, built13, built14, by decide +kernel, xtime_eq_gmul⟩

/-- both S-boxes in one declaration: `sbox` and `invSbox` call `ginv` on all 256 bytes, and the kernel keeps the values
    of the products they share -/
private theorem sbox_lists : S2T.Gen.Aes.sbox = (List.range 256).map Fips197.sbox ∧
    S2T.Gen.Aes.invSbox = (List.range 256).map Fips197.invSbox := by decide +kernel

theorem C20_table_sbox : TabOk S2T.Gen.Aes.sbox Fips197.sbox := sbox_lists.1 ▸ tabOk_map_range fun _ _ => rfl
theorem C20_table_inv_sbox : TabOk S2T.Gen.Aes.invSbox Fips197.invSbox :=
  sbox_lists.2 ▸ tabOk_map_range fun _ _ => rfl
/- `_MUL2 = _build_mul_table(2)` in the source: the runtime value is compared with what the modelled builder builds -/
theorem C20_table_mul2 : TabOk S2T.Gen.Aes.mul2 (fun a => Fips197.gmul a 2) :=
  (by decide +kernel : S2T.Gen.Aes.mul2 = buildMulTable 2) ▸ built2
theorem C20_table_mul3 : TabOk S2T.Gen.Aes.mul3 (fun a => Fips197.gmul a 3) :=
  (by decide +kernel : S2T.Gen.Aes.mul3 = buildMulTable 3) ▸ built3
theorem C20_table_mul9 : TabOk S2T.Gen.Aes.mul9 (fun a => Fips197.gmul a 9) :=
  (by decide +kernel : S2T.Gen.Aes.mul9 = buildMulTable 9) ▸ built9
theorem C20_table_mul11 : TabOk S2T.Gen.Aes.mul11 (fun a => Fips197.gmul a 11) :=
  (by decide +kernel : S2T.Gen.Aes.mul11 = buildMulTable 11) ▸ built11
theorem C20_table_mul13 : TabOk S2T.Gen.Aes.mul13 (fun a => Fips197.gmul a 13) :=
  (by decide +kernel : S2T.Gen.Aes.mul13 = buildMulTable 13) ▸ built13
theorem C20_table_mul14 : TabOk S2T.Gen.Aes.mul14 (fun a => Fips197.gmul a 14) :=
  (by decide +kernel : S2T.Gen.Aes.mul14 = buildMulTable 14) ▸ built14
theorem C20_table_rcon : RconOk S2T.Gen.Aes.rcon := by decide +kernel

/-- all 256 entries of each of the eight byte tables and all 15 of `_RCON` are the FIPS-197 functions -/
theorem C20_tables : TablesOk S2T.Gen.Aes.tables :=
  ⟨C20_table_sbox, C20_table_inv_sbox, C20_table_mul2, C20_table_mul3, C20_table_mul9, C20_table_mul11,
   C20_table_mul13, C20_table_mul14, C20_table_rcon⟩

end S2T.C20
