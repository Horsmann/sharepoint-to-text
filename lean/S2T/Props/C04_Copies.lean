import S2T.Model.IfaceCopies
/-!
# C04 (copies built on demand: operation sequences on one result)

For EVERY history of consumer operations on the result's own image stream and every number of walks over the units,
the copy a unit carries delivers exactly `size_bytes` = the length of the payload — if and only if the copy site takes
the bytes position-independently (`getvalue()`).  The `read()` form is correct on a fresh result only
(`copy_read_fresh_ok`) and wrong after any history that leaves the source behind position 0
(`copy_read_after_read_empty`, `copy_read_second_walk_empty`).  Tie to the source: `Gen.Iface.streamSites` classifies
`io.BytesIO(<x>.read())` with a stored stream `<x>` as `other` (C04_StreamSites.stream_sites_own_object).
-/
namespace S2T.C04.Copies
open S2T.Iface

private theorem applyOp_content (c : Cell) (o : StreamOp) : (applyOp c o).content = c.content := by
  cases o <;> rfl

theorem applyOps_content (c : Cell) (ops : List StreamOp) : (applyOps c ops).content = c.content := by
  induction ops generalizing c with
  | nil => rfl
  | cons o os ih => exact (ih (applyOp c o)).trans (applyOp_content c o)

/-- `getvalue()`: after ANY history the copy holds the whole payload, and building it does not touch the source -/
theorem copy_getvalue_any_history (c : Cell) (ops : List StreamOp) :
    (copyOf .getvalue (applyOps c ops)).1 = c.content ∧ (copyOf .getvalue (applyOps c ops)).2 = applyOps c ops := by
  simp [copyOf, applyOps_content]

/-- … so an image whose size is the payload length is honoured by the copy after any history -/
theorem copy_getvalue_size (c : Cell) (ops : List StreamOp) (size : Nat) (h : size = c.content.length) :
    ((copyOf .getvalue (applyOps c ops)).1).length = size := by
  simp [copyOf, applyOps_content, h]

/-- … and in every one of any number of walks -/
theorem walks_getvalue_all_full (c : Cell) (k : Nat) : ∀ x ∈ walks .getvalue k c, x = c.content := by
  induction k generalizing c with
  | zero => simp [walks]
  | succ k ih =>
    intro x hx
    simp only [walks, copyOf, List.mem_cons] at hx
    rcases hx with rfl | hx
    · rfl
    · exact ih c x hx

/-- `read()` on a FRESH result (source at 0): the copy is complete — the single first walk is correct -/
theorem copy_read_fresh_ok (c : Cell) (h : c.pos = 0) : (copyOf .read c).1 = c.content := by
  simp [copyOf, h]

/-- `read()` after the consumer read the result's image (history ending in a full read): the copy is EMPTY -/
theorem copy_read_after_read_empty (c : Cell) (ops : List StreamOp) :
    (copyOf .read (applyOps c (ops ++ [StreamOp.read]))).1 = [] := by
  simp only [applyOps, List.foldl_append, List.foldl_cons, List.foldl_nil, copyOf, applyOp]
  apply List.drop_eq_nil_of_le
  exact Nat.le_max_right _ _

/-- `read()`: the second walk over the units finds the source at its end: every later copy is empty -/
theorem copy_read_second_walk_empty (c : Cell) (k : Nat) :
    ∀ x ∈ (walks .read (k + 1) c).tail, x = [] := by
  have hend : ∀ (k : Nat) (d : Cell), d.content.length ≤ d.pos → ∀ x ∈ walks .read k d, x = [] := by
    intro k
    induction k with
    | zero => intro d _ x hx; simp [walks] at hx
    | succ k ih =>
      intro d hd x hx
      simp only [walks, copyOf, List.mem_cons] at hx
      rcases hx with rfl | hx
      · exact List.drop_eq_nil_of_le hd
      · exact ih _ (by simp; omega) x hx
  intro x hx
  simp only [walks, copyOf, List.tail_cons] at hx
  exact hend k _ (by simp; omega) x hx

/-- counterexample (the property fails for the `read()` form): payload of 3 bytes, the consumer reads the result's
image, then walks the units: the copy reports size 3 and delivers 0 bytes -/
theorem copy_read_counterexample :
    let src : Cell := ⟨[1, 2, 3], 0, false⟩
    ((copyOf .read (applyOps src [.rewind, .read])).1).length ≠ src.content.length ∧
    ((copyOf .getvalue (applyOps src [.rewind, .read])).1).length = src.content.length := by decide

/-- the `read()` form is right when the history left the source at 0 (`_partial` form of the statement) -/
theorem copy_read_partial (c : Cell) (ops : List StreamOp) (h : (applyOps c ops).pos = 0) :
    (copyOf .read (applyOps c ops)).1 = c.content := by
  simp [copyOf, h, applyOps_content]

example : (copyOf .getvalue (applyOps ⟨[7, 8], 0, false⟩ [.readN 1, .read])).1 = [7, 8] := by decide

end S2T.C04.Copies
