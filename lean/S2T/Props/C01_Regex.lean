import S2T.Model.RegexInventory
import S2T.Gen.Regexes
import S2T.Lemmas.Covered
import S2T.Lemmas.StrTable
/-!
# C01 (termination of the library's own pattern matching) — closed-world inventory of regular expressions

`S2T.Gen.Regexes.regexes` is regenerated on every run: every `re.<fn>(<constant>, …)` call of the package (AST)
plus every pattern compiled from package code while all modules are imported and the fixtures of the modules
with non-constant pattern expressions are extracted (`re._compile` hook), each with the parse tree of CPython's
own `re._parser`.  The theorems below are re-decided by the kernel on the current inventory.  `regexes_reviewed`,
`inventory_not_stale` and `nested_reviewed` are read off one decided fact, `inventory_split`: the nested patterns of the
source and the hand-read list have the same entries, and so have the other patterns and the flat list (`sameEntries`,
Lemmas/Covered).  `flat_are_flat` is a fact of its own (nothing else says that no key is in both lists).

What is NOT proved: a bound on the running time of CPython's matcher.  That is attacked on every run by pumping
every unbounded repeat of every inventoried pattern (harness/props/c01.py: pattern level and through the
extractor for the files that have a carrier document).
-/
namespace S2T.C01.Regex
open S2T.Regex S2T.Gen.Regexes

theorem hasUnb_iff_starHeight (r : Re) : hasUnb r = true ↔ 1 ≤ starHeight r := by
  induction r with
  | eps | chr _ | zero _ | backref _ => simp [hasUnb, starHeight]
  | look _ _ r ih => simpa [hasUnb, starHeight] using ih
  | cat a b iha ihb | alt a b iha ihb =>
    simp only [hasUnb, starHeight, Bool.or_eq_true, iha, ihb]; omega
  | rep lo hi lz r ih =>
    simp only [hasUnb, starHeight, Bool.or_eq_true, ih]
    cases h : unbounded hi <;> simp
  | atomic r ih => simpa [hasUnb, starHeight] using ih

/-- `nested` is exactly "star height at least two", for every pattern -/
theorem nested_iff_starHeight (r : Re) : nested r = true ↔ 2 ≤ starHeight r := by
  induction r with
  | eps | chr _ | zero _ | backref _ => simp [nested, starHeight]
  | look _ _ r ih => simpa [nested, starHeight] using ih
  | cat a b iha ihb | alt a b iha ihb =>
    simp only [nested, starHeight, Bool.or_eq_true, iha, ihb]; omega
  | rep lo hi lz r ih =>
    simp only [nested, starHeight, Bool.or_eq_true, Bool.and_eq_true, ih, hasUnb_iff_starHeight]
    cases h : unbounded hi <;> simp <;> omega
  | atomic r ih => simpa [nested, starHeight] using ih

/-- a pattern has a pumping target iff it has an unbounded repeat -/
theorem unbCount_pos_iff (r : Re) : 1 ≤ unbCount r ↔ hasUnb r = true := by
  induction r with
  | eps | chr _ | zero _ | backref _ => simp [hasUnb, unbCount]
  | look _ _ r ih => simpa [hasUnb, unbCount] using ih
  | cat a b iha ihb | alt a b iha ihb =>
    simp only [hasUnb, unbCount, Bool.or_eq_true, ← iha, ← ihb]; omega
  | rep lo hi lz r ih =>
    simp only [hasUnb, unbCount, Bool.or_eq_true, ← ih]
    cases h : unbounded hi <;> simp
  | atomic r ih => simpa [hasUnb, unbCount] using ih

/-- Each pattern of the current source is looked up in the list its shape sends it to, the hand-read ones if it has nested
    unbounded repeats and the flat ones otherwise, and each of the two lists is walked once for both inclusions.  The keys
    are compared as strings: on the side of the source they are fields of the generated entries behind a `filter`, so there
    is no literal that `simp` could turn into its character list (as `dynamic_sites_same` does) short of unfolding the whole
    table of parse trees. -/
private theorem inventory_split :
    sameEntries ((regexes.filter fun e => nested e.re).map Entry.key) (reviewedNested.map (·.1)) = true ∧
      sameEntries ((regexes.filter fun e => !nested e.re).map Entry.key) reviewedFlat = true := by decide +kernel

private theorem nested_same : SameEntries ((regexes.filter fun e => nested e.re).map Entry.key) (reviewedNested.map (·.1)) :=
  sameEntries_sound inventory_split.1

private theorem flat_same : SameEntries ((regexes.filter fun e => !nested e.re).map Entry.key) reviewedFlat :=
  sameEntries_sound inventory_split.2

/-- a pattern with an unbounded repeat inside an unbounded repeat (the shape that can make a backtracking matcher
    exponential) is one of those read by hand (`reviewedNested`, with the reason) -/
theorem nested_reviewed : ∀ e ∈ regexes, nested e.re = true → e.key ∈ reviewedNested.map (·.1) := fun _ he hn =>
  nested_same.sub _ (List.mem_map_of_mem (List.mem_filter.2 ⟨he, hn⟩))

/-- closed world: every regular expression of the current source is a reviewed one -/
theorem regexes_reviewed : ∀ e ∈ regexes, e.key ∈ reviewedKeys := fun e he => by
  cases hn : nested e.re
  · exact List.mem_append_left _ (flat_same.sub _ (List.mem_map_of_mem (List.mem_filter.2 ⟨he, by rw [hn]; rfl⟩)))
  · exact List.mem_append_right _ (nested_reviewed e he hn)

/-- and nothing is listed that no longer exists -/
theorem inventory_not_stale : ∀ k ∈ reviewedKeys, k ∈ regexes.map Entry.key := fun k hk => by
  rcases List.mem_append.1 hk with h | h
  · exact (List.filter_sublist.map Entry.key).subset (flat_same.sup k h)
  · exact (List.filter_sublist.map Entry.key).subset (nested_same.sup k h)

/-- the reviewed-as-flat patterns have star height ≤ 1 on the current parse tree -/
theorem flat_are_flat : ∀ e ∈ regexes, e.key ∈ reviewedFlat → starHeight e.re ≤ 1 := by
  -- the height is looked at first, so that keys (strings) are compared only for the patterns that are not flat
  have h : ∀ e ∈ regexes, starHeight e.re ≤ 1 ∨ e.key ∉ reviewedFlat := by decide +kernel
  exact fun e he hk => (h e he).resolve_right (not_not_intro hk)

/-- so every pattern of the source is flat or hand-read (for the CURRENT inventory) -/
theorem every_pattern_flat_or_read (e : Entry) (he : e ∈ regexes) :
    starHeight e.re ≤ 1 ∨ e.key ∈ reviewedNested.map (·.1) := by
  by_cases h : nested e.re = true
  · exact Or.inr (nested_reviewed e he h)
  · left
    have h2 : ¬ 2 ≤ starHeight e.re := fun h' => h ((nested_iff_starHeight e.re).mpr h')
    omega

private theorem dynamic_sites_same : SameEntries dynamicSites (reviewedDynamicSites.map (·.1)) := by
  refine (sameEntries_sound ?_).of_map StrTable.chars3_inj
  -- the script of `Loops.whileKeys_same` (Lemmas/LoopInventory.lean, which says why the tables themselves go to `simp`)
  simp -index only [dynamicSites, reviewedDynamicSites, List.map_cons, List.map_nil, StrTable.chars3, Prod.map_apply,
    String.toList_ofList]
  decide +kernel

/-- call sites whose pattern is not a constant are the known ones -/
theorem dynamic_sites_reviewed : ∀ s ∈ dynamicSites, s ∈ reviewedDynamicSites.map (·.1) := dynamic_sites_same.sub

theorem dynamic_sites_not_stale : ∀ s ∈ reviewedDynamicSites.map (·.1), s ∈ dynamicSites := dynamic_sites_same.sup

def noBackref : Re → Bool
  | .backref _ => false
  | .look _ _ r | .atomic r | .rep _ _ _ r => noBackref r
  | .cat a b | .alt a b => noBackref a && noBackref b
  | _ => true

/-- no pattern uses a back-reference, so each is a regular expression in the strict sense -/
theorem no_backrefs : ∀ e ∈ regexes, noBackref e.re = true := by decide +kernel

/-! non-vacuity: the analysis flags the shapes it is meant to flag -/
-- (a+)+
example : nested (.rep 1 none false (.rep 1 none false (.chr "=61"))) = true := by decide
-- (?:[^<]+|<[^>]*>)+   (the shape of a link label that admits inline markup)
example : nested (.rep 1 none false (.alt (.rep 1 none false (.chr "[^ 3c]"))
    (.cat (.chr "=3c") (.cat (.rep 0 none false (.chr "[^ 3e]")) (.chr "=3e"))))) = true := by decide
example : nested (.cat (.rep 1 none false (.chr "[^ 3e]")) (.rep 0 none false (.chr "[^ 3c]"))) = false := by decide
example : ∃ e ∈ regexes, nested e.re = true := by decide +kernel

end S2T.C01.Regex
