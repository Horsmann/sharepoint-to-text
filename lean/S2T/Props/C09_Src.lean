import S2T.Lemmas.Py
import S2T.Props.C07
import S2T.Gen.Archive
import S2T.Gen.PySevenZip
import S2T.Gen.PyArchive
/-!
# C09 (source tie) — the translated `_safe_join` / `_should_skip_file` ARE the hand model

`S2T.Gen.PySevenZip` / `S2T.Gen.PyArchive` are regenerated from the current text of `sevenzip.py` /
`archive_extractor.py` on every run (`tools/gen/pyfun.py`).  For every base directory, member name,
current directory, `str.lower` and MIME database (fields of `Env`):
* the translated `_safe_join` equals `S2T.Archive.safeJoin`, including WHICH `raise Bad7zFile` fires;
* the translated `_should_skip_file` (through `_is_supported_file_cached`, `_get_file_extractor_cached`,
  `_get_router_functions` and the translated router functions of `S2T.Gen.PyRouter`) never raises and
  equals `S2T.Archive.shouldSkip` at the generated tables.  That `get_extractor` cannot raise after
  `is_supported_file` said yes is C07's equivalence theorem.
-/
namespace S2T.C09.Src
open S2T.Py S2T.Archive S2T.Gen.PySevenZip S2T.Gen.PyArchive

theorem gen_py_notes_empty : S2T.Gen.PySevenZip.notes = [] ∧ S2T.Gen.PyArchive.notes = [] := by decide

theorem gen_py_translated : S2T.Gen.PySevenZip.translated = ["_safe_join"] ∧
    S2T.Gen.PyArchive.translated = ["_get_router_functions", "_is_supported_file_cached",
      "_get_file_extractor_cached", "_should_skip_file"] := by decide

/-- ordinal of the `raise Bad7zFile` statement in `_safe_join` for the two errors `safeJoin` has -/
def siteOf : Archive.Err → Nat
  | .absolutePath => 1
  | .unsafePath => 2
  | _ => 0
def excOf (e : Archive.Err) : Exc := exc_Bad7zFile "_safe_join" (siteOf e)

/-- **`_safe_join` is `safeJoin`**: same joined path, or the same `raise` statement
    (`raise` 0, the drive-letter clause, never fires: `posixpath.splitdrive`) -/
theorem safe_join_eq (env : Py.Env) (base rel : Py.Str) :
    _safe_join env base rel = (safeJoin env.cwd base rel).mapError excOf := by
  unfold _safe_join safeJoin splitdrive
  -- both sides are the same chain of tests, the source's with `raise` where the model has an error
  -- (`+instances`: as in Lemmas/Py, DESIGN §2.6)
  simp +instances only [truthy_list, List.isEmpty_nil, Bool.not_true, Bool.false_eq_true, if_false, M.throw_def,
    M.error_bind, M.pure_def, apply_ite (Except.mapError excOf), mapError_ok, mapError_error, Bool.not_not, ite_not_true]
  exact ite_congr rfl (fun _ => rfl) fun _ =>
    ite_congr (congrArg (· = true) (isabs_or_startswith rel)) (fun _ => rfl) fun _ => rfl

/-- the model's `safeJoin` has no other error -/
theorem safeJoin_errors (cwd base rel : Py.Str) (e : Archive.Err) (h : safeJoin cwd base rel = .error e) :
    e = .absolutePath ∨ e = .unsafePath := by
  unfold safeJoin at h
  -- with the `let`s opened: a chain of four tests, whose leaves are `.ok` three times and the two errors
  dsimp only at h
  repeat' split at h
  all_goals cases h
  all_goals simp

theorem is_supported_file_cached_eq (env : Py.Env) (f : Py.Str) :
    _is_supported_file_cached env f = S2T.Gen.PyRouter.is_supported_file env f := by
  rfl

theorem get_file_extractor_cached_eq (env : Py.Env) (f : Py.Str) :
    _get_file_extractor_cached env f = S2T.Gen.PyRouter.get_extractor env f := by
  rfl

/-- the model's environment built from the translated functions' environment -/
def envOf (env : Py.Env) (nres : Py.Str → List Nat → Nat) (host : Py.Str → Option (Option (List Nat))) : Archive.Env :=
  { lower := env.lower, mime := fun s => (env.guessType s).1, nres := nres, host := host }

/-- the function object `read_archive` of the running module is the model's `archiveExtractor` -/
theorem ref_read_archive_eq : ref_read_archive = archiveExtractor := rfl

theorem get_extractor_ok (env : Py.Env) (p : Py.Str) (mf : Py.Str × Py.Str)
    (h : S2T.Router.getExtractor S2T.Gen.Router.tables (env.lower p) (env.guessType (env.lower p)).1 = .ok mf) :
    S2T.Gen.PyRouter.get_extractor env p = .ok mf := by
  have := S2T.C07.Src.get_extractor_eq env p
  rw [h] at this
  cases hg : S2T.Gen.PyRouter.get_extractor env p with
  | ok v => rw [hg] at this; simpa [Except.mapError] using this
  | error e => rw [hg] at this; simp [Except.mapError] at this

/-- **`_should_skip_file` is `shouldSkip`** and never raises (all file names, all environments) -/
theorem should_skip_file_eq (env : Py.Env) (nres) (host) (filename bname : Py.Str) :
    _should_skip_file env filename bname
      = pure (shouldSkip S2T.Gen.Router.tables S2T.Gen.Archive.nested (envOf env nres host) filename bname) := by
  have hsup := S2T.C07.Src.is_supported_file_eq env bname
  have e1 : startswith bname ".".toList = (bname.head? == some '.') := startswith_singleton bname '.'
  have e2 : startswith filename "__MACOSX/".toList = macosxPrefix.isPrefixOf filename := rfl
  have e3 : (S2T.Gen.Archive.nested.any fun a => endswith (env.lower bname) a)
      = nestedByExt S2T.Gen.Archive.nested (env.lower bname) := rfl
  unfold _should_skip_file shouldSkip
  simp only [is_supported_file_cached_eq, get_file_extractor_cached_eq, hsup, envOf, routesToArchive, hidden,
    e1, e2, e3]
  generalize (bname.head? == some '.') = a
  generalize macosxPrefix.isPrefixOf filename = b
  rcases hs : S2T.Router.isSupported S2T.Gen.Router.tables (env.lower bname) (env.guessType (env.lower bname)).1
  · -- not supported: skipped before the router is asked for an extractor
    cases a <;> cases b <;> simp
  · obtain ⟨mf, hmf⟩ := (S2T.C07.C07_equiv _ _).mp hs
    simp only [get_extractor_ok env bname mf hmf, hmf, ref_read_archive_eq]
    generalize nestedByExt S2T.Gen.Archive.nested (env.lower bname) = n
    by_cases hr : mf = archiveExtractor <;> cases a <;> cases b <;> cases n <;> simp [hr]
end S2T.C09.Src
