import S2T.Model.SerialHeap
import S2T.Gen.SerialSites
/-!
# C05, restored objects are independent: streams handed out by `from_json`, and the CLI's binary flag

`from_json` rebuilds "the same image / attachment bytes" only if the streams of the rebuilt object can be
*consumed*: read one after the other, closed, the same JSON restored again — by whoever holds whichever of the
restored objects.  `S2T/Model/SerialHeap.lean` models the process as a heap of `io.BytesIO` objects.  Proved here
for the decoder of the current source (a new object per call), for EVERY heap state a process can be in and
EVERY later history (any number of further `from_json` calls, any reads / closes / rewinds of other streams).

Tie to the source (re-decided on every run from `S2T.Gen.SerialSites`, beside the cache / state-cell inventory of
`C05_History`): what every function on the deserialiser's path can return is a new object, a parameter handed
through, or what another path function returns (`gen_alloc_sites_ok`) — in particular the binary decoders return a
constructor call — and no module-level object other than the registry exists that could be handed out.

The CLI's `--binary` flag: every mention of `serialize_extraction` / of a flag-taking helper inside `cli.py` is a
call that passes the enclosing function's `include_binary` on (`gen_flag_sites_ok`); a bare reference
(`map(serialize_extraction, …)`), a call without the keyword or with a constant falls back to the default `True`.
-/
namespace S2T.C05.Streams
open S2T.Serial S2T.SerialHeap

theorem allocAll_fresh (st : State) (ps : List (List Nat)) :
    allocAll .fresh st ps = (⟨st.heap ++ ps.map mk, st.cache⟩, List.range' st.heap.length ps.length) := by
  induction ps generalizing st with
  | nil => simp [allocAll]
  | cons p ps ih =>
    simp [allocAll, allocOne, ih, List.range'_succ]

private theorem allocAll_fresh_getElem? (st : State) (ps : List (List Nat)) (i : Nat) (h : i < ps.length) :
    (allocAll .fresh st ps).1.heap[st.heap.length + i]? = some (mk ps[i]) := by
  rw [allocAll_fresh]
  show (st.heap ++ ps.map mk)[st.heap.length + i]? = _
  rw [List.getElem?_append_right (by omega)]
  simp [h]

/-- the streams of a restored object are NEW objects (addresses not handed out before), pairwise distinct, one per
`io.BytesIO` leaf, each holding its payload, positioned at 0, open -/
theorem C05_restore_addrs (st : State) (ps : List (List Nat)) :
    (allocAll .fresh st ps).2 = List.range' st.heap.length ps.length
    ∧ (allocAll .fresh st ps).2.Nodup
    ∧ (∀ a ∈ (allocAll .fresh st ps).2, st.heap.length ≤ a)
    ∧ (∀ i, (h : i < ps.length) → (allocAll .fresh st ps).1.heap[st.heap.length + i]? = some (mk ps[i])) := by
  refine ⟨?_, ?_, ?_, allocAll_fresh_getElem? st ps⟩ <;> rw [allocAll_fresh]
  · exact List.nodup_range'
  · exact fun a ha => (List.mem_range'_1.mp ha).1

/-- restoring leaves every stream handed out earlier as it is -/
theorem C05_restore_keeps (st : State) (ps : List (List Nat)) (a : Addr) (h : a < st.heap.length) :
    (allocAll .fresh st ps).1.heap[a]? = st.heap[a]? := by
  rw [allocAll_fresh]
  exact List.getElem?_append_left h

/-- an operation on the stream at `a` changes no other stream (and never the number of streams) -/
theorem C05_stream_op_frame (h : Heap) (a b : Addr) (op : SOp) (hne : b ≠ a) :
    (heapStep h a op).2[b]? = h[b]? ∧ (heapStep h a op).2.length = h.length := by
  unfold heapStep
  split
  · exact ⟨rfl, rfl⟩
  · refine ⟨?_, by simp⟩
    rw [List.getElem?_set_ne (Ne.symm hne)]

private theorem hstep_keeps (st : State) (op : HOp) (a : Addr) (s : Stream) (hs : st.heap[a]? = some s)
    (hno : touches a op = false) : (hstep .fresh st op).heap[a]? = some s := by
  cases op with
  | restore ps => simp only [hstep]; rw [C05_restore_keeps st ps a (List.getElem?_eq_some_iff.mp hs).1]; exact hs
  | stream b o =>
    simp only [touches, beq_eq_false_iff_ne, ne_eq] at hno
    simp only [hstep]
    rw [(C05_stream_op_frame st.heap b a o (fun h => hno h.symm)).1]; exact hs

private theorem hrun_keeps (ops : List HOp) : ∀ (st : State) (a : Addr) (s : Stream), st.heap[a]? = some s →
    (∀ op ∈ ops, touches a op = false) → (hrun .fresh st ops).heap[a]? = some s := by
  induction ops with
  | nil => intro st a s hs _; exact hs
  | cons op ops ih =>
    intro st a s hs hno
    simp only [hrun]
    exact ih _ a s (hstep_keeps st op a s hs (hno op (List.mem_cons_self ..))) (fun o ho => hno o (List.mem_cons_of_mem _ ho))

/-- **Every stream, after any history.**  In ANY process state `st`, the `i`-th stream of the object a `from_json`
call returns is — after ANY later history `mid` that does not operate on that very stream: further `from_json`
calls of anything, reads / closes / rewinds of every other stream of this and of every other restored object —
still complete, positioned at 0 and open. -/
theorem C05_stream_after_any_history (st : State) (ps : List (List Nat)) (i : Nat) (hi : i < ps.length) (mid : List HOp)
    (hmid : ∀ op ∈ mid, touches (st.heap.length + i) op = false) :
    (hrun .fresh (hstep .fresh st (.restore ps)) mid).heap[st.heap.length + i]? = some (mk ps[i]) :=
  hrun_keeps mid _ _ _ (allocAll_fresh_getElem? st ps i hi) hmid

/-- … so reading it then returns the whole payload, and `to_json` of its holder finds it open -/
theorem C05_read_after_any_history (st : State) (ps : List (List Nat)) (i : Nat) (hi : i < ps.length) (mid : List HOp)
    (hmid : ∀ op ∈ mid, touches (st.heap.length + i) op = false) :
    (heapStep (hrun .fresh (hstep .fresh st (.restore ps)) mid).heap (st.heap.length + i) .read).1 = .ok ps[i]
    ∧ (heapStep (hrun .fresh (hstep .fresh st (.restore ps)) mid).heap (st.heap.length + i) .getvalue).1 = .ok ps[i] := by
  simp [heapStep, C05_stream_after_any_history st ps i hi mid hmid, streamStep, mk]

example : (heapStep (hrun .fresh (hstep .fresh State.empty (.restore [[1, 2], [1, 2]]))
    [.restore [[1, 2]], .stream 0 .read, .stream 2 .close]).heap 1 .read).1 = .ok [1, 2] := by decide

/-- the shape of seeded change C05/memoised decoder: the same file attached twice (`[[1,2],[1,2]]`).  With a
memoising decoder both attachments are ONE object: reading the first leaves nothing for the second; restoring the
JSON again hands out the consumed object; closing it makes the other restored object unserialisable.  With the
current decoder all three come out right. -/
theorem C05_cex_memoised_decoder :
    let twice : List (List Nat) := [[1, 2], [1, 2]]
    -- one from_json, two reads
    (allocAll .memo State.empty twice).2 = [0, 0]
    ∧ (heapStep (hrun .memo State.empty [.restore twice, .stream 0 .read]).heap 0 .read).1 = .ok []
    -- second from_json after the first object was consumed
    ∧ (allocAll .memo (hrun .memo State.empty [.restore twice, .stream 0 .read]) twice).2 = [0, 0]
    -- closing a stream of the first object, then to_json of the second
    ∧ observable (hrun .memo State.empty [.restore twice, .restore twice, .stream 0 .close]).heap
        (allocAll .memo (hstep .memo State.empty (.restore twice)) twice).2 = false
    -- the current decoder
    ∧ (allocAll .fresh State.empty twice).2 = [0, 1]
    ∧ (heapStep (hrun .fresh State.empty [.restore twice, .stream 0 .read]).heap 1 .read).1 = .ok [1, 2]
    ∧ observable (hrun .fresh State.empty [.restore twice, .restore twice, .stream 0 .close]).heap
        (allocAll .fresh (hstep .fresh State.empty (.restore twice)) twice).2 = true := by
  decide

theorem gen_sites_notes_empty : S2T.Gen.SerialSites.notes = [] := by decide

/-- what a function of the deserialiser's path may return: a new object (constructor call, comprehension,
display), a constant, a parameter (or a local bound to one / to a fresh copy of one) handed through, what another
function of the path returns, the registry (its loader only) -/
def allowedReturn (k : String) : Bool :=
  k == "new" || k == "const" || k == "param" || k == "path-call" || k == "cell" || k == "class-call"

/-- helpers of the path that return types / hints / the registry, never a part of the restored object -/
def typeHelpers : List String := ["_unwrap_optional", "_get_field_types", "_get_type_registry"]

def allocSitesOk (rets : List (String × String × String)) (decoders : List (String × String)) (modObjects : List String) : Bool :=
  rets.all (fun r => allowedReturn r.2.1 || typeHelpers.contains r.1)
  -- … and a helper's result is never handed on as (part of) a restored value
  && rets.all (fun r => !(r.2.1 == "path-call") || !typeHelpers.contains r.2.2)
  && decoders.all (fun d => !typeHelpers.contains d.1)
  -- the registry is handed out by its loader only
  && rets.all (fun r => !(r.2.1 == "cell") || r.1 == "_get_type_registry")
  -- every constructor call that makes a stream is the whole return value of its function: `return io.BytesIO(…)`
  && decoders.all (fun d => rets.filter (fun r => r.1 == d.1) == [(d.1, "new", d.2)])
  && !decoders.isEmpty
  -- no module-level object that could be handed out instead
  && modObjects.isEmpty

theorem gen_alloc_sites_ok :
    allocSitesOk S2T.Gen.SerialSites.returns S2T.Gen.SerialSites.streamMakers S2T.Gen.SerialSites.moduleObjects = true := by
  decide +kernel

/-- every mention of a flag-taking serialiser inside `cli.py` is a call passing the caller's `include_binary` on;
the flag's only source is `--binary` -/
def flagSitesOk (sites : List (String × String × String)) (sources : List String) : Bool :=
  sites.all (fun s => s.2.2 == "kw=include_binary")
  && !sites.isEmpty
  && sources == ["bool(args.binary)"]

theorem gen_flag_sites_ok :
    flagSitesOk S2T.Gen.SerialSites.flagSites S2T.Gen.SerialSites.flagSources = true := by
  decide +kernel

end S2T.C05.Streams
